-- Root of the library: every model, proof and property module.
import MuduoVerif.Basic
import MuduoVerif.Props.C01
import MuduoVerif.Props.C02
import MuduoVerif.Props.C03
import MuduoVerif.Props.C04
import MuduoVerif.Props.C05
import MuduoVerif.Props.C06
import MuduoVerif.Props.C07
import MuduoVerif.Props.C08
import MuduoVerif.Props.C09
import MuduoVerif.Props.C10
import MuduoVerif.Props.C11
import MuduoVerif.Props.C12
import MuduoVerif.Props.C13
import MuduoVerif.Props.C14
import MuduoVerif.Props.C15
import MuduoVerif.Props.C16
import MuduoVerif.Props.C17
import MuduoVerif.Props.C18
import MuduoVerif.Props.C19
import MuduoVerif.Props.C20
