import MuduoVerif.Proofs.TPoolA
/-! Invariants of the ThreadPool model, part C: worker threads, joins, the time after `stop()`. -/
namespace MuduoVerif.Monitor

def isWorkerPc : PPc → Bool
  | .wTest | .wTake | .wExec _ | .wGate _ | .wDone => true
  | _ => false

/-- where a task may be executed -/
def EvPlace (n : Nat) : PEv → Prop
  | .exec w _ => 1 ≤ w ∧ w ≤ n
  | .inl _ _ => n = 0
  | _ => True

structure PC (s : PState) : Prop where
  /-- threads `1 … n` (and only they) run `runInThread` -/
  workers : ∀ t, isWorkerPc (s.pc t) = true ↔ (1 ≤ t ∧ t ≤ s.n)
  /-- a worker leaves its loop only after it has read `running_ == false` -/
  doneOff : ∀ t, s.pc t = .wDone → s.running = false
  /-- in `threads_[i]->join()`: the flag is cleared and the workers before `i` have been joined -/
  join : ∀ u i, s.pc u = .stopJoin i → s.running = false ∧ i < s.n ∧ ∀ j, j < i → s.pc (j + 1) = .wDone
  /-- once a `stop()` on a pool with threads has returned, every worker has left its loop -/
  quiet : (∃ t, PEv.stopRet t ∈ s.log) → 0 < s.n → s.running = false ∧ ∀ w, 1 ≤ w → w ≤ s.n → s.pc w = .wDone
  /-- tasks are started by pool threads, or by the caller of `run()` when the pool has none -/
  place : ∀ e, e ∈ s.log → EvPlace s.n e

theorem pc_upd {s : PState} (h : PC s) {t : Nat} {p : PPc} (hw : isWorkerPc p = isWorkerPc (s.pc t)) (hnd : s.pc t ≠ .wDone)
    {running' : Bool} (hrun : running' = s.running ∨ running' = false) (hdone : p = .wDone → running' = false)
    (hjoin : ∀ i, p = .stopJoin i → running' = false ∧ i < s.n ∧ ∀ j, j < i → s.pc (j + 1) = .wDone)
    {evs : List PEv} (hplace : ∀ e ∈ evs, EvPlace s.n e)
    (hquiet : (∃ u, PEv.stopRet u ∈ evs) → 0 < s.n →
      running' = false ∧ (1 ≤ t → t ≤ s.n → p = .wDone) ∧ ∀ w, 1 ≤ w → w ≤ s.n → w ≠ t → s.pc w = .wDone)
    {toMon' : Mon} {q' : List Task} {nacc' : Nat} {prog' : Nat → List POp} {log' : List PEv} (hlog : log' = s.log ++ evs)
    {gate' : Bool} :
    PC { toMon := toMon', n := s.n, maxq := s.maxq, running := running', q := q', nacc := nacc', pc := upd s.pc t p,
         prog := prog', log := log', kind := s.kind, gate := gate' } := by
  subst hlog
  have hoff : s.running = false → running' = false := fun hr => hrun.elim (· ▸ hr) id
  have hkeep : ∀ w, s.pc w = .wDone → upd s.pc t p w = .wDone := fun w hw' =>
    (upd_other _ _ _ _ (by rintro rfl; exact hnd hw')).trans hw'
  have hat : ∀ x, x ≠ t → upd s.pc t p x = s.pc x := fun x hx => upd_other _ _ _ _ hx
  refine ⟨fun x => ?_, fun x hx => ?_, fun u i hu => ?_, fun ⟨u, hu⟩ hn => ?_, fun e he => ?_⟩
  · show isWorkerPc (upd s.pc t p x) = true ↔ _
    by_cases hx : x = t
    · rw [hx, upd_same, hw]; exact h.workers t
    · rw [hat x hx]; exact h.workers x
  · by_cases hxt : x = t
    · exact hdone (by rw [← hx, hxt]; exact (upd_same _ _ _).symm)
    · exact hoff (h.doneOff x ((hat x hxt).symm.trans hx))
  · obtain ⟨h1, h2, h3⟩ : running' = false ∧ i < s.n ∧ ∀ j, j < i → s.pc (j + 1) = .wDone := by
      by_cases hut : u = t
      · exact hjoin i (by rw [← hu, hut]; exact (upd_same _ _ _).symm)
      · exact (h.join u i ((hat u hut).symm.trans hu)).imp_left hoff
    exact ⟨h1, h2, fun j hj => hkeep _ (h3 j hj)⟩
  · rcases List.mem_append.mp hu with hu' | hu'
    · exact (h.quiet ⟨u, hu'⟩ hn).imp hoff fun h2 w hw1 hw2 => hkeep w (h2 w hw1 hw2)
    · obtain ⟨h1, h2, h3⟩ := hquiet ⟨u, hu'⟩ hn
      refine ⟨h1, fun w hw1 hw2 => ?_⟩
      show upd s.pc t p w = .wDone
      by_cases hwt : w = t
      · subst hwt; rw [upd_same]; exact h2 hw1 hw2
      · exact hkeep w (h3 w hw1 hw2 hwt)
  · exact (List.mem_append.mp he).elim (h.place e) (hplace e)

theorem pc_move {s : PState} (h : PC s) {t : Nat} {p : PPc} (hw : isWorkerPc p = isWorkerPc (s.pc t)) (hnd : s.pc t ≠ .wDone)
    (hp : p ≠ .wDone ∧ ∀ i, p ≠ .stopJoin i) {evs : List PEv} (hev : ∀ e ∈ evs, EvPlace s.n e ∧ ∀ u, e ≠ .stopRet u)
    {toMon' : Mon} {q' : List Task} {nacc' : Nat} {prog' : Nat → List POp} {log' : List PEv} (hlog : log' = s.log ++ evs)
    {gate' : Bool} :
    PC { toMon := toMon', n := s.n, maxq := s.maxq, running := s.running, q := q', nacc := nacc', pc := upd s.pc t p,
         prog := prog', log := log', kind := s.kind, gate := gate' } :=
  pc_upd h hw hnd (.inl rfl) (fun e => absurd e hp.1) (fun i e => absurd e (hp.2 i)) (fun e he => (hev e he).1)
    (fun ⟨u, hu⟩ => absurd rfl ((hev _ hu).2 u)) hlog

theorem pc_same {s : PState} (h : PC s) (toMon' : Mon) : PC { s with toMon := toMon' } :=
  ⟨h.workers, h.doneOff, h.join, h.quiet, h.place⟩

theorem pc_step {s s' : PState} (ha : PA s) (h : PC s) (hs : PStep s s') : PC s' := by
  cases hs with
  | mon hm => exact pc_same h _
  | test t hpc =>
    refine pc_upd h (by rw [hpc]; split <;> rfl) (by rw [hpc]; nofun) (.inl rfl) (fun hd => ?_) (fun i hi => ?_)
      (evs := []) nofun (fun ⟨_, hu⟩ => nomatch hu) (List.append_nil _).symm
    · cases hr : s.running
      · rfl
      · simp [hr] at hd
    · split at hi <;> cases hi
  | takeNone t hpc =>
    exact pc_move h (by rw [hpc]; rfl) (by rw [hpc]; nofun) (by simp) (evs := []) nofun (List.append_nil _).symm
  | @exec t x hpc p g hp =>
    have hwk : 1 ≤ t ∧ t ≤ s.n := (h.workers t).mp (by rw [hpc]; rfl)
    refine pc_move h (by rw [hpc]; rcases hp with rfl | ⟨rfl, _⟩ <;> rfl) (by rw [hpc]; nofun) ?_ (evs := [.exec t x])
      (by simpa [EvPlace] using hwk) rfl
    rcases hp with rfl | ⟨rfl, _⟩ <;> simp
  | runInline t hpc hp hn0 => exact pc_move h (by rw [hpc]) (by rw [hpc]; nofun) (by simp) (by simp [EvPlace, hn0]) rfl
  | stopFlag t hpc hp ho =>
    exact pc_upd h (by rw [hpc]; rfl) (by rw [hpc]; nofun) (.inr rfl) (fun _ => rfl) (by nofun) (evs := [.stopFlag t])
      (by simp [EvPlace]) (fun ⟨_, hu⟩ => by simp at hu) rfl
  | stopNotify t hpc ho hn0 =>
    refine pc_upd h (by rw [hpc]; rfl) (by rw [hpc]; nofun) (.inl rfl) (by nofun) (fun i hi => ?_) (evs := []) nofun
      (fun ⟨_, hu⟩ => nomatch hu) (List.append_nil _).symm
    cases hi
    exact ⟨ha.flagOff t hpc, Nat.pos_of_ne_zero hn0, fun j hj => absurd hj (Nat.not_lt_zero _)⟩
  | stopNotify0 t hpc ho hn0 =>
    exact pc_upd h (by rw [hpc]; rfl) (by rw [hpc]; nofun) (.inl rfl) (by nofun) (by nofun) (evs := [.stopRet t]) (by simp [EvPlace])
      (fun _ b => by rw [hn0] at b; cases b) rfl
  | @joinNext t i hpc hd hi =>
    obtain ⟨h1, _, h3⟩ := h.join t i hpc
    refine pc_upd h (by rw [hpc]; rfl) (by rw [hpc]; nofun) (.inl rfl) (by nofun) (fun k hk => ?_) (evs := []) nofun
      (fun ⟨_, hu⟩ => nomatch hu) (List.append_nil _).symm
    cases hk
    refine ⟨h1, hi, fun j hj => ?_⟩
    by_cases hji : j = i
    · exact hji ▸ hd
    · exact h3 j (by omega)
  | @joinLast t i hpc hd hi =>
    obtain ⟨h1, h2, h3⟩ := h.join t i hpc
    have hall : ∀ w, 1 ≤ w → w ≤ s.n → s.pc w = .wDone := by
      intro w hw1 hw2
      by_cases hwi : w = i + 1
      · exact hwi ▸ hd
      · have := h3 (w - 1) (by omega)
        rwa [show w - 1 + 1 = w by omega] at this
    refine pc_upd h (by rw [hpc]; rfl) (by rw [hpc]; nofun) (.inl rfl) (by nofun) (by nofun) (evs := [.stopRet t]) (by simp [EvPlace])
      (fun _ _ => ⟨h1, fun ht1 ht2 => ?_, fun w a b _ => hall w a b⟩) rfl
    have := hall t ht1 ht2
    rw [hpc] at this; cases this
  | _ t hpc => exact pc_move h (by rw [hpc] <;> rfl) (by rw [hpc]; nofun) (by simp) (by simp [EvPlace]) rfl

end MuduoVerif.Monitor
