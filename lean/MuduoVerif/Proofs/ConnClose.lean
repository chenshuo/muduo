import MuduoVerif.Proofs.ConnMono
import MuduoVerif.Proofs.ConnDownRel
import MuduoVerif.Proofs.ConnLifeTrace
import MuduoVerif.Proofs.ConnFlow
/-!
Progress of closing (C02, C03): one iteration after `forceClose()` the connection is down; a delayed close brings it
down in the iteration that reports its timer; a connection its owner has released is destroyed by the next iteration.
The environment is an input of the model: every statement has explicit hypotheses on the inputs of the next iteration(s);
`c` is ANY state satisfying `LifeInv` (and `DownRel`), which hold in every reachable state (`reach_life`, `reach_downRel`).
-/
namespace MuduoVerif.Conn
open MuduoVerif.Gen.Conn

/-- the connection is down, or the functor that will bring it down is queued -/
def Closing (c : Conn) : Prop := c.st = .kDisconnected ∨ Task.forceCloseInLoop ∈ c.queue

theorem Mono.closing {c c' : Conn} (h : Mono c c') (hc : Closing c) : Closing c' := by
  obtain ⟨s, e⟩ := h.queue
  exact hc.imp h.down fun hc => e ▸ List.mem_append_left _ hc

theorem handleClose_down (c : Conn) (hu : c.isUp) : (handleClose c).st = .kDisconnected := by
  rw [handleClose_up c hu]; exact callback_st_down _ _ _ rfl

theorem runTask_forceClose_down (c : Conn) (he : c.st ≠ .kConnecting)
    (ha : c.st ≠ .kDisconnected → c.alive = true) : (runTask c .forceCloseInLoop).st = .kDisconnected := by
  by_cases hd : c.st = .kDisconnected
  · exact (runTask_grow _ _).mono.down hd
  · have hu : c.isUp := by unfold Conn.isUp; cases hs : c.st <;> simp_all
    unfold runTask
    rw [if_neg (by simp [ha hd])]
    simp only
    rw [if_pos (show forceCloseInLoopActs c.st from hu)]
    exact handleClose_down _ hu

theorem drainPending_closes (c : Conn) (hl : LifeInv c) (hc : Closing c) : (drainPending c).st = .kDisconnected := by
  obtain ⟨h, hb⟩ := drainPending_runs (P := fun c => c.st = .kDisconnected ∨ Task.forceCloseInLoop ∈ c.batch)
    (fun c t rest hb hl h => by
      have hg := (runTask_grow { c with batch := rest } t).mono
      rcases h with h | h
      · exact Or.inl (hg.down h)
      · rw [hb] at h
        rcases List.mem_cons.mp h with h | h
        · subst h; exact Or.inl (runTask_forceClose_down _ hl.established fun hd => (hl.upFacts hd).alive)
        · exact Or.inr (hg.batch ▸ h))
    c hl hc
  rw [hb] at h
  simpa using h

theorem iter_down_of (c : Conn) (a : List Src) (hl : LifeInv c) (hc : Closing (a.foldl dispatch c)) :
    (iter c a).st = .kDisconnected :=
  (iter_proj Conn.st (fun _ _ _ _ => rfl) hl.notDead a).trans
    (drainPending_closes _ (foldl_dispatch_life a c hl) hc)

/-- `forceClose()` on any thread: the functor is queued (`forceCloseDispatch = .queue`), unless the
connection is down already -/
theorem forceClose_closing (c : Conn) (f : Bool) (hl : LifeInv c) : Closing (act c f .forceClose) := by
  rw [act_forceClose]; split
  · exact Or.inr (by simp [Conn.queue, enqueue])
  · rename_i hg; exact Or.inl (Decidable.of_not_not fun hd => hg (hl.upFacts hd).isUp)

/-- **C02 progress.** One loop iteration after `forceClose()` — called on any thread (`f`), in any
state of the connection, with any I/O events `a` arriving in that iteration, whatever other functors
are queued and whatever the callbacks do — the connection is `kDisconnected`.  (`LifeInv c` holds in
every reachable state; it contains `c.dead = false`.) -/
theorem forceClose_brings_down (c : Conn) (f : Bool) (a : List Src) (hl : LifeInv c) :
    (iter (act c f .forceClose) a).st = .kDisconnected :=
  iter_down_of _ a (act_life c f .forceClose hl) ((foldl_dispatch_mono a _).closing (forceClose_closing c f hl))

/-- the owner has dropped the connection (after `handleClose` / `~TcpServer`): it is down, not
watched, and kept alive only by functors -/
structure Released (c : Conn) : Prop where
  st : c.st = .kDisconnected
  alive : c.alive = true
  owner : c.owner = false
  dead : c.dead = false
  evRead : c.ch.evRead = false
  evWrite : c.ch.evWrite = false

/-- `c'` is `c` as far as `Released` and the functor queue are concerned -/
structure Still (c c' : Conn) : Prop where
  st : c'.st = c.st
  alive : c'.alive = c.alive
  owner : c'.owner = c.owner
  dead : c'.dead = c.dead
  evRead : c'.ch.evRead = c.ch.evRead
  evWrite : c'.ch.evWrite = c.ch.evWrite
  pending : c'.pending = c.pending
  batch : c'.batch = c.batch

theorem Still.rfl' (c : Conn) : Still c c := ⟨rfl, rfl, rfl, rfl, rfl, rfl, rfl, rfl⟩
theorem Still.trans {a b c : Conn} (h1 : Still a b) (h2 : Still b c) : Still a c :=
  ⟨h2.st.trans h1.st, h2.alive.trans h1.alive, h2.owner.trans h1.owner, h2.dead.trans h1.dead,
   h2.evRead.trans h1.evRead, h2.evWrite.trans h1.evWrite, h2.pending.trans h1.pending, h2.batch.trans h1.batch⟩

theorem Released.of_still {c c' : Conn} (hr : Released c) (h : Still c c') : Released c' :=
  ⟨h.st.trans hr.st, h.alive.trans hr.alive, h.owner.trans hr.owner, h.dead.trans hr.dead,
   h.evRead.trans hr.evRead, h.evWrite.trans hr.evWrite⟩

theorem LifeInv.released {c : Conn} (hl : LifeInv c) (ho : c.owner = false) (ha : c.alive = true) : Released c :=
  ⟨hl.ownerGone ho, ha, ho, hl.notDead, (hl.quiet (hl.ownerGone ho)).1, (hl.quiet (hl.ownerGone ho)).2⟩

/-- on the loop thread every user operation on a connection that is down does nothing (installing a callback
stores it, of course) -/
theorem act_down_loop (c : Conn) (a : Act) (h : c.st = .kDisconnected) : (act c false a).control = c.control := by
  cases a <;> simp [act, h, sendAcceptsPiece, shutdownAccepts, forceCloseAccepts, forceCloseDelayAccepts, handOff,
    stopReadDispatch, startReadDispatch, stopReadInLoop, startReadInLoop, stopReadActs, startReadActs, Conn.control]

theorem Still.of_control {c c' : Conn} (h : c'.control = c.control) : Still c c' :=
  ⟨(congrArg Conn.st h :), (congrArg Conn.alive h :), (congrArg Conn.owner h :), (congrArg Conn.dead h :),
    (congrArg (·.ch.evRead) h :), (congrArg (·.ch.evWrite) h :), (congrArg Conn.pending h :), (congrArg Conn.batch h :)⟩

theorem callback_still (c : Conn) (k : Cb) (e : Ev) (h : c.st = .kDisconnected) : Still c (callback c k e) := by
  unfold callback; split
  · exact Still.trans (b := { emit c e with hooks := dropHook k c.hooks }) ⟨rfl, rfl, rfl, rfl, rfl, rfl, rfl, rfl⟩
      (.of_control (act_down_loop _ _ h))
  · exact ⟨rfl, rfl, rfl, rfl, rfl, rfl, rfl, rfl⟩

theorem runTask_released (c : Conn) (t : Task) (hr : Released c) : Still c (runTask c t) := by
  rw [runTask_idle c t hr.alive hr.st]
  cases t with
  | shutdownInLoop => simp only; rw [shutdownInLoop_eq]; split <;> exact ⟨rfl, rfl, rfl, rfl, rfl, rfl, rfl, rfl⟩
  | drainShutdownInLoop => simp only; rw [shutdownInLoop_eq]; split <;> exact ⟨rfl, rfl, rfl, rfl, rfl, rfl, rfl, rfl⟩
  | connectDestroyed =>
    simp only; rw [removeChannel_quiet c hr.evRead hr.evWrite]; exact ⟨rfl, rfl, rfl, rfl, rfl, rfl, rfl, rfl⟩
  | writeComplete => exact callback_still _ _ _ hr.st
  | highWater n => exact callback_still _ _ _ hr.st
  | _ => exact ⟨rfl, rfl, rfl, rfl, rfl, rfl, rfl, rfl⟩

theorem dispatch_released (c : Conn) (s : Src) (hr : Released c) : Still c (dispatch c s) := by
  cases s with
  | conn r =>
    have hn : c.ch.none = true := by simp [Chan.none, hr.evRead, hr.evWrite]
    simp [dispatch, hr.dead, handleEvent, hr.alive, guarded, dispCloseSub, dispReadSub, dispWriteSub, hn, hr.evRead,
      hr.evWrite, Still.rfl']
  | timer =>
    have hf : ∀ n (c : Conn), c.st = .kDisconnected → c.alive = true → fireN c n = c := by
      intro n c hd ha
      induction n with
      | zero => rfl
      | succ n ih => simpa [fireN, fireDelay, ha, actLoop, act, forceCloseAccepts, hd] using ih
    simp only [dispatch]; rw [if_neg (by simp [hr.dead])]
    unfold fireTimers
    rw [hf _ { c with timers := c.timers.filter (fun d => ¬ d ≤ c.now) } hr.st hr.alive]
    exact ⟨rfl, rfl, rfl, rfl, rfl, rfl, rfl, rfl⟩

theorem no_leak (c : Conn) (a : List Src) :
    (iter c a).dead = false → (iter c a).owner = false → (iter c a).queue.any Task.strong = false →
    (iter c a).alive = false := by
  unfold iter
  split
  · rename_i hd; intro h; rw [h] at hd; cases hd
  · simp only
    split
    · rename_i hd; intro h; rw [h] at hd; cases hd
    · refine maybeDestroy_inv (P := fun c' => c'.dead = false → c'.owner = false → c'.queue.any Task.strong = false →
        c'.alive = false) _ (fun hu _ ho hq => ?_) (fun _ _ _ h => nomatch h) fun _ _ _ _ => rfl
      exact Bool.eq_false_iff.mpr fun ha => hu ⟨ha, ho, hq⟩

/-- **C02 progress: no object or descriptor leaks.** Once the owner has released the connection
(`handleClose` ran, or `~TcpServer`) and only functors keep it alive, ONE loop iteration — with
any poll result, any functors queued, any callbacks — destroys the object: every queued functor runs
(none can queue another one, `runTask_released`), the references go away with the batch, and
`~TcpConnection` closes the descriptor. -/
theorem released_is_destroyed (c : Conn) (a : List Src) (hl : LifeInv c) (ho : c.owner = false)
    (ha : c.alive = true) : (iter c a).alive = false := by
  have hr := hl.released ho ha
  have hr1 : Released (a.foldl dispatch c) :=
    foldl_inv a (fun c s _ hr => hr.of_still (dispatch_released c s hr)) c hr
  obtain ⟨⟨hr2, hp⟩, hb⟩ := drainPending_runs (P := fun c => Released c ∧ c.pending = [])
    (fun c t rest _ _ h => by
      have hr : Released { c with batch := rest } := ⟨h.1.st, h.1.alive, h.1.owner, h.1.dead, h.1.evRead, h.1.evWrite⟩
      have hs := runTask_released _ t hr
      exact ⟨hr.of_still hs, hs.pending.trans h.2⟩)
    _ (foldl_dispatch_life a c hl) ⟨⟨hr1.st, hr1.alive, hr1.owner, hr1.dead, hr1.evRead, hr1.evWrite⟩, rfl⟩
  refine no_leak c a (iter_life c a hl).notDead
    ((iter_proj Conn.owner (fun _ _ _ _ => rfl) hl.notDead a).trans hr2.owner) ?_
  rw [iter_proj Conn.queue (fun _ _ _ _ => rfl) hl.notDead a, Conn.queue, hb, hp]; rfl

theorem gone_closed_once (c : Conn) (hl : LifeInv c) (h : c.alive = false) :
    C02.cnt C02.isDownEv c.trace = 1 ∧ C02.cnt C02.isCloseEv c.trace = 1 ∧ C02.cnt C02.isBadEv c.trace = 0 := by
  have hc := hl.counts
  exact ⟨by rw [hc.down, if_pos (hl.goneDown h)], by rw [hc.close, if_neg (by simp [h])], hc.bad⟩

/-- a delayed close with deadline `d` is armed (its timer is set), or has done its work -/
def Armed (d : Nat) (c : Conn) : Prop := Closing c ∨ d ∈ c.timers

theorem Grow.armed {c c' : Conn} {d : Nat} (h : Grow c c') (ha : Armed d c) : Armed d c' := by
  rcases ha with ha | ha
  · exact Or.inl (h.mono.closing ha)
  · obtain ⟨k, e⟩ := h.timers
    right; rw [e]; exact List.mem_append_left _ ha

/-- `TimerQueue::handleRead` with the deadline passed: the delayed close fires, that is `forceClose()` is called
through the weak pointer -/
theorem fireTimers_fires (c : Conn) (d : Nat) (hl : LifeInv c) (hd : d ∈ c.timers) (hle : d ≤ c.now) :
    Closing (fireTimers c) := by
  have hpos : 0 < (c.timers.filter (· ≤ c.now)).length :=
    List.length_pos_of_mem (List.mem_filter.mpr ⟨hd, by simpa using hle⟩)
  unfold fireTimers
  cases hn : (c.timers.filter (· ≤ c.now)).length with
  | zero => omega
  | succ n =>
    apply (fireN_grow n _).mono.closing
    unfold fireDelay; split
    · exact forceClose_closing _ false hl.frame
    · rename_i ha
      exact Or.inl (hl.goneDown (by simpa using ha))

theorem fireTimers_armed (c : Conn) (d : Nat) (hl : LifeInv c) (ha : Armed d c) : Armed d (fireTimers c) := by
  rcases ha with ha | ha
  · exact Or.inl ((fireTimers_mono c).closing ha)
  · by_cases hle : d ≤ c.now
    · exact Or.inl (fireTimers_fires c d hl ha hle)
    · right
      unfold fireTimers
      obtain ⟨k, e⟩ := (fireN_grow (c.timers.filter (· ≤ c.now)).length
        ({ c with timers := c.timers.filter (fun d => ¬ d ≤ c.now) } : Conn)).timers
      rw [e]
      exact List.mem_append_left _ (List.mem_filter.mpr ⟨ha, by simpa using hle⟩)

theorem foldl_dispatch_armed (l : List Src) (c : Conn) (d : Nat) (hl : LifeInv c) (ha : Armed d c) :
    Armed d (l.foldl dispatch c) :=
  (foldl_inv (P := fun c => LifeInv c ∧ Armed d c) l (fun c s _ h => ⟨dispatch_life _ _ h.1,
    dispatch_inv c s h.2 (fun r => (handleEvent_grow c r).armed h.2)
      (fireTimers_armed c d h.1 h.2)⟩) c ⟨hl, ha⟩).2

theorem foldl_dispatch_fires (l : List Src) (c : Conn) (d : Nat) (hl : LifeInv c) (ha : Armed d c)
    (hle : d ≤ c.now) (hm : Src.timer ∈ l) : Closing (l.foldl dispatch c) := by
  obtain ⟨l1, l2, rfl⟩ := List.append_of_mem hm
  rw [List.foldl_append, List.foldl_cons]
  apply (foldl_dispatch_mono l2 _).closing
  have hl1 := foldl_dispatch_life l1 c hl
  rcases foldl_dispatch_armed l1 c d hl ha with h | h
  · exact (dispatch_mono _ .timer).closing h
  · simp only [dispatch]; rw [if_neg (by simp [hl1.notDead])]
    exact fireTimers_fires _ d hl1 h ((foldl_dispatch_mono l1 c).now ▸ hle)

theorem drainPending_arms (c : Conn) (d : Nat) (hl : LifeInv c) (h : d ∈ c.timers ∨ Task.addDelayTimer d ∈ c.queue) :
    d ∈ (drainPending c).timers := by
  obtain ⟨h, hb⟩ := drainPending_runs (P := fun c => d ∈ c.timers ∨ Task.addDelayTimer d ∈ c.batch)
    (fun c t rest hb _ h => by
      have hg := runTask_grow { c with batch := rest } t
      rcases h with h | h
      · obtain ⟨k, e⟩ := hg.timers
        exact Or.inl (e ▸ List.mem_append_left _ h)
      · rw [hb] at h
        rcases List.mem_cons.mp h with h | h
        · subst h; left; simp [runTask]
        · exact Or.inr (hg.mono.batch ▸ h))
    c hl h
  rw [hb] at h
  simpa using h

theorem iter_arms (c : Conn) (a : List Src) (d : Nat) (hl : LifeInv c)
    (h : Armed d c ∨ Task.addDelayTimer d ∈ c.queue) : Armed d (iter c a) := by
  rw [iter_proj (Armed d) (fun _ _ _ _ => rfl) hl.notDead a]
  have hl1 := foldl_dispatch_life a c hl
  have hm := foldl_dispatch_mono a c
  rcases h with h | h
  · rcases foldl_dispatch_armed a c d hl h with h | h
    · exact Or.inl (Or.inl (drainPending_closes _ hl1 h))
    · exact Or.inr (drainPending_arms _ d hl1 (Or.inl h))
  · obtain ⟨s, e⟩ := hm.queue
    exact Or.inr (drainPending_arms _ d hl1 (Or.inr (e ▸ List.mem_append_left _ h)))

/-- `forceCloseWithDelay(us)`: on the loop thread the timer is armed at once, from another thread the
request is queued for the loop; if the connection is down already there is nothing to do -/
theorem forceCloseDelay_arming (c : Conn) (f : Bool) (us : Nat) (hl : LifeInv c) :
    Armed (c.now + us) (act c f (.forceCloseDelay us)) ∨
      (f = true ∧ Task.addDelayTimer (c.now + us) ∈ (act c f (.forceCloseDelay us)).queue) := by
  simp only [act]
  split
  · split
    · rename_i hf; right; simp [Conn.queue, enqueue, hf]
    · left; right; simp
  · rename_i hg; left; left; left
    have := hl.established
    cases hs : c.st <;> simp_all [forceCloseDelayAccepts]

/-- an armed delayed close whose deadline has passed when the clock is read next brings the connection down in the
iteration in which the poller reports the timer descriptor (the timer callback runs in the dispatch phase and
queues `forceCloseInLoop` for the functor phase of the SAME iteration) -/
theorem armed_iter_down (c : Conn) (a : List Src) (us d : Nat) (hl : LifeInv c) (ha : Armed (c.now + us) c)
    (hd : us ≤ d) (hm : Src.timer ∈ a) : (iter (step c (.advance d)) a).st = .kDisconnected :=
  have hl' : LifeInv (step c (.advance d)) := hl.frame
  iter_down_of _ a hl' (foldl_dispatch_fires a _ _ hl' ha (Nat.add_le_add_left hd c.now) hm)

/-- **C02 progress, delayed close on the loop thread.** `forceCloseWithDelay(us)` called on the loop
thread, the clock advanced by at least `us`, then ONE iteration in which the poller reports the timer
descriptor (together with anything else): the connection is down. -/
theorem delayed_close_brings_down (c : Conn) (us d : Nat) (a : List Src) (hl : LifeInv c) (hd : us ≤ d)
    (hm : Src.timer ∈ a) :
    (iter (step (act c false (.forceCloseDelay us)) (.advance d)) a).st = .kDisconnected := by
  have harm := (forceCloseDelay_arming c false us hl).resolve_right (by simp)
  rw [← (act_grow c false (.forceCloseDelay us)).mono.now] at harm
  exact armed_iter_down _ a us d (act_life c false _ hl) harm hd hm

/-- **C02 progress, delayed close from another thread.** `forceCloseWithDelay(us)` called on a
thread other than the loop's: the first iteration (any poll result `a1`) arms the timer in its functor
phase; once the clock has advanced by at least `us`, the iteration in which the poller reports the
timer descriptor brings the connection down.  Two iterations, and the first one is needed
(`delayed_close_foreign_needs_two`). -/
theorem delayed_close_foreign_brings_down (c : Conn) (us d : Nat) (a1 a2 : List Src) (hl : LifeInv c)
    (hd : us ≤ d) (hm : Src.timer ∈ a2) :
    (iter (step (iter (act c true (.forceCloseDelay us)) a1) (.advance d)) a2).st = .kDisconnected := by
  have hl1 := act_life c true (.forceCloseDelay us) hl
  have harm := iter_arms _ a1 _ hl1 ((forceCloseDelay_arming c true us hl).imp_right And.right)
  rw [← (act_grow c true (.forceCloseDelay us)).mono.now, ← (iter_later _ a1).now] at harm
  exact armed_iter_down _ a2 us d (iter_life _ a1 hl1) harm hd hm

/-- **C02 progress, end to end.** Two loop iterations after `forceClose()` — called on any thread, in
any reachable state, with any poll results, functors and callbacks — the connection object is destroyed:
the first iteration brings it down and makes the owner drop it, the second one runs `connectDestroyed`
and drops the last reference.  Nothing leaks. -/
theorem forceClose_destroys (c : Conn) (f : Bool) (a1 a2 : List Src) (hl : LifeInv c) (hr : DownRel c) :
    (iter (iter (act c f .forceClose) a1) a2).alive = false := by
  have hl1 := iter_life _ a1 (act_life c f .forceClose hl)
  have hd1 := forceClose_brings_down c f a1 hl
  have hr1 := iter_downRel _ a1 (hr.keep (act_keeps c f .forceClose))
  cases ha : (iter (act c f .forceClose) a1).alive with
  | true => exact released_is_destroyed _ a2 hl1 (hr1.down hd1) ha
  | false => exact (iter_later _ a2).gone ha

/-- a connection with a block queued by another thread and a callback script on DOWN -/
def demoUp : Conn := run (step {} .establish) [.act true (.send [1, 2, 3]), .hook .down .startRead]

theorem demoUp_life : LifeInv demoUp :=
  reach_life {} (fresh_default .epoll true true true _ _ [] [] []) _ (by simp [Input.notEstablish])

theorem demoUp_downRel : DownRel demoUp :=
  reach_downRel {} (fresh_default .epoll true true true _ _ [] [] []) _ (by simp [Input.notEstablish])

/-- `forceClose_brings_down`: `forceClose()` from another thread while a send is queued and the peer's data arrives in the
same iteration: one iteration later the connection is down, DOWN reported once, and the owner has
released it; before, it was `kConnected` -/
example :
    demoUp.st = .kConnected ∧
    (iter (act demoUp true .forceClose) [.conn 1]).st = .kDisconnected ∧
    (iter (act demoUp true .forceClose) [.conn 1]).trace
      = [.up, .sysReadv (.err 11), .sysWrite 3 (.err 11), .down, .closeCb] ∧
    (iter (act demoUp true .forceClose) [.conn 1]).owner = false ∧
    (iter (act demoUp true .forceClose) [.conn 1]).alive = true := by decide

/-- `released_is_destroyed`: that state satisfies its premises, and the next iteration (here one
that only reports the timer descriptor) destroys the object and closes the descriptor -/
example :
    let c := iter (act demoUp true .forceClose) [.conn 1]
    c.owner = false ∧ c.alive = true ∧ c.queue = [.connectDestroyed] ∧
    (iter c [.timer]).alive = false ∧
    (iter c [.timer]).trace = c.trace ++ [.sysClose, .destroyed] := by decide

/-- `delayed_close_brings_down`: a delayed close called on the loop thread fires in the iteration that reports the timer … -/
example :
    (iter (step (act demoUp false (.forceCloseDelay 7)) (.advance 7)) [.timer]).st = .kDisconnected ∧
    (step (act demoUp false (.forceCloseDelay 7)) (.advance 7)).st = .kDisconnecting := by decide

/-- … called on another thread it is only armed by the first iteration: ONE iteration does not suffice
(so `delayed_close_foreign_brings_down` needs its two iterations) -/
theorem delayed_close_foreign_needs_two :
    LifeInv demoUp ∧
    (iter (step (act demoUp true (.forceCloseDelay 7)) (.advance 7)) [.timer]).st = .kDisconnecting ∧
    (iter (step (iter (act demoUp true (.forceCloseDelay 7)) []) (.advance 7)) [.timer]).st = .kDisconnected :=
  ⟨demoUp_life, by decide, by decide⟩

/-! ### No DOWN is reported while the connection is up; `Armed` under any input; no proof uses them -/

theorem up_not_reported (c : Conn) (hl : LifeInv c) (hu : c.isUp) : C02.cnt C02.isDownEv c.trace = 0 := by
  rw [hl.counts.down, if_neg (isUp_ne hu)]

/-- every input keeps an armed close armed: until it fires it cannot be lost -/
theorem armed_stable (c : Conn) (i : Input) (d : Nat) (hne : i.notEstablish) (hl : LifeInv c) (h : Armed d c) :
    Armed d (step c i) := by
  cases i with
  | establish => exact absurd hne (by simp [Input.notEstablish])
  | act f a =>
    simp only [step]; split
    · exact h
    · split <;> exact (act_grow _ _ _).armed h
  | iter a => exact iter_arms c a d hl (Or.inl h)
  | ownerDestroy =>
    simp only [step]; split
    · exact h
    · obtain ⟨_, _, _, _, e⟩ := maybeDestroy_eq { connectDestroyed c with owner := false }
      rw [e]; exact (connectDestroyed_grow c).armed h
  | _ => exact h

end MuduoVerif.Conn
