import MuduoVerif.Model.AsyncLog
import Mathlib.Data.List.Basic
/-! Lemmas about the `AsyncLogging` transition system (C16, concurrent half): closed forms of the generated
statement sequences (these are the places where a changed statement list stops the proofs), the invariant
`AInv` and its preservation by every step, and who writes the ghost fields. -/
namespace MuduoVerif.AsyncLog
open MuduoVerif.Gen.LogFile (fixedAppendFits)
open MuduoVerif.Gen.AsyncLog

theorem frontFits_fixed (a l : Nat) (h : frontFits a l) : fixedAppendFits a l := by
  simp only [frontFits, fixedAppendFits] at *; omega

theorem empty_takes (cap l : Nat) (h : l < cap) : fixedAppendFits (avail cap []) l := by
  unfold fixedAppendFits avail used; simpa using h

theorem oversize_refused (cap : Nat) (b : Buf) (l : Nat) (h : cap ≤ l) : ¬ frontFits (avail cap b) l ∧ ¬ fixedAppendFits (avail cap b) l := by
  unfold frontFits fixedAppendFits avail; omega

theorem runOps_append (r : Rec) (a b : List Op) (s : St) : runOps r (a ++ b) s = runOps r b (runOps r a s) := by
  simp [runOps, List.foldl_append]

theorem runOps_frontThen (r : Rec) (s : St) (h : s.curOk = true) :
    runOps r frontThen s = { s with cur := bufAppend s.cap s.cur r } := by
  cases s; cases h; rfl

theorem runOps_frontElse (r : Rec) (s : St) (h : s.curOk = true) :
    runOps r frontElse s =
      { s with bufs := s.bufs ++ [s.cur], cur := bufAppend s.cap [] r, curOk := true, hasNext := false,
               woken := notified s } := by
  simp [runOps, frontElse, exec, h, notified]

theorem runOps_finalCollect (s : St) (h : s.curOk = true) :
    runOps noRec finalCollect s =
      { s with toWrite := s.bufs ++ [s.cur], bufs := s.toWrite, cur := [], curOk := s.nb1, nb1 := false } := by
  simp [runOps, finalCollect, exec, h]

theorem runOps_loopCollect (s : St) (h : s.curOk = true) :
    runOps noRec loopCollect s =
      { s with toWrite := s.bufs ++ [s.cur], bufs := s.toWrite, cur := [], curOk := s.nb1, nb1 := false,
               hasNext := s.hasNext || s.nb2, nb2 := s.hasNext && s.nb2 } := by
  rw [show loopCollect = finalCollect ++ [.refillNext] from rfl, runOps_append, runOps_finalCollect s h]
  cases s.hasNext <;> simp [runOps, exec]

theorem runOps_finalWrite (s : St) :
    runOps noRec finalWrite s =
      { s with disk := s.disk ++ items s.toWrite, ledger := s.ledger ++ keeps s.toWrite ++ s.pending, pending := [],
               flushed := (s.disk ++ items s.toWrite).length } :=
  rfl

/-- the part of a cycle after the write -/
def tailOps : List Op := [.shrink, .recycle1, .recycle2, .clear, .flush]

theorem loopWrite_split : loopWrite = [.valve, .writeAll] ++ tailOps := by
  simp [loopWrite, tailOps]

/-- a missing spare buffer is taken from the back of the vector, which must hold one -/
theorem exec_recycle1 (t : St) (h1 : t.nb1 = false) (hne : t.toWrite ≠ []) (hf : t.fault = false) :
    exec noRec .recycle1 t = { t with nb1 := true, toWrite := t.toWrite.dropLast } := by
  simp [exec, h1, hne, hf]

theorem exec_recycle2 (t : St) (hne : t.nb2 = false → t.toWrite ≠ []) (hf : t.fault = false) :
    exec noRec .recycle2 t = { t with nb2 := true, toWrite := if t.nb2 then t.toWrite else t.toWrite.dropLast } := by
  cases hn : t.nb2
  · simp [exec, hn, hne, hf]
  · simp only [exec, hn, if_true]
    rw [← hn]

/-- after the write the vector is cut to two buffers and the missing spares are taken from its back: there are enough
when it held one buffer per missing spare -/
theorem runOps_tail (t : St) (h1 : t.nb1 = false) (hne : t.toWrite ≠ [])
    (h2 : t.nb2 = false → 2 ≤ t.toWrite.length) (hf : t.fault = false) :
    runOps noRec tailOps t = { t with toWrite := [], nb1 := true, nb2 := true, flushed := t.disk.length } := by
  obtain ⟨w, hw, hw1, hw2⟩ :
      ∃ w, exec noRec .shrink t = { t with toWrite := w } ∧ w ≠ [] ∧ (t.nb2 = false → 2 ≤ w.length) := by
    by_cases hs : shrinkIf t.toWrite.length
    · refine ⟨t.toWrite.take shrinkTo, by simp [exec, hs], ?_, fun _ => ?_⟩ <;>
        simp only [shrinkIf, shrinkTo] at * <;> simp [List.length_take] <;> omega
    · exact ⟨t.toWrite, by simp [exec, hs], hne, h2⟩
  have e1 := exec_recycle1 { t with toWrite := w } h1 hw1 hf
  have e2 := exec_recycle2 { t with toWrite := w.dropLast, nb1 := true } (fun hn he => by
    have := hw2 hn; have := congrArg List.length he; simp at this; omega) hf
  show exec noRec .flush (exec noRec .clear (exec noRec .recycle2 (exec noRec .recycle1 (exec noRec .shrink t)))) = _
  rw [hw, e1, e2]
  rfl

theorem runOps_valveWrite (s : St) (hp : s.pending = []) :
    runOps noRec [.valve, .writeAll] s =
      if overloaded s.toWrite.length then
        { s with disk := s.disk ++ [Item.note (dropAnnounce s.toWrite.length)] ++ items (s.toWrite.take dropKeep),
                 errNotes := s.errNotes ++ [dropAnnounce s.toWrite.length],
                 ledger := s.ledger ++ keeps (s.toWrite.take dropKeep) ++ [Led.dropped (s.toWrite.drop dropKeep)],
                 pending := [], toWrite := s.toWrite.take dropKeep }
      else { s with disk := s.disk ++ items s.toWrite, ledger := s.ledger ++ keeps s.toWrite, pending := [] } := by
  by_cases h : overloaded s.toWrite.length <;>
    simp [runOps, exec, h, hp, valveAnnouncesFile, valveAnnouncesStderr]

/-- the write phase of one cycle as a whole: `note` is the drop announcement (if any), `keep` the buffers written, `led`
the ledger entry of the dropped ones (if any) -/
theorem runOps_loopWrite (s : St) (hp : s.pending = []) (h1 : s.nb1 = false) (hne : s.toWrite ≠ [])
    (h2 : s.nb2 = false → 2 ≤ s.toWrite.length) (hf : s.fault = false) :
    ∃ (note : List Item) (keep : List Buf) (led : List Led),
      keep.flatten ++ expand led = s.toWrite.flatten ∧ recsOf note = [] ∧ keptOf led = [] ∧ notesOf note = dropsOf led ∧
      runOps noRec loopWrite s =
        { s with disk := s.disk ++ (note ++ items keep), errNotes := s.errNotes ++ notesOf note,
                 ledger := s.ledger ++ (keeps keep ++ led), pending := [], toWrite := [], nb1 := true, nb2 := true,
                 flushed := (s.disk ++ (note ++ items keep)).length } := by
  rw [loopWrite_split, runOps_append, runOps_valveWrite s hp]
  by_cases hov : overloaded s.toWrite.length
  · have hlen : 2 < s.toWrite.length := by simp only [overloaded] at hov; omega
    refine ⟨[.note (dropAnnounce s.toWrite.length)], s.toWrite.take dropKeep, [.dropped (s.toWrite.drop dropKeep)],
      by simp [expand, ← List.flatten_append], rfl, rfl, by simp [notesOf, dropsOf, dropAnnounce, dropKeep], ?_⟩
    rw [if_pos hov, runOps_tail]
    · simp [notesOf]
    · exact h1
    · simpa [dropKeep] using hne
    · intro _; simp [dropKeep]; omega
    · exact hf
  · refine ⟨[], s.toWrite, [], by simp [expand], rfl, rfl, rfl, ?_⟩
    rw [if_neg hov, runOps_tail]
    · simp [notesOf]
    · exact h1
    · exact hne
    · exact h2
    · exact hf

theorem startOps_run (s : St) (h : s.pc = .idle) :
    runOps noRec startOps s = { s with running := true, pc := .test } := by
  cases s; cases h; rfl

theorem stopPrefix_run (s : St) :
    runOps noRec stopPrefix s = { s with running := false, woken := notified s } :=
  rfl

theorem join_in_stop : Op.join ∈ stopOps := by simp [stopOps]

theorem fronts_append (a b : List Step) : fronts (a ++ b) = fronts a ++ fronts b := by
  induction a with
  | nil => rfl
  | cons x xs ih => cases x <;> simp [fronts, ih]

theorem run_append (s : St) (a b : List Step) :
    run s (a ++ b) = (run s a).bind (fun s' => run s' b) := by
  induction a generalizing s with
  | nil => rfl
  | cons x xs ih =>
    simp only [List.cons_append, run]
    cases step s x with
    | none => rfl
    | some s1 => exact ih s1

theorem run_cons_some {s s' : St} {a : Step} {r : List Step} :
    run s (a :: r) = some s' ↔ ∃ s1, step s a = some s1 ∧ run s1 r = some s' := by
  rw [run]
  cases step s a <;> simp

theorem run_append_some {s s' : St} {a b : List Step} :
    run s (a ++ b) = some s' ↔ ∃ s1, run s a = some s1 ∧ run s1 b = some s' := by
  rw [run_append, Option.bind_eq_some_iff]

theorem expand_append (a b : List Led) : expand (a ++ b) = expand a ++ expand b := by
  induction a with
  | nil => rfl
  | cons x xs ih => cases x <;> simp [expand, ih]

theorem keptOf_append (a b : List Led) : keptOf (a ++ b) = keptOf a ++ keptOf b := by
  induction a with
  | nil => rfl
  | cons x xs ih => cases x <;> simp [keptOf, ih]

theorem dropsOf_append (a b : List Led) : dropsOf (a ++ b) = dropsOf a ++ dropsOf b := by
  induction a with
  | nil => rfl
  | cons x xs ih => cases x <;> simp [dropsOf, ih]

theorem recsOf_append (a b : List Item) : recsOf (a ++ b) = recsOf a ++ recsOf b := by
  induction a with
  | nil => rfl
  | cons x xs ih => cases x <;> simp [recsOf, ih]

theorem notesOf_append (a b : List Item) : notesOf (a ++ b) = notesOf a ++ notesOf b := by
  induction a with
  | nil => rfl
  | cons x xs ih => cases x <;> simp [notesOf, ih]

theorem expand_keeps (bs : List Buf) : expand (keeps bs) = bs.flatten := by
  unfold keeps
  induction bs.flatten with
  | nil => rfl
  | cons x xs ih => simp [expand, ih]

theorem keptOf_keeps (bs : List Buf) : keptOf (keeps bs) = bs.flatten := by
  unfold keeps
  induction bs.flatten with
  | nil => rfl
  | cons x xs ih => simp [keptOf, ih]

theorem dropsOf_keeps (bs : List Buf) : dropsOf (keeps bs) = [] := by
  unfold keeps
  induction bs.flatten with
  | nil => rfl
  | cons x xs ih => simp [dropsOf, ih]

theorem recsOf_items (bs : List Buf) : recsOf (items bs) = bs.flatten := by
  unfold items
  induction bs.flatten with
  | nil => rfl
  | cons x xs ih => simp [recsOf, ih]

theorem notesOf_items (bs : List Buf) : notesOf (items bs) = [] := by
  unfold items
  induction bs.flatten with
  | nil => rfl
  | cons x xs ih => simp [notesOf, ih]

theorem keptOf_sublist_expand (l : List Led) : (keptOf l).Sublist (expand l) := by
  induction l with
  | nil => exact List.Sublist.slnil
  | cons x xs ih =>
    cases x with
    | kept r => simpa [keptOf, expand] using ih
    | dropped bs => exact ih.trans (List.sublist_append_right _ _)

theorem expand_eq_keptOf (l : List Led) (h : dropsOf l = []) : expand l = keptOf l := by
  induction l with
  | nil => rfl
  | cons x xs ih =>
    cases x with
    | kept r => simp only [dropsOf] at h; simp [keptOf, expand, ih h]
    | dropped bs => simp [dropsOf] at h

structure AInv (cap : Nat) (s : St) : Prop where
  /-- every `FixedBuffer` keeps the size the history began with -/
  cap : s.cap = cap
  /-- every record appended so far is, in order, in the ledger (written or announced), `buffersToWrite`, `buffers_` or `currentBuffer_` -/
  eq : expand s.ledger ++ (inflight s).flatten ++ s.bufs.flatten ++ s.cur = s.appended
  /-- the records handed to the `LogFile` are those the ledger has as kept, in order -/
  kept : recsOf s.disk = keptOf s.ledger
  /-- the announcements in the file are, one for one, the dropped groups of the ledger, each with its number of buffers -/
  notes : notesOf s.disk = dropsOf s.ledger
  /-- stderr got the announcements the file got -/
  err : s.errNotes = notesOf s.disk
  /-- between steps `currentBuffer_` is non-null, no null buffer was used, and what the valve erased has entered the ledger -/
  ok : s.curOk = true ∧ s.fault = false ∧ s.pending = []
  /-- without a `nextBuffer_` there is a queued buffer: the collect then has two buffers to refill `newBuffer2` from -/
  queued : s.pc ≠ .done → s.hasNext = false → s.bufs ≠ []
  /-- the back-end thread exists only after `start()` -/
  started : s.pc ≠ .idle → s.started = true
  /-- `stop()` returns only after `thread_.join()`, when the thread function has returned -/
  notRet : s.pc ≠ .done → s.stopReturned = false
  /-- the two spare buffers are with the back-end unless it is between the collect and the end of the write -/
  rested : s.pc ≠ .swapped → s.pc ≠ .done → s.toWrite = [] ∧ s.nb1 = true ∧ s.nb2 = true
  /-- at `threadFunc:swapped` `newBuffer1` has become `currentBuffer_`, and `buffersToWrite` holds a buffer for each missing spare -/
  swapped : s.pc = .swapped → s.nb1 = false ∧ s.toWrite ≠ [] ∧ (s.nb2 = false → 2 ≤ s.toWrite.length)
  /-- `running_`, set by `start()`, is cleared only by `stop()`: the back-end leaves its loop only after that call -/
  life : s.started = true → s.running = true ∨ s.stopCalled = true
  /-- the back-end is past its loop only when `stop()` has been called -/
  called : s.pc = .final ∨ s.pc = .done → s.stopCalled = true
  /-- what was appended before `stop()` stays a prefix of what has been appended -/
  stop1 : s.stopCalled = true → s.atStop <+: s.appended
  /-- once the thread function has returned, what was appended before `stop()` is written or announced, and the file is flushed -/
  fin : s.pc = .done → s.atStop <+: expand s.ledger ∧ s.flushed = s.disk.length

variable {cap : Nat} {s : St}

theorem AInv.done_of_returned (h : AInv cap s) (hr : s.stopReturned = true) : s.pc = .done := by
  by_contra hd
  simp [h.notRet hd] at hr

theorem AInv_init (cap : Nat) : AInv cap (init cap) := by
  constructor <;> simp [init, inflight, expand, recsOf, keptOf, notesOf, dropsOf]

theorem AInv_front (h : AInv cap s) (r : Rec) (hr : r.len < cap) : AInv cap (front s r) := by
  have hstop : ∀ l, s.stopCalled = true → s.atStop <+: s.appended ++ l :=
    fun _ hc => (h.stop1 hc).trans (List.prefix_append _ _)
  unfold front
  rw [if_pos h.ok.1]
  by_cases hf : frontFits (avail s.cap s.cur) r.len
  · rw [if_pos hf, runOps_frontThen r s h.ok.1, bufAppend, if_pos (frontFits_fixed _ _ hf)]
    exact { h with eq := by rw [← h.eq]; simp [inflight], stop1 := hstop _ }
  · rw [if_neg hf, runOps_frontElse r s h.ok.1, bufAppend, if_pos (empty_takes _ _ (h.cap ▸ hr))]
    exact { h with eq := by rw [← h.eq]; simp [inflight], ok := ⟨rfl, h.ok.2⟩, queued := fun _ _ => by simp, stop1 := hstop _ }

theorem AInv_start (h : AInv cap s) (hs : s.started = false) :
    AInv cap (runOps noRec startOps { s with started := true }) := by
  have hidle : s.pc = .idle := by
    by_contra hp; simp [h.started hp] at hs
  have heq := h.eq
  rw [inflight, hidle] at heq
  rw [startOps_run { s with started := true } hidle]
  exact { h with eq := heq, queued := fun _ => h.queued (by simp [hidle]), started := fun _ => rfl,
                 notRet := fun _ => h.notRet (by simp [hidle]), rested := fun _ _ => h.rested (by simp [hidle]) (by simp [hidle]),
                 swapped := nofun, life := fun _ => Or.inl rfl, called := nofun, fin := nofun }

theorem AInv.goto (h : AInv cap s) {p : Pc} (w : Bool) (hs : s.pc = .test ∨ s.pc = .enter)
    (hp : p = .enter ∨ p = .waiting ∨ p = .final) (hc : p = .final → s.stopCalled = true) :
    AInv cap { s with pc := p, woken := w } := by
  have h1 : s.pc ≠ .swapped ∧ s.pc ≠ .done ∧ s.pc ≠ .idle := by rcases hs with e | e <;> simp [e]
  have heq := h.eq
  rw [inflight, if_neg h1.1] at heq
  rcases hp with rfl | rfl | rfl <;>
    exact { h with eq := heq, queued := fun _ => h.queued h1.2.1, started := fun _ => h.started h1.2.2,
                   notRet := fun _ => h.notRet h1.2.1, rested := fun _ _ => h.rested h1.1 h1.2.1, swapped := nofun,
                   called := fun hq => hq.elim hc nofun, fin := nofun }

theorem AInv_collect (h : AInv cap s) (hp : s.pc = .enter ∨ s.pc = .waiting) : AInv cap (collect s) := by
  have h1 : s.pc ≠ .swapped ∧ s.pc ≠ .done ∧ s.pc ≠ .idle := by rcases hp with e | e <;> simp [e]
  obtain ⟨htw, hn1, hn2⟩ := h.rested h1.1 h1.2.1
  have heq := h.eq
  rw [inflight, if_neg h1.1] at heq
  unfold collect
  rw [runOps_loopCollect s h.ok.1, htw, hn1, hn2]
  refine { h with eq := by rw [← heq]; simp [inflight], ok := ⟨rfl, h.ok.2⟩, queued := fun _ _ => ?_,
                  started := fun _ => h.started h1.2.2, notRet := fun _ => h.notRet h1.2.1, rested := fun hc => absurd rfl hc,
                  swapped := fun _ => ⟨rfl, by simp, fun hh => ?_⟩, called := nofun, fin := nofun }
  · simp at ‹(s.hasNext || true) = false›
  · have := List.length_pos_iff.mpr (h.queued h1.2.1 (by simpa using hh))
    simp; omega

theorem AInv_write (h : AInv cap s) (hp : s.pc = .swapped) : AInv cap (writePhase s) := by
  obtain ⟨h1, hne, h2⟩ := h.swapped hp
  obtain ⟨note, keep, led, hfl, hn1, hl1, hnl, he⟩ := runOps_loopWrite s h.ok.2.2 h1 hne h2 h.ok.2.1
  have heq := h.eq
  rw [inflight, if_pos hp, ← hfl] at heq
  unfold writePhase
  rw [he]
  exact { h with
    eq := by rw [← heq]; simp [inflight, expand_append, expand_keeps]
    kept := by simp [recsOf_append, recsOf_items, keptOf_append, keptOf_keeps, h.kept, hn1, hl1]
    notes := by simp [notesOf_append, notesOf_items, dropsOf_append, dropsOf_keeps, h.notes, hnl]
    err := by simp [notesOf_append, notesOf_items, h.err]
    ok := ⟨h.ok.1, h.ok.2.1, rfl⟩
    queued := fun _ => h.queued (by simp [hp])
    started := fun _ => h.started (by simp [hp])
    notRet := fun _ => h.notRet (by simp [hp])
    rested := fun _ _ => ⟨rfl, rfl, rfl⟩
    swapped := nofun
    called := nofun
    fin := nofun }

theorem AInv_final (h : AInv cap s) (hp : s.pc = .final) : AInv cap (finalPhase s) := by
  obtain ⟨htw, hn1, _⟩ := h.rested (by simp [hp]) (by simp [hp])
  have hc := h.called (.inl hp)
  have heq := h.eq
  rw [inflight, hp] at heq
  unfold finalPhase
  rw [runOps_finalCollect s h.ok.1, runOps_finalWrite]
  have hl : expand (s.ledger ++ keeps (s.bufs ++ [s.cur]) ++ s.pending) = s.appended := by
    rw [← heq]; simp [expand_append, expand_keeps, h.ok.2.2]
  exact { h with
    eq := by simpa [inflight, htw] using hl
    kept := by simp [recsOf_append, recsOf_items, keptOf_append, keptOf_keeps, h.kept, h.ok.2.2]
    notes := by simp [notesOf_append, notesOf_items, dropsOf_append, dropsOf_keeps, h.notes, h.ok.2.2]
    err := by simp [notesOf_append, notesOf_items, h.err]
    ok := ⟨hn1, h.ok.2.1, rfl⟩
    queued := fun hd => absurd rfl hd
    started := fun _ => h.started (by simp [hp])
    notRet := fun hd => absurd rfl hd
    rested := fun _ hd => absurd rfl hd
    swapped := nofun
    called := fun _ => hc
    fin := fun _ => ⟨hl ▸ h.stop1 hc, rfl⟩ }

theorem AInv_stopCall (h : AInv cap s) (hc : s.stopCalled = false) :
    AInv cap (runOps noRec stopPrefix { s with stopCalled := true, atStop := s.appended }) := by
  rw [stopPrefix_run]
  exact { h with
    life := fun _ => .inr rfl
    called := fun _ => rfl
    stop1 := fun _ => List.prefix_refl _
    fin := fun hd => by simp [h.called (.inr hd)] at hc }

theorem AInv_stopJoin (h : AInv cap s) (hd : s.pc = .done) : AInv cap { s with stopReturned := true } :=
  { h with notRet := fun hd' => absurd hd hd' }

theorem AInv_step {s' : St} {a : Step} (h : AInv cap s) (ha : ∀ r, a = .front r → r.len < cap)
    (hs : step s a = some s') : AInv cap s' := by
  cases a <;>
    simp only [step, Option.ite_none_right_eq_some, Option.ite_none_left_eq_some, Option.some.injEq] at hs
  case front r => exact hs ▸ AInv_front h r (ha r rfl)
  all_goals obtain ⟨hp, rfl⟩ := hs
  case start => exact AInv_start h (by simpa using hp)
  case test =>
    split
    · exact h.goto _ (.inl hp) (.inl rfl) nofun
    · exact h.goto _ (.inl hp) (.inr (.inr rfl)) fun _ => (h.life (h.started (by simp [hp]))).resolve_left ‹_›
  case enter =>
    split
    · exact h.goto _ (.inr hp) (.inr (.inl rfl)) nofun
    · exact AInv_collect h (.inl hp)
  case wake => exact AInv_collect h (.inr hp.1)
  case write => exact AInv_write h hp
  case final => exact AInv_final h hp
  case stopCall => exact AInv_stopCall h (by simpa using hp.2)
  case stopJoin => exact AInv_stopJoin h (hp.2.2 join_in_stop)

theorem AInv_run (cap : Nat) (steps : List Step) (s s' : St) (h : AInv cap s)
    (hfit : ∀ r ∈ fronts steps, r.len < cap) (hr : run s steps = some s') : AInv cap s' := by
  induction steps generalizing s with
  | nil => simp only [run] at hr; cases Option.some.inj hr; exact h
  | cons a rest ih =>
    obtain ⟨s1, hst, hr⟩ := run_cons_some.1 hr
    refine ih s1 (AInv_step h ?_ hst) ?_ hr
    · intro r har; subst har; exact hfit r (by simp [fronts])
    · intro r hrm; apply hfit r; cases a <;> simp [fronts, hrm]

/-- the ghost fields that no statement writes -/
def ghost (s : St) : List Rec × List Rec × Bool := (s.appended, s.atStop, s.stopCalled)

theorem runOps_ghost (r : Rec) (ops : List Op) (s : St) : ghost (runOps r ops s) = ghost s := by
  induction ops generalizing s with
  | nil => rfl
  | cons o rest ih => exact (ih _).trans (by cases o <;> simp only [exec] <;> (try split) <;> rfl)

@[simp] theorem runOps_appended (r : Rec) (ops : List Op) (s : St) : (runOps r ops s).appended = s.appended :=
  congrArg (·.1) (runOps_ghost r ops s)
@[simp] theorem runOps_atStop (r : Rec) (ops : List Op) (s : St) : (runOps r ops s).atStop = s.atStop :=
  congrArg (·.2.1) (runOps_ghost r ops s)
@[simp] theorem runOps_stopCalled (r : Rec) (ops : List Op) (s : St) : (runOps r ops s).stopCalled = s.stopCalled :=
  congrArg (·.2.2) (runOps_ghost r ops s)

theorem step_ghost {s s' : St} {a : Step} (hs : step s a = some s') :
    s'.appended = s.appended ++ fronts [a] ∧ (s.stopCalled = true → s'.atStop = s.atStop ∧ s'.stopCalled = true) ∧
      (a = .stopCall → s'.atStop = s.appended ∧ s'.stopCalled = true) := by
  cases a <;>
    simp only [step, Option.ite_none_right_eq_some, Option.ite_none_left_eq_some, Option.some.injEq] at hs
  case front r => subst hs; unfold front; split <;> [split; skip] <;> simp [fronts]
  case stopCall => obtain ⟨hp, rfl⟩ := hs; simp [fronts, hp.2]
  all_goals
    obtain ⟨_, rfl⟩ := hs
    (try split) <;> simp [fronts, collect, writePhase, finalPhase]

theorem run_ghost {steps : List Step} {s s' : St} (hr : run s steps = some s') :
    s'.appended = s.appended ++ fronts steps ∧ (s.stopCalled = true → s'.atStop = s.atStop) := by
  induction steps generalizing s with
  | nil => cases hr; exact ⟨by simp [fronts], fun _ => rfl⟩
  | cons a rest ih =>
    obtain ⟨s1, hst, hr⟩ := run_cons_some.1 hr
    obtain ⟨h1, h2, _⟩ := step_ghost hst
    obtain ⟨h3, h4⟩ := ih hr
    exact ⟨by rw [h3, h1, List.append_assoc, ← fronts_append]; rfl, fun hc => (h4 (h2 hc).2).trans (h2 hc).1⟩

end MuduoVerif.AsyncLog
