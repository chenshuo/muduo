import MuduoVerif.Proofs.LoopQuit
/-!
# `EventLoopThread` (C05): `no_dead_access`, the start-up handshake, and who can be blocked forever

`EltInv` is kept by every step (`LoopStep.eltInv` for every shape of the code, `OtherStep.eltInv`): a step of the loop
thread that is not the publication or the clearing of `loop_` only moves the phase (`EltInv.advance`), a step of another
thread that neither takes nor releases `mutex_` only moves that thread (`EltInv.otherStep`).  `stuck_analysis` reads off
what a state in which nobody can move must look like.
-/
namespace MuduoVerif.Loop
open MuduoVerif.Gen.Loop

theorem running_hasLoop {p : Phase} (h : running p = true) : hasLoop p = true := by
  cases p <;> simp [running, hasLoop] at h ⊢

/-- the `finished_` handshake: a `startLoop()` that is waiting un-notified waits for a loop that is still to come
(`loop_` not yet published, thread not finished), and `finished_` is set exactly when the loop thread is done -/
def FinOk (s : St) : Prop :=
  (s.waiting = true → s.loopPtr = false ∧ s.phase ≠ .dead) ∧ (s.finished = true ↔ s.phase = .dead)

/-- `mutex_` is held by exactly the one thread inside the destructor's window (`holder`, `unique`, `held`); `loop_` is
published exactly between publication and `threadFunc`'s clearing it (`ptr`, `ptrElt`) and the loop object exists
exactly then or shortly before (`alive`); a plain loop has no `EventLoopThread` caller (`plain`); a thread past
`startLoop()`'s `thread_.start()` has made the loop thread exist (`created`) -/
structure EltInv (s : St) : Prop where
  holder : ∀ k, k ≠ s.L → inH (s.thr k).pc = true → s.mtx = true ∧ s.loopPtr = true
  unique : ∀ j k, j ≠ s.L → k ≠ s.L → inH (s.thr j).pc = true → inH (s.thr k).pc = true → j = k
  held : s.mtx = true → ∃ k, k ≠ s.L ∧ inH (s.thr k).pc = true
  ptr : s.loopPtr = true → running s.phase = true ∧ s.elt = true
  ptrElt : s.elt = true → running s.phase = true → s.loopPtr = true
  alive : s.alive = hasLoop s.phase
  plain : s.elt = false → hasLoop s.phase = true ∧ ∀ k, k ≠ s.L → inElt (s.thr k).pc = false
  noUaf : s.uafDtor = false
  fin : FinOk s
  created : ∀ k, k ≠ s.L → inElt (s.thr k).pc = true → (s.thr k).pc ≠ .dEntry → s.phase ≠ .unborn

section loop
variable {fd : FinalDrain} {bd : Bool} {s s' : St}

theorem EltInv.nobody (h : EltInv s) (hm : s.mtx = false) (k : Nat) (hk : k ≠ s.L) : inH (s.thr k).pc = false := by
  cases hh : inH (s.thr k).pc with
  | false => rfl
  | true => have := (h.holder k hk hh).1; simp [hm] at this

/-- the loop thread goes from one phase to another (it constructs its loop, `loop()` goes on, a plain loop is entered
again) and leaves `loop_`, `waiting`, `finished_`, the mutex and the other threads as they are -/
theorem EltInv.advance (h : EltInv s) (ht : s'.thr = s.thr) (he : s'.elt = s.elt) (hm : s'.mtx = s.mtx)
    (hu : s'.uafDtor = s.uafDtor) (e1 : s'.loopPtr = s.loopPtr) (e2 : s'.waiting = s.waiting)
    (e3 : s'.finished = s.finished) (c1 : s.elt = true → running s.phase = true → running s'.phase = true)
    (c2 : s.elt = true → running s'.phase = true → running s.phase = true) (hp : s.phase ≠ .dead)
    (hp' : hasLoop s'.phase = true) (ha : s'.alive = true ∨ (s'.alive = s.alive ∧ hasLoop s.phase = true)) :
    EltInv s' := by
  have hL := L_of_elt he
  have hnd : s'.phase ≠ .dead := fun hd => by simp [hd, hasLoop] at hp'
  have halive : s'.alive = hasLoop s'.phase := by
    rw [hp']; rcases ha with a | ⟨a, b⟩
    · exact a
    · rw [a, h.alive, b]
  refine ⟨?_, ?_, ?_, ?_, ?_, halive, ?_, ?_, ?_, fun _ _ _ _ hu => by simp [hu, hasLoop] at hp'⟩ <;>
    simp only [ht, hL, he, hm, hu, e1, e2, e3, FinOk]
  · exact h.holder
  · exact h.unique
  · exact h.held
  · intro hl; exact ⟨c1 (h.ptr hl).2 (h.ptr hl).1, (h.ptr hl).2⟩
  · intro hel hr; exact h.ptrElt hel (c2 hel hr)
  · intro hf; exact ⟨hp', (h.plain hf).2⟩
  · exact h.noUaf
  · exact ⟨fun hw => ⟨(h.fin.1 hw).1, hnd⟩, fun hf => absurd (h.fin.2.mp hf) hp, fun hd => absurd hd hnd⟩

theorem TopStep.eltInv (hs : TopStep s s') (h : EltInv s) : EltInv s' := by
  induction hs <;> exact ⟨h.holder, h.unique, h.held, h.ptr, h.ptrElt, h.alive, h.plain, h.noUaf, h.fin, h.created⟩

theorem LoopStep.eltInv (hs : LoopStep fd bd s s') (h : EltInv s) : EltInv s' := by
  induction hs
  case task ht => exact ht.eltInv h
  case nop | wakeRead | pipeRead | pipeEmpty | exec | bury =>
    exact ⟨h.holder, h.unique, h.held, h.ptr, h.ptrElt, h.alive, h.plain, h.noUaf, h.fin, h.created⟩
  case publish hp _ he hm =>
    exact ⟨fun k hk hh => (by simp [h.nobody hm k hk] at hh), h.unique, h.held, fun _ => ⟨rfl, he⟩, fun _ _ => rfl,
      (by rw [h.alive, hp]; rfl), fun hf => (by simp [he] at hf), h.noUaf,
      ⟨(nomatch ·), fun hf => absurd (h.fin.2.mp hf) (by simp [hp]), (nomatch ·)⟩, fun _ _ _ _ => (nomatch ·)⟩
  case die hp he hm =>
    exact ⟨fun k hk hh => (by simp [h.nobody hm k hk] at hh), h.unique, h.held, (nomatch ·), fun _ => (nomatch ·), rfl,
      fun hf => (by simp [he] at hf), h.noUaf, ⟨(nomatch ·), fun _ => rfl, fun _ => rfl⟩, fun _ _ _ _ => (nomatch ·)⟩
  all_goals
    exact h.advance rfl rfl rfl rfl rfl rfl rfl (by simp [*, running]) (by simp [*, running]) (by simp [*])
      (by simp [relaunch, hasLoop]) (by simp [*, relaunch, hasLoop])

end loop

section other
variable {s s' : St} {k : Nat}

theorem created_step (h : EltInv s) (frame : ∀ j, j ≠ k → s'.thr j = s.thr j) (hL : s'.L = s.L)
    (hph : s'.phase = s.phase ∨ s'.phase ≠ .unborn)
    (hc : inElt (s'.thr k).pc = true → (s'.thr k).pc ≠ .dEntry →
      (inElt (s.thr k).pc = true ∧ (s.thr k).pc ≠ .dEntry) ∨ s'.phase ≠ .unborn) :
    ∀ j, j ≠ s'.L → inElt (s'.thr j).pc = true → (s'.thr j).pc ≠ .dEntry → s'.phase ≠ .unborn := by
  intro j hj hi hd
  rw [hL] at hj
  have old : inElt (s.thr j).pc = true → (s.thr j).pc ≠ .dEntry → s'.phase ≠ .unborn := by
    intro a b
    rcases hph with e | e
    · rw [e]; exact h.created j hj a b
    · exact e
  by_cases hjk : j = k
  · subst hjk
    rcases hc hi hd with ⟨a, b⟩ | e
    · exact old a b
    · exact e
  · rw [frame j hjk] at hi hd; exact old hi hd

theorem plain_step (h : EltInv s) (frame : ∀ j, j ≠ k → s'.thr j = s.thr j) (he : s'.elt = s.elt)
    (hph : s.elt = false → s'.phase = s.phase) (hp : s.elt = false → inElt (s'.thr k).pc = false) :
    s'.elt = false → hasLoop s'.phase = true ∧ ∀ j, j ≠ s'.L → inElt (s'.thr j).pc = false := by
  intro hf
  rw [he] at hf
  rw [L_of_elt he, hph hf]
  refine ⟨(h.plain hf).1, ?_⟩
  intro j hj
  by_cases hjk : j = k
  · subst hjk; exact hp hf
  · rw [frame j hjk]; exact (h.plain hf).2 j hj

/-- thread `k` moves without taking or releasing `mutex_`; what the step does to `loop_`'s life is given field by
field (the old fields, when it does nothing) -/
theorem EltInv.otherStep (h : EltInv s) (hk : k ≠ s.L) (frame : ∀ j, j ≠ k → s'.thr j = s.thr j) (he : s'.elt = s.elt)
    (hm : s'.mtx = s.mtx) (hl : s'.loopPtr = s.loopPtr) (hH : inH (s'.thr k).pc = inH (s.thr k).pc)
    (ptr : s'.loopPtr = true → running s'.phase = true ∧ s'.elt = true)
    (ptrElt : s'.elt = true → running s'.phase = true → s'.loopPtr = true) (alive : s'.alive = hasLoop s'.phase)
    (noUaf : s'.uafDtor = false) (fin : FinOk s')
    (hph : s'.phase = s.phase ∨ (s.elt = true ∧ s'.phase ≠ .unborn))
    (hP : inElt (s'.thr k).pc = true → inElt (s.thr k).pc = true ∨ s.elt = true)
    (hC : inElt (s'.thr k).pc = true → (s'.thr k).pc ≠ .dEntry →
      (inElt (s.thr k).pc = true ∧ (s.thr k).pc ≠ .dEntry) ∨ s'.phase ≠ .unborn) : EltInv s' := by
  have hL := L_of_elt he
  have hP' : s.elt = false → inElt (s'.thr k).pc = false := fun hf => by
    cases hi : inElt (s'.thr k).pc with
    | false => rfl
    | true => rcases hP hi with e | e <;> simp [hf, (h.plain hf).2 k hk] at e
  have key : ∀ j, inH (s'.thr j).pc = inH (s.thr j).pc := by
    intro j; by_cases hj : j = k
    · subst hj; exact hH
    · rw [frame j hj]
  refine ⟨?_, ?_, ?_, ptr, ptrElt, alive,
    plain_step h frame he (fun hf => hph.elim id (fun e => by simp [e.1] at hf)) hP', noUaf, fin,
    created_step h frame hL (hph.imp_right (·.2)) hC⟩ <;> simp only [key, hL, hm, hl]
  · exact h.holder
  · exact h.unique
  · exact h.held

theorem OtherStep.eltInv (hs : OtherStep s k s') (hk : k ≠ s.L) (h : EltInv s) : EltInv s' := by
  have plainK : s.elt = false → inElt (s.thr k).pc = false := fun hf => (h.plain hf).2 k hk
  have frame (t : FThread) (j : Nat) (hj : j ≠ k) : (if j = k then t else s.thr j) = s.thr j := if_neg hj
  have hal : inH (s.thr k).pc = true → s.alive = true := fun hh => by
    rw [h.alive]; exact running_hasLoop (h.ptr (h.holder k hk hh).2).1
  induction hs
  case nop => exact ⟨h.holder, h.unique, h.held, h.ptr, h.ptrElt, h.alive, h.plain, h.noUaf, h.fin, h.created⟩
  case start hpc _ he hu =>
    refine h.otherStep hk (frame _) rfl rfl rfl (by simp [hpc, inH]) (fun hl => ?_) (fun _ hr => nomatch hr) ?_ h.noUaf ?_
      (.inr ⟨he, (nomatch ·)⟩) (fun _ => .inr he) (fun _ _ => .inr (nomatch ·))
    · have := (h.ptr hl).1; simp [hu, running] at this
    · show s.alive = hasLoop .born; rw [h.alive, hu]; rfl
    · obtain ⟨a, b⟩ := h.fin
      exact ⟨fun hw => ⟨(a hw).1, (nomatch ·)⟩, by rw [b, hu]; exact ⟨(nomatch ·), (nomatch ·)⟩⟩
  case wait hpc _ hl hf =>
    refine h.otherStep hk (frame _) rfl rfl rfl (by simp [hpc, inH]) h.ptr h.ptrElt h.alive h.noUaf
      ⟨fun _ => ⟨hl, fun hd => ?_⟩, h.fin.2⟩ (.inl rfl) (by simp [hpc, inElt]) (by simp [hpc, inElt])
    have := h.fin.2.mpr hd; simp [hf] at this
  case dLock hpc hm hl =>
    have only : ∀ j, j ≠ s.L → inH (if j = k then (⟨.dBeforeQuit, (s.thr k).prog⟩ : FThread) else s.thr j).pc = true →
        j = k := by
      intro j hj hh
      by_cases hjk : j = k
      · exact hjk
      · rw [if_neg hjk, h.nobody hm j hj] at hh; cases hh
    exact ⟨fun _ _ _ => ⟨rfl, hl⟩, fun i j hi hj a b => by rw [only i hi a, only j hj b],
      fun _ => ⟨k, hk, by simp [inH]⟩, h.ptr, h.ptrElt, h.alive,
      plain_step h (frame _) rfl (fun _ => rfl) (fun hf => by have := plainK hf; simp [hpc, inElt] at this), h.noUaf, h.fin,
      created_step h (frame _) rfl (.inl rfl)
        (fun _ _ => .inr fun hu => by have := (h.ptr hl).1; simp [show s.phase = .unborn from hu, running] at this)⟩
  case dQuit hpc =>
    have := hal (by simp [hpc, inH])
    exact h.otherStep hk (frame _) rfl rfl rfl (by simp [hpc, inH]) h.ptr h.ptrElt h.alive (by simp [h.noUaf, this]) h.fin
      (.inl rfl) (by simp [hpc, inElt]) (by simp [hpc, inElt])
  case dWake hpc =>
    have := hal (by simp [hpc, inH])
    have none' : ∀ j, j ≠ s.L → inH (if j = k then (⟨.dJoin, (s.thr k).prog⟩ : FThread) else s.thr j).pc = false := by
      intro j hj
      by_cases hjk : j = k
      · rw [if_pos hjk]; rfl
      · rw [if_neg hjk]
        cases hh : inH (s.thr j).pc with
        | false => rfl
        | true => exact absurd (h.unique j k hj hk hh (by simp [hpc, inH])) hjk
    exact ⟨fun j hj hh => (by rw [none' j hj] at hh; cases hh), fun i _ hi _ hh => (by rw [none' i hi] at hh; cases hh),
      (nomatch ·), h.ptr, h.ptrElt, h.alive,
      plain_step h (frame _) rfl (fun _ => rfl) (fun hf => by have := plainK hf; simp [hpc, inElt] at this),
      by simp [h.noUaf, this], h.fin, created_step h (frame _) rfl (.inl rfl) (by simp [hpc, inElt])⟩
  case dSkip hpc _ _ hd =>
    rcases hd with ⟨hu, rfl⟩ | ⟨_, rfl⟩ <;>
    exact h.otherStep hk (frame _) rfl rfl rfl (by simp [hpc, inH]) h.ptr h.ptrElt h.alive h.noUaf h.fin (.inl rfl)
      (by simp [hpc, inElt]) (by simp [*, inElt])
  case wake hpc =>
    rcases hpc with hpc | hpc <;>
    exact h.otherStep hk (frame _) rfl rfl rfl (by simp [hpc, inH]) h.ptr h.ptrElt h.alive h.noUaf h.fin (.inl rfl)
      (by simp [inElt]) (by simp [inElt])
  -- the other steps move a thread that neither holds nor takes `mutex_` and leave the shared state alone
  all_goals
    exact h.otherStep hk (frame _) rfl rfl rfl (by simp [*, inH]) h.ptr h.ptrElt h.alive h.noUaf h.fin (.inl rfl)
      (by simp [*, inElt]) (by simp [*, inElt])

theorem OtherStep.started_out (hs : OtherStep s k s') (hout : s'.out = some .started ∨ s'.out = some .startedNull) :
    (s'.out = some .started ∧ s.loopPtr = true ∧ s.mtx = false) ∨
    (s'.out = some .startedNull ∧ s.loopPtr = false ∧ s.finished = true) := by
  induction hs
  case started hm ho =>
    rcases ho with ⟨hl, rfl⟩ | ⟨hl, hf, rfl⟩
    · exact .inl ⟨rfl, hl, hm⟩
    · exact .inr ⟨rfl, hl, hf⟩
  all_goals simp at hout

end other

theorem step_eltInv {s : St} (k : Nat) (h : EltInv s) : EltInv (step s k) :=
  (step_rel s k).elim (·.2.eltInv h) fun ⟨hk, hs⟩ => hs.eltInv hk h

theorem run_eltInv {s : St} (sched : List Nat) (h : EltInv s) : EltInv (run s sched) :=
  run_invariant (fun _ k h => step_eltInv k h) h sched

theorem init_eltInv (elt wl : Bool) (tbl) (dtbl) (pre) (again) (progs) : EltInv (init elt wl tbl dtbl pre again progs) := by
  cases elt <;>
  (refine ⟨?_, ?_, ?_, ?_, ?_, ?_, ?_, ?_, ?_, ?_⟩ <;> simp [init, inH, inElt, running, hasLoop, FinOk])

theorem Reachable.elt {s : St} (h : Reachable s) : EltInv s :=
  reachable_invariant init_eltInv (fun _ k h => step_eltInv k h) h

def Stuck (s : St) : Prop := ∀ k, enabled s k = false

/-- the loop thread sleeps in `poll`: no byte waits in the pipe, the wake-up descriptor is not readable and nobody
has asked the loop to quit -/
def IdleInPoll (s : St) : Prop := s.phase = .polling ∧ s.ioReady = [] ∧ s.ev = 0 ∧ s.qreq = false

/-- the destructor ran while `loop_` was not yet published (i.e. before `startLoop()` had returned) and now waits
in `join()` for a loop that nobody told to quit -/
def EarlyDestroy (s : St) (k : Nat) : Prop := (s.thr k).pc = .dJoin ∧ s.phase = .polling ∧ s.qreq = false

theorem stuck_of_none {s : St} (h : ¬ ∃ k, enabled s k = true) : Stuck s := fun k => by
  cases he : enabled s k with
  | false => rfl
  | true => exact absurd ⟨k, he⟩ h

theorem enabled_loop (s : St) : enabled s s.L = loopEnabled s := by simp [enabled]
theorem enabled_other {s : St} {k : Nat} (hk : k ≠ s.L) : enabled s k = otherEnabled s k := by simp [enabled, hk]

theorem loopEnabled_false {s : St} (hm : s.mtx = false) (h : loopEnabled s = false) :
    s.phase = .unborn ∨ s.phase = .dead ∨ (s.phase = .polling ∧ s.ev = 0 ∧ s.ioReady = []) ∨
    (s.phase = .returned ∧ s.elt = false ∧ s.again = []) := by
  unfold loopEnabled at h
  split at h <;> simp_all [pollReady]

theorem otherEnabled_inH {s : St} {k : Nat} (h : inH (s.thr k).pc = true) : otherEnabled s k = true := by
  cases hp : (s.thr k).pc <;> simp_all [otherEnabled, inH]

theorem otherEnabled_false {s : St} {k : Nat} (hm : s.mtx = false) (h : otherEnabled s k = false) :
    ((s.thr k).pc = .idle ∧ (s.thr k).prog = []) ∨ ((s.thr k).pc = .sWaiting ∧ s.waiting = true) ∨
    ((s.thr k).pc = .dJoin ∧ s.phase ≠ .dead) := by
  cases hp : (s.thr k).pc <;> simp_all [otherEnabled]

theorem stuck_analysis {s : St} (hq : QuitInv s) (he : EltInv s) (hs : Stuck s) :
    (∀ k, k ≠ s.L → finished s k = true ∨ EarlyDestroy s k) ∧
    (finished s s.L = true ∨ IdleInPoll s) := by
  -- whoever holds `mutex_` can move
  have hm : s.mtx = false := by
    cases hm : s.mtx with
    | false => rfl
    | true =>
      obtain ⟨k, hk, hh⟩ := he.held hm
      have := hs k; simp [enabled_other hk, otherEnabled_inH hh] at this
  have other k (hk : k ≠ s.L) := otherEnabled_false hm ((enabled_other hk).symm.trans (hs k))
  have eltOf : hasLoop s.phase = false → s.elt = true := fun hh => by
    cases hel : s.elt with
    | true => rfl
    | false => simp [(he.plain hel).1] at hh
  have eltK k (hk : k ≠ s.L) : inElt (s.thr k).pc = true → s.elt = true := fun hh => by
    cases hel : s.elt with
    | true => rfl
    | false => simp [(he.plain hel).2 k hk] at hh
  have gone p (hp : p = Pc.quitStored ∨ p = .dStored) : ¬ inflightF s.thr s.L p := fun ⟨j, hj, hjp⟩ => by
    rcases other j hj with h | h | h <;> rcases hp with rfl | rfl <;> simp_all
  have loopSide : finished s s.L = true ∨ IdleInPoll s := by
    rcases loopEnabled_false hm ((enabled_loop s).symm.trans (hs _)) with hp | hp | ⟨hp, hev, hio⟩ | ⟨hp, hel, ha⟩
    · simp [finished, eltOf (by simp [hp, hasLoop]), hp]
    · simp [finished, eltOf (by simp [hp, hasLoop]), hp]
    · have hquit : s.quit = false := by
        cases hqq : s.quit with
        | false => rfl
        | true =>
          rcases hq.woken hp hqq with h | h | h
          · omega
          · exact absurd h (gone _ (.inl rfl))
          · exact absurd h (gone _ (.inr rfl))
      refine .inr ⟨hp, hio, hev, ?_⟩
      cases hqq : s.qreq with
      | false => rfl
      | true => simpa [hquit, hp, exited] using hq.kept hqq
    · simp [finished, hel, hp, ha]
  refine ⟨fun k hk => ?_, loopSide⟩
  rcases other k hk with ⟨hp, hpr⟩ | ⟨hp, hw⟩ | ⟨hp, hnd⟩
  · simp [finished, hk, hp, hpr]
  · -- waiting un-notified: the loop is still to come (not published, thread not finished), so the loop thread can move
    exfalso
    obtain ⟨hl, hnd⟩ := he.fin.1 hw
    have hel := eltK k hk (by simp [hp, inElt])
    have hcr := he.created k hk (by simp [hp, inElt]) (by simp [hp])
    have hr := he.ptrElt hel
    rcases loopSide with hf | hi
    · simp [finished, hel] at hf; exact hf.elim hnd hcr
    · simp [hi.1, running, hl] at hr
  · have hel := eltK k hk (by simp [hp, inElt])
    have hcr := he.created k hk (by simp [hp, inElt]) (by simp [hp])
    rcases loopSide with hf | hi
    · simp [finished, hel] at hf; exact (hf.elim hnd hcr).elim
    · exact .inr ⟨hp, hi.1, hi.2.2.2⟩

/-! ### The fields the `EventLoopThread` invariants read, as a relation and as a tuple; no proof uses either -/

/-- the part of the state the `EventLoopThread` invariants talk about -/
structure SameShared (s s' : St) : Prop where
  elt : s'.elt = s.elt
  mtx : s'.mtx = s.mtx
  loopPtr : s'.loopPtr = s.loopPtr
  waiting : s'.waiting = s.waiting
  alive : s'.alive = s.alive
  phase : s'.phase = s.phase
  uaf : s'.uafDtor = s.uafDtor
  finished : s'.finished = s.finished

theorem runTop_same (s : St) : SameShared s (runTop s) ∧ (runTop s).thr = s.thr := by
  have h := runTop_step s
  generalize runTop s = s' at h ⊢
  induction h <;> exact ⟨⟨rfl, rfl, rfl, rfl, rfl, rfl, rfl, rfl⟩, rfl⟩

def shared (s : St) : Bool × Bool × Bool × Bool × Bool × Phase × Bool × Bool :=
  (s.elt, s.mtx, s.loopPtr, s.waiting, s.alive, s.phase, s.uafDtor, s.finished)

theorem touch_shared_false (s : St) : shared (touch s false) = shared s := by
  rw [touch_false]; rfl

end MuduoVerif.Loop
