import MuduoVerif.Proofs.ConnMono
import MuduoVerif.Proofs.ConnFlow
import MuduoVerif.Proofs.ConnCb
/-!
Progress of the output buffer (C01): if every iteration reports writability and every `write` takes at least one byte,
a backlog of at most `k` bytes is written out after `k` iterations, as long as no send, close or destruction is queued
and no callback script is installed (`Draining`; `demoBacklogClosing` shows that a queued close does stop the drain).
-/
namespace MuduoVerif.Conn

theorem callback_nohook (c : Conn) (k : Cb) (e : Ev) (h : c.hooks = []) : callback c k e = emit c e := by
  unfold callback; rw [h]; rfl

/-- functors that neither send, nor close, nor destroy -/
def calmTask : Task → Bool
  | .sendInLoop _ | .forceCloseInLoop | .connectDestroyed => false
  | _ => true

/-- `c'` is `c` as far as draining the backlog is concerned -/
structure Calm (c c' : Conn) : Prop where
  st : c'.st = c.st
  outBuf : c'.outBuf = c.outBuf
  hooks : c'.hooks = c.hooks
  writes : c'.writes = c.writes
  pending : c'.pending = c.pending
  batch : c'.batch = c.batch

theorem runTask_calm (c : Conn) (t : Task) (hh : c.hooks = []) (ht : calmTask t = true) : Calm c (runTask c t) := by
  unfold runTask
  split
  · split
    · exact ⟨rfl, rfl, rfl, rfl, rfl, rfl⟩
    · split <;> exact ⟨rfl, rfl, rfl, rfl, rfl, rfl⟩
  · cases t with
    | sendInLoop d => cases ht
    | forceCloseInLoop => cases ht
    | connectDestroyed => cases ht
    | shutdownInLoop => simp only; unfold shutdownInLoop; split <;> exact ⟨rfl, rfl, rfl, rfl, rfl, rfl⟩
    | drainShutdownInLoop => simp only; unfold shutdownInLoop; split <;> exact ⟨rfl, rfl, rfl, rfl, rfl, rfl⟩
    | writeComplete => simp only; rw [callback_nohook _ _ _ hh]; exact ⟨rfl, rfl, rfl, rfl, rfl, rfl⟩
    | highWater n => simp only; rw [callback_nohook _ _ _ hh]; exact ⟨rfl, rfl, rfl, rfl, rfl, rfl⟩
    | startReadInLoop => simp only; unfold startReadInLoop; split <;> exact ⟨rfl, rfl, rfl, rfl, rfl, rfl⟩
    | stopReadInLoop => simp only; unfold stopReadInLoop; split <;> exact ⟨rfl, rfl, rfl, rfl, rfl, rfl⟩
    | addDelayTimer d => exact ⟨rfl, rfl, rfl, rfl, rfl, rfl⟩

theorem drained_calm (c : Conn) : (if drainsNow c = true then drainQueues c else []).all calmTask = true :=
  List.all_eq_true.mpr fun t ht => by rcases mem_drained ht with ⟨b, rfl⟩ | ⟨rfl, _⟩ <;> rfl

/-- the poller reports POLLOUT for the connection: the write handler runs (it does nothing without write interest, and
a connection that is down or gone has none) -/
theorem dispatch_pollout (c : Conn) (hl : LifeInv c) : dispatch c (.conn 4) = handleWrite c := by
  rw [dispatch, if_neg (by simp [hl.notDead])]
  exact handleEvent_pollout c hl.notDead fun ha => (hl.quiet (hl.goneDown ha)).2

theorem iter_pollout {α : Sort _} (π : Conn → α) (hπ : ∀ c a d s, π { c with alive := a, dead := d, trace := s } = π c)
    {c : Conn} (hl : LifeInv c) : π (iter c [.conn 4]) = π (drainPending (handleWrite c)) := by
  rw [iter_proj π hπ hl.notDead, List.foldl_cons, List.foldl_nil, dispatch_pollout c hl]

theorem iter_pollout_calm (c : Conn) (hl : LifeInv c) (hu : c.st ≠ .kDisconnected) (hh : c.hooks = [])
    (hq : c.queue.all calmTask = true) :
    (iter c [.conn 4]).st = c.st ∧ (iter c [.conn 4]).outBuf = (handleWrite c).outBuf ∧ (iter c [.conn 4]).hooks = [] ∧
    (iter c [.conn 4]).writes = (handleWrite c).writes ∧ (iter c [.conn 4]).queue = [] := by
  have hw := handleWrite_step c
  have hl1 : LifeInv (handleWrite c) := handleWrite_life c (hl.upFacts hu).isUp hl
  -- what is left of the batch stays calm, so `runTask_calm` carries the five fields through the functor phase
  obtain ⟨⟨r1, r2, r3, r4, r5, -⟩, r6⟩ := drainPending_runs
    (P := fun c' => c'.st = c.st ∧ c'.outBuf = (handleWrite c).outBuf ∧ c'.hooks = [] ∧
      c'.writes = (handleWrite c).writes ∧ c'.pending = [] ∧ c'.batch.all calmTask = true)
    (fun c' t rest hb _ ⟨p1, p2, p3, p4, p5, p6⟩ => by
      rw [hb] at p6
      simp only [List.all_cons, Bool.and_eq_true] at p6
      have hk := runTask_calm { c' with batch := rest } t p3 p6.1
      exact ⟨hk.st.trans p1, hk.outBuf.trans p2, hk.hooks.trans p3, hk.writes.trans p4, hk.pending.trans p5,
        hk.batch ▸ p6.2⟩)
    _ hl1 ⟨hw.step.st, rfl, hw.hooks.trans hh, rfl, rfl, by
      show ((handleWrite c).batch ++ (handleWrite c).pending).all calmTask = true
      rw [hw.step.queue, List.all_append, Bool.and_eq_true]; exact ⟨hq, drained_calm c⟩⟩
  exact ⟨(iter_pollout Conn.st (fun _ _ _ _ => rfl) hl).trans r1,
    (iter_pollout Conn.outBuf (fun _ _ _ _ => rfl) hl).trans r2,
    (iter_pollout Conn.hooks (fun _ _ _ _ => rfl) hl).trans r3,
    (iter_pollout Conn.writes (fun _ _ _ _ => rfl) hl).trans r4,
    (iter_pollout Conn.queue (fun _ _ _ _ => rfl) hl).trans (by unfold Conn.queue; rw [r6, r5]; rfl)⟩

/-- every scripted write result takes at least one byte -/
def Fair (ws : List WriteRes) : Prop := ∀ r ∈ ws, ∃ n, r = WriteRes.took (n+1)

/-- a connection that is up and only has its backlog to write: no send, close or destruction is
queued, no callback scripts, and the environment is fair (every `write` takes at least one byte; at
least as many results are scripted as there are bytes) -/
structure Draining (c : Conn) : Prop where
  life : LifeInv c
  flow : FlowInv c
  up : c.st ≠ .kDisconnected
  calm : c.queue.all calmTask = true
  nohooks : c.hooks = []
  fair : Fair c.writes
  enough : c.outBuf.length ≤ c.writes.length

theorem draining_step (c : Conn) (hd : Draining c) :
    Draining (iter c [.conn 4]) ∧ (iter c [.conn 4]).outBuf.length ≤ c.outBuf.length - 1 := by
  obtain ⟨r1, r2, r3, r4, r5⟩ := iter_pollout_calm c hd.life hd.up hd.nohooks hd.calm
  -- what the write handler leaves: one byte less (if there was one) and one scripted result less
  have key : Fair (handleWrite c).writes ∧ (handleWrite c).outBuf.length ≤ (handleWrite c).writes.length ∧
      (handleWrite c).outBuf.length ≤ c.outBuf.length - 1 := by
    rw [(handleWrite_step c).writes, handleWrite_outBuf]
    by_cases ho : c.outBuf = []
    · rw [if_neg fun h => (hd.flow.wi hd.up).mp h ho, if_neg fun h => (hd.flow.wi hd.up).mp h ho]
      exact ⟨hd.fair, hd.enough, by simp [ho]⟩
    · have hen := hd.enough
      rw [if_pos ((hd.flow.wi hd.up).mpr ho), if_pos ((hd.flow.wi hd.up).mpr ho)]
      cases hws : c.writes with
      | nil => rw [hws] at hen; exact absurd (List.eq_nil_of_length_eq_zero (Nat.le_zero.mp hen)) ho
      | cons r ws =>
        obtain ⟨n, rfl⟩ := hd.fair r (by rw [hws]; simp)
        rw [hws] at hen
        simp only [peekWrite, hws, List.headD_cons, List.tail_cons, List.length_drop, List.length_cons] at hen ⊢
        exact ⟨fun r hr => hd.fair r (by rw [hws]; exact List.mem_cons_of_mem _ hr), by omega, by omega⟩
  exact ⟨⟨iter_life c _ hd.life, iter_flow c _ hd.flow, r1 ▸ hd.up, by rw [r5]; rfl, r3, r4 ▸ key.1, r2 ▸ r4 ▸ key.2.1⟩,
    r2 ▸ key.2.2⟩

/-- `k` consecutive iterations in each of which the poller reports writability only -/
def pollOut (c : Conn) : Nat → Conn
  | 0 => c
  | k+1 => pollOut (iter c [.conn 4]) k

/-- **C01 progress.** Under the fairness hypothesis (every iteration reports writability and the
kernel takes at least one byte) a backlog of at most `k` bytes is written out after `k` iterations,
provided nothing else interferes (`Draining`). -/
theorem drain_progress (k : Nat) (c : Conn) (hd : Draining c) (hk : c.outBuf.length ≤ k) :
    (pollOut c k).outBuf = [] ∧ Draining (pollOut c k) := by
  induction k generalizing c with
  | zero =>
    have h0 : c.outBuf = [] := List.eq_nil_of_length_eq_zero (by omega)
    exact ⟨h0, hd⟩
  | succ k ih =>
    obtain ⟨h1, h2⟩ := draining_step c hd
    exact ih _ h1 (by omega)

/-- `drain_progress`: a short write leaves a backlog of two bytes; two fair write results are scripted -/
def demoBacklog : Conn :=
  run (step {} .establish) [.envWrite (.took 1), .act false (.send [1, 2, 3]), .envWrite (.took 1), .envWrite (.took 1)]

theorem demoBacklog_draining : Draining demoBacklog := by
  have hf : Fresh ({} : Conn) := fresh_default .epoll true true true _ _ [] [] []
  refine ⟨reach_life {} hf _ (by simp [Input.notEstablish]), reach_flow {} hf _ (by simp [Input.notEstablish]),
    by decide, by decide, by decide, ?_, by decide⟩
  intro r hr
  have : demoBacklog.writes = [.took 1, .took 1] := by decide
  rw [this] at hr
  simp only [List.mem_cons, List.not_mem_nil, or_false] at hr
  rcases hr with h | h <;> exact ⟨0, h⟩

example :
    demoBacklog.outBuf = [2, 3] ∧ demoBacklog.ch.evWrite = true ∧
    (iter demoBacklog [.conn 4]).outBuf = [3] ∧
    (pollOut demoBacklog 2).outBuf = [] ∧ (pollOut demoBacklog 2).ch.evWrite = false ∧
    (pollOut demoBacklog 2).wrote = [1, 2, 3] ∧
    (pollOut demoBacklog 2).trace = [.up, .sysWrite 3 (.took 1), .sysWrite 2 (.took 1), .sysWrite 1 (.took 1), .wc 1] := by
  decide

/-- `drain_progress` needs more than "no `sendInLoop` queued": with `forceCloseInLoop` queued (here by
`forceClose()` from another thread) the first iteration still shortens the backlog (`drain_step`), but its
functor phase brings the connection down, write interest goes away and the rest of the backlog is never
written — however fair the environment is.  That is why `Draining` excludes queued closes. -/
def demoBacklogClosing : Conn := step (act demoBacklog true .forceClose) (.envWrite (.took 1))

example :
    demoBacklogClosing.outBuf = [2, 3] ∧ demoBacklogClosing.hooks = [] ∧ demoBacklogClosing.st = .kDisconnecting ∧
    demoBacklogClosing.queue.all (fun t => !t.isSend) = true ∧
    demoBacklogClosing.writes = [.took 1, .took 1, .took 1] ∧
    (pollOut demoBacklogClosing 1).outBuf = [3] ∧ (pollOut demoBacklogClosing 1).st = .kDisconnected ∧
    (pollOut demoBacklogClosing 3).outBuf = [3] ∧ (pollOut demoBacklogClosing 3).alive = false := by decide

/-! ### One iteration shortens the backlog as long as no `sendInLoop` is queued; no proof uses it -/

theorem calm_notSend (l : List Task) (h : l.all calmTask = true) : l.all (fun t => !t.isSend) = true := by
  rw [List.all_eq_true] at h ⊢
  intro t ht
  cases t with
  | sendInLoop d => cases h _ ht
  | _ => rfl

structure SameOut (c c' : Conn) : Prop where
  outBuf : c'.outBuf = c.outBuf
  hooks : c'.hooks = c.hooks
  batch : c'.batch = c.batch

theorem runTask_sameOut (c : Conn) (t : Task) (hh : c.hooks = []) (ht : t.isSend = false) :
    SameOut c (runTask c t) := by
  -- not calm and not a send: `forceCloseInLoop`, `connectDestroyed`; they run a callback (no script) and touch the channel
  by_cases hc : calmTask t = true
  · have hk := runTask_calm c t hh hc
    exact ⟨hk.outBuf, hk.hooks, hk.batch⟩
  · unfold runTask
    split
    · split
      · exact ⟨rfl, rfl, rfl⟩
      · split <;> exact ⟨rfl, rfl, rfl⟩
    · cases t with
      | sendInLoop d => cases ht
      | forceCloseInLoop =>
        simp only; split
        · unfold handleClose; split
          · exact ⟨rfl, rfl, rfl⟩
          · rw [callback_nohook _ _ _ (by exact hh)]; exact ⟨rfl, rfl, rfl⟩
        · exact ⟨rfl, rfl, rfl⟩
      | connectDestroyed =>
        simp only; unfold connectDestroyed; split
        · rw [callback_nohook _ _ _ (by exact hh)]; unfold removeChannel; split <;> exact ⟨rfl, rfl, rfl⟩
        · unfold removeChannel; split <;> exact ⟨rfl, rfl, rfl⟩
      | _ => exact (hc rfl).elim

theorem drainPending_sameOut (c : Conn) (hl : LifeInv c) (hh : c.hooks = [])
    (hq : c.queue.all (fun t => !t.isSend) = true) : (drainPending c).outBuf = c.outBuf :=
  (drainPending_runs (P := fun c' => c'.outBuf = c.outBuf ∧ c'.hooks = [] ∧ c'.batch.all (fun t => !t.isSend) = true)
    (fun c' t rest hb _ ⟨p1, p2, p3⟩ => by
      rw [hb] at p3
      simp only [List.all_cons, Bool.and_eq_true, Bool.not_eq_true'] at p3
      have hs := runTask_sameOut { c' with batch := rest } t p2 p3.1
      exact ⟨hs.outBuf.trans p1, hs.hooks.trans p2, hs.batch ▸ p3.2⟩)
    c hl ⟨rfl, hh, hq⟩).1.1

/-- A backlog, write interest on (`FlowInv`), no `sendInLoop` queued and
no callback scripts: the iteration in which the poller reports writability and the kernel takes
`n+1` bytes shortens the backlog by `n+1` bytes (to nothing if it was shorter). -/
theorem drain_step (c : Conn) (n : Nat) (ws : List WriteRes) (hl : LifeInv c) (hf : FlowInv c)
    (hu : c.st ≠ .kDisconnected) (hne : c.outBuf ≠ []) (hws : c.writes = .took (n+1) :: ws)
    (hq : c.queue.all (fun t => !t.isSend) = true) (hh : c.hooks = []) :
    (iter c [.conn 4]).outBuf = c.outBuf.drop (n+1) := by
  have hw := handleWrite_step c
  rw [iter_pollout Conn.outBuf (fun _ _ _ _ => rfl) hl,
    drainPending_sameOut _ (handleWrite_life c (hl.upFacts hu).isUp hl) (hw.hooks.trans hh), handleWrite_outBuf,
    if_pos ((hf.wi hu).mpr hne)]
  · simp [peekWrite, hws]
  · unfold Conn.queue
    rw [hw.step.queue, List.all_append, Bool.and_eq_true]
    exact ⟨hq, calm_notSend _ (drained_calm c)⟩

end MuduoVerif.Conn
