import MuduoVerif.Proofs.PollerOps
/-!
# PollPoller: the slot invariant and its preservation by every operation

`PollStruct`: every registered channel owns the `pollfds_` slot its `index_` names, the slot holds
`(fd, events)` — with the descriptor negated (`-fd-1`) exactly when the channel has no interest —,
every slot is owned, unregistered channels have no slot and are not in `channels_`.
Then the poll phase — what `PollPoller::poll` stores and returns, whatever the kernel reports — and the refinement.
-/
namespace MuduoVerif.Poller
open MuduoVerif.Gen.Poller

/-- the `pollfds_` entry of a registered channel -/
def entryOf (events : Nat) (c : Nat) : Int × Nat :=
  (if events = 0 then pollIgnoreFd (fdOf c) else fdOf c, events)

theorem entryOf_inj {e e' : Nat} {c d : Nat} (h : entryOf e c = entryOf e' d) : c = d := by
  have h1 := congrArg Prod.fst h
  simp only [entryOf, pollIgnoreFd, fdOf] at h1
  split at h1 <;> split at h1 <;> omega

structure PollStruct (s : State) : Prop where
  reg : ∀ c, (s.chans c).added = true →
    0 ≤ (s.chans c).index ∧ s.cmap (fdOf c) = some c ∧
      s.pollfds[(s.chans c).index.toNat]? = some (entryOf (s.chans c).events c)
  unreg : ∀ c, (s.chans c).added = false →
    (s.chans c).index < 0 ∧ (s.chans c).events = 0 ∧ s.cmap (fdOf c) = none
  cmapId : ∀ fd m, s.cmap fd = some m → fd = fdOf m
  cover : ∀ i, i < s.pollfds.length → ∃ c, (s.chans c).added = true ∧ (s.chans c).index = (i : Int)

theorem PollStruct.idx_inj {s : State} (h : PollStruct s) {c d : Nat} (hc : (s.chans c).added = true)
    (hd : (s.chans d).added = true) (hi : (s.chans c).index = (s.chans d).index) : c = d := by
  have h1 := (h.reg c hc).2.2
  have h2 := (h.reg d hd).2.2
  rw [hi, h2] at h1
  exact (entryOf_inj (Option.some.inj h1)).symm

theorem PollStruct.idx_lt {s : State} (h : PollStruct s) {c : Nat} (hc : (s.chans c).added = true) :
    (s.chans c).index.toNat < s.pollfds.length :=
  (List.getElem?_eq_some_iff.1 (h.reg c hc).2.2).1

theorem PollStruct.toNat_ne {s : State} (h : PollStruct s) {c d : Nat} (hc : (s.chans c).added = true)
    (hd : (s.chans d).added = true) (hdc : d ≠ c) : (s.chans c).index.toNat ≠ (s.chans d).index.toNat := by
  intro e
  have h1 := (h.reg c hc).1
  have h2 := (h.reg d hd).1
  exact hdc (h.idx_inj hd hc (by omega))

theorem PollStruct.congr {s t : State} (h : PollStruct s) (hc : t.cmap = s.cmap) (hp : t.pollfds = s.pollfds)
    (he : ∀ c, (t.chans c).events = (s.chans c).events) (hi : ∀ c, (t.chans c).index = (s.chans c).index)
    (ha : ∀ c, (t.chans c).added = (s.chans c).added) : PollStruct t := by
  refine ⟨?_, ?_, ?_, ?_⟩ <;> simp only [hc, hp, he, hi, ha]
  · exact h.reg
  · exact h.unreg
  · exact h.cmapId
  · exact h.cover

theorem PollStruct.frame {s t : State} (f : Frame s t) (h : PollStruct s) : PollStruct t :=
  h.congr f.cmap f.pollfds f.ev f.idx f.added

theorem pollUpdate_new {s : State} {c : Nat} {ch : Chan} (hi : ch.index < 0) (hc : s.cmap (fdOf c) = none) :
    pollUpdate (setChan s c ch) c = { s with
        pollfds := s.pollfds ++ [entryOf ch.events c]
        chans := fun x => if x = c then { ch with index := (s.pollfds.length : Int) } else s.chans x
        cmap := fun x => if x = fdOf c then some c else s.cmap x } := by
  simp only [pollUpdate, setChan, pollIsNew, hi, hc, if_true, ne_eq, not_true_eq_false, if_false, entryOf, pollNewIgnores,
    pollNewIgnoreFd, pollIgnoreFd, isNoneEvent, kNoneEvent]
  congr
  funext x
  split <;> rfl

theorem pollUpdate_old {s : State} {c : Nat} {ch : Chan} (hi : 0 ≤ ch.index) (hc : s.cmap (fdOf c) = some c)
    {e : Nat} (hp : s.pollfds[ch.index.toNat]? = some (entryOf e c)) :
    pollUpdate (setChan s c ch) c =
      { setChan s c ch with pollfds := s.pollfds.set ch.index.toNat (entryOf ch.events c) } := by
  have hn : ¬ ch.index < 0 := by omega
  by_cases he : e = 0 <;>
  simp [pollUpdate, setChan, pollIsNew, hn, hc, hp, entryOf, pollUpdateIgnores, pollIgnoreFd, isNoneEvent, kNoneEvent, he]


theorem pollUpdate_went {s : State} (h : PollStruct s) (c : Nat) (k : OpKind) :
    PollStruct (pollUpdate (setInterest s c k) c) ∧ (pollUpdate (setInterest s c k) c).dead = s.dead ∧
      (pollUpdate (setInterest s c k) c).out = s.out := by
  obtain ⟨ch, hch, ha, hi⟩ : ∃ ch, setInterest s c k = setChan s c ch ∧ ch.added = true ∧
      ch.index = (s.chans c).index := ⟨_, rfl, rfl, rfl⟩
  rw [hch]
  -- not registered: a slot is appended; registered: the channel's own slot is overwritten in place
  cases hadd : (s.chans c).added with
  | false =>
    obtain ⟨hneg, _, hc⟩ := h.unreg c hadd
    rw [pollUpdate_new (hi ▸ hneg) hc]
    refine ⟨⟨fun d hd => ?_, fun d hd => ?_, fun fd m hm => ?_, fun j hj => ?_⟩, rfl, rfl⟩
    · by_cases hdc : d = c
      · subst hdc
        simp
      · simp only [hdc, fdOf_eq_iff, if_false] at hd ⊢
        rw [List.getElem?_append_left (h.idx_lt hd)]
        exact h.reg d hd
    · by_cases hdc : d = c
      · subst hdc; simp [ha] at hd
      · simp only [hdc, fdOf_eq_iff, if_false] at hd ⊢
        exact h.unreg d hd
    · dsimp only at hm
      split at hm
      · rename_i hfd; rw [hfd, ← Option.some.inj hm]
      · exact h.cmapId fd m hm
    · simp only [List.length_append, List.length_singleton] at hj ⊢
      by_cases hj2 : j < s.pollfds.length
      · obtain ⟨d, hd1, hd2⟩ := h.cover j hj2
        have hdc : d ≠ c := fun e => by rw [e, hadd] at hd1; cases hd1
        exact ⟨d, by simpa [hdc] using hd1, by simpa [hdc] using hd2⟩
      · exact ⟨c, by simpa using ha, by simp; omega⟩
  | true =>
    obtain ⟨hnn, hc, hp⟩ := h.reg c hadd
    have hlt := h.idx_lt hadd
    rw [← hi] at hnn hp hlt
    rw [pollUpdate_old hnn hc hp]
    refine ⟨⟨fun d hd => ?_, fun d hd => ?_, h.cmapId, fun j hj => ?_⟩, rfl, rfl⟩
    · by_cases hdc : d = c
      · subst hdc
        simp [setChan, hnn, hc, hlt]
      · simp only [setChan, hdc, if_false] at hd ⊢
        rw [hi, List.getElem?_set_ne (h.toNat_ne hadd hd hdc)]
        exact h.reg d hd
    · by_cases hdc : d = c
      · subst hdc; simp [setChan, ha] at hd
      · simp only [setChan, hdc, if_false] at hd ⊢
        exact h.unreg d hd
    · simp only [setChan, List.length_set] at hj ⊢
      obtain ⟨d, hd1, hd2⟩ := h.cover j hj
      by_cases hdc : d = c
      · subst hdc; exact ⟨d, by simpa using ha, by simpa [hi] using hd2⟩
      · exact ⟨d, by simpa [hdc] using hd1, by simpa [hdc] using hd2⟩

theorem entryOf_decode (e : Nat) (m : Nat) :
    (if pollEndIsIgnored (entryOf e m).1 then pollDecodeFd (entryOf e m).1 else (entryOf e m).1) = fdOf m := by
  simp only [entryOf, pollEndIsIgnored, pollDecodeFd, pollIgnoreFd, fdOf]
  split <;> split <;> omega

theorem dropLast_set_last {α} (l : List α) (a : α) : (l.set (l.length - 1) a).dropLast = l.dropLast := by
  rw [List.dropLast_eq_take, List.length_set, List.take_set_of_le (Nat.le_refl _), ← List.dropLast_eq_take]

theorem PollStruct.lt_last {s : State} (h : PollStruct s) {d m : Nat} (hd : (s.chans d).added = true)
    (hm : (s.chans m).added = true) (hmt : (s.chans m).index.toNat = s.pollfds.length - 1) (hdm : d ≠ m) :
    (s.chans d).index.toNat < s.pollfds.length - 1 :=
  Nat.lt_of_le_of_ne (Nat.le_sub_one_of_lt (h.idx_lt hd)) (hmt ▸ h.toNat_ne hd hm hdm.symm)

/-- Under the invariant both branches of `removeChannel` do the same: the owner `m` of the last slot
(`c` itself when `c`'s slot is the last) takes `c`'s slot, and the last slot goes. -/
theorem pollRemove_eq {s : State} (h : PollStruct s) {c : Nat} (ha : (s.chans c).added = true)
    (he : (s.chans c).events = 0) :
    ∃ m, (s.chans m).added = true ∧ (s.chans m).index.toNat = s.pollfds.length - 1 ∧
      pollRemove (setChan s c { s.chans c with added := false }) c = { s with
        cmap := fun x => if x = fdOf c then none else s.cmap x
        pollfds := (s.pollfds.set (s.chans c).index.toNat (entryOf (s.chans m).events m)).dropLast
        chans := fun x =>
          if x = c then { s.chans c with added := false, index := pollIndexAfterRemove }
          else if x = m then { s.chans m with index := ((s.chans c).index.toNat : Int) }
          else s.chans x } := by
  obtain ⟨hi, hc, hp⟩ := h.reg c ha
  have hlt := h.idx_lt ha
  obtain ⟨m, hm1, hm2⟩ := h.cover (s.pollfds.length - 1) (by omega)
  obtain ⟨_, hmcm, hmp⟩ := h.reg m hm1
  have hmt : (s.chans m).index.toNat = s.pollfds.length - 1 := by rw [hm2]; rfl
  rw [hmt, ← List.getLast?_eq_getElem?] at hmp
  refine ⟨m, hm1, hmt, ?_⟩
  have hn : ¬ (s.chans c).index < 0 := by omega
  simp only [he, entryOf, if_true] at hp
  by_cases hl : (s.chans c).index.toNat = s.pollfds.length - 1
  · have hmc : m = c := h.idx_inj hm1 ha (by omega)
    subst hmc
    rw [hl] at hp
    simp [pollRemove, setChan, hc, he, hn, hp, isNoneEvent, kNoneEvent, pollRemoveIsLast, hl, dropLast_set_last]
    funext x
    by_cases hx : x = m <;> simp [hx]
  · have hmc : m ≠ c := fun e => hl (e ▸ hmt)
    simp [pollRemove, setChan, hc, he, hn, hp, isNoneEvent, kNoneEvent, pollRemoveIsLast, hl, hmp, entryOf_decode, hmc,
      hmcm]
    funext x
    by_cases hx : x = c <;> simp [hx]

theorem pollRemove_went {s : State} (h : PollStruct s) (c : Nat) (ha : (s.chans c).added = true)
    (he : (s.chans c).events = 0) :
    PollStruct (pollRemove (setChan s c { s.chans c with added := false }) c) ∧
      (pollRemove (setChan s c { s.chans c with added := false }) c).dead = s.dead ∧
      (pollRemove (setChan s c { s.chans c with added := false }) c).out = s.out := by
  obtain ⟨m, hm1, hmt, heq⟩ := pollRemove_eq h ha he
  rw [heq]
  refine ⟨⟨fun d hd => ?_, fun d hd => ?_, fun fd m' hm' => ?_, fun j hj => ?_⟩, rfl, rfl⟩
  · by_cases hdc : d = c
    · subst hdc; simp at hd
    · by_cases hdm : d = m
      · subst hdm
        simp only [hdc, fdOf_eq_iff, if_false, if_true, Int.toNat_natCast] at hd ⊢
        rw [List.getElem?_dropLast, List.length_set, if_pos (h.lt_last ha hm1 hmt (Ne.symm hdc))]
        exact ⟨Int.natCast_nonneg _, (h.reg d hm1).2.1, List.getElem?_set_self (h.idx_lt ha)⟩
      · simp only [hdc, hdm, fdOf_eq_iff, if_false] at hd ⊢
        rw [List.getElem?_dropLast, List.length_set, if_pos (h.lt_last hd hm1 hmt hdm),
          List.getElem?_set_ne (h.toNat_ne ha hd hdc)]
        exact h.reg d hd
  · by_cases hdc : d = c
    · subst hdc; simp [pollIndexAfterRemove, he]
    · by_cases hdm : d = m
      · subst hdm; simp [hdc, hm1] at hd
      · simp only [hdc, hdm, fdOf_eq_iff, if_false] at hd ⊢
        exact h.unreg d hd
  · dsimp only at hm'
    split at hm'
    · cases hm'
    · exact h.cmapId fd m' hm'
  · simp only [List.length_dropLast, List.length_set] at hj ⊢
    by_cases hji : j = (s.chans c).index.toNat
    · have hmc : m ≠ c := fun e => by subst e; omega
      exact ⟨m, by simpa [hmc] using hm1, by simp [hmc, hji]⟩
    · obtain ⟨d, hd1, hd2⟩ := h.cover j (by omega)
      have hdc : d ≠ c := fun e => by subst e; omega
      have hdm : d ≠ m := fun e => by subst e; omega
      exact ⟨d, by simpa [hdc, hdm] using hd1, by simpa [hdc, hdm] using hd2⟩


theorem pollStruct_recreate {s : State} (h : PollStruct s) (c : Nat) (ha : (s.chans c).added = false) :
    PollStruct (setChan s c {}) := by
  refine ⟨fun d hd => ?_, fun d hd => ?_, h.cmapId, fun j hj => ?_⟩
  · by_cases hdc : d = c
    · subst hdc; simp [setChan] at hd
    · simp only [setChan, hdc, if_false] at hd ⊢
      exact h.reg d hd
  · by_cases hdc : d = c
    · subst hdc; simp [setChan, (h.unreg d ha).2.2]
    · simp only [setChan, hdc, if_false] at hd ⊢
      exact h.unreg d hd
  · obtain ⟨d, hd1, hd2⟩ := h.cover j hj
    have hdc : d ≠ c := fun e => by rw [e, ha] at hd1; cases hd1
    exact ⟨d, by simpa [setChan, hdc] using hd1, by simpa [setChan, hdc] using hd2⟩

theorem pollStruct_empty : PollStruct (empty .poll) := by
  constructor <;> simp [empty]

theorem PollStruct.slot {s : State} (h : PollStruct s) {pfd : Int × Nat} (hp : pfd ∈ s.pollfds) :
    ∃ d, (s.chans d).added = true ∧ pfd = entryOf (s.chans d).events d ∧ s.cmap (fdOf d) = some d := by
  obtain ⟨i, hget⟩ := List.mem_iff_getElem?.1 hp
  obtain ⟨d, hd1, hd2⟩ := h.cover i (List.getElem?_eq_some_iff.1 hget).1
  obtain ⟨_, h2, h3⟩ := h.reg d hd1
  rw [hd2, Int.toNat_natCast, hget] at h3
  exact ⟨d, hd1, Option.some.inj h3, h2⟩

theorem entryOf_nonneg {e d : Nat} (h : 0 ≤ (entryOf e d).1) : e ≠ 0 ∧ (entryOf e d).1 = fdOf d := by
  unfold entryOf at h ⊢
  by_cases he : e = 0
  · simp only [he, if_true, pollIgnoreFd, fdOf] at h; omega
  · simp [he]

theorem pollRev_entry (ready : List (Nat × Nat)) (e d : Nat) :
    pollRev ready (entryOf e d) = if e = 0 then 0 else lookupRev ready d := by
  unfold pollRev entryOf pollIgnoreFd fdOf
  by_cases he : e = 0
  · simp only [he, if_true]; rw [if_pos (by omega)]
  · simp only [he, if_false]; rw [if_neg (by omega), Int.toNat_natCast]

theorem PollStruct.marked {s : State} (h : PollStruct s) {ready : List (Nat × Nat)} {pfd : Int × Nat}
    (hp : pfd ∈ s.pollfds) (hact : pollActive (pollRev ready pfd : Int)) :
    ∃ d, s.cmap pfd.1 = some d ∧ pollRev ready pfd = lookupRev ready d := by
  obtain ⟨d, _, rfl, hd3⟩ := h.slot hp
  rw [pollRev_entry] at hact ⊢
  have he : (s.chans d).events ≠ 0 := fun he => by simp [he, pollActive] at hact
  exact ⟨d, by simpa [entryOf, he] using hd3, if_neg he⟩

/-- the number of entries of `pollfds_` that `poll(2)` marked - the value it returns -/
def pollCount (ready : List (Nat × Nat)) (pfds : List (Int × Nat)) : Nat :=
  (pfds.filter (fun pfd => decide (pollActive (pollRev ready pfd : Int)))).length

theorem pollCount_cons (ready) (pfd : Int × Nat) (rest) :
    pollCount ready (pfd :: rest) =
      if pollActive (pollRev ready pfd : Int) then pollCount ready rest + 1 else pollCount ready rest := by
  unfold pollCount
  rw [List.filter_cons]
  by_cases h : pollActive (pollRev ready pfd : Int) <;> simp [h]

theorem pollFill_spec (ready : List (Nat × Nat)) (pfds : List (Int × Nat)) :
    ∀ (s : State) (n : Nat) (acc : List Nat), PollStruct s →
      (∀ pfd ∈ pfds, pfd ∈ s.pollfds) →
      ∃ new, (pollFill s ready pfds n acc).2 = acc.reverse ++ new ∧ (pollFill s ready pfds n acc).1.dead = s.dead ∧
        (∀ c, ((pollFill s ready pfds n acc).1.chans c).revents =
          if c ∈ new then lookupRev ready c else (s.chans c).revents) ∧
        (pollCount ready pfds ≤ n → ∀ pfd ∈ pfds, pollActive (pollRev ready pfd : Int) →
          ∀ d, s.cmap pfd.1 = some d → d ∈ new) := by
  induction pfds with
  | nil => intro s n acc _ _; exact ⟨[], by simp [pollFill]⟩
  | cons pfd rest ih =>
    intro s n acc hs hsub
    obtain ⟨hp, hsub⟩ := List.forall_mem_cons.1 hsub
    cases n with
    | zero =>
      -- the budget `numEvents` is used up with entries left: none of them is marked, or `pollCount` would exceed it
      exact ⟨[], (List.append_nil _).symm, rfl, fun _ => rfl, fun hn q hq hqa =>
        absurd hn (Nat.not_le_of_gt (List.length_pos_of_mem (List.mem_filter.2 ⟨hq, decide_eq_true hqa⟩)))⟩
    | succ n =>
      rw [pollFill_cons, pollCount_cons]
      by_cases hact : pollActive (pollRev ready pfd : Int)
      · obtain ⟨d, hcm, hrev⟩ := hs.marked hp hact
        obtain ⟨new, h1, h2, h3, h4⟩ := ih _ n (d :: acc) (hs.frame (frame_revents s d (pollRev ready pfd))) hsub
        rw [if_pos hact, if_pos hact, hcm]
        refine ⟨d :: new, by rw [h1]; simp, h2, fun c => ?_, fun hn => List.forall_mem_cons.2
          ⟨fun _ d' hd' => Option.some.inj (hcm.symm.trans hd') ▸ List.mem_cons_self,
            fun q hq hqa d' hd' => List.mem_cons_of_mem _ (h4 (by omega) q hq hqa d' hd')⟩⟩
        rw [h3 c]
        by_cases hcd : c = d <;> simp [hcd, setChan, hrev]
      · obtain ⟨new, h1, h2, h3, h4⟩ := ih s (n + 1) acc hs hsub
        rw [if_neg hact, if_neg hact]
        exact ⟨new, h1, h2, h3, fun hn => List.forall_mem_cons.2 ⟨fun hqa => absurd hqa hact, h4 hn⟩⟩

theorem pollerPoll_poll_eq {s : State} (hbe : s.be = .poll) (ready) (nret) :
    pollerPoll s ready nret = pollFill (emit s (.wait s.pollfds.length kPollTimeMs)) ready s.pollfds nret [] := by
  unfold pollerPoll
  rw [hbe]
  cases nret with
  | zero => generalize s.pollfds = l; cases l <;> rfl
  | succ n => rfl

/-- `PollPoller::poll`, whatever the kernel reports: no assertion fails, the active channels get their reported bits,
and if `poll(2)` returned at least the number of entries it marked the channel of each of them is active -/
theorem pollerPoll_poll {s : State} (hbe : s.be = .poll) (hs : PollStruct s) (ready) (nret) :
    (pollerPoll s ready nret).1.dead = s.dead ∧
    (∀ c, ((pollerPoll s ready nret).1.chans c).revents =
      if c ∈ (pollerPoll s ready nret).2 then lookupRev ready c else (s.chans c).revents) ∧
    (pollCount ready s.pollfds ≤ nret → ∀ pfd ∈ s.pollfds, pollActive (pollRev ready pfd : Int) →
      ∀ d, s.cmap pfd.1 = some d → d ∈ (pollerPoll s ready nret).2) := by
  obtain ⟨new, h1, h⟩ := pollFill_spec ready s.pollfds (emit s (.wait s.pollfds.length kPollTimeMs)) nret []
    (hs.frame (fill_wait s _).frame) (fun p hp => hp)
  rw [pollerPoll_poll_eq hbe, h1]
  exact h

theorem pollStruct_refines {s : State} (hbe : s.be = .poll) (h : PollStruct s)
    (fd : Int) (mask : Nat) : watched s fd mask ↔ specWatched s fd mask := by
  simp only [watched, hbe, specWatched]
  constructor
  · rintro ⟨hfd, hmem⟩
    obtain ⟨d, hd1, hd2, _⟩ := h.slot hmem
    cases hd2
    exact ⟨d, (entryOf_nonneg hfd).2, hd1, rfl, (entryOf_nonneg hfd).1⟩
  · rintro ⟨c, rfl, ha, rfl, hm⟩
    refine ⟨by unfold fdOf; omega, ?_⟩
    simpa [entryOf, hm] using List.mem_of_getElem? (h.reg c ha).2.2

/-! ### A further consequence of `PollStruct`; no proof uses it -/

theorem PollStruct.cmap_added {s : State} (h : PollStruct s) {fd : Int} {m : Nat} (hm : s.cmap fd = some m) :
    (s.chans m).added = true := by
  cases ha : (s.chans m).added with
  | true => rfl
  | false =>
    rw [h.cmapId fd m hm, (h.unreg m ha).2.2] at hm
    cases hm

end MuduoVerif.Poller
