import MuduoVerif.Proofs.TPoolStep
/-! Invariants of the ThreadPool model, part A: the monitor discipline (wait-sets, signals, bound, stop). -/
namespace MuduoVerif.Monitor

/-- which condition the current position of `t` may be parked on -/
def PRole (n : Nat) (pc : Nat → PPc) (prog : Nat → List POp) (t : Nat) : Cond → Prop
  | .notEmpty => pc t = .wTake
  | .notFull => pc t = .idle ∧ n ≠ 0 ∧ ∃ id rest, prog t = .run id :: rest

theorem prole_congr {n : Nat} {pc pc' : Nat → PPc} {prog prog' : Nat → List POp} {x : Nat} {c : Cond}
    (h1 : pc' x = pc x) (h2 : prog' x = prog x) (h : PRole n pc prog x c) : PRole n pc' prog' x c := by
  cases c
  · show pc' x = .wTake; rw [h1]; exact h
  · show pc' x = .idle ∧ n ≠ 0 ∧ ∃ id rest, prog' x = .run id :: rest
    rw [h1, h2]; exact h

/-- the owner is somewhere it needs the mutex -/
def OwnerPlace (s : PState) (u : Nat) : Prop :=
  s.pc u = .wTake ∨ s.pc u = .stopNotify ∨
    (s.pc u = .idle ∧ ((s.n ≠ 0 ∧ ∃ id rest, s.prog u = .run id :: rest) ∨ ∃ rest, s.prog u = .stop :: rest))

structure PA (s : PState) : Prop where
  st : s.toMon.Struct (PRole s.n s.pc s.prog)
  /-- `notEmpty_` covers the queued tasks (`WS.Covers`, while the pool runs) -/
  sigE : s.running = true → s.ne.W ≠ [] → s.q.length ≤ s.ne.S.length
  /-- `notFull_` covers the free places -/
  sigF : s.running = true → 0 < s.maxq → s.nf.W ≠ [] → s.maxq - s.q.length ≤ s.nf.S.length
  bnd : 0 < s.maxq → s.q.length ≤ s.maxq
  /-- once the flag is cleared nobody waits unsignalled, except between the two halves of `stop()` -/
  stopped : s.running = false → (s.ne.W = [] ∧ s.nf.W = []) ∨ ∃ u, s.owner = some u ∧ s.pc u = .stopNotify
  ownStop : ∀ u, s.pc u = .stopNotify → s.owner = some u
  flagOff : ∀ u, s.pc u = .stopNotify → s.running = false
  ownOk : ∀ u, s.owner = some u → OwnerPlace s u

theorem PRole.owner {s : PState} {t : Nat} {c : Cond} (h : PRole s.n s.pc s.prog t c) : OwnerPlace s t := by
  cases c
  · exact .inl h
  · exact .inr (.inr ⟨h.1, .inl h.2⟩)

theorem PRole.unique {n : Nat} {pc : Nat → PPc} {prog : Nat → List POp} {t : Nat} {c c' : Cond} (h : PRole n pc prog t c)
    (h' : PRole n pc prog t c') : c' = c := by
  cases c <;> cases c'
  · rfl
  · exact absurd (h.symm.trans h'.1) nofun
  · exact absurd (h'.symm.trans h.1) nofun
  · rfl

theorem PA.st_rerole {s : PState} (h : PA s) {t : Nat} (hnp : ∀ c, ¬ PRole s.n s.pc s.prog t c)
    (p : PPc) (prog' : Nat → List POp) (h2 : ∀ x, x ≠ t → prog' x = s.prog x) :
    s.toMon.Struct (PRole s.n (upd s.pc t p) prog') := by
  refine h.st.mono ?_
  intro c x hx hr
  have hne : x ≠ t := by rintro rfl; exact hnp c hr
  exact prole_congr (upd_other _ _ _ _ hne) (h2 x hne) hr

theorem stopped_of_owner_not_stop {s : PState} (h : PA s) {t : Nat} (ho : s.owner = some t) (hpc : s.pc t ≠ .stopNotify)
    (hr : s.running = false) : s.ne.W = [] ∧ s.nf.W = [] := by
  rcases h.stopped hr with h1 | ⟨u, hu, hp⟩
  · exact h1
  · rw [ho] at hu; cases hu; exact absurd hp hpc

theorem PA.st_leave {s : PState} (h : PA s) {t : Nat} {c : Cond} (ho : s.owner = some t)
    (hrole : PRole s.n s.pc s.prog t c)
    (p : PPc) (prog' : Nat → List POp) (h2 : ∀ x, x ≠ t → prog' x = s.prog x)
    (fs : List NotF) :
    ((s.toMon.setWs c ((s.ws c).wake t)).unlock.notifs fs).Struct (PRole s.n (upd s.pc t p) prog') := by
  have hsh := WS.wake_facts (h.st.nodup c) t
  refine Mon.Struct.notifs ?_ fs
  refine (h.st.go t c).unlock (t := t) (by simpa using ho) ?_ (fun x c' hx hr => prole_congr (upd_other _ _ _ _ hx) (h2 x hx) hr)
  intro c'
  by_cases hc : c' = c
  · subst hc; rw [Mon.ws_setWs_same]; exact hsh.1
  · rw [Mon.ws_setWs_other _ _ _ _ hc]
    exact (h.st.not_parked fun hr => hc (hrole.unique hr)).2

theorem PA.st_leave0 {s : PState} (h : PA s) {t : Nat} (ho : s.owner = some t)
    (hnp : ∀ c, ¬ PRole s.n s.pc s.prog t c)
    (p : PPc) (prog' : Nat → List POp) (h2 : ∀ x, x ≠ t → prog' x = s.prog x)
    (fs : List NotF) :
    (s.toMon.unlock.notifs fs).Struct (PRole s.n (upd s.pc t p) prog') := by
  refine Mon.Struct.notifs ?_ fs
  refine h.st.unlock (t := t) ho ?_ (fun x c' hx hr => prole_congr (upd_other _ _ _ _ hx) (h2 x hx) hr)
  intro c'
  exact (h.st.not_parked (hnp c')).2

theorem PA.no_stopNotify {s : PState} (h : PA s) {t : Nat} (ho : s.owner = some t) {p : PPc} (hp : p ≠ .stopNotify)
    (u : Nat) : upd s.pc t p u ≠ .stopNotify := by
  intro hu
  by_cases hut : u = t
  · rw [hut, upd_same] at hu; exact hp hu
  · rw [upd_other _ _ _ _ hut] at hu
    exact hut (Option.some.inj ((h.ownStop u hu).symm.trans ho))


theorem pa_local {s : PState} (h : PA s) {t : Nat} (hout : ¬ OwnerPlace s t) (p : PPc) (hp : p ≠ .stopNotify)
    (prog' : Nat → List POp) (h2 : ∀ x, x ≠ t → prog' x = s.prog x) (log' : List PEv) {gate' : Bool} :
    PA { s with gate := gate', pc := upd s.pc t p, prog := prog', log := log' } := by
  have hot : ∀ u, s.owner = some u → u ≠ t := by rintro u hu rfl; exact hout (h.ownOk u hu)
  refine ⟨h.st_rerole (fun c hc => hout hc.owner) _ prog' h2, h.sigE, h.sigF, h.bnd, ?_, ?_, ?_, ?_⟩
  · intro hr
    rcases h.stopped hr with h1 | ⟨u, hu, hpu⟩
    · exact Or.inl h1
    · exact Or.inr ⟨u, hu, by show upd s.pc t _ u = _; rw [upd_other _ _ _ _ (hot u hu)]; exact hpu⟩
  · intro u hu
    exact h.ownStop u (upd_ne_of (show upd s.pc t p u = .stopNotify from hu) hp).2
  · intro u hu
    exact h.flagOff u (upd_ne_of (show upd s.pc t p u = .stopNotify from hu) hp).2
  · intro u hu
    have := h.ownOk u hu
    unfold OwnerPlace at this ⊢
    show upd s.pc t _ u = _ ∨ upd s.pc t _ u = _ ∨ (upd s.pc t _ u = _ ∧ ((s.n ≠ 0 ∧ ∃ id rest, prog' u = _) ∨ ∃ rest, prog' u = _))
    rw [upd_other _ _ _ _ (hot u hu), h2 u (hot u hu)]; exact this

theorem pa_unlock {s : PState} (h : PA s) {t : Nat} (ho : s.owner = some t) {p : PPc} (hp : p ≠ .stopNotify) {m' : Mon}
    {q' : List Task} {prog' : Nat → List POp} (hst : m'.Struct (PRole s.n (upd s.pc t p) prog')) (hown : m'.owner = none)
    (sigE : s.running = true → m'.ne.W ≠ [] → q'.length ≤ m'.ne.S.length)
    (sigF : s.running = true → 0 < s.maxq → m'.nf.W ≠ [] → s.maxq - q'.length ≤ m'.nf.S.length)
    (bnd : 0 < s.maxq → q'.length ≤ s.maxq) (stopped : s.running = false → m'.ne.W = [] ∧ m'.nf.W = [])
    {nacc' : Nat} {log' : List PEv} :
    PA { s with toMon := m', q := q', nacc := nacc', pc := upd s.pc t p, prog := prog', log := log' } :=
  ⟨hst, sigE, sigF, bnd, fun hr => .inl (stopped hr), fun u hu => absurd hu (h.no_stopNotify ho hp u),
    fun u hu => absurd hu (h.no_stopNotify ho hp u), fun _ hu => nomatch hown.symm.trans hu⟩

theorem pa_step {s s' : PState} (h : PA s) (hs : PStep s s') : PA s' := by
  cases hs with
  | mon hm =>
    cases hm with
    | acq t ho hl hE hF =>
      refine ⟨h.st.acq t (by intro c; cases c; exact hE; exact hF), h.sigE, h.sigF, h.bnd, ?_, ?_, h.flagOff, ?_⟩
      · intro hr
        rcases h.stopped hr with h1 | ⟨u, hu, _⟩
        · exact Or.inl h1
        · rw [ho] at hu; cases hu
      · intro u hu
        have := h.ownStop u hu
        rw [ho] at this; cases this
      · intro u hu
        have : u = t := by simpa using hu.symm
        subst this
        simp only [PState.needsLock] at hl
        show OwnerPlace s u
        unfold OwnerPlace
        split at hl
        · rename_i hpc; exact Or.inl hpc
        · rename_i hpc
          right; right
          split at hl
          · rename_i id rest hp
            refine ⟨hpc, Or.inl ⟨?_, id, rest, hp⟩⟩
            simpa [PState.inline, PState.g_run_g1] using hl
          · rename_i rest hp; exact ⟨hpc, Or.inr ⟨rest, hp⟩⟩
          · cases hl
          · cases hl
        · cases hl
    | spur t c ht =>
      cases c with
      | notEmpty =>
        refine ⟨h.st.spur .notEmpty t ht, ?_, h.sigF, h.bnd, ?_, h.ownStop, h.flagOff, h.ownOk⟩
        · exact fun hr => WS.Covers.spur (h.sigE hr) t
        · intro hr
          rcases h.stopped hr with ⟨h1, h2⟩ | h3
          · exact Or.inl ⟨by show s.ne.W.erase t = []; rw [h1]; rfl, h2⟩
          · exact Or.inr h3
      | notFull =>
        refine ⟨h.st.spur .notFull t ht, h.sigE, ?_, h.bnd, ?_, h.ownStop, h.flagOff, h.ownOk⟩
        · exact fun hr hm => WS.Covers.spur (h.sigF hr hm) t
        · intro hr
          rcases h.stopped hr with ⟨h1, h2⟩ | h3
          · exact Or.inl ⟨h1, by show s.nf.W.erase t = []; rw [h2]; rfl⟩
          · exact Or.inr h3
    | takePark t hpc ho hq hr =>
      refine ⟨h.st.park (c := .notEmpty) ho hpc, ?_, h.sigF, h.bnd, ?_, ?_, h.flagOff, nofun⟩
      · intro _ _; show s.q.length ≤ _; rw [hq]; exact Nat.zero_le _
      · intro hr'; exact absurd (hr.symm.trans hr') nofun
      · intro u hu
        have := h.ownStop u hu
        rw [ho] at this; cases this; rw [hpc] at hu; cases hu
    | runPark t id rest hpc hp hn ho hfull hr =>
      refine ⟨h.st.park (c := .notFull) ho ⟨hpc, hn, id, rest, hp⟩, h.sigE, ?_, h.bnd, ?_, ?_, h.flagOff, nofun⟩
      · intro _ _ _; show s.maxq - s.q.length ≤ _; omega
      · intro hr'; exact absurd (hr.symm.trans hr') nofun
      · intro u hu
        have := h.ownStop u hu
        rw [ho] at this; cases this; rw [hpc] at hu; cases hu
  -- a thread that stands nowhere it needs the mutex moves: `pa_local`; the owner (outside `stop()`) unlocks: `pa_unlock`
  | test t hpc => exact pa_local h (by simp [OwnerPlace, hpc]) _ (by split <;> nofun) s.prog (fun _ _ => rfl) _
  | exec t hpc p g hp =>
    exact pa_local h (by simp [OwnerPlace, hpc]) p (by rcases hp with rfl | ⟨rfl, _⟩ <;> nofun) s.prog (fun _ _ => rfl) _
  | pass t hpc hg => exact pa_local h (by simp [OwnerPlace, hpc]) .wTest nofun s.prog (fun _ _ => rfl) _
  | openGate t hpc hp =>
    exact pa_local h (by simp [OwnerPlace, hpc, hp]) .idle nofun _ (fun x hx => upd_other _ _ _ _ hx) _
  | runInline t hpc hp hn =>
    exact pa_local h (by simp [OwnerPlace, hpc, hp, hn]) .idle nofun _ (fun x hx => upd_other _ _ _ _ hx) _
  | joinNext t hpc hd hi => exact pa_local h (by simp [OwnerPlace, hpc]) (.stopJoin _) nofun s.prog (fun _ _ => rfl) _
  | joinLast t hpc hd hi =>
    exact pa_local h (by simp [OwnerPlace, hpc]) .idle nofun _ (fun x hx => upd_other _ _ _ _ hx) _
  | takeNone t hpc ho hq hr =>
    exact pa_unlock h ho (by nofun) (h.st_leave (c := .notEmpty) ho hpc _ _ (fun _ _ => rfl) []) rfl
      (by simp [hr]) (by simp [hr]) h.bnd fun _ => stopped_of_owner_not_stop h ho (by rw [hpc]; nofun) hr
  | runStopped t hpc hp hn ho hr =>
    exact pa_unlock h ho (by nofun) (h.st_leave (c := .notFull) ho ⟨hpc, hn, _, _, hp⟩ _ _ (fun x hx => upd_other _ _ _ _ hx) []) rfl (by simp [hr]) (by simp [hr]) h.bnd
      fun _ => stopped_of_owner_not_stop h ho (by rw [hpc]; nofun) hr
  | @takeSome t x q' hpc ho hq =>
    have hS1 : s.ne.S.length ≤ (s.ne.wake t).S.length + 1 := (WS.wake_facts (h.st.nodup .notEmpty) t).2.2.1
    have hlen : s.q.length = q'.length + 1 := by rw [hq]; rfl
    have hW := stopped_of_owner_not_stop h ho (by rw [hpc]; nofun)
    have hst := fun fs => h.st_leave (c := .notEmpty) ho hpc (.wExec x) s.prog (fun _ _ => rfl) fs
    by_cases hm : 0 < s.maxq
    · simp only [hm, if_true]
      replace hst : ((s.toMon.setWs .notEmpty (s.ne.wake t)).unlock.notifs [⟨false, .notFull⟩]).Struct _ := hst _
      obtain ⟨ho3, hoth, hone⟩ := Mon.notifs_one (s.toMon.setWs .notEmpty (s.ne.wake t)).unlock .notFull
      have hne := hoth .notEmpty (by decide)
      generalize (s.toMon.setWs .notEmpty (s.ne.wake t)).unlock.notifs [⟨false, .notFull⟩] = m3 at hst ho3 hne hone ⊢
      replace hne : m3.ne = (s.ne.wake t) := hne
      replace hone : OneSpec s.nf m3.nf := hone
      refine pa_unlock h ho (by nofun) hst ho3 (fun hr hW' => ?_) (fun hr _ hW' => ?_) (fun _ => ?_) (fun hr => ?_)
      · rw [hne] at hW' ⊢
        have := h.sigE hr hW'
        show q'.length ≤ (s.ne.wake t).S.length
        omega
      · have := h.bnd hm
        exact (hone.covers (h.sigF hr hm)).of_le id (fun _ => by omega) hW'
      · have := h.bnd hm; omega
      · rw [hne, hone.nil (hW hr).2]; exact hW hr
    · simp only [hm, if_false]
      refine pa_unlock h ho (by nofun) (hst []) rfl (fun hr hW' => ?_) (fun _ hm' => absurd hm' hm) (fun hm' => absurd hm' hm) hW
      have := h.sigE hr hW'
      show q'.length ≤ (s.ne.wake t).S.length
      omega
  | @runPush t id rest hpc hp hn ho hroom hr =>
    have hS1 : s.nf.S.length ≤ (s.nf.wake t).S.length + 1 := (WS.wake_facts (h.st.nodup .notFull) t).2.2.1
    have hst : ((s.toMon.setWs .notFull (s.nf.wake t)).unlock.notifs [⟨false, .notEmpty⟩]).Struct _ :=
      h.st_leave (c := .notFull) ho ⟨hpc, hn, id, rest, hp⟩ .idle (upd s.prog t rest) (fun x hx => upd_other _ _ _ _ hx) _
    obtain ⟨ho3, hoth, hone⟩ := Mon.notifs_one (s.toMon.setWs .notFull (s.nf.wake t)).unlock .notEmpty
    have hnf := hoth .notFull (by decide)
    generalize (s.toMon.setWs .notFull (s.nf.wake t)).unlock.notifs [⟨false, .notEmpty⟩] = m3 at hst ho3 hnf hone ⊢
    replace hnf : m3.nf = (s.nf.wake t) := hnf
    replace hone : OneSpec s.ne m3.ne := hone
    refine pa_unlock h ho (by nofun) hst ho3 (fun _ hW' => ?_) (fun _ hm hW' => ?_) (fun hm => ?_) (by simp [hr])
    · simpa using hone.covers (h.sigE hr) hW'
    · rw [hnf] at hW' ⊢
      have := h.sigF hr hm hW'
      simp only [List.length_append, List.length_singleton]
      show s.maxq - (s.q.length + 1) ≤ (s.nf.wake t).S.length
      omega
    · have := h.bnd hm
      simp only [List.length_append, List.length_singleton]
      omega
  | stopFlag t hpc hp ho =>
    have hnp : ∀ c, ¬ PRole s.n s.pc s.prog t c := by
      intro c hc; cases c
      · have : s.pc t = .wTake := hc; rw [hpc] at this; cases this
      · obtain ⟨_, _, id, r, hr⟩ := hc; rw [hp] at hr; cases hr
    refine ⟨h.st_rerole hnp _ s.prog (fun _ _ => rfl), nofun, nofun, h.bnd, ?_, ?_, ?_, ?_⟩
    · intro _; exact Or.inr ⟨t, ho, upd_same _ _ _⟩
    · intro u hu
      by_cases hut : u = t
      · exact hut ▸ ho
      · have hu' : upd s.pc t .stopNotify u = .stopNotify := hu
        rw [upd_other _ _ _ _ hut] at hu'
        exact absurd (Option.some.inj ((h.ownStop u hu').symm.trans ho)) hut
    · intro _ _; rfl
    · intro u hu
      have : u = t := (Option.some.inj ((show s.owner = some u from hu).symm.trans ho))
      exact this ▸ Or.inr (Or.inl (upd_same _ _ _))
  | stopNotify t hpc ho hn =>
    obtain ⟨ho3, hE, hF⟩ := Mon.notifs_all2 s.toMon.unlock
    have hroff := h.flagOff t hpc
    exact pa_unlock h ho (by nofun) (h.st_leave0 ho (by intro c; cases c <;> simp [PRole, hpc]) _ _ (fun _ _ => rfl) _) ho3 (by simp [hroff]) (by simp [hroff]) h.bnd fun _ => ⟨hE, hF⟩
  | stopNotify0 t hpc ho hn =>
    obtain ⟨ho3, hE, hF⟩ := Mon.notifs_all2 s.toMon.unlock
    have hroff := h.flagOff t hpc
    exact pa_unlock h ho (by nofun) (h.st_leave0 ho (by intro c; cases c <;> simp [PRole, hpc]) _ _ (fun x hx => upd_other _ _ _ _ hx) _) ho3 (by simp [hroff]) (by simp [hroff]) h.bnd fun _ => ⟨hE, hF⟩

end MuduoVerif.Monitor
