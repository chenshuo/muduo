import MuduoVerif.Proofs.OwnerStep
/-! The exit invariant, first part: what an io loop that has left `loop()` leaves behind.  With the final drain its queue
is empty and stays empty (`XInvE`, kept by every step that leaves the loops nobody may append to empty: `XInvE.of_closed`),
so "every io loop has exited and the base loop has run its queue" means that nothing is left to do (`quiet_of_exited`). -/
namespace MuduoVerif.Owner
open MuduoVerif.Gen.Owner
open MuduoVerif.Gen.Conn (StateE forceCloseAccepts shutdownAccepts forceCloseInLoopActs destroyedWhileConnected)

/-- `e`: a loop that is in the middle of leaving `loop()` (its final drain is running); `0` = none -/
structure XInvE (e : Nat) (s : Srv) : Prop where
  /-- an io loop leaves `loop()` only after the server is gone -/
  x1 : ∀ l, l ≠ 0 → s.exited l = true → s.alive = false ∧ l ≤ s.L
  /-- with the final drain an io loop that has left (and is through with its drain) has nothing queued -/
  x2 : s.drain = true → ∀ l, l ≠ 0 → l ≠ e → s.exited l = true → s.q l = [] ∧ s.done l = []
  /-- loops that do not exist have nothing queued -/
  x3 : ∀ l, s.L < l → s.q l = [] ∧ s.done l = []
  /-- the functor that destroys the server is queued on the base loop only -/
  x4 : ∀ l, Task.srvDtor ∈ s.q l → l = 0

abbrev XInv (s : Srv) : Prop := XInvE 0 s

theorem growA_reapOne (al : Bool) (s : Srv) (l c : Nat) : GrowA al s (reapOne s l c) := by
  unfold reapOne; split
  · exact growA_of_fields al _ _ rfl rfl rfl rfl id rfl
  · exact GrowA.refl al s

theorem growA_destroyServer (s : Srv) (hle : ∀ c, (s.conn c).loop ≤ s.L) : GrowA s.alive s (destroyServer s) := by
  cases ha : s.alive with
  | false => rw [show destroyServer s = s by simp [destroyServer, ha]]; exact GrowA.refl _ s
  | true =>
    refine (destroyServer_inv (P := fun s' => GrowA true s s' ∧ ∀ c, (s'.conn c).loop ≤ s'.L) ⟨GrowA.refl _ s, hle⟩
      (fun _ => ⟨growA_of_fields _ _ _ rfl rfl rfl rfl (fun h => by cases h) rfl, hle⟩) (fun s' c h => ?_)).1
    have he := eff_dtorOne 0 s' c
    exact ⟨h.1.trans (he.grow (h.2 c)), fun c' => by rw [he.ext.loop, he.ext.L]; exact h.2 c'⟩

theorem growA_runTask (s : Srv) (l : Nat) (t : Task) (hle : ∀ c, (s.conn c).loop ≤ s.L) : GrowA s.alive s (runTask s l t) := by
  cases ht : t.conn? with
  | some c => exact (eff_runTask s l t c ht).grow (hle c)
  | none => rw [conn?_eq_none ht]; exact growA_destroyServer s hle

/-- the closure rule of the exit invariant.  Nobody may append to a closed loop: an io loop that has left `loop()` in a
configuration with the final drain, or a loop that does not exist.  A step that leaves the closed loops empty, keeps the exit
flags and the configuration, does not revive the server and brings `srvDtor` to the base loop only keeps `XInvE` -/
theorem XInvE.of_closed {e : Nat} {s s' : Srv} (hx : XInvE e s) (hex : s'.exited = s.exited) (hd : s'.drain = s.drain)
    (hL : s'.L = s.L) (hal : s'.alive = true → s.alive = true)
    (hq : ∀ l, (l ≠ 0 ∧ s.exited l = true ∧ s.drain = true) ∨ s.L < l → s.q l = [] ∧ s.done l = [] → s'.q l = [] ∧ s'.done l = [])
    (h4 : ∀ l, Task.srvDtor ∈ s'.q l → Task.srvDtor ∈ s.q l ∨ l = 0) : XInvE e s' := by
  refine ⟨fun l h0 hl => ?_, fun hd' l h0 he hl => ?_, fun l hl => ?_, fun l hm => (h4 l hm).elim (hx.x4 l) id⟩
  · rw [hex] at hl
    obtain ⟨h1, h2⟩ := hx.x1 l h0 hl
    refine ⟨?_, hL ▸ h2⟩
    cases h : s'.alive with
    | false => rfl
    | true => rw [hal h] at h1; cases h1
  · rw [hex] at hl; rw [hd] at hd'
    exact hq l (.inl ⟨h0, hl, hd'⟩) (hx.x2 hd' l h0 he hl)
  · rw [hL] at hl
    exact hq l (.inr hl) (hx.x3 l hl)

/-- a step that only appends, and to an io loop only while the server exists: an exited io loop's server is gone -/
theorem XInvE.grow {e : Nat} {al : Bool} {s s' : Srv} (hx : XInvE e s) (hg : GrowA al s s') (hal : al = true → s.alive = true) :
    XInvE e s' := by
  refine hx.of_closed hg.exited hg.drain hg.L hg.alive (fun l hl hemp => ?_) (fun l hm => ?_)
  · obtain ⟨ts, e1, c1, _⟩ := hg.q l
    rw [hg.done, e1]
    by_cases hts : ts = []
    · rw [hts, List.append_nil]; exact hemp
    · exfalso
      rcases c1 hts with h0 | ⟨h1, h2⟩
      · rcases hl with ⟨h3, _⟩ | h3
        · exact h3 h0
        · omega
      · rcases hl with ⟨h3, h4, _⟩ | h3
        · have := (hx.x1 l h3 h4).1
          rw [hal h1] at this; cases this
        · omega
  · obtain ⟨ts, e1, _, d1⟩ := hg.q l
    rw [e1] at hm
    exact (List.mem_append.mp hm).elim .inl (fun h => absurd h d1)

/-- a step that only shortens queues and batches; a batch may grow by a functor popped from a running loop's queue -/
structure Shrinks (e : Nat) (s s' : Srv) : Prop where
  exited : s'.exited = s.exited
  drain : s'.drain = s.drain
  L : s'.L = s.L
  alive : s'.alive = s.alive
  q : ∀ l, (s'.q l).Sublist (s.q l)
  done : ∀ l, (s'.done l).Sublist (s.done l) ∨ ((s.exited l = false ∨ l = e) ∧ s.q l ≠ [])

theorem XInvE.shrinks {e : Nat} {s s' : Srv} (hx : XInvE e s) (h : Shrinks e s s') : XInvE e s' :=
  hx.of_closed h.exited h.drain h.L (fun ha => h.alive ▸ ha)
    (fun l _ hemp => ⟨List.sublist_nil.mp (hemp.1 ▸ h.q l),
      (h.done l).elim (fun h3 => List.sublist_nil.mp (hemp.2 ▸ h3)) (fun h3 => absurd hemp.1 h3.2)⟩)
    (fun l hm => .inl ((h.q l).subset hm))

theorem loops_le {s : Srv} (h : GInv s) (c : Nat) : (s.conn c).loop ≤ s.L := by
  by_cases hc : c < s.n
  · exact (h.conns c hc).core.loop_le
  · rw [h.conn_fresh (by omega)]; exact Nat.zero_le _

theorem shrinks_pop (e : Nat) (s : Srv) (l : Nat) (t : Task) (rest : List Task) (hq : s.q l = t :: rest)
    (hex : s.exited l = false ∨ l = e) : Shrinks e s (pop s l t rest) := by
  refine ⟨rfl, rfl, rfl, rfl, sublist_tail_update hq, fun l' => ?_⟩
  simp only [pop]; split
  · next h => subst h; right; exact ⟨hex, by rw [hq]; simp⟩
  · left; exact List.Sublist.refl _

theorem shrinks_undone (e : Nat) (s : Srv) (l : Nat) (t : Task) (rest : List Task) (hd : s.done l = t :: rest) :
    Shrinks e s (undone s l rest) :=
  ⟨rfl, rfl, rfl, rfl, fun _ => List.Sublist.refl _, fun l' => Or.inl (sublist_tail_update hd l')⟩

theorem shrinks_dropq (e : Nat) (s : Srv) (l : Nat) (t : Task) (rest : List Task) (hq : s.q l = t :: rest) :
    Shrinks e s (dropq s l rest) :=
  ⟨rfl, rfl, rfl, rfl, sublist_tail_update hq, fun _ => Or.inl (List.Sublist.refl _)⟩

theorem xinvE_enq (e : Nat) (s : Srv) (hx : XInvE e s) (l : Nat) (t : Task) (ht : t = .srvDtor → l = 0) (hl : l ≤ s.L)
    (hex : l = 0 ∨ s.exited l = false ∨ s.drain = false) : XInvE e (s.enq l t) := by
  refine hx.of_closed rfl rfl rfl id (fun l' hl' hemp => ?_) (fun l' hm => ?_)
  · have : l' ≠ l := by
      rintro rfl
      rcases hl' with ⟨h0, h1, h2⟩ | h3
      · rcases hex with h | h | h
        · exact h0 h
        · rw [h1] at h; cases h
        · rw [h2] at h; cases h
      · omega
    rw [enq_q_other _ _ _ _ this, enq_done]; exact hemp
  · rcases mem_enq.mp hm with h1 | ⟨rfl, h1⟩
    · exact .inl h1
    · exact .inr (ht h1.symm)

theorem releaseHead_q (s : Srv) (l : Nat) : (releaseHead s l).q = s.q :=
  releaseHead_inv (P := fun s' => s'.q = s.q) rfl (fun _ _ _ => rfl) (fun s' c h => (reapOne_q s' l c).trans h)

theorem releaseHead_done (s : Srv) (l : Nat) : (releaseHead s l).done l = (s.done l).tail := by
  cases hd : s.done l with
  | nil => simp only [releaseHead, hd]; rfl
  | cons t rest =>
    rw [releaseHead_cons s l t rest hd]
    cases t.conn? with
    | none => simp [undone]
    | some c =>
      simp only
      have : (reapOne (undone s l rest) l c).done = (undone s l rest).done := by unfold reapOne; split <;> rfl
      rw [this]; simp [undone]

theorem endBatch_q_done (s : Srv) (l : Nat) : (endBatch s l).q = s.q ∧ (endBatch s l).done l = [] := by
  refine ⟨iterate_inv (P := fun s' => s'.q = s.q) (fun s' h => (releaseHead_q s' l).trans h) _ s rfl, ?_⟩
  have : ∀ k s, (iterate (fun s => releaseHead s l) k s).done l = (s.done l).drop k := by
    intro k
    induction k with
    | zero => exact fun _ => rfl
    | succ k ih => intro s; rw [iterate, ih, releaseHead_done, List.drop_tail]
  rw [endBatch, this, List.drop_length]

/-- an io loop whose server is gone only hands work to the base loop: its own queue just gets shorter -/
theorem runHead_io (s : Srv) (hg : GInv s) (l : Nat) (hl : l ≠ 0) (ha : s.alive = false) :
    (runHead s l).q l = (s.q l).tail ∧ (runHead s l).alive = false := by
  cases hq : s.q l with
  | nil => rw [runHead_nil s l hq]; exact ⟨by rw [hq]; rfl, ha⟩
  | cons t rest =>
    rw [runHead_cons s l t rest hq]
    have g := growA_runTask (pop s l t rest) l t (fun c => loops_le hg c)
    obtain ⟨ts, e1, c1, _⟩ := g.q l
    have hts : ts = [] := by
      apply Decidable.byContradiction; intro hne
      rcases c1 hne with h | ⟨h, _⟩
      · exact hl h
      · simp only [pop_alive] at h; rw [ha] at h; cases h
    refine ⟨by rw [e1, hts]; simp, ?_⟩
    cases h : (runTask (pop s l t rest) l t).alive with
    | false => rfl
    | true => have := g.alive h; simp only [pop_alive] at this; rw [ha] at this; cases this

theorem iterate_runHead_io (l : Nat) (hl : l ≠ 0) (k : Nat) : ∀ s, GInv s → s.alive = false → (s.q l).length = k →
    (iterate (fun s => runHead s l) k s).q l = [] := by
  induction k with
  | zero => intro s _ _ h; exact List.length_eq_zero_iff.mp h
  | succ k ih =>
    intro s hg ha h
    obtain ⟨h1, h2⟩ := runHead_io s hg l hl ha
    exact ih _ (ginv_runHead s ⟨hg, .refl s⟩ l).toGInv h2 (by rw [h1]; simp [h])

/-- a user's `forceClose()` / `shutdown()` is not accepted by a connection whose loop has exited after its final drain -/
theorem not_up_of_exited (s : Srv) (hg : GInv s) (hx : XInv s) (c : Nat) (hal : (s.conn c).alive = true)
    (hl0 : (s.conn c).loop ≠ 0) (hex : s.exited (s.conn c).loop = true) (hd : s.drain = true) : isUp (s.conn c).st = false := by
  have hcore := (hg.conns c (hg.lt_of_alive hal)).core
  rw [(hx.x1 _ hl0 hex).1] at hcore
  rcases down_or_des hcore with h | h
  · simp [isUp, h]
  · rw [(hx.x2 hd _ hl0 hl0 hex).1] at h; cases h

theorem runHead_exited (s : Srv) (l : Nat) : (runHead s l).exited = s.exited :=
  runHead_inv (P := fun s' => s'.exited = s.exited) rfl fun t rest _ => by
    cases t with
    | srvDtor =>
      exact destroyServer_inv (P := fun s' => s'.exited = s.exited) rfl (fun _ => rfl)
        fun s' c h => (eff_dtorOne 0 s' c).ext.exited.trans h
    | _ => exact (eff_runTask _ l _ _ rfl).ext.exited

theorem drainBatch_io (s : Srv) (hg : GInv s) (l : Nat) (hl : l ≠ 0) (ha : s.alive = false) :
    (drainBatch s l).q l = [] ∧ (drainBatch s l).done l = [] := by
  unfold drainBatch
  obtain ⟨hq3, hd3⟩ := endBatch_q_done (iterate (fun s => runHead s l) (s.q l).length s) l
  exact ⟨by rw [hq3]; exact iterate_runHead_io l hl _ s hg ha rfl, hd3⟩

theorem XInvE.close {l : Nat} {s : Srv} (h : XInvE l s) (hemp : l ≠ 0 → s.q l = [] ∧ s.done l = []) : XInv s := by
  refine ⟨h.x1, fun hd l' h0 _ hex => ?_, h.x3, h.x4⟩
  by_cases hl : l' = l
  · subst hl; exact hemp h0
  · exact h.x2 hd l' h0 hl hex

/-- with the final drain: the server destroyed, every io loop out of `loop()`, the base loop's queue run - then nothing
is left anywhere -/
theorem quiet_of_exited (s : Srv) (hx : XInv s) (hd : s.drain = true) (hio : ∀ l, 1 ≤ l → l ≤ s.L → s.exited l = true)
    (hbase : s.q 0 = [] ∧ s.done 0 = []) : s.quiet := by
  intro l
  by_cases h0 : l = 0
  · subst h0; exact hbase
  · by_cases hl : l ≤ s.L
    · exact hx.x2 hd l h0 h0 (hio l (by omega) hl)
    · exact hx.x3 l (by omega)

/-! ### A further fact about `runHead`; no proof uses it -/

theorem runHead_drain (s : Srv) (hg : GInv s) (l : Nat) : (runHead s l).drain = s.drain :=
  runHead_inv (P := fun s' => s'.drain = s.drain) rfl
    (fun t rest _ => (growA_runTask (pop s l t rest) l t (fun c => loops_le hg c)).drain)

end MuduoVerif.Owner
