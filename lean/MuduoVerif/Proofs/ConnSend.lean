import MuduoVerif.Model.Conn
/-!
The send path of the connection model.  `sendInLoop` and `handleWrite` are each one update of the state, guarded by
the state word, the write interest, the backlog and the kernel's answer: `sendInLoop_eq`, `handleWrite_eq`.  What the
invariants and the properties need of them is read off these two: the stream fields (`…_data`), that besides those
and the interest in writing only notifications join the pending queue (`SendStep`, `…_step`), and that write
interest and a backlog arise and vanish together (`sendInLoop_writing`, `handleWrite_step`).  At the end the equations
of the other handlers where they have one course: `handleClose_up` on a connection that is up, `connectDestroyed_up` /
`…_down`, `removeChannel_quiet`, `shutdownInLoop_eq`, `act_shutdown`, `act_forceClose`, and `runTask_idle`, functor by
functor on a connection that is down.
-/
namespace MuduoVerif.Conn
open MuduoVerif.Gen.Conn

def Task.isSend : Task → Bool | .sendInLoop _ => true | _ => false
def Task.isShut : Task → Bool | .shutdownInLoop => true | .drainShutdownInLoop => true | _ => false
def Task.isWc : Task → Bool
  | .writeComplete _ => true
  | _ => false
def Ev.isWc : Ev → Bool
  | .wc _ => true
  | _ => false

theorem chanUpdate_evWrite (be : Backend) (ch : Chan) : (chanUpdate be ch).evWrite = ch.evWrite := by
  unfold chanUpdate; split <;> (try split) <;> rfl

theorem chanUpdate_evRead (be : Backend) (ch : Chan) : (chanUpdate be ch).evRead = ch.evRead := by
  unfold chanUpdate; split <;> (try split) <;> rfl

theorem setEvents_evWrite (c : Conn) (r w : Bool) : (setEvents c r w).ch.evWrite = w :=
  chanUpdate_evWrite _ _

/-- `shutdown()` hands `shutdownInLoop` to the loop through `queueInLoop` — on every thread.
(`shutdownDispatch` is extracted from the source; with `runInLoop` the half-close would run
at once on the loop thread, in front of the `sendInLoop` functors already queued, and the
invariant `FlowInv.fin` would be false: that was a real defect.  This lemma is where the proofs depend
on `shutdownDispatch = .queue`.) -/
theorem shutdown_queued (c : Conn) (f : Bool) :
    handOff c f shutdownDispatch Task.shutdownInLoop shutdownInLoop = enqueue c .shutdownInLoop := by
  unfold handOff; rw [if_pos]; simp [shutdownDispatch]

/-- the same for the deferred half-close of `handleWrite` (`drainShutdownDispatch = .queue`) -/
theorem drainShutdown_queued (c : Conn) :
    handOff c false drainShutdownDispatch Task.drainShutdownInLoop shutdownInLoop = enqueue c .drainShutdownInLoop := by
  unfold handOff; rw [if_pos]; simp [drainShutdownDispatch]

def SameData (c c' : Conn) : Prop :=
  c'.wrote = c.wrote ∧ c'.outBuf = c.outBuf ∧ c'.accepted = c.accepted ∧ c'.discarded = c.discarded ∧
    c'.writes = c.writes

/-- bytes of the block the direct `write` took -/
def WriteRes.taken : WriteRes → Nat
  | .took n => n
  | .err _ => 0

/-- the direct `write` failed in the way that makes `sendInLoop` drop the block: `writeErrFatal`.  (The source tests
`writeErrLogged` first; a fatal errno is a logged one, `drops_eq`.) -/
def WriteRes.drops : WriteRes → Bool
  | .took _ => false
  | .err e => decide (writeErrFatal e)

theorem drops_eq (e : Nat) : (decide (writeErrLogged e) && decide (writeErrFatal e)) = (WriteRes.err e).drops := by
  by_cases h : writeErrFatal e
  · have : writeErrLogged e := by unfold writeErrLogged; unfold writeErrFatal at h; omega
    simp [WriteRes.drops, h, this]
  · simp [WriteRes.drops, h]

/-! the generated guards say what the model assumes they say.  Few of these are used below: they are the tie to the
source (T1) — the guards are extracted from `TcpConnection.cc` on every run, and a changed comparison, a dropped
conjunct or a swapped operand there makes the lemma about it fail to build. -/

theorem hwmCross_iff (old rem mark : Nat) (has : Bool) :
    hwmCross old rem mark has ↔ (has = true ∧ old < mark ∧ mark ≤ old + rem) := by
  unfold hwmCross; constructor
  · rintro ⟨⟨h1, h2⟩, h3⟩; exact ⟨h3, h2, h1⟩
  · rintro ⟨h3, h2, h1⟩; exact ⟨⟨h1, h2⟩, h3⟩

theorem sendWholeWC_iff (rem : Nat) (has : Bool) : sendWholeWC rem has ↔ (rem = 0 ∧ has = true) := by
  unfold sendWholeWC; exact Iff.rfl

theorem drained_iff (n : Nat) : drained n ↔ n = 0 := by unfold drained; exact Iff.rfl

theorem queueRest_iff (f : Bool) (r : Nat) : queueRest f r ↔ (f = false ∧ 0 < r) := by
  unfold queueRest; cases f <;> simp

theorem directWrite_iff (w : Bool) (n : Nat) : directWrite w n ↔ (w = false ∧ n = 0) := by
  unfold directWrite; cases w <;> simp

theorem drainWC_iff (has : Bool) : drainWC has ↔ has = true := by unfold drainWC; exact Iff.rfl

theorem handleWriteActs_iff (w : Bool) : handleWriteActs w ↔ w = true := by
  unfold handleWriteActs; exact Iff.rfl

theorem writeErrFatal_iff (e : Nat) : writeErrFatal e ↔ (e = 32 ∨ e = 104) := by
  unfold writeErrFatal; exact Iff.rfl

theorem writeErrLogged_iff (e : Nat) : writeErrLogged e ↔ e ≠ 11 := by unfold writeErrLogged; exact Iff.rfl

theorem sendGivesUp_iff (st : StateE) : sendGivesUp st ↔ st = .kDisconnected := by
  unfold sendGivesUp; exact Iff.rfl

theorem sendEnablesWriting_iff (w : Bool) : sendEnablesWriting w ↔ w = false := by
  unfold sendEnablesWriting; cases w <;> simp

theorem drainShutdown_iff (st : StateE) : drainShutdown st ↔ st = .kDisconnecting := by
  unfold drainShutdown; exact Iff.rfl

/-- the deferred half-close of the drain path is queued, never run inline -/
theorem drainShutdownDispatch_queue : drainShutdownDispatch = .queue := rfl

theorem popWrite_eq (c : Conn) :
    popWrite c = { c with writes := c.writes.tail, starved := c.starved || c.writes.isEmpty } := by
  unfold popWrite; split <;> rename_i h <;> simp [h]

theorem popRead_eq (c : Conn) :
    popRead c = { c with reads := c.reads.tail, starved := c.starved || c.reads.isEmpty } := by
  unfold popRead; split <;> rename_i h <;> simp [h]

theorem popWrite_data (c : Conn) :
    (popWrite c).wrote = c.wrote ∧ (popWrite c).outBuf = c.outBuf ∧ (popWrite c).accepted = c.accepted ∧
      (popWrite c).discarded = c.discarded ∧ (popWrite c).writes = c.writes.tail ∧
      (popWrite c).st = c.st ∧ (popWrite c).trace = c.trace ∧ (popWrite c).ch = c.ch := by
  rw [popWrite_eq]; exact ⟨rfl, rfl, rfl, rfl, rfl, rfl, rfl, rfl⟩

/-- the high-water functor queued when a backlog of `old` bytes grows by `rem` bytes -/
def hwmSched (has : Bool) (cb : Bound) (old mark rem : Nat) : List Task :=
  if 0 < rem ∧ has = true ∧ old < mark ∧ mark ≤ old + rem then [Task.highWater cb (old + rem)] else []

theorem queueRemainder_eq (c : Conn) (data : Bytes) (n : Nat) (fault : Bool) : queueRemainder c data n fault =
    let rest := if fault = true then [] else data.drop n
    let c2 : Conn := { c with outBuf := c.outBuf ++ rest, discarded := (c.discarded || fault),
                              pending := c.pending ++
                                hwmSched c.hasHWM (bindCb hwmBind c.hwmId) c.outBuf.length c.mark rest.length }
    if rest ≠ [] ∧ c.ch.evWrite = false then enableWriting c2 else c2 := by
  -- the code tests `data.length - n`; `e1`, `e2` say what its tests mean for `rest`
  have e1 : ((if fault = true then [] else data.drop n) ≠ []) = queueRest fault (data.length - n) := by
    cases fault <;> simp [queueRest, List.drop_eq_nil_iff, Nat.sub_pos_iff_lt]
  have e2 : (if fault = true then [] else data.drop n).length = if fault = true then 0 else data.length - n := by
    split <;> simp
  simp only [e1, e2]
  unfold queueRemainder hwmSched
  by_cases hq : queueRest fault (data.length - n)
  · obtain ⟨rfl, hr⟩ := (queueRest_iff _ _).mp hq
    rw [if_pos hq]
    simp only [hr, hq, true_and, Bool.false_eq_true, if_false, Bool.or_false]
    by_cases hx : hwmCross c.outBuf.length (data.length - n) c.mark c.hasHWM
    · rw [if_pos hx, if_pos ((hwmCross_iff _ _ _ _).mp hx)]
      by_cases hw : c.ch.evWrite = false <;> simp [hw, sendEnablesWriting, enqueue] <;> rfl
    · rw [if_neg hx, if_neg (fun h => hx ((hwmCross_iff _ _ _ _).mpr h))]
      by_cases hw : c.ch.evWrite = false <;> simp [hw, sendEnablesWriting] <;> rfl
  · rw [if_neg hq]
    cases fault with
    | true => simp [hq]
    | false =>
      have h0 : data.length - n = 0 := Nat.eq_zero_of_not_pos fun h => hq ((queueRest_iff _ _).mpr ⟨rfl, h⟩)
      have : data.drop n = [] := List.drop_eq_nil_of_le (by omega)
      rw [h0] at hq
      simp [this, h0, hq]

/-- the direct `write` took the whole block of `len` bytes -/
def tookWhole : WriteRes → Nat → Bool
  | .took n, len => decide (len ≤ n)
  | .err _, _ => false

/-- what `sendInLoop` leaves for later: the whole block if it could not be written directly, else what the kernel did
not take; nothing when the connection is down or the direct write failed with EPIPE/ECONNRESET -/
def unsent (c : Conn) (data : Bytes) : Bytes :=
  if c.st = .kDisconnected then []
  else if directWrite c.ch.evWrite c.outBuf.length then
    if (peekWrite c).drops then [] else data.drop (peekWrite c).taken
  else data

/-- the write-complete notification `sendInLoop` queues: a callback is installed and the kernel took the whole block
at once, over an empty backlog -/
def wcSched (c : Conn) (data : Bytes) : List Task :=
  if c.hasWC = true ∧ c.st ≠ .kDisconnected ∧ c.ch.evWrite = false ∧ c.outBuf = []
    ∧ tookWhole (peekWrite c) data.length = true then [Task.writeComplete (bindCb wcBindSend c.wcId)] else []

theorem sendInLoop_eq (c : Conn) (data : Bytes) (q : Bool) : sendInLoop c data q =
    if c.st = .kDisconnected then emit c (.note "disconnected, give up writing") else
    let c1 : Conn := if directWrite c.ch.evWrite c.outBuf.length then
        { c with writes := c.writes.tail, starved := (c.starved || c.writes.isEmpty),
                 trace := c.trace ++ [.sysWrite data.length (peekWrite c)],
                 wrote := c.wrote ++ data.take (peekWrite c).taken,
                 discarded := (c.discarded || (peekWrite c).drops) }
      else c
    let c2 : Conn := { c1 with accepted := c.accepted ++ data, blocks := c.blocks ++ [(q, data)],
                               outBuf := c.outBuf ++ unsent c data,
                               pending := c.pending ++ wcSched c data ++
                                 hwmSched c.hasHWM (bindCb hwmBind c.hwmId) c.outBuf.length c.mark (unsent c data).length }
    if unsent c data ≠ [] ∧ c.ch.evWrite = false then enableWriting c2 else c2 := by
  unfold sendInLoop unsent wcSched
  -- the branches of the code one by one; `queueRemainder_eq` gives the tail of each, `simp` compares the records
  by_cases hg : c.st = .kDisconnected
  · rw [if_pos (show sendGivesUp c.st from hg), if_pos hg]
  · rw [if_neg (show ¬ sendGivesUp c.st from hg), if_neg hg, if_neg hg]
    by_cases hd : directWrite c.ch.evWrite c.outBuf.length
    · obtain ⟨hw, ho⟩ := (directWrite_iff _ _).mp hd
      have ho : c.outBuf = [] := List.eq_nil_of_length_eq_zero ho
      simp only [if_pos hd, popWrite_eq]
      cases hr : peekWrite c with
      | took n =>
        simp only [sendDirect]
        split
        · rename_i hs
          obtain ⟨s1, s2⟩ := (sendWholeWC_iff _ _).mp hs
          have hle : data.length ≤ n := by have s1' : data.length - n = 0 := s1; omega
          rw [queueRemainder_eq]
          simp [enqueue, emit, accept, hg, hw, ho, tookWhole, WriteRes.taken, WriteRes.drops, hle, hwmSched,
            (show c.hasWC = true from s2), List.drop_eq_nil_of_le hle]
        · rename_i hs
          have hnw : ¬ (c.hasWC = true ∧ data.length ≤ n) := fun h => hs ((sendWholeWC_iff _ _).mpr
            ⟨Nat.sub_eq_zero_of_le h.2, h.1⟩)
          rw [queueRemainder_eq]
          simp [emit, accept, hg, hw, ho, tookWhole, WriteRes.taken, WriteRes.drops, hnw]
      | err e =>
        simp only [sendDirect]
        rw [queueRemainder_eq, drops_eq]
        cases hf : (WriteRes.err e).drops <;> simp [emit, accept, hw, ho, tookWhole, WriteRes.taken]
    · have hwf : ¬ (c.ch.evWrite = false ∧ c.outBuf = [] ∧ tookWhole (peekWrite c) data.length = true) :=
        fun h => hd ((directWrite_iff _ _).mpr ⟨h.1, by simp [h.2.1]⟩)
      simp only [if_neg hd]
      rw [queueRemainder_eq]
      simp [accept, hwf]

/-- the fields a direct `write` touches -/
structure Direct (c' : Conn) (wrote : Bytes) (writes : List WriteRes) (discarded : Bool) (trace : List Ev) : Prop where
  wrote : c'.wrote = wrote
  writes : c'.writes = writes
  discarded : c'.discarded = discarded
  trace : c'.trace = trace

/-- `c'` is `c` after `sendInLoop` took the block `data`, as far as the stream fields and the interest in writing go -/
structure SendData (c : Conn) (data : Bytes) (c' : Conn) : Prop where
  accepted : c'.accepted = c.accepted ++ data
  st : c'.st = c.st
  outBuf : c'.outBuf = c.outBuf ++ unsent c data
  evWrite : c'.ch.evWrite = true ↔ c.ch.evWrite = true ∨ unsent c data ≠ []
  direct : if directWrite c.ch.evWrite c.outBuf.length then
      Direct c' (c.wrote ++ data.take (peekWrite c).taken) c.writes.tail (c.discarded || (peekWrite c).drops)
        (c.trace ++ [.sysWrite data.length (peekWrite c)])
    else Direct c' c.wrote c.writes c.discarded c.trace

theorem sendInLoop_data (c : Conn) (data : Bytes) (q : Bool) (hu : c.st ≠ .kDisconnected) :
    SendData c data (sendInLoop c data q) := by
  rw [sendInLoop_eq, if_neg hu]
  simp only []
  by_cases he : unsent c data ≠ [] ∧ c.ch.evWrite = false
  · rw [if_pos he]
    have hw : ∀ c2 : Conn, (enableWriting c2).ch.evWrite = true ↔ c.ch.evWrite = true ∨ unsent c data ≠ [] :=
      fun c2 => ⟨fun _ => Or.inr he.1, fun _ => setEvents_evWrite _ _ _⟩
    split
    · rename_i hg; exact ⟨rfl, rfl, rfl, hw _, by rw [if_pos hg]; exact ⟨rfl, rfl, rfl, rfl⟩⟩
    · rename_i hg; exact ⟨rfl, rfl, rfl, hw _, by rw [if_neg hg]; exact ⟨rfl, rfl, rfl, rfl⟩⟩
  · rw [if_neg he]
    have hw : c.ch.evWrite = true ↔ c.ch.evWrite = true ∨ unsent c data ≠ [] :=
      ⟨Or.inl, fun h => h.elim id fun hn => by cases hv : c.ch.evWrite; exact absurd ⟨hn, hv⟩ he; rfl⟩
    split
    · rename_i hg; exact ⟨rfl, rfl, rfl, hw, by rw [if_pos hg]; exact ⟨rfl, rfl, rfl, rfl⟩⟩
    · rename_i hg; exact ⟨rfl, rfl, rfl, hw, by rw [if_neg hg]; exact ⟨rfl, rfl, rfl, rfl⟩⟩

/-- through `sendInLoop`, write interest and a non-empty backlog arise for the same reason `X`: a rest was queued -/
theorem sendInLoop_writing (c : Conn) (data : Bytes) (q : Bool) (hu : c.st ≠ .kDisconnected) :
    ∃ X : Prop, ((sendInLoop c data q).ch.evWrite = true ↔ c.ch.evWrite = true ∨ X) ∧
      ((sendInLoop c data q).outBuf ≠ [] ↔ c.outBuf ≠ [] ∨ X) := by
  have hs := sendInLoop_data c data q hu
  refine ⟨_, hs.evWrite, ?_⟩
  rw [hs.outBuf, Ne, List.append_eq_nil_iff]
  by_cases h1 : c.outBuf = [] <;> simp [h1]

/-- a notification functor: what `sendInLoop` queues -/
def Task.isNote : Task → Bool
  | .writeComplete _ | .highWater _ _ => true
  | _ => false

/-- a step of the send path: besides the stream fields, the consumed `write` result and the interest in writing,
only the pending queue changes; it gains the functors `l`, no `send` among them -/
structure SendStep (c c' : Conn) (l : List Task) : Prop where
  pending : c'.pending = c.pending ++ l
  noSend : ∀ t ∈ l, t.isSend = false
  batch : c'.batch = c.batch
  st : c'.st = c.st
  shutWr : c'.shutWr = c.shutWr
  blocks : c'.blocks = c.blocks
  offeredL : c'.offeredL = c.offeredL
  offeredF : c'.offeredF = c.offeredF
  alive : c'.alive = c.alive
  owner : c'.owner = c.owner
  dead : c'.dead = c.dead

theorem SendStep.same {c c' : Conn} {l : List Task} (hl : l = []) (h1 : c'.pending = c.pending) (h2 : c'.batch = c.batch)
    (h3 : c'.st = c.st) (h4 : c'.shutWr = c.shutWr) (h5 : c'.blocks = c.blocks) (h6 : c'.offeredL = c.offeredL)
    (h7 : c'.offeredF = c.offeredF) (h8 : c'.alive = c.alive) (h9 : c'.owner = c.owner) (h10 : c'.dead = c.dead) :
    SendStep c c' l := by
  subst hl; exact ⟨by rw [h1, List.append_nil], nofun, h2, h3, h4, h5, h6, h7, h8, h9, h10⟩

theorem unsent_of_whole {c : Conn} {data : Bytes} (h : wcSched c data ≠ []) : unsent c data = [] ∧ c.outBuf = [] := by
  unfold wcSched at h
  split at h
  · rename_i hc
    obtain ⟨_, hu, hw, ho, ht⟩ := hc
    refine ⟨?_, ho⟩
    rw [unsent, if_neg hu, if_pos ((directWrite_iff _ _).mpr ⟨hw, by rw [ho]; rfl⟩)]
    cases hr : peekWrite c with
    | took n => rw [hr] at ht; simpa [tookWhole, WriteRes.drops, WriteRes.taken] using ht
    | err e => rw [hr] at ht; cases ht
  · exact absurd rfl h

theorem sendInLoop_step (c : Conn) (data : Bytes) (q : Bool) (hu : c.st ≠ .kDisconnected) :
    ∃ l, SendStep (accept c data q) (sendInLoop c data q) l ∧ (∀ t ∈ l, t.isNote = true) ∧
      ((∀ t ∈ l, t.isWc = false) ∨
        ∃ b, l = [.writeComplete b] ∧ (sendInLoop c data q).outBuf = [] ∧ c.outBuf = []) := by
  have hh : ∀ n, ∀ t ∈ hwmSched c.hasHWM (bindCb hwmBind c.hwmId) c.outBuf.length c.mark n,
      t.isNote = true ∧ t.isWc = false ∧ t.isSend = false := fun n t ht => by
    unfold hwmSched at ht; split at ht
    · rw [List.mem_singleton.mp ht]; exact ⟨rfl, rfl, rfl⟩
    · cases ht
  have hw : ∀ t ∈ wcSched c data, t = .writeComplete (bindCb wcBindSend c.wcId) := fun t ht => by
    unfold wcSched at ht; split at ht
    · exact List.mem_singleton.mp ht
    · cases ht
  have hs : SendStep (accept c data q) (sendInLoop c data q)
      (wcSched c data ++ hwmSched c.hasHWM (bindCb hwmBind c.hwmId) c.outBuf.length c.mark (unsent c data).length) := by
    rw [sendInLoop_eq, if_neg hu]
    simp only []
    split <;> split <;>
      exact ⟨List.append_assoc .., fun t ht => (List.mem_append.mp ht).elim (fun h => hw t h ▸ rfl) fun h => (hh _ t h).2.2,
        rfl, rfl, rfl, rfl, rfl, rfl, rfl, rfl, rfl⟩
  refine ⟨_, hs, fun t ht => (List.mem_append.mp ht).elim (fun h => hw t h ▸ rfl) fun h => (hh _ t h).1, ?_⟩
  -- a write-complete is queued only when the whole block went out, and then no rest is left to cross the mark
  by_cases hwc : wcSched c data = []
  · exact Or.inl fun t ht => by rw [hwc, List.nil_append] at ht; exact (hh _ t ht).2.1
  · obtain ⟨hun, ho⟩ := unsent_of_whole hwc
    have h1 : wcSched c data = [.writeComplete (bindCb wcBindSend c.wcId)] := by
      unfold wcSched at hwc ⊢; split
      · rfl
      · rename_i hn; rw [if_neg hn] at hwc; exact absurd rfl hwc
    have h2 : hwmSched c.hasHWM (bindCb hwmBind c.hwmId) c.outBuf.length c.mark (unsent c data).length = [] := by
      rw [hun]; exact if_neg fun h => absurd h.1 (Nat.lt_irrefl 0)
    exact Or.inr ⟨_, by rw [h1, h2]; rfl, (sendInLoop_data c data q hu).outBuf.trans (by rw [ho, hun]; rfl), ho⟩

/-- what the drain path queues: the write-complete notification if a callback is installed, then the deferred
half-close if `shutdown()` was called -/
def drainQueues (c : Conn) : List Task :=
  (if c.hasWC = true then [Task.writeComplete (bindCb wcBindDrain c.wcId)] else [])
    ++ (if c.st = .kDisconnecting then [Task.drainShutdownInLoop] else [])

theorem afterDrain_eq (c : Conn) : afterDrain c = { disableWriting c with pending := c.pending ++ drainQueues c } := by
  unfold afterDrain drainQueues
  simp only [drainShutdown_queued]
  by_cases h1 : c.hasWC = true <;> by_cases h2 : c.st = .kDisconnecting <;>
    simp [drainWC, drainShutdown, h1, h2, enqueue, disableWriting, setEvents]

/-- `handleWrite` runs, and the kernel takes the whole backlog -/
def drainsNow (c : Conn) : Bool :=
  c.ch.evWrite && (match peekWrite c with
    | .took (n+1) => decide (c.outBuf.length ≤ n+1)
    | _ => false)

theorem handleWrite_eq (c : Conn) : handleWrite c =
    if c.ch.evWrite = true then
      let c1 : Conn := { c with writes := c.writes.tail, starved := (c.starved || c.writes.isEmpty),
                                trace := c.trace ++ [.sysWrite c.outBuf.length (peekWrite c)],
                                wrote := c.wrote ++ c.outBuf.take (peekWrite c).taken,
                                outBuf := c.outBuf.drop (peekWrite c).taken }
      if drainsNow c = true then
        { disableWriting c1 with pending := c.pending ++ drainQueues c }
      else c1
    else c := by
  unfold handleWrite
  by_cases hw : c.ch.evWrite = true
  · rw [if_pos (show handleWriteActs c.ch.evWrite from hw), if_pos hw, popWrite_eq]
    cases hr : peekWrite c with
    | took n =>
      cases n with
      | zero => simp [handleWriteRes, emit, drainsNow, hr, WriteRes.taken]
      | succ n =>
        have hdr : drained (c.outBuf.drop (n+1)).length ↔ c.outBuf.length ≤ n + 1 := by
          rw [List.length_drop]; exact Nat.sub_eq_zero_iff_le
        simp only [handleWriteRes, emit, hdr, drainsNow, hw, hr, WriteRes.taken, Bool.true_and, decide_eq_true_eq]
        split
        · rw [afterDrain_eq]; rfl
        · rfl
    | err e => simp [handleWriteRes, emit, drainsNow, hr, WriteRes.taken]
  · rw [if_neg (show ¬ handleWriteActs c.ch.evWrite from hw), if_neg hw]

theorem drainsNow_interest {c : Conn} (h : drainsNow c = true) : c.ch.evWrite = true :=
  (Bool.and_eq_true _ _ ▸ h).1

theorem drop_taken_nil (c : Conn) (hw : c.ch.evWrite = true) :
    c.outBuf.drop (peekWrite c).taken = [] ↔ c.outBuf = [] ∨ drainsNow c = true := by
  unfold drainsNow
  cases peekWrite c with
  | took n =>
    cases n with
    | zero => simp [WriteRes.taken]
    | succ n =>
      simp only [WriteRes.taken, List.drop_eq_nil_iff, hw, Bool.true_and, decide_eq_true_eq]
      exact ⟨Or.inr, fun h => h.elim (fun h => by simp [h]) id⟩
  | err e => simp [WriteRes.taken]

theorem mem_drained {c : Conn} {t : Task} (h : t ∈ (if drainsNow c = true then drainQueues c else [])) :
    (∃ b, t = .writeComplete b) ∨ (t = .drainShutdownInLoop ∧ c.st = .kDisconnecting) := by
  unfold drainQueues at h
  split at h
  · rcases List.mem_append.mp h with h | h <;> split at h <;> simp_all
  · cases h

theorem SendStep.queue {c c' : Conn} {l : List Task} (h : SendStep c c' l) :
    c'.batch ++ c'.pending = (c.batch ++ c.pending) ++ l := by
  rw [h.batch, h.pending, List.append_assoc]

/-- `c'` is `c` after `handleWrite`, the stream fields aside: the queue gains what the drain path schedules, one
`write` result is consumed while write interest is on, and write interest goes off exactly when the backlog does -/
structure WriteStep (c c' : Conn) : Prop where
  step : SendStep c c' (if drainsNow c = true then drainQueues c else [])
  hooks : c'.hooks = c.hooks
  trace : c'.trace = c.trace ∨ c'.trace = c.trace ++ [.sysWrite c.outBuf.length (peekWrite c)]
  writes : c'.writes = if c.ch.evWrite = true then c.writes.tail else c.writes
  evWrite : c'.ch.evWrite = true ↔ c.ch.evWrite = true ∧ drainsNow c = false
  outBuf : c'.outBuf = [] ↔ c.outBuf = [] ∨ drainsNow c = true

theorem handleWrite_step (c : Conn) : WriteStep c (handleWrite c) := by
  have hns : ∀ t ∈ (if drainsNow c = true then drainQueues c else []), t.isSend = false := fun t ht => by
    rcases mem_drained ht with ⟨b, rfl⟩ | ⟨rfl, _⟩ <;> rfl
  rw [handleWrite_eq]
  by_cases hw : c.ch.evWrite = true
  · rw [if_pos hw]
    have hdrop := drop_taken_nil c hw
    by_cases hd : drainsNow c = true
    · rw [if_pos hd]
      exact ⟨⟨congrArg (c.pending ++ ·) (if_pos hd).symm, hns, rfl, rfl, rfl, rfl, rfl, rfl, rfl, rfl, rfl⟩, rfl,
        Or.inr rfl, (if_pos hw).symm, by simp [disableWriting, setEvents_evWrite, hd], hdrop⟩
    · rw [if_neg hd]
      exact ⟨.same (if_neg hd) rfl rfl rfl rfl rfl rfl rfl rfl rfl rfl, rfl, Or.inr rfl, (if_pos hw).symm,
        by simpa [hw] using hd, hdrop⟩
  · have hd : ¬ drainsNow c = true := by simp [drainsNow, hw]
    rw [if_neg hw]
    exact ⟨.same (if_neg hd) rfl rfl rfl rfl rfl rfl rfl rfl rfl rfl, rfl, Or.inl rfl, (if_neg hw).symm, by simp [hw],
      by simp [hd]⟩

theorem handleWrite_data (c : Conn) :
    (handleWrite c).wrote ++ (handleWrite c).outBuf = c.wrote ++ c.outBuf ∧ (handleWrite c).accepted = c.accepted ∧
      (handleWrite c).discarded = c.discarded ∧
      ((handleWrite c).writes = c.writes ∨ (handleWrite c).writes = c.writes.tail) := by
  rw [handleWrite_eq]
  split
  · split <;> exact ⟨by simp [disableWriting, setEvents], rfl, rfl, Or.inr rfl⟩
  · exact ⟨rfl, rfl, rfl, Or.inl rfl⟩

theorem handleEvent_pollout (c : Conn) (hd : c.dead = false) (ha : c.alive = false → c.ch.evWrite = false) :
    handleEvent c 4 = handleWrite c := by
  have h1 : ¬ dispClose 4 := by decide
  have h2 : ¬ dispRead 4 := by decide
  have h3 : dispWrite 4 := by decide
  have hw : c.ch.evWrite = false → handleWrite c = c := fun h => by rw [handleWrite_eq, if_neg (by simp [h])]
  simp only [handleEvent, guarded, h1, h2, h3, false_and, if_false, true_and, dispWriteSub, and_true, hd]
  cases hal : c.alive
  · exact (hw (ha hal)).symm
  · simp only [Bool.not_true, Bool.false_eq_true, if_false]
    split
    · rfl
    · exact (hw (by simpa using ‹¬ c.ch.evWrite = true›)).symm

def Conn.isUp (c : Conn) : Prop := c.st = .kConnected ∨ c.st = .kDisconnecting
instance (c : Conn) : Decidable c.isUp := by unfold Conn.isUp; infer_instance

theorem isUp_ne {c : Conn} (h : c.isUp) : c.st ≠ .kDisconnected := by
  unfold Conn.isUp at h; intro h'; rw [h'] at h; simp at h

theorem forceClose_queued (c : Conn) (f : Bool) :
    handOff c f forceCloseDispatch Task.forceCloseInLoop id = enqueue c .forceCloseInLoop := by
  unfold handOff; rw [if_pos]; simp [forceCloseDispatch]

theorem act_shutdown (c : Conn) (f : Bool) : act c f .shutdown =
    if c.st = .kConnected then enqueue { c with st := .kDisconnecting } .shutdownInLoop else c := by
  simp only [act, shutdown_queued]; rfl

theorem act_forceClose (c : Conn) (f : Bool) : act c f .forceClose =
    if c.isUp then enqueue { c with st := .kDisconnecting } .forceCloseInLoop else c := by
  simp only [act, forceClose_queued]; rfl

theorem shutdownInLoop_eq (c : Conn) : shutdownInLoop c =
    if c.ch.evWrite = false then { c with shutWr := true, trace := c.trace ++ [.sysShutdownWr] } else c := by
  unfold shutdownInLoop; cases c.ch.evWrite <;> simp [shutdownNow, emit]

theorem handleCloseOk_of_isUp {c : Conn} (hu : c.isUp) : handleCloseOk c = true := by
  unfold handleCloseOk; rcases hu with h | h <;> simp [h]

theorem handleClose_up (c : Conn) (hu : c.isUp) : handleClose c =
    let c1 := callback (disableAll { c with st := .kDisconnected }) .down .down
    { c1 with trace := c1.trace ++ [.closeCb], owner := false, pending := c1.pending ++ [.connectDestroyed] } := by
  unfold handleClose; rw [if_neg (by simp [handleCloseOk_of_isUp hu])]; rfl

theorem removeChannel_quiet (c : Conn) (hr : c.ch.evRead = false) (hw : c.ch.evWrite = false) :
    removeChannel c = { c with ch := chanRemove c.be c.ch, registered := false } := by
  unfold removeChannel; rw [if_neg (by simp [Chan.none, hr, hw])]

theorem connectDestroyed_up (c : Conn) (hu : c.isUp) :
    connectDestroyed c = removeChannel (callback (disableAll { c with st := .kDisconnected }) .down .down) := by
  unfold connectDestroyed; rw [if_pos (show destroyedWhileConnected c.st from hu)]

theorem connectDestroyed_down (c : Conn) (hd : c.st = .kDisconnected) : connectDestroyed c = removeChannel c := by
  unfold connectDestroyed; rw [if_neg (show ¬ destroyedWhileConnected c.st from fun hu => isUp_ne hu hd)]

theorem sendInLoop_down {c : Conn} {d : Bytes} {q : Bool} (hd : c.st = .kDisconnected) :
    sendInLoop c d q = emit c (.note "disconnected, give up writing") := by
  rw [sendInLoop_eq, if_pos hd]

theorem runTask_idle (c : Conn) (t : Task) (ha : c.alive = true) (hd : c.st = .kDisconnected) : runTask c t =
    match t with
    | .sendInLoop _ => emit c (.note "disconnected, give up writing")
    | .shutdownInLoop | .drainShutdownInLoop => shutdownInLoop c
    | .connectDestroyed => removeChannel c
    | .writeComplete b => callback c .wc (.wc (b.resolve c.wcId))
    | .highWater b n => callback c .hwm (.hwm (b.resolve c.hwmId) n)
    | .addDelayTimer d => { c with timers := c.timers ++ [d] }
    | .forceCloseInLoop | .startReadInLoop | .stopReadInLoop => c := by
  have hnu : ¬ c.isUp := fun hu => isUp_ne hu hd
  unfold runTask
  rw [if_neg (by simp [ha])]
  cases t with
  | sendInLoop d => exact sendInLoop_down hd
  | forceCloseInLoop => exact if_neg (show ¬ forceCloseInLoopActs c.st from hnu)
  | connectDestroyed => exact connectDestroyed_down c hd
  | startReadInLoop => exact if_neg (show ¬ startReadActs c.st c.reading c.ch.evRead from fun h => hnu h.1)
  | stopReadInLoop => exact if_neg (show ¬ stopReadActs c.st c.reading c.ch.evRead from fun h => hnu h.1)
  | _ => rfl

end MuduoVerif.Conn
