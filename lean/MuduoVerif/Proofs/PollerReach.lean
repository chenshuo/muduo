import MuduoVerif.Model.Poller
/-!
Every transition of the dispatch-engine model decomposes into three kinds of atomic moves:
a user operation (`applyOp`), a *frame* move (only `revents_`, the loop's own bookkeeping
and plumbing output change) and a guarded callback emission.  An invariant that is
stable under the three is stable under `step`/`run` (`PollerWalk.lean`).  Here: the classes of trace events, the
frame moves, and `Poller::poll` as one of them.
-/
namespace MuduoVerif.Poller
open MuduoVerif.Gen.Poller

def Ev.isCb : Ev → Bool
  | .cb .. => true
  | _ => false

def Ev.isAbort : Ev → Bool
  | .abort _ => true
  | _ => false

/-- the output a frame move may append: the `poll` call (always with the loop's constant
time-out), the growth of the result array, an environment violation, a failed assertion -/
def Ev.isPlumb : Ev → Prop
  | .wait _ t => t = kPollTimeMs
  | .grow _ => True
  | .badEnv => True
  | .abort _ => True
  | _ => False

/-- output of a back-end call: `epoll_ctl` results, their log lines, a failed assertion -/
def Ev.isBack : Ev → Bool
  | .ctl .. => true
  | .syserr => true
  | .fatal => true
  | .abort _ => true
  | _ => false

def Ev.isFatal : Ev → Bool
  | .fatal => true
  | .abort _ => true
  | _ => false

/-- a failed `epoll_ctl` and its log line -/
def Ev.isCtlFailure : Ev → Bool
  | .ctl _ _ _ .ok => false
  | .ctl .. => true
  | .syserr => true
  | .fatal => true
  | _ => false

def Ev.isFailure (e : Ev) : Bool := e.isCtlFailure || e.isAbort

/-- what an operation may append to the trace: its own report or rejection, and back-end output -/
def Ev.isUser : Ev → Bool
  | .op .. => true
  | .reject .. => true
  | e => e.isBack

def Ev.isCtlOk : Ev → Bool
  | .ctl _ _ _ .ok => true
  | _ => false

@[simp] theorem Ev.isCtlOk_ctl (op c mask : Nat) : (Ev.ctl op c mask .ok).isCtlOk = true := rfl

def Ev.isOp : Ev → Bool
  | .op .. => true
  | _ => false

/-! how the classes lie in each other: `isCtlOk ⊆ isBack ⊆ isUser`; `isPlumb`, `isUser`, `isCb` are the three
sources of trace events, pairwise disjoint but for `.abort`; `isOp ⊆ isUser`; `isFailure = isCtlFailure ∪ isAbort`
and `isFatal ⊆ isFailure` -/

theorem notCb_of_isPlumb {e : Ev} (h : e.isPlumb) : e.isCb = false := by
  cases e <;> first | rfl | exact h.elim

theorem notOp_of_isPlumb {e : Ev} (h : e.isPlumb) : e.isOp = false := by
  cases e <;> first | rfl | exact h.elim

theorem notCtlFailure_of_isPlumb {e : Ev} (h : e.isPlumb) : e.isCtlFailure = false := by
  cases e <;> first | rfl | exact h.elim

theorem notFatal_of_isPlumb {e : Ev} (h : e.isPlumb) (ha : e.isAbort = false) : e.isFatal = false := by
  cases e <;> first | rfl | exact ha | exact h.elim

theorem isUser_of_isBack {e : Ev} (h : e.isBack = true) : e.isUser = true := by
  cases e <;> first | rfl | exact h

theorem notOp_of_isBack {e : Ev} (h : e.isBack = true) : e.isOp = false := by
  cases e <;> first | rfl | cases h

theorem notCb_of_isUser {e : Ev} (h : e.isUser = true) : e.isCb = false := by
  cases e <;> first | rfl | cases h

theorem notFailure_of_isCtlOk {e : Ev} (h : e.isCtlOk = true) : e.isFailure = false := by
  cases e with
  | ctl op c m r => cases r <;> first | rfl | cases h
  | _ => cases h

theorem notCtlFailure_of_notFailure {e : Ev} (h : e.isFailure = false) : e.isCtlFailure = false :=
  (Bool.or_eq_false_iff.1 h).1

theorem notFatal_of_notFailure {e : Ev} (h : e.isFailure = false) : e.isFatal = false := by
  cases e <;> first | rfl | cases h

/-- `t` differs from `s` only in `revents_`, loop bookkeeping, and appended plumbing output -/
structure Frame (s t : State) : Prop where
  be : t.be = s.be
  cmap : t.cmap = s.cmap
  pollfds : t.pollfds = s.pollfds
  kernel : t.kernel = s.kernel
  ev : ∀ c, (t.chans c).events = (s.chans c).events
  idx : ∀ c, (t.chans c).index = (s.chans c).index
  added : ∀ c, (t.chans c).added = (s.chans c).added
  dead : t.dead = false → s.dead = false
  out : ∃ l, t.out = s.out ++ l ∧ (∀ e ∈ l, e.isPlumb) ∧ (t.dead = false → ∀ e ∈ l, e.isAbort = false)

/-- `Poller::poll` leaves the loop's own bookkeeping alone -/
structure SameBook (s t : State) : Prop where
  hooks : t.hooks = s.hooks
  handling : t.handling = s.handling
  cur : t.cur = s.cur
  active : t.active = s.active
  iteration : t.iteration = s.iteration

/-- the emission of a callback event, as `stage` does it -/
def CbStep (s t : State) : Prop :=
  ∃ c k, s.dead = false ∧ disp k (s.chans c).revents ∧ subscribed k (s.chans c).events ∧
    t = emit s (.cb c k (s.chans c).revents (s.chans c).events)

theorem frame_loop (s : State) (hooks : List Hook) (cur : Option Nat) (it : Nat) (act : List Nat) (h : Bool) :
    Frame s { s with hooks := hooks, cur := cur, iteration := it, active := act, handling := h } :=
  ⟨rfl, rfl, rfl, rfl, fun _ => rfl, fun _ => rfl, fun _ => rfl, id, [], by simp, by simp, by simp⟩

theorem Frame.rfl' (s : State) : Frame s s := frame_loop s s.hooks s.cur s.iteration s.active s.handling

theorem frame_emit (s : State) (e : Ev) (h : e.isPlumb) (ha : e.isAbort = false) : Frame s (emit s e) :=
  ⟨rfl, rfl, rfl, rfl, fun _ => rfl, fun _ => rfl, fun _ => rfl, id, [e], rfl,
    fun _ he => List.mem_singleton.1 he ▸ h, fun _ _ he => List.mem_singleton.1 he ▸ ha⟩

theorem frame_abort (s : State) (w : String) : Frame s (abort s w) :=
  ⟨rfl, rfl, rfl, rfl, fun _ => rfl, fun _ => rfl, fun _ => rfl, nofun, [.abort w], rfl,
    fun _ he => List.mem_singleton.1 he ▸ trivial, nofun⟩

theorem frame_revents (s : State) (c r) : Frame s (setChan s c { s.chans c with revents := r }) := by
  refine ⟨rfl, rfl, rfl, rfl, ?_, ?_, ?_, id, [], (List.append_nil _).symm, by simp, by simp⟩ <;>
  · intro x; simp only [setChan]; split <;> simp_all

theorem Frame.trans {a b c : State} (f : Frame a b) (g : Frame b c) : Frame a c := by
  obtain ⟨l1, h1, n1, d1⟩ := f.out
  obtain ⟨l2, h2, n2, d2⟩ := g.out
  exact ⟨g.be.trans f.be, g.cmap.trans f.cmap, g.pollfds.trans f.pollfds, g.kernel.trans f.kernel,
    fun c => (g.ev c).trans (f.ev c), fun c => (g.idx c).trans (f.idx c),
    fun c => (g.added c).trans (f.added c), fun h => f.dead (g.dead h),
    l1 ++ l2, by rw [h2, h1, List.append_assoc], List.forall_mem_append.2 ⟨n1, n2⟩,
    fun hd => List.forall_mem_append.2 ⟨d1 (g.dead hd), d2 hd⟩⟩

/-- `t` has the back-end, the poller's tables, the kernel's interest list, the channel objects and the liveness of `s`;
the loop's bookkeeping, `evsize` and the output may differ -/
structure Same (s t : State) : Prop where
  be : t.be = s.be
  cmap : t.cmap = s.cmap
  pollfds : t.pollfds = s.pollfds
  kernel : t.kernel = s.kernel
  chans : t.chans = s.chans
  dead : t.dead = s.dead

theorem CbStep.same {s t : State} (h : CbStep s t) : Same s t := by
  obtain ⟨c, k, _, _, _, rfl⟩ := h
  exact ⟨rfl, rfl, rfl, rfl, rfl, rfl⟩

/-- the moves of `fillActiveChannels`: frame moves that leave the loop's bookkeeping and the size of
the result array alone -/
structure Fill (s t : State) : Prop where
  frame : Frame s t
  book : SameBook s t
  evsize : t.evsize = s.evsize

theorem Fill.rfl' (s : State) : Fill s s := ⟨Frame.rfl' s, ⟨rfl, rfl, rfl, rfl, rfl⟩, rfl⟩

theorem Fill.trans {a b c : State} (f : Fill a b) (g : Fill b c) : Fill a c :=
  ⟨f.frame.trans g.frame, ⟨g.book.hooks.trans f.book.hooks, g.book.handling.trans f.book.handling,
    g.book.cur.trans f.book.cur, g.book.active.trans f.book.active, g.book.iteration.trans f.book.iteration⟩,
    g.evsize.trans f.evsize⟩

theorem fill_emit (s : State) (e : Ev) (h : e.isPlumb) (ha : e.isAbort = false) : Fill s (emit s e) :=
  ⟨frame_emit s e h ha, ⟨rfl, rfl, rfl, rfl, rfl⟩, rfl⟩

theorem fill_wait (s : State) (n : Nat) : Fill s (emit s (.wait n kPollTimeMs)) :=
  fill_emit s _ (by simp [Ev.isPlumb]) rfl

theorem fill_abort (s : State) (w : String) : Fill s (abort s w) :=
  ⟨frame_abort s w, ⟨rfl, rfl, rfl, rfl, rfl⟩, rfl⟩

theorem fill_revents (s : State) (c r) : Fill s (setChan s c { s.chans c with revents := r }) :=
  ⟨frame_revents s c r, ⟨rfl, rfl, rfl, rfl, rfl⟩, rfl⟩

/-- the `revents` field `PollPoller::fillActiveChannels` sees in entry `pfd` -/
def pollRev (ready : List (Nat × Nat)) (pfd : Int × Nat) : Nat :=
  if pfd.1 < 0 then 0 else lookupRev ready pfd.1.toNat

theorem pollFill_cons (s : State) (ready) (pfd : Int × Nat) (rest) (n : Nat) (acc) :
    pollFill s ready (pfd :: rest) (n + 1) acc =
      if pollActive (pollRev ready pfd : Int) then
        match s.cmap pfd.1 with
        | none => (abort s "ch != channels_.end()", acc.reverse)
        | some c => pollFill (setChan s c { s.chans c with revents := pollRev ready pfd }) ready rest n (c :: acc)
      else pollFill s ready rest (n + 1) acc := by
  rfl

theorem fill_pollFill (ready : List (Nat × Nat)) (pfds : List (Int × Nat)) :
    ∀ (s : State) (n : Nat) (acc : List Nat), Fill s (pollFill s ready pfds n acc).1 := by
  induction pfds with
  | nil => intro s n acc; simp only [pollFill]; exact Fill.rfl' s
  | cons pfd rest ih =>
    intro s n acc
    cases n with
    | zero => simp only [pollFill]; exact Fill.rfl' s
    | succ n =>
      rw [pollFill_cons]
      split
      · cases hc : s.cmap pfd.1 with
        | none => exact fill_abort s _
        | some c => exact (fill_revents s _ _).trans (ih _ _ _)
      · exact ih _ _ _

theorem fill_epollFill (ready : List (Nat × Nat)) :
    ∀ (s : State) (acc : List Nat), Fill s (epollFill s ready acc).1 := by
  induction ready with
  | nil => intro s acc; simp only [epollFill]; exact Fill.rfl' s
  | cons p rest ih =>
    intro s acc
    obtain ⟨c, rev⟩ := p
    simp only [epollFill]
    split
    · exact fill_abort s _
    · exact (fill_revents s _ _).trans (ih _ _)

theorem Fill.move {s t : State} (h : Fill s t) : Frame s t ∧ SameBook s t := ⟨h.frame, h.book⟩

theorem pollerPoll_move (s : State) (ready) (nret) :
    Frame s (pollerPoll s ready nret).1 ∧ SameBook s (pollerPoll s ready nret).1 := by
  unfold pollerPoll
  cases s.be with
  | poll =>
    simp only
    split
    · exact ((fill_wait s _).trans (fill_pollFill _ _ _ _ _)).move
    · exact (fill_wait s _).move
  | epoll =>
    simp only
    split
    · split
      · exact (((fill_wait s _).trans (fill_emit _ .badEnv (by simp [Ev.isPlumb]) rfl)).trans (fill_abort _ _)).move
      · have h := (fill_wait s s.evsize).trans (fill_epollFill ready _ [])
        generalize epollFill (emit s (.wait s.evsize kPollTimeMs)) ready [] = p at h
        obtain ⟨s1, act⟩ := p
        simp only at h ⊢
        split
        · exact ⟨h.frame.trans ⟨rfl, rfl, rfl, rfl, fun _ => rfl, fun _ => rfl, fun _ => rfl, id,
              [.grow (epGrowTo s1.evsize)], rfl, by simp [Ev.isPlumb], by simp [Ev.isAbort]⟩,
            ⟨h.book.hooks, h.book.handling, h.book.cur, h.book.active, h.book.iteration⟩⟩
        · exact h.move
    · exact (fill_wait s _).move

theorem frame_pollerPoll (s : State) (ready) (nret) : Frame s (pollerPoll s ready nret).1 :=
  (pollerPoll_move s ready nret).1

theorem sameBook_pollerPoll (s : State) (ready) (nret) : SameBook s (pollerPoll s ready nret).1 :=
  (pollerPoll_move s ready nret).2

theorem stage_eq (k : Kind) (s : State) (c : Nat) :
    stage k s c =
      if s.dead = false ∧ disp k (s.chans c).revents ∧ subscribed k (s.chans c).events then fire s c k else s := by
  unfold stage
  cases s.dead <;> simp

theorem iter_eq (s : State) (ready) (nret) :
    iter s ready nret =
      if s.dead then s
      else if (pollerPoll s ready nret).1.dead then (pollerPoll s ready nret).1
      else
        { dispatch { (pollerPoll s ready nret).1 with
              iteration := (pollerPoll s ready nret).1.iteration + 1,
              active := (pollerPoll s ready nret).2, handling := true } (pollerPoll s ready nret).2
          with cur := none, handling := false } := by
  unfold iter
  cases s.dead <;> rfl

/-! ### histories whose inputs satisfy a state-dependent admissibility condition -/

def Along (Q : State → In → Prop) : State → List In → Prop
  | _, [] => True
  | s, i :: rest => Q s i ∧ Along Q (step s i) rest

instance decAlong {Q : State → In → Prop} [∀ s i, Decidable (Q s i)] :
    ∀ (s : State) (ins : List In), Decidable (Along Q s ins)
  | _, [] => isTrue trivial
  | s, i :: rest => @instDecidableAnd _ _ _ (decAlong (step s i) rest)

end MuduoVerif.Poller
