import MuduoVerif.Model.TzFile
import MuduoVerif.Proofs.Buffer
/-!
Lemmas about the zone-file reader (`Model/TzFile.lean`, C20).

The parameters of the reader (`Gen.TzFileSkel.*`) are unfolded here: the proofs are re-checked against whatever the
source says now (a changed width, a dropped sign extension, another reader for the transition times, a changed skip
breaks them).
-/
namespace MuduoVerif.TzFile
open MuduoVerif.TzFileSkel
open MuduoVerif.Gen.TzFileSkel (readInt32 readUInt8 readBytesArgTy skipArgTy magicLen versionLen reservedLen
  headerCountReader headerCountTy headerCounts isV2 v1BlockSkip magic2Len badHead2 badHead2Msg header2Skip v2BranchV1
  rewind v1BranchV1 blockCountReader blockCountTy blockCounts rejectLeap rejectIsut rejectIsstd timeReader timeElemTy
  timeConvs idxReader idxVarTy idxElemTy ttinfoReaders ttinfo transIdxTys transTimeTy blockSkips readsFooter)
open MuduoVerif.Buffer (Bytes decodeBE intBytes toUnsigned decode_encodeBE intBytes_length toUnsigned_lt pow256
  decodeBE_cons decodeBE_lt)
open MuduoVerif.Zone (LocalTime Transition Data)

theorem two_pow_pred (k : Nat) (hk : 0 < k) : (2 ^ k : Int) = 2 * 2 ^ (k - 1) := by
  rw [← Int.pow_succ', Nat.sub_add_cancel hk]

theorem conv_signed (bits : Nat) (hb : 0 < bits) (v r k : Int) (hv : v = r + k * 2 ^ bits)
    (hlo : -(2 ^ (bits - 1) : Int) ≤ r) (hhi : r < (2 ^ (bits - 1) : Int)) : conv ⟨bits, true⟩ v = r := by
  have hp := two_pow_pred bits hb
  subst hv
  unfold conv
  simp only [true_and, Int.add_mul_emod_self_right]
  by_cases h0 : 0 ≤ r
  · rw [Int.emod_eq_of_lt h0 (by omega)]; split <;> omega
  · rw [← Int.add_emod_right, Int.emod_eq_of_lt (by omega) (by omega)]; split <;> omega

theorem conv_id_signed (bits : Nat) (hb : 0 < bits) (v : Int)
    (hlo : -(2 ^ (bits - 1) : Int) ≤ v) (hhi : v < (2 ^ (bits - 1) : Int)) : conv ⟨bits, true⟩ v = v :=
  conv_signed bits hb v v 0 (by omega) hlo hhi

theorem conv_id_unsigned (bits : Nat) (v : Int) (hlo : 0 ≤ v) (hhi : v < (2 ^ bits : Int)) :
    conv ⟨bits, false⟩ v = v := by
  unfold conv
  simp [Int.emod_eq_of_lt hlo hhi]

theorem conv_decode_intBytes (n : Nat) (hn : 0 < n) (v : Int)
    (hlo : -(2 ^ (8 * n - 1) : Int) ≤ v) (hhi : v < (2 ^ (8 * n - 1) : Int)) :
    conv ⟨8 * n, true⟩ (decodeBE (intBytes n v)) = v := by
  unfold intBytes
  rw [decode_encodeBE _ _ (by rw [pow256]; exact toUnsigned_lt _ _), toUnsigned,
    Int.toNat_of_nonneg (Int.emod_nonneg v (Int.ne_of_gt (Int.pow_pos (by decide))))]
  exact conv_signed _ (by omega) _ v (-(v / 2 ^ (8 * n))) (by rw [Int.neg_mul, Int.emod_def, Int.mul_comm]; omega) hlo hhi

theorem half_range (m : Nat) : (2 ^ (8 * (m + 1) - 1) : Int) = (128 * 256 ^ m : Nat) := by
  rw [show 8 * (m + 1) - 1 = 7 + 8 * m by omega, Int.pow_add, Int.pow_mul]; simp

theorem conv_top (n : Nat) (bs : Bytes) (hl : bs.length = n) (htop : 128 ≤ (bs.headD 0).toNat) :
    conv ⟨8 * n, true⟩ (decodeBE bs) = (decodeBE bs : Int) - 2 ^ (8 * n) ∧
    -(2 ^ (8 * n - 1) : Int) ≤ (decodeBE bs : Int) - 2 ^ (8 * n) ∧ (decodeBE bs : Int) - 2 ^ (8 * n) < 0 := by
  have hlt := decodeBE_lt bs
  match bs, htop with
  | b :: bs, htop =>
    subst hl
    have hp := two_pow_pred (8 * (bs.length + 1)) (by omega)
    have hq := half_range bs.length
    have hge := Nat.mul_le_mul_right (256 ^ bs.length) htop
    rw [pow256] at hlt
    rw [decodeBE_cons] at hlt ⊢
    simp only [List.length_cons, List.headD_cons] at hge hlt ⊢
    have hlt' : ((b.toNat * 256 ^ bs.length + decodeBE bs : Nat) : Int) < 2 ^ (8 * (bs.length + 1)) := by exact_mod_cast hlt
    refine ⟨conv_signed _ (by omega) _ _ 1 (by omega) ?_ ?_, ?_, ?_⟩ <;> omega

namespace File

/-- the file `pre ++ rest` with `pre` already read -/
def «at» (pre rest : Bytes) : File := ⟨pre ++ rest, pre.length⟩

theorem peek_at (pre bs rest : Bytes) : (File.at pre (bs ++ rest)).peek bs.length = bs := by
  simp [File.at, peek]

theorem at_step (pre bs rest : Bytes) :
    ({ File.at pre (bs ++ rest) with pos := (File.at pre (bs ++ rest)).pos + bs.length } : File) = File.at (pre ++ bs) rest := by
  simp [File.at]

/-- a reader that swaps (or reads a single byte) delivers the big-endian number, converted to its return type -/
theorem readInt_at (r : Reader) (hs : r.swapBits ≠ 0 ∨ r.bytes = 1) (pre bs rest : Bytes) (h : bs.length = r.bytes) :
    (File.at pre (bs ++ rest)).readInt r = .ok (conv r.ret (decodeBE bs), File.at (pre ++ bs) rest) := by
  have hr : r.swapBits = 0 → bs.reverse = bs := fun h0 => by
    match bs, h.trans (hs.resolve_left (· h0)) with
    | [_], _ => rfl
  unfold readInt
  rw [← h, peek_at, at_step, if_pos rfl]
  by_cases h0 : r.swapBits = 0
  · simp only [h0, if_true, hr h0]
  · simp only [h0, if_false]

theorem readInt_intBytes (r : Reader) (n : Nat) (hr : r.bytes = n ∧ r.swapBits ≠ 0 ∧ r.ret = ⟨8 * n, true⟩) (hn : 0 < n)
    (pre rest : Bytes) (v : Int) (hlo : -(2 ^ (8 * n - 1) : Int) ≤ v) (hhi : v < (2 ^ (8 * n - 1) : Int)) :
    (File.at pre (intBytes n v ++ rest)).readInt r = .ok (v, File.at (pre ++ intBytes n v) rest) := by
  rw [readInt_at r (.inl hr.2.1) _ _ _ ((intBytes_length n v).trans hr.1.symm), hr.2.2, conv_decode_intBytes n hn v hlo hhi]

theorem readInt32_at (pre rest : Bytes) (v : Int) (hlo : -(2 ^ 31 : Int) ≤ v) (hhi : v < (2 ^ 31 : Int)) :
    (File.at pre (intBytes 4 v ++ rest)).readInt readInt32 = .ok (v, File.at (pre ++ intBytes 4 v) rest) :=
  readInt_intBytes readInt32 4 (by decide) (by decide) pre rest v hlo hhi

theorem readUInt8_at (pre rest : Bytes) (n : Nat) (h : n < 256) :
    (File.at pre (UInt8.ofNat n :: rest)).readInt readUInt8 = .ok ((n : Int), File.at (pre ++ [UInt8.ofNat n]) rest) := by
  have := readInt_at readUInt8 (.inr rfl) pre [UInt8.ofNat n] rest rfl
  rw [List.singleton_append] at this
  rw [this]
  have : (UInt8.ofNat n).toNat = n := by simp [UInt8.toNat_ofNat']; omega
  simp [decodeBE, this, readUInt8, conv_id_unsigned 8 n (by omega) (by omega)]

theorem readBytes_at (pre bs rest : Bytes) (n : Int) (hn : n = bs.length) (hlt : bs.length < 2 ^ 31)
    (hpos : 0 < bs.length) :
    (File.at pre (bs ++ rest)).readBytes n = .ok (bs, File.at (pre ++ bs) rest) := by
  subst hn
  unfold readBytes
  simp only [show conv readBytesArgTy bs.length = bs.length from conv_id_signed 32 (by decide) _ (by omega) (by omega),
    Int.toNat_natCast, peek_at, at_step]
  rw [if_neg (by omega), if_pos trivial]

theorem skip_eq (f : File) (k : Int) (h0 : -(2 ^ 63 : Int) ≤ k) (h1 : k < 2 ^ 63) (hp : 0 ≤ f.pos + k) :
    f.skip k = { f with pos := (f.pos + k).toNat } := by
  unfold skip
  simp only [show conv skipArgTy k = k from conv_id_signed 64 (by decide) _ h0 h1]
  rw [if_neg (by omega)]

theorem skip_at (pre bs rest : Bytes) (k : Int) (hk : k = bs.length) (h : bs.length < 2 ^ 63) :
    (File.at pre (bs ++ rest)).skip k = File.at (pre ++ bs) rest := by
  subst hk
  rw [skip_eq _ _ (by omega) (by omega) (by omega)]
  simp only [File.at, List.length_append, List.append_assoc]
  congr 1

theorem skip_back (pre bs rest : Bytes) (k : Int) (hk : k = -(bs.length : Int)) (h : bs.length < 2 ^ 63) :
    (File.at (pre ++ bs) rest).skip k = File.at pre (bs ++ rest) := by
  subst hk
  rw [skip_eq _ _ (by omega) (by omega) (by simp [File.at]; omega)]
  simp only [File.at, List.length_append, List.append_assoc]
  congr 1
  omega

end File

/-- The three loops of `readDataBlock` follow one scheme: `rd (k+1)` runs `step`, then `rd k`, and puts `g` of the value
read in front. -/
def IsLoop {β γ : Type} (rd : Nat → File → R (List β × File)) (step : File → R (γ × File)) (g : γ → β) : Prop :=
  (∀ f, rd 0 f = .ok ([], f)) ∧
  ∀ k f, rd (k + 1) f = (do let (x, f) ← step f; let (xs, f) ← rd k f; pure (g x :: xs, f))

theorem readTimes_loop (v1 : Bool) : IsLoop (readTimes v1) (·.readInt (timeReader v1))
    (fun t => conv timeElemTy ((timeConvs v1).foldl (fun v ty => conv ty v) t)) := ⟨fun _ => rfl, fun _ _ => rfl⟩

theorem readIdxs_loop : IsLoop readIdxs (·.readInt idxReader) (fun i => conv idxElemTy (conv idxVarTy i)) :=
  ⟨fun _ => rfl, fun _ _ => rfl⟩

theorem readTypes_loop : IsLoop readTypes (readMany · ttinfoReaders) mkLocalTime := ⟨fun _ => rfl, fun _ _ => rfl⟩

/-- Over the encodings of `xs`, one after the other, a loop delivers what its step delivers on each. -/
theorem loop_at {α β γ : Type} {rd : Nat → File → R (List β × File)} {step : File → R (γ × File)} {g : γ → β}
    (hl : IsLoop rd step g)
    (enc : α → Bytes) (out : α → β) (xs : List α)
    (hx : ∀ x ∈ xs, ∀ pre rest, ∃ y, step (File.at pre (enc x ++ rest)) = .ok (y, File.at (pre ++ enc x) rest) ∧ g y = out x)
    (pre rest : Bytes) :
    rd xs.length (File.at pre (xs.flatMap enc ++ rest)) = .ok (xs.map out, File.at (pre ++ xs.flatMap enc) rest) := by
  induction xs generalizing pre with
  | nil => simp [hl.1]
  | cons x xs ih =>
    obtain ⟨y, hy, hg⟩ := hx x (by simp) pre (xs.flatMap enc ++ rest)
    simp only [List.length_cons, hl.2, List.flatMap_cons, List.append_assoc, hy, bind, Except.bind,
      ih (fun a ha => hx a (by simp [ha])) (pre ++ enc x), pure, Except.pure, hg, List.map_cons]

theorem readTimes_at (v1 : Bool) (size : Nat) (hsz : size = if v1 then 4 else 8) (ts : List Int)
    (hr : ∀ t ∈ ts, -(2 ^ (8 * size - 1) : Int) ≤ t ∧ t < (2 ^ (8 * size - 1) : Int)) (pre rest : Bytes) :
    readTimes v1 ts.length (File.at pre (ts.flatMap (intBytes size) ++ rest))
      = .ok (ts, File.at (pre ++ ts.flatMap (intBytes size)) rest) := by
  subst hsz
  refine (loop_at (readTimes_loop v1) _ id ts (fun t ht pre rest => ⟨t, ?_, ?_⟩) pre rest).trans (by rw [List.map_id])
  · exact File.readInt_intBytes _ _ (by cases v1 <;> decide) (by cases v1 <;> decide) pre rest t (hr t ht).1 (hr t ht).2
  · have := hr t ht
    cases v1 <;> simp only [Bool.false_eq_true, if_false, if_true] at this <;>
      simp (disch := omega) only [timeConvs, timeElemTy, List.foldl_cons, List.foldl_nil, Bool.false_eq_true, if_false, if_true,
        conv_id_signed, id]

theorem readIdxs_at (is : List Nat) (hr : ∀ i ∈ is, i < 256) (pre rest : Bytes) :
    readIdxs is.length (File.at pre (is.map UInt8.ofNat ++ rest))
      = .ok (is.map Int.ofNat, File.at (pre ++ is.map UInt8.ofNat) rest) := by
  have := loop_at readIdxs_loop (fun i => [UInt8.ofNat i]) Int.ofNat is (fun i hi pre rest =>
      ⟨i, File.readUInt8_at pre rest i (hr i hi), by
        have := hr i hi
        rw [show conv idxVarTy (i : Int) = i from conv_id_unsigned 8 _ (by omega) (by omega)]
        exact conv_id_signed 32 (by decide) _ (by omega) (by omega)⟩) pre rest
  rwa [← List.map_eq_flatMap] at this

theorem readTypes_at (b : Block)
    (hr : ∀ t ∈ b.types, -(2 ^ 31 : Int) ≤ t.utoff ∧ t.utoff < (2 ^ 31 : Int) ∧ t.abbrind < 256) (pre rest : Bytes) :
    readTypes b.types.length (File.at pre (b.types.flatMap encType ++ rest))
      = .ok (b.table.localtimes.toList, File.at (pre ++ b.types.flatMap encType) rest) :=
  loop_at readTypes_loop encType _ b.types (fun t ht pre rest => by
      obtain ⟨h1, h2, h3⟩ := hr t ht
      refine ⟨[t.utoff, ((if t.isdst then 1 else 0 : Nat) : Int), (t.abbrind : Int)], ?_, by
        cases t; simp [mkLocalTime, ttinfo]⟩
      have hd : (if t.isdst = true then (1 : UInt8) else 0) = UInt8.ofNat (if t.isdst then 1 else 0) := by
        cases t.isdst <;> rfl
      simp only [ttinfoReaders, readMany, encType, List.append_assoc, List.cons_append, List.nil_append, hd,
        File.readInt32_at _ _ _ h1 h2, File.readUInt8_at _ _ _ (show (if t.isdst then 1 else 0) < 256 by split <;> omega),
        File.readUInt8_at _ _ _ h3, bind, Except.bind, pure, Except.pure]) pre rest

theorem addTransitions_ok (b : Block) (hi : ∀ i ∈ b.idxs, i < b.types.length ∧ i < 256)
    (ht : ∀ t ∈ b.times, -(2 ^ 63 : Int) ≤ t ∧ t < (2 ^ 63 : Int)) :
    addTransitions b.table.localtimes.toList b.times (b.idxs.map Int.ofNat) = .ok b.table.transitions.toList := by
  obtain ⟨ts, is, tys, _, _, _⟩ := b
  simp only [Block.table] at hi ht ⊢
  induction ts generalizing is with
  | nil => cases is <;> rfl
  | cons t ts ih =>
    cases is with
    | nil => rfl
    | cons i is =>
      obtain ⟨hi1, hi2⟩ := hi i (by simp)
      obtain ⟨ht1, ht2⟩ := ht t (by simp)
      simp (disch := omega) only [List.map_cons, addTransitions, transIdx, transIdxTys, transTimeTy, List.foldl_cons,
        List.foldl_nil, Int.ofNat_eq_natCast, conv_id_signed, Int.toNat_natCast, List.length_map]
      rw [if_pos ⟨by omega, hi1⟩, ih is (fun x hx => hi x (by simp [hx])) (fun x hx => ht x (by simp [hx]))]
      simp [bind, Except.bind, pure, Except.pure, Gen.Zone.shiftedLocal, List.getD_eq_getElem?_getD, List.getElem?_map,
        List.getElem?_eq_getElem hi1]

/-- the counters of a block, as the header carries them -/
def countsBytes (b : Block) : Bytes :=
  be32 b.isut.length ++ (be32 b.isstd.length ++ (be32 0 ++ (be32 b.times.length ++ (be32 b.types.length ++ be32 b.chars.length))))

theorem countsBytes_length (b : Block) : (countsBytes b).length = 24 := by
  simp [countsBytes, be32, intBytes_length]

theorem Block.WF.ind_lt {size : Nat} {b : Block} (hb : b.WF size) : b.isstd.length < 2 ^ 27 ∧ b.isut.length < 2 ^ 27 := by
  have := hb.typecnt
  constructor
  · rcases hb.isstd with h | h <;> omega
  · rcases hb.isut with h | h <;> omega

theorem readCounts_at {size : Nat} {b : Block} (hb : b.WF size) (mk : Int → Int → Int → Int → Int → Int → Counts)
    (pre rest : Bytes) :
    readCounts (File.at pre (countsBytes b ++ rest)) readInt32 ⟨32, true⟩ mk
      = .ok (mk b.isut.length b.isstd.length 0 b.times.length b.types.length b.chars.length,
          File.at (pre ++ countsBytes b) rest) := by
  obtain ⟨hs, hu⟩ := hb.ind_lt
  have := hb.timecnt; have := hb.typecnt; have := hb.charcnt
  have rd : ∀ (n : Nat) pre rest, n < 2 ^ 27 → (File.at pre (be32 n ++ rest)).readInt readInt32 =
      .ok ((n : Int), File.at (pre ++ be32 n) rest) := fun n pre rest h => File.readInt32_at pre rest n (by omega) (by omega)
  have cv : ∀ n : Nat, n < 2 ^ 27 → conv ⟨32, true⟩ (n : Int) = n := fun n h =>
    conv_id_signed 32 (by decide) _ (by omega) (by omega)
  simp (disch := omega) only [readCounts, countsBytes, List.append_assoc, rd, cv, bind, Except.bind, pure, Except.pure]
  rfl

/-- behind the designations: the skips of a block without leap seconds, then the rest of the file -/
theorem skips_readToEnd (P tl : Bytes) (a b : Nat) (ha : a < 2 ^ 31) (hb : b < 2 ^ 31) (d e g x : Int) :
    ((blockSkips ⟨b, a, 0, d, e, g⟩ x).foldl File.skip (File.at P tl)).readToEnd = tl.drop (a + b) := by
  simp only [blockSkips, List.foldl_cons, List.foldl_nil, Int.zero_mul]
  rw [File.skip_eq _ 0 (by omega) (by omega) (by omega), File.skip_eq _ a (by omega) (by omega) (by simp; omega),
    File.skip_eq _ b (by omega) (by omega) (by simp; omega)]
  simp only [File.at, File.readToEnd, Int.add_zero, Int.toNat_natCast, ← Int.natCast_add, Nat.add_assoc,
    List.drop_length_add_append]

theorem essential_length (size : Nat) (b : Block) (h : b.idxs.length = b.times.length) :
    (essential size b).length = size * b.times.length + b.times.length + 6 * b.types.length + b.chars.length := by
  have h1 : ∀ ts : List Int, (ts.flatMap (intBytes size)).length = size * ts.length := fun ts => by
    induction ts with
    | nil => rfl
    | cons t ts ih => simp [intBytes_length, ih, Nat.mul_succ]; omega
  have h2 : ∀ ts : List TType, (ts.flatMap encType).length = 6 * ts.length := fun ts => by
    induction ts with
    | nil => rfl
    | cons t ts ih => simp [encType, intBytes_length, ih]; omega
  simp [essential, h1, h2, h]
  omega

/-- **`readDataBlock` on a well-formed block**, positioned at the counters, whatever follows the designations: the
table the block describes; the standard/wall and UT/local indicators are skipped by their counts; the footer is what
lies behind them (64-bit block only). -/
theorem dataBlock_at (v1 : Bool) (size : Nat) (hsz : size = if v1 then 4 else 8) (b : Block) (hb : b.WF size) (pre tl : Bytes) :
    dataBlock (File.at pre (countsBytes b ++ (essential size b ++ tl))) v1
      = .ok { data := b.table, abbreviation := b.chars,
              tzstring := if v1 then [] else tl.drop (b.isstd.length + b.isut.length),
              consumed := (pre ++ (countsBytes b ++ essential size b)).length } := by
  obtain ⟨hs, hu⟩ := hb.ind_lt
  have htc := hb.timecnt
  have hyc := hb.typecnt
  have hcc := hb.charcnt
  have h64 : ∀ t ∈ b.times, -(2 ^ 63 : Int) ≤ t ∧ t < (2 ^ 63 : Int) := fun t ht => by
    have := hb.times t ht
    subst hsz
    cases v1 <;> simp at this <;> omega
  unfold dataBlock
  -- one reader after the other: each `rw` puts its result in, the `simp only []` behind it opens the `match` on the pair
  rw [show blockCountReader = readInt32 from rfl, show blockCountTy = (⟨32, true⟩ : IntTy) from rfl, readCounts_at hb]
  have r2 : ¬ ((b.isut.length : Int) ≠ 0 ∧ (b.isut.length : Int) ≠ b.types.length) := by rcases hb.isut with h | h <;> omega
  have r3 : ¬ ((b.isstd.length : Int) ≠ 0 ∧ (b.isstd.length : Int) ≠ b.types.length) := by rcases hb.isstd with h | h <;> omega
  have r4 : ¬ ((b.times.length : Int) < 0) := by omega
  have r5 : ¬ ((b.types.length : Int) < 0) := by omega
  simp only [bind, Except.bind, blockCounts, rejectLeap, rejectIsut, rejectIsstd, ne_eq, not_true_eq_false, r2, r3, r4, r5, if_false, Int.toNat_natCast, essential, List.append_assoc, readTimes_at v1 size hsz b.times hb.times]
  rw [← hb.idxLen, readIdxs_at b.idxs (fun i h => (hb.idxs i h).2)]
  simp only []
  rw [readTypes_at b hb.types]
  simp only []
  rw [addTransitions_ok b hb.idxs h64]
  simp only []
  rw [File.readBytes_at _ _ _ _ (by rfl) (by omega) hb.charpos]
  simp only [pure, Except.pure, skips_readToEnd _ _ _ _ (by omega : b.isstd.length < 2 ^ 31) (by omega : b.isut.length < 2 ^ 31)]
  congr 2
  · cases v1 <;> simp [readsFooter]
  · simp [File.at]

/-- magic, version, reserved bytes -/
def hdr20 (ver : UInt8) : Bytes := [84, 90, 105, 102] ++ ([ver] ++ List.replicate 15 0)

theorem header_eq (ver : UInt8) (b : Block) : header ver b = hdr20 ver ++ countsBytes b := by
  simp [header, hdr20, countsBytes, List.append_assoc]

theorem body_length {b : Block} (hb : b.WF 4) :
    (body 4 b).length = 4 * b.times.length + b.times.length + 6 * b.types.length + b.chars.length
      + b.isstd.length + b.isut.length := by
  simp [body, essential_length 4 b hb.idxLen]
  omega

/-- the skip over the first block: no conversion on the way changes the value -/
theorem v1BlockSkip_eq (a b d e g : Nat) (ha : a < 2 ^ 27) (hb : b < 2 ^ 27) (hd : d < 2 ^ 27) (he : e < 2 ^ 27)
    (hg : g < 2 ^ 27) : v1BlockSkip ⟨a, b, 0, d, e, g⟩ = (4 * d + d + 6 * e + g + b + a : Nat) := by
  simp (disch := omega) only [v1BlockSkip, conv_id_unsigned, conv_id_signed]
  omega

/-- **the try block of `readTimeZoneFile`, from the start of a file that begins with the header of `b1`**: what is
done after the six counters; the skip over the first block has its length -/
theorem zoneFile_header (ver : UInt8) (b1 : Block) (hb : b1.WF 4) (rest : Bytes) :
    zoneFile (File.at [] (header ver b1 ++ rest)) =
      (if ver = 50 then
        (File.at (hdr20 ver ++ countsBytes b1) rest |>.skip (body 4 b1).length).readBytes magic2Len >>= fun x =>
          if badHead2 (nats x.1) then .error (.logic badHead2Msg) else dataBlock (x.2.skip header2Skip) v2BranchV1
      else dataBlock ((File.at (hdr20 ver ++ countsBytes b1) rest).skip rewind) v1BranchV1) := by
  obtain ⟨hs, hu⟩ := hb.ind_lt
  have htc := hb.timecnt
  have hyc := hb.typecnt
  have hcc := hb.charcnt
  have hv : isV2 (nats [ver]) ↔ ver = 50 := by
    simp only [isV2, nats, List.map_cons, List.map_nil, List.cons.injEq, and_true]
    exact ⟨fun h => UInt8.toNat_inj.mp h, fun h => h ▸ rfl⟩
  unfold zoneFile
  simp only [header_eq, hdr20, List.append_assoc]
  rw [File.readBytes_at [] [84, 90, 105, 102] _ magicLen rfl (by decide) (by decide)]
  simp only [bind, Except.bind]
  rw [if_neg (by decide), File.readBytes_at _ [ver] _ versionLen rfl (by simp) (by simp)]
  simp only []
  rw [File.readBytes_at _ (List.replicate 15 0) _ reservedLen rfl (by decide) (by decide)]
  simp only []
  rw [show headerCountReader = readInt32 from rfl, show headerCountTy = (⟨32, true⟩ : IntTy) from rfl, readCounts_at hb]
  simp only [hv, headerCounts, List.nil_append, List.append_assoc, body_length hb]
  rw [v1BlockSkip_eq _ _ _ _ _ hu hs htc hyc hcc]

theorem serialize_split (z : ZoneDesc) : serialize z = z.needed ++ z.optional := by
  unfold serialize ZoneDesc.needed ZoneDesc.optional
  cases z.v2 with
  | none => simp [body, List.append_assoc]
  | some p =>
    obtain ⟨b, ft⟩ := p
    by_cases h : z.version = 50 <;> simp [h, body, List.append_assoc]

theorem needed_length (z : ZoneDesc) (h : z.WF) : z.needed.length < (serialize z).length ∨ z.optional = [] := by
  by_cases ho : z.optional = []
  · exact Or.inr ho
  · left
    rw [serialize_split, List.length_append]
    have : 0 < z.optional.length := List.length_pos_iff.mpr ho
    omega

/-- **`readTimeZoneFile` on the needed part of a well-formed description, whatever follows it**: the table of the
selected block; with the 64-bit block the bytes behind the indicator counts are the footer. -/
theorem parse_needed (z : ZoneDesc) (h : z.WF) (tl : Bytes) :
    parse (z.needed ++ tl) = .ok
      { data := z.selected.table, abbreviation := z.selected.chars,
        tzstring := if z.version = 50 then tl.drop (z.selected.isstd.length + z.selected.isut.length) else [],
        consumed := z.needed.length } := by
  have hb1 := h.v1
  have hat : ∀ bs, parse bs = zoneFile (File.at [] bs) := fun _ => rfl
  -- the version-1 path
  have p1 : z.version ≠ 50 → parse (header z.version z.v1 ++ (essential 4 z.v1 ++ tl)) = .ok
        { data := z.v1.table, abbreviation := z.v1.chars, tzstring := [],
          consumed := (header z.version z.v1 ++ essential 4 z.v1).length } := fun hv => by
    have hc := countsBytes_length z.v1
    rw [hat, zoneFile_header _ _ hb1, if_neg hv, File.skip_back _ (countsBytes z.v1) _ rewind (by rw [hc]; rfl)
      (by rw [hc]; decide)]
    rw [show v1BranchV1 = true from rfl, dataBlock_at true 4 rfl z.v1 hb1]
    simp [header_eq, hdr20]
  unfold ZoneDesc.needed ZoneDesc.selected
  cases hv2 : z.v2 with
  | none =>
    have hv : z.version ≠ 50 := fun hv => by simpa [hv2] using h.has2 hv
    simpa only [List.append_assoc, if_neg hv] using p1 hv
  | some p =>
    obtain ⟨b, ft⟩ := p
    by_cases hv : z.version = 50
    · have hl := body_length hb1
      obtain ⟨hs, hu⟩ := hb1.ind_lt
      have := hb1.timecnt; have := hb1.typecnt; have := hb1.charcnt
      simp only [hv, if_true, List.append_assoc]
      rw [hat, zoneFile_header _ _ hb1, if_pos rfl, File.skip_at _ (body 4 z.v1) _ _ rfl (by omega), header_eq 50 b]
      simp only [hdr20, List.append_assoc]
      rw [File.readBytes_at _ [84, 90, 105, 102] _ magic2Len rfl (by decide) (by decide)]
      simp only [bind, Except.bind]
      rw [if_neg (by decide), ← List.append_assoc [50] (List.replicate 15 0) (countsBytes b ++ _), File.skip_at _ ([50] ++ List.replicate 15 0) _ header2Skip rfl (by decide)]
      rw [show v2BranchV1 = false from rfl, dataBlock_at false 8 rfl b (h.v2 b ft hv2)]
      simp [header_eq, hdr20]
    · simpa only [hv, if_false, List.append_assoc] using p1 hv

theorem parse_serialize (z : ZoneDesc) (h : z.WF) :
    parse (serialize z) = .ok
      { data := z.selected.table, abbreviation := z.selected.chars, tzstring := z.footerRead,
        consumed := z.needed.length } := by
  rw [serialize_split, parse_needed z h]
  congr 2
  unfold ZoneDesc.optional ZoneDesc.selected ZoneDesc.footerRead
  cases hv2 : z.v2 with
  | none =>
    have hv : z.version ≠ 50 := fun hv => by simpa [hv2] using h.has2 hv
    simp [hv]
  | some p =>
    obtain ⟨b, ft⟩ := p
    by_cases hv : z.version = 50
    · simp only [hv, if_true]
      rw [← List.append_assoc, ← List.length_append, List.drop_left]
    · simp [hv]

theorem parse_truncated_ok (z : ZoneDesc) (h : z.WF) (n : Nat) (hn : z.needed.length ≤ n) :
    parse ((serialize z).take n) = .ok
      { data := z.selected.table, abbreviation := z.selected.chars,
        tzstring := if z.version = 50 then
            (z.optional.take (n - z.needed.length)).drop (z.selected.isstd.length + z.selected.isut.length) else [],
        consumed := z.needed.length } := by
  rw [serialize_split, List.take_append, List.take_of_length_le hn, parse_needed z h]

/-! From here on the reader on arbitrary bytes, not on an encoding: a successful read stays inside the file and reads the
same from a longer one (`Good` for the readers of parts, `Sound` for those that deliver a table). -/

theorem bind_ok {α β : Type} {a : R α} {b : α → R β} {y : β} (h : (a >>= b) = .ok y) :
    ∃ x, a = .ok x ∧ b x = .ok y := by
  cases a with
  | error e => cases h
  | ok x => exact ⟨x, rfl, h⟩

theorem ite_ok {α : Type} {c : Prop} [Decidable c] {e : Err} {a : R α} {y : α}
    (h : (if c then .error e else a) = .ok y) : ¬ c ∧ a = .ok y := by
  split at h
  · cases h
  · exact ⟨‹_›, h⟩

namespace File

/-- the same stream over a file with more bytes at the end -/
def ext (f : File) (e : Bytes) : File := ⟨f.data ++ e, f.pos⟩

theorem peek_length (f : File) (n : Nat) : (f.peek n).length = n ↔ f.pos + n ≤ f.data.length ∨ n = 0 := by
  simp only [peek, List.length_take, List.length_drop]
  omega

theorem peek_ext (f : File) (n : Nat) (e : Bytes) (h : (f.peek n).length = n) : (f.ext e).peek n = f.peek n := by
  rcases (peek_length f n).mp h with h | h
  · simp only [peek, ext]
    rw [List.drop_append_of_le_length (by omega), List.take_append_of_le_length (by simp; omega)]
  · subst h; simp [peek]

theorem skip_ext (f : File) (k : Int) (e : Bytes) : (f.ext e).skip k = (f.skip k).ext e := by
  unfold skip ext
  simp only
  split <;> rfl

theorem skip_data (f : File) (k : Int) : (f.skip k).data = f.data := by
  unfold skip; simp only; split <;> rfl

end File

/-- a reading function keeps the file and reads the same from a longer file -/
def Good {α : Type} (fn : File → R (α × File)) : Prop :=
  ∀ f x g, fn f = .ok (x, g) → g.data = f.data ∧ ∀ e, fn (f.ext e) = .ok (x, g.ext e)

theorem Good.pure {α : Type} (x : α) : Good (fun f => .ok (x, f)) := fun f y g h => by
  cases h; exact ⟨rfl, fun _ => rfl⟩

theorem Good.bind {α β : Type} {a : File → R (α × File)} {b : α × File → R (β × File)} (ha : Good a)
    (hb : ∀ x, Good (fun f => b (x, f))) : Good (fun f => a f >>= b) := fun f y g h => by
  obtain ⟨⟨x, f1⟩, h1, h2⟩ := bind_ok h
  obtain ⟨d1, e1⟩ := ha f x f1 h1
  obtain ⟨d2, e2⟩ := hb x f1 y g h2
  exact ⟨d2.trans d1, fun e => by show a (f.ext e) >>= b = _; rw [e1 e]; exact e2 e⟩

theorem good_readInt (r : Reader) : Good (·.readInt r) := fun f x g h => by
  simp only [File.readInt] at h ⊢
  by_cases hl : (f.peek r.bytes).length = r.bytes
  · rw [if_pos hl] at h
    cases h
    exact ⟨rfl, fun e => by rw [File.peek_ext f r.bytes e hl, if_pos hl]; rfl⟩
  · rw [if_neg hl] at h
    cases h

theorem readBytes_ok {f : File} {n : Int} {bs : Bytes} {g : File} (h : f.readBytes n = .ok (bs, g)) :
    g.pos ≤ g.data.length ∧ g.data = f.data ∧ ∀ e, (f.ext e).readBytes n = .ok (bs, g.ext e) := by
  unfold File.readBytes at h ⊢
  simp only at h ⊢
  obtain ⟨hn, h⟩ := ite_ok h
  by_cases hl : (f.peek (conv readBytesArgTy n).toNat).length = (conv readBytesArgTy n).toNat
  · rw [if_pos hl] at h
    cases h
    refine ⟨?_, rfl, fun e => by rw [if_neg hn, File.peek_ext f _ e hl, if_pos hl]; rfl⟩
    rcases (File.peek_length f _).mp hl with h | h <;> simp only <;> omega
  · rw [if_neg hl] at h
    cases h

theorem good_readBytes (n : Int) : Good (fun f : File => f.readBytes n) := fun _ _ _ h => (readBytes_ok h).2

theorem loop_good {β γ : Type} {rd : Nat → File → R (List β × File)} {step : File → R (γ × File)} {g : γ → β}
    (hl : IsLoop rd step g) (hg : Good step) (k : Nat) : Good (rd k) := by
  induction k with
  | zero => exact funext hl.1 ▸ Good.pure []
  | succ k ih => exact funext (hl.2 k) ▸ hg.bind fun x => ih.bind fun xs => Good.pure (g x :: xs)

theorem good_readMany (rs : List Reader) : Good (readMany · rs) := by
  induction rs with
  | nil => exact Good.pure []
  | cons r rs ih => exact (good_readInt r).bind fun v => ih.bind fun vs => Good.pure (v :: vs)

theorem good_readCounts (r : Reader) (ty : IntTy) (mk : Int → Int → Int → Int → Int → Int → Counts) :
    Good (readCounts · r ty mk) :=
  have gr := good_readInt r
  gr.bind fun _ => gr.bind fun _ => gr.bind fun _ => gr.bind fun _ => gr.bind fun _ => gr.bind fun _ => Good.pure _

theorem foldl_skip_ext (ks : List Int) (f : File) (e : Bytes) :
    ks.foldl File.skip (f.ext e) = (ks.foldl File.skip f).ext e := by
  induction ks generalizing f with
  | nil => rfl
  | cons k ks ih => simp only [List.foldl_cons, File.skip_ext, ih]

/-- what is known of every table read: each transition carries the shifted epoch of its type; the read never needs more
than the file has, and a longer file gives the same table (the footer may grow) -/
def Sound (fn : File → R Loaded) : Prop := ∀ f l, fn f = .ok l →
  (∀ i, i < l.data.n → (l.data.tr i).localtime = l.data.u i + l.data.o i) ∧
  l.consumed ≤ f.data.length ∧ ∀ e, ∃ tz, fn (f.ext e) = .ok { l with tzstring := tz }

namespace Sound
variable {α : Type}

theorem bind {a : File → R (α × File)} {b : α × File → R Loaded} (ha : Good a) (hb : ∀ x, Sound (fun f => b (x, f))) :
    Sound (fun f => a f >>= b) := fun f l h => by
  obtain ⟨⟨x, f1⟩, h1, h2⟩ := bind_ok h
  obtain ⟨d1, e1⟩ := ha f x f1 h1
  obtain ⟨s, c, e2⟩ := hb x f1 l h2
  exact ⟨s, d1 ▸ c, fun e => by show ∃ tz, a (f.ext e) >>= b = _; rw [e1 e]; exact e2 e⟩

theorem guard {fn : File → R Loaded} {c : Prop} [Decidable c] {e : Err} (h : Sound fn) :
    Sound (fun f => if c then .error e else fn f) := fun f l hf => by
  obtain ⟨hc, hf⟩ := ite_ok hf
  simp only [if_neg hc]
  exact h f l hf

theorem skip {fn : File → R Loaded} (h : Sound fn) (k : Int) : Sound (fun f => fn (f.skip k)) := fun f l hf => by
  obtain ⟨s, c, e⟩ := h _ l hf
  exact ⟨s, File.skip_data f k ▸ c, fun e' => by show ∃ tz, fn ((f.ext e').skip k) = _; rw [File.skip_ext]; exact e e'⟩

theorem ite {a b : File → R Loaded} {c : Prop} [Decidable c] (ha : Sound a) (hb : Sound b) :
    Sound (fun f => if c then a f else b f) := by
  split <;> assumption

end Sound

theorem addTransitions_shifted (lts : List LocalTime) (ts is : List Int) (trs : List Transition)
    (h : addTransitions lts ts is = .ok trs) :
    ∀ tr ∈ trs, tr.localtimeIdx < lts.length ∧
      tr.localtime = tr.utctime + (lts.getD tr.localtimeIdx default).utcOffset := by
  induction ts generalizing is trs with
  | nil => cases h; simp
  | cons t ts ih =>
    cases is with
    | nil => cases h; simp
    | cons i is =>
      simp only [addTransitions] at h
      split at h
      · rename_i hc
        obtain ⟨rest, h1, h⟩ := bind_ok h
        cases h
        intro tr htr
        rcases List.mem_cons.mp htr with rfl | htr
        · exact ⟨hc.2, rfl⟩
        · exact ih is rest h1 tr htr
      · cases h

/-- **a successful `readDataBlock`**: the readers in front are `Good`, the guards only refuse; what is left is the tail
from `addTransition` on, where the table is built and the last `readBytes` ends inside the file -/
theorem sound_dataBlock (v1 : Bool) : Sound (dataBlock · v1) :=
  .bind (good_readCounts _ _ _) fun c => .guard <| .guard <| .guard <| .guard <|
  .bind (loop_good (readTimes_loop v1) (good_readInt _) _) fun ts =>
  .bind (loop_good readIdxs_loop (good_readInt _) _) fun is => .guard <|
  .bind (loop_good readTypes_loop (good_readMany _) _) fun lts => fun f l h => by
    obtain ⟨trs, h4, h⟩ := bind_ok h
    obtain ⟨⟨abbr, f4⟩, h5, h⟩ := bind_ok h
    cases h
    obtain ⟨b5, a5, c5⟩ := readBytes_ok h5
    refine ⟨fun i hi => ?_, a5 ▸ b5, fun e => ⟨_, by simp only [h4, c5 e, bind, Except.bind, foldl_skip_ext]; rfl⟩⟩
    simp only [Data.n, List.size_toArray] at hi
    obtain ⟨_, e⟩ := addTransitions_shifted _ _ _ _ h4 _ (List.getElem_mem hi)
    simp only [Data.tr, Data.u, Data.o, Data.lrec, Data.lt, Array.getD_eq_getD_getElem?, List.getElem?_toArray,
      List.getElem?_eq_getElem hi, Option.getD_some] at e ⊢
    rw [e]
    simp [List.getD_eq_getElem?_getD]

theorem sound_zoneFile : Sound zoneFile :=
  .bind (good_readBytes _) fun _ => .guard <| .bind (good_readBytes _) fun _ => .bind (good_readBytes _) fun _ =>
  .bind (good_readCounts _ _ _) fun _ =>
  .ite (.skip (.bind (good_readBytes _) fun _ => .guard <| .skip (sound_dataBlock _) _) _) (.skip (sound_dataBlock _) _)

theorem parse_inside (d : Bytes) (l : Loaded) (h : parse d = .ok l) :
    l.consumed ≤ d.length ∧ ∀ e, ∃ tz, parse (d ++ e) = .ok { l with tzstring := tz } :=
  (sound_zoneFile ⟨d, 0⟩ l h).2

theorem parse_truncated_error (z : ZoneDesc) (h : z.WF) (n : Nat) (hn : n < z.needed.length) :
    ∃ e, parse ((serialize z).take n) = .error e := by
  cases hp : parse ((serialize z).take n) with
  | error e => exact ⟨e, rfl⟩
  | ok l =>
    exfalso
    obtain ⟨hb, hext⟩ := parse_inside _ _ hp
    obtain ⟨tz, htz⟩ := hext ((serialize z).drop n)
    rw [List.take_append_drop, parse_serialize z h] at htz
    have hc : z.needed.length = l.consumed := congrArg Loaded.consumed (Except.ok.inj htz)
    have := List.length_take_le n (serialize z)
    omega

end MuduoVerif.TzFile
