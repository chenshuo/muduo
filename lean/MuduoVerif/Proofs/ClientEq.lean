import MuduoVerif.Proofs.ClientInv
/-! What the functions of the model do, before any invariant: the generated facts the proofs rest on, each branching
function as an equation or by cases with the intermediate states named (`armRetry`, `attempted`, `estab`, `downState`,
`removeConn`, `fireOne`, `reapRec`), record updates through `updRec`, and `Own`: what a step of the connector leaves alone. -/
namespace MuduoVerif.Client
open MuduoVerif.Gen.Client

/-! ### facts of the generated file the proofs depend on (a different extraction breaks them here) -/

theorem gen_cycleResetsDelay : cycleResetsDelay = true := rfl

theorem gen_retryUsesOldDelay : retryUsesOldDelay = true := rfl

theorem gen_retryClosesSocket : retryClosesSocket = true := rfl

theorem gen_stopResetsChannelNow : stopResetsChannelNow = true := rfl

theorem gen_holdsRef : startHoldsRef = true ∧ stopHoldsRef = true ∧ resetHoldsRef = true ∧ retryTimerHoldsRef = true :=
  ⟨rfl, rfl, rfl, rfl⟩

theorem gen_shutdown_weak : MuduoVerif.Gen.Conn.shutdownHold = .weak := rfl

theorem gen_kInit : kInitRetryDelayMs = specDelay 0 := rfl

/-- T1: `Connector::startCycleInLoop` cancels the back-off timer of the previous cycle before `startInLoop()` (the F33 fix) -/
theorem gen_cycleStartCancels : cycleStartCancelsRetryTimer = true := rfl

/-- `TcpClient::newConnection` publishes `connection_` before `connectEstablished()` -/
theorem gen_publishBeforeEstablish : publishBeforeEstablish = true := rfl

theorem nextDelay_spec (i : Nat) : nextDelay (specDelay i) = specDelay (i + 1) := by
  unfold nextDelay specDelay kMaxRetryDelayMs
  rw [Nat.pow_succ]
  generalize 2 ^ i = x
  omega

theorem popConnect_eq (c : C) :
    (popConnect c).2 = { c with envConnect := (popConnect c).2.envConnect, starved := (popConnect c).2.starved } := by
  unfold popConnect; split <;> rfl

theorem popSoErr_eq (c : C) : (popSoErr c).2 = { c with envSoErr := (popSoErr c).2.envSoErr, starved := (popSoErr c).2.starved } := by
  unfold popSoErr; split <;> rfl

theorem popSelf_eq (c : C) : (popSelf c).2 = { c with envSelf := (popSelf c).2.envSelf, starved := (popSelf c).2.starved } := by
  unfold popSelf; split <;> rfl

theorem popRead_eq (c : C) : (popRead c).2 = { c with envRead := (popRead c).2.envRead, starved := (popRead c).2.starved } := by
  unfold popRead; split <;> rfl

theorem popConnect_snd (c : C) : ∃ e b, (popConnect c).2 = { c with envConnect := e, starved := b } :=
  ⟨_, _, popConnect_eq c⟩

theorem popSoErr_snd (c : C) : ∃ e b, (popSoErr c).2 = { c with envSoErr := e, starved := b } :=
  ⟨_, _, popSoErr_eq c⟩

theorem popSelf_snd (c : C) : ∃ e b, (popSelf c).2 = { c with envSelf := e, starved := b } :=
  ⟨_, _, popSelf_eq c⟩

theorem popRead_snd (c : C) : ∃ e b, (popRead c).2 = { c with envRead := e, starved := b } :=
  ⟨_, _, popRead_eq c⟩

/-- `retry`'s `runAfter`: the back-off timer is armed with the present delay, the delay doubles -/
def armRetry (c : C) : C :=
  { c with trace := c.trace ++ [.retryScheduled c.nretry c.delay c.now],
           timers := c.timers ++ [(c.now + retryDelayUs c.delay, .retry)],
           delay := nextDelay c.delay, nretry := c.nretry + 1 }

theorem retry_eq (c : C) (k : Nat) :
    retry c k = if c.cConnect = true then armRetry { closeSock c k with cstate := .kDisconnected }
      else { closeSock c k with cstate := .kDisconnected } := by
  unfold retry armRetry closeSock
  simp only [retryClosesSocket, retryUsesOldDelay, retrySchedules, if_true]

/-- `~Connector`: nothing (somebody still owns it, or `channel_` is null), a failed `assert(!channel_)`, the destruction of a
registered channel, or `channel_` destroyed -/
theorem reapConnector_cases (c : C) {P : C → Prop} (h0 : P c) (h1 : ∀ w, P (die c (.abort w))) (h2 : ∀ w, P (die c (.uaf w)))
    (h3 : P { c with chan := none }) : P (reapConnector c) := by
  unfold reapConnector
  split
  · exact h0
  · split
    · split
      · exact h1 _
      · split
        · exact h2 _
        · exact h3
    · exact h0

theorem retry_arms (c : C) (k : Nat) (hcc : c.cConnect = true) (hd : c.delay = specDelay c.nretry) :
    (retry c k).timers = c.timers ++ [(c.now + specDelay c.nretry * 1000, .retry)] ∧
    (retry c k).trace = c.trace ++ [.sockClosed k, .retryScheduled c.nretry (specDelay c.nretry) c.now] ∧
    (retry c k).delay = specDelay (c.nretry + 1) ∧ (retry c k).nretry = c.nretry + 1 := by
  rw [retry_eq, if_pos hcc]
  refine ⟨?_, ?_, ?_, rfl⟩
  · show c.timers ++ [(c.now + retryDelayUs c.delay, TKind.retry)] = _
    rw [hd]; rfl
  · show c.trace ++ [Ev.sockClosed k] ++ [Ev.retryScheduled c.nretry c.delay c.now] = _
    rw [hd]; simp
  · show nextDelay c.delay = _
    rw [hd, nextDelay_spec]

def updRec (k : Nat) (f : ConnRec → ConnRec) : ConnRec → ConnRec := fun r => if r.sock == k then f r else r

theorem updConn_eq (c : C) (k : Nat) (f : ConnRec → ConnRec) : updConn c k f = { c with conns := c.conns.map (updRec k f) } := rfl

theorem connSt_eq {c : C} {k : Nat} {x : ConnRec} (hx : findIn c.conns k = some x) : connSt c k = x.st := by
  simp [connSt, findConn_eq, hx]

theorem mem_map_upd {cs : List ConnRec} {k : Nat} {f : ConnRec → ConnRec} {y : ConnRec} (h : y ∈ cs.map (updRec k f)) :
    ∃ x ∈ cs, y = updRec k f x := by
  obtain ⟨x, hx, rfl⟩ := List.mem_map.mp h
  exact ⟨x, hx, rfl⟩

theorem findIn_upd {cs : List ConnRec} (k j : Nat) (f : ConnRec → ConnRec) (hf : ∀ r, (f r).sock = r.sock) :
    findIn (cs.map (updRec k f)) j = (findIn cs j).map (updRec k f) := findIn_map k j f hf

theorem updRec_sock {k : Nat} {f : ConnRec → ConnRec} (hf : ∀ r, (f r).sock = r.sock) (r : ConnRec) :
    (updRec k f r).sock = r.sock := by
  unfold updRec; split
  · exact hf r
  · rfl

theorem socks_upd {cs : List ConnRec} (k : Nat) (f : ConnRec → ConnRec) (hf : ∀ r, (f r).sock = r.sock) :
    (cs.map (updRec k f)).map (·.sock) = cs.map (·.sock) := by
  rw [List.map_map]; exact List.map_congr_left fun x _ => updRec_sock hf x

def goDown : ConnRec → ConnRec := fun r => { r with st := .disconnected, chanOn := false }

theorem updRec_ne {k : Nat} {f : ConnRec → ConnRec} {r : ConnRec} (h : r.sock ≠ k) : updRec k f r = r := by
  simp [updRec, h]

theorem updRec_self {k : Nat} {f : ConnRec → ConnRec} {r : ConnRec} (h : r.sock = k) : updRec k f r = f r := by
  simp [updRec, h]

theorem upd_cases {cs : List ConnRec} (hn : (cs.map (·.sock)).Nodup) {k : Nat} {x : ConnRec} (hx : findIn cs k = some x)
    (f : ConnRec → ConnRec) {y : ConnRec} (hy : y ∈ cs) :
    (y.sock ≠ k ∧ updRec k f y = y) ∨ (y = x ∧ updRec k f y = f x) := by
  by_cases e : y.sock = k
  · have := findIn_of_mem hn hy; rw [e, hx] at this; cases this; exact .inr ⟨rfl, updRec_self e⟩
  · exact .inl ⟨e, updRec_ne e⟩

theorem findIn_upd_ne {cs : List ConnRec} {k j : Nat} (f : ConnRec → ConnRec) (hf : ∀ r, (f r).sock = r.sock) (h : j ≠ k) :
    findIn (cs.map (updRec k f)) j = findIn cs j := by
  rw [findIn_upd k j f hf]
  cases hj : findIn cs j with
  | none => rfl
  | some y => rw [Option.map_some, updRec_ne (by rw [(findIn_some hj).2]; exact h)]

theorem findIn_upd_self {cs : List ConnRec} {k : Nat} {x : ConnRec} (f : ConnRec → ConnRec) (hf : ∀ r, (f r).sock = r.sock)
    (hx : findIn cs k = some x) : findIn (cs.map (updRec k f)) k = some (f x) := by
  rw [findIn_upd k k f hf, hx, Option.map_some, updRec_self (findIn_some hx).2]

def chanOff : ConnRec → ConnRec := fun r => { r with chanOn := false }

def toDisconnecting : ConnRec → ConnRec := fun r => { r with st := .disconnecting }

def detach : ConnRec → ConnRec := fun r => { r with closeCb := .detached }

theorem holds_shutdown (k j : Nat) : Task.holds (.shutdownInLoop k) j = false := by
  simp [Task.holds, gen_shutdown_weak]

/-- `c` with the connector's own fields (state, `connect_`, channel, delay, timers, the sockets, the results of `::connect`,
the counters), `dead` and the trace taken from `c'` -/
def C.withConnector (c c' : C) : C :=
  { c with cstate := c'.cstate, cConnect := c'.cConnect, chan := c'.chan, chanOn := c'.chanOn, delay := c'.delay,
           timers := c'.timers, nsock := c'.nsock, sockSt := c'.sockSt, envConnect := c'.envConnect, starved := c'.starved,
           nretry := c'.nretry, ups := c'.ups, dead := c'.dead, trace := c'.trace }

/-- a step of the connector: nothing else changes, and the events it reports are not UP -/
structure Own (c c' : C) : Prop where
  eq : c' = c.withConnector c'
  ev : ∃ d, c'.trace = c.trace ++ d ∧ ∀ k, Ev.up k ∉ d

theorem Own.refl (c : C) : Own c c := ⟨rfl, [], (List.append_nil _).symm, nofun⟩

theorem Own.trans {a b c : C} (h1 : Own a b) (h2 : Own b c) : Own a c := by
  obtain ⟨d1, e1, n1⟩ := h1.ev
  obtain ⟨d2, e2, n2⟩ := h2.ev
  refine ⟨h2.eq.trans (by rw [h1.eq]; rfl), d1 ++ d2, by rw [e2, e1, List.append_assoc], fun k m => ?_⟩
  exact (List.mem_append.mp m).elim (n1 k) (n2 k)

theorem Own.conns {c c' : C} (h : Own c c') : c'.conns = c.conns := by rw [h.eq]; rfl

theorem Own.pending {c c' : C} (h : Own c c') : c'.pending = c.pending := by rw [h.eq]; rfl

theorem Own.connection {c c' : C} (h : Own c c') : c'.connection = c.connection := by rw [h.eq]; rfl

theorem Own.alive {c c' : C} (h : Own c c') : c'.clientAlive = c.clientAlive := by rw [h.eq]; rfl

theorem Own.retry {c c' : C} (h : Own c c') : c'.retry = c.retry := by rw [h.eq]; rfl

theorem Own.hooksUp {c c' : C} (h : Own c c') : c'.hooksUp = c.hooksUp := by rw [h.eq]; rfl

theorem Own.fields (c : C) (st : States) (ch : Option Nat) (on : Bool) (tm : List (Nat × TKind)) :
    Own c { c with cstate := st, chan := ch, chanOn := on, timers := tm } := ⟨rfl, [], (List.append_nil _).symm, nofun⟩

theorem die_own (c : C) (e : Ev) (he : ∀ k, Ev.up k ∉ [e]) : Own c (die c e) := ⟨rfl, [e], rfl, he⟩

theorem closeSock_own (c : C) (k : Nat) : Own c (closeSock c k) := ⟨rfl, [.sockClosed k], rfl, by simp⟩

theorem retry_own (c : C) (k : Nat) : Own c (retry c k) := by
  have h1 : Own c { closeSock c k with cstate := .kDisconnected } := ⟨rfl, [.sockClosed k], rfl, by simp⟩
  rw [retry_eq]
  split
  · exact h1.trans ⟨rfl, [.retryScheduled _ _ _], rfl, by simp⟩
  · exact h1

theorem retry_conns (c : C) (k : Nat) : (retry c k).conns = c.conns := (retry_own c k).conns

theorem connecting_own (c : C) (k : Nat) : Own c (connecting c k) := by
  unfold connecting
  split
  · refine Own.trans ?_ (die_own _ _ (by simp)); exact Own.fields c _ _ _ _
  · split
    · refine Own.trans ?_ (die_own _ _ (by simp)); exact Own.fields c _ _ _ _
    · exact Own.fields c _ _ _ _

/-- the state in which `Connector::connect` looks at `errno`: the socket exists, `::connect` was called, its result is consumed -/
def attempted (c : C) (e : List Nat) (b : Bool) : C :=
  { c with nsock := c.nsock + 1, sockSt := c.sockSt ++ [.opened],
           trace := c.trace ++ [.sockCreated c.nsock, .attempt c.nsock c.now], envConnect := e, starved := b }

theorem connect_cases (c : C) {P : C → Prop} (h : ∀ e b, P (connecting (attempted c e b) c.nsock) ∧
    P (retry (attempted c e b) c.nsock) ∧ P (closeSock (attempted c e b) c.nsock)) : P (connect c) := by
  unfold connect
  simp only
  obtain ⟨e, b, he⟩ := popConnect_snd ({ c with nsock := c.nsock + 1, sockSt := c.sockSt ++ [SockSt.opened], trace := c.trace ++ [Ev.sockCreated c.nsock, Ev.attempt c.nsock c.now] } : C)
  rw [he]
  split
  · exact (h e b).1
  · exact (h e b).2.1
  · exact (h e b).2.2

theorem connect_own (c : C) : Own c (connect c) :=
  have h0 : ∀ e b, Own c (attempted c e b) := fun _ _ => ⟨rfl, [.sockCreated c.nsock, .attempt c.nsock c.now], rfl, by simp⟩
  connect_cases (P := Own c) c fun e b =>
    ⟨(h0 e b).trans (connecting_own _ _), (h0 e b).trans (retry_own _ _), (h0 e b).trans (closeSock_own _ _)⟩

theorem startInLoop_own (c : C) : Own c (startInLoop c) := by
  unfold startInLoop
  split
  · exact die_own _ _ (by simp)
  · split
    · exact connect_own c
    · exact Own.refl c

theorem cancelIf_own (b : Bool) (c : C) : Own c (cancelIf b c) := by
  unfold cancelIf cancelRetry
  split
  · exact Own.fields c _ _ _ _
  · exact Own.refl c

theorem cancelIf_hooksUp (b : Bool) (c : C) : (cancelIf b c).hooksUp = c.hooksUp := (cancelIf_own b c).hooksUp

theorem startCycle_own (c : C) : Own c (startCycle c) := by
  unfold startCycle startCycleCore
  refine (cancelIf_own cycleStartCancelsRetryTimer c).trans (Own.trans ?_ (startInLoop_own _))
  exact ⟨rfl, [.ghost .cycle], rfl, by simp⟩

theorem startCycle_connection (c : C) : (startCycle c).connection = c.connection := (startCycle_own c).connection

theorem restart_own (c : C) : Own c (restart c) := by
  unfold restart
  refine Own.trans ?_ (startInLoop_own _)
  exact ⟨rfl, [.ghost .cycle], rfl, by simp⟩

theorem stopInLoop_own (c : C) : Own c (stopInLoop c) := by
  refine (cancelIf_own (decide (stopCancelsRetryTimer c.cConnect)) c).trans ?_
  show Own _ (stopInLoopCore _)
  generalize cancelIf (decide (stopCancelsRetryTimer c.cConnect)) c = c
  unfold stopInLoopCore
  simp only [stopResetsChannelNow, if_true]
  split
  · split
    · exact (Own.fields c .kDisconnected none false c.timers).trans (retry_own _ _)
    · exact die_own _ _ (by simp)
  · exact Own.refl c

theorem resetChannel_own (c : C) : Own c (resetChannel c) := by
  unfold resetChannel
  split
  · exact die_own _ _ (by simp)
  · exact Own.fields c c.cstate none c.chanOn c.timers

theorem reapConnector_own (c : C) : Own c (reapConnector c) :=
  reapConnector_cases c (Own.refl c) (fun _ => die_own _ _ (by simp)) (fun _ => die_own _ _ (by simp))
    (Own.fields c c.cstate none c.chanOn c.timers)

theorem reapConnector_alive (c : C) : (reapConnector c).clientAlive = c.clientAlive := (reapConnector_own c).alive

/-- the state in which the user's callback is told UP -/
def estab (c : C) (k : Nat) : C :=
  { c with sockSt := c.sockSt.set k .handedOver, conns := c.conns ++ [{ sock := k }], connection := some k,
           ups := c.ups + 1, trace := c.trace ++ [.handedOver k, .up k] }

theorem connect_trace (c : C) :
    ∃ tail, (connect c).trace = c.trace ++ [.sockCreated c.nsock, .attempt c.nsock c.now] ++ tail := by
  refine connect_cases (P := fun c' => ∃ tail, c'.trace = c.trace ++ [.sockCreated c.nsock, .attempt c.nsock c.now] ++ tail)
    c fun e b => ?_
  have h : ∀ c', Own (attempted c e b) c' → ∃ tail, c'.trace = (attempted c e b).trace ++ tail :=
    fun _ h => h.ev.imp fun _ hd => hd.1
  exact ⟨h _ (connecting_own _ _), h _ (retry_own _ _), h _ (closeSock_own _ _)⟩

theorem restart_trace (c : C) :
    ∃ tail, (restart c).trace = c.trace ++ [.ghost .cycle, .sockCreated c.nsock, .attempt c.nsock c.now] ++ tail := by
  unfold restart startInLoop
  rw [if_neg (by simp [startAssert]), if_pos (by simp [startConnects])]
  obtain ⟨tail, ht⟩ := connect_trace
    ({ c with cstate := .kDisconnected, delay := kInitRetryDelayMs, cConnect := true, nretry := 0, ups := 0,
              trace := c.trace ++ [.ghost .cycle] } : C)
  dsimp only at ht
  exact ⟨tail, by rw [ht]; simp⟩

theorem newConnection_eq (c : C) (k : Nat) (hal : c.clientAlive = true) :
    newConnection c k = runHookUp (estab c k) k := by
  unfold newConnection
  rw [if_pos hal, if_pos gen_publishBeforeEstablish]
  rfl

theorem disconnect_in_estab (c : C) (k : Nat) (hn : findIn c.conns k = none) (rest : List HookOp) :
    hookOp ({ estab c k with hooksUp := rest } : C) k .disconnect =
      { estab c k with hooksUp := rest, tConnect := false,
                       conns := (c.conns ++ [({ sock := k } : ConnRec)]).map (updRec k toDisconnecting),
                       pending := c.pending ++ [.shutdownInLoop k] } := by
  have hnew : findIn (c.conns ++ [({ sock := k } : ConnRec)]) k = some { sock := k } := by
    rw [findIn_append_new _ rfl, hn]; simp
  unfold hookOp userDisconnect connShutdown estab
  simp only [connSt, findConn_eq, hnew, Option.map_some, Option.getD_some, if_true]
  rfl

/-- the state in which the user's callback is told DOWN: `handleClose` has set the state and removed the channel -/
def downState (c : C) (k : Nat) : C :=
  { c with conns := c.conns.map (updRec k goDown), trace := c.trace ++ [.down k] }

/-- the state in which the user's DOWN callback for connection `k` returns -/
def downCb (c : C) (k : Nat) : C := runHookDown (downState c k) k

/-- `TcpClient::removeConnection`'s first half: `connection_.reset()`, `queueInLoop(connectDestroyed)` -/
def afterDown (c2 : C) (k : Nat) : C :=
  { c2 with connection := none, pending := c2.pending ++ [.connectDestroyed k] }

/-- `TcpClient::removeConnection(conn)`, called through `closeCallback_` after the DOWN callback returned -/
def removeConn (c2 : C) (k : Nat) : C :=
  if ¬ c2.clientAlive then die c2 (.uaf "TcpClient::removeConnection")
  else if c2.asserts ∧ c2.connection ≠ some k then die c2 (.abort "connection_ == conn")
  else
    let c3 : C := { c2 with connection := none, pending := c2.pending ++ [.connectDestroyed k] }
    if reconnects c3.retry c3.tConnect then restart c3 else c3

theorem handleClose_eq (c : C) (k : Nat) :
    handleClose c k =
      (let c2 := runHookDown (downState c k) k
       if c2.dead then c2
       else match ((findConn c k).map (·.closeCb)).getD .detached with
         | .detached => enqueue c2 (.connectDestroyed k)
         | .client => removeConn c2 k) := rfl

theorem userStop_eq (c : C) (w : Who) :
    userStop c w = { c with tConnect := false, stopReq := true, trace := c.trace ++ [.ghost .stop], cConnect := false,
                            pending := c.pending ++ [.stopInLoop] } := by
  cases w <;> rfl

theorem userConnect_loop (c : C) :
    userConnect c .loop =
      startCycle { c with tConnect := true, cConnect := true, stopReq := false, trace := c.trace ++ [.ghost .connect] } := rfl

theorem userConnect_foreign (c : C) :
    userConnect c .foreign =
      { c with tConnect := true, cConnect := true, stopReq := false, trace := c.trace ++ [.ghost .connect],
               pending := c.pending ++ [.startCycle] } := rfl

theorem userDisconnect_down (c : C) (k : Nat) (hcn : c.connection = some k) (hst : connSt c k = .disconnected) :
    userDisconnect c = { c with tConnect := false } := by
  cases c
  simp only at hcn
  subst hcn
  unfold userDisconnect connShutdown
  simp only
  rw [if_neg]
  intro h
  have h' : connSt _ k = .connected := h
  exact absurd (hst.symm.trans h') (by simp)

theorem handleClose_detached_eq (c : C) (k : Nat) (x : ConnRec) (hx : findIn c.conns k = some x) (hcb : x.closeCb = .detached)
    (hal : c.clientAlive = false) (hnd : c.dead = false) :
    handleClose c k = { c with conns := c.conns.map (updRec k goDown), trace := c.trace ++ [.down k],
                               pending := c.pending ++ [.connectDestroyed k] } := by
  have e : runHookDown (downState c k) k = downState c k := by
    unfold runHookDown
    rw [if_neg (by rw [show (downState c k).clientAlive = c.clientAlive from rfl, hal]; exact Bool.false_ne_true)]
  rw [handleClose_eq]
  simp only [findConn_eq, hx, Option.map_some, Option.getD_some, hcb]
  rw [e, if_neg (by rw [show (downState c k).dead = c.dead from rfl, hnd]; exact Bool.false_ne_true)]
  rfl

theorem connShutdown_find (c : C) (j k : Nat) (y : ConnRec) (hy : findIn c.conns k = some y) (hys : y.st = .disconnected) :
    findIn (connShutdown c j).conns k = some y := by
  unfold connShutdown
  split
  · rename_i h
    show findIn (c.conns.map (updRec j toDisconnecting)) k = some y
    rw [findIn_upd_ne toDisconnecting (fun _ => rfl), hy]
    intro e
    have : connSt c j = y.st := by rw [← e]; exact connSt_eq hy
    rw [this, hys] at h; cases h
  · exact hy

theorem hookOp_find (c : C) (k j : Nat) (op : HookOp) (y : ConnRec) (hy : findIn c.conns k = some y) (hys : y.st = .disconnected) :
    findIn (hookOp c j op).conns k = some y := by
  cases op with
  | disconnect =>
    show findIn (userDisconnect c).conns k = some y
    unfold userDisconnect
    simp only
    split
    · exact connShutdown_find _ _ k y hy hys
    · exact hy
  | stop =>
    show findIn (userStop c .loop).conns k = some y
    rw [userStop_eq]; exact hy
  | connect =>
    show findIn (userConnect c .loop).conns k = some y
    rw [userConnect_loop, (startCycle_own _).conns]; exact hy
  | query => exact hy

theorem runHookDown_find (c : C) (k j : Nat) (y : ConnRec) (hy : findIn c.conns k = some y) (hys : y.st = .disconnected) :
    findIn (runHookDown c j).conns k = some y := by
  unfold runHookDown
  split
  · split
    · exact hy
    · exact hookOp_find _ k j _ y hy hys
  · exact hy

theorem handleClose_find (c : C) (k : Nat) (x : ConnRec) (hx : findIn c.conns k = some x) :
    findIn (handleClose c k).conns k = some (goDown x) := by
  have hfk : findIn (downState c k).conns k = some (goDown x) := findIn_upd_self goDown (fun _ => rfl) hx
  have h2 := runHookDown_find (downState c k) k k (goDown x) hfk rfl
  rw [handleClose_eq]
  simp only
  generalize runHookDown (downState c k) k = c2 at h2
  split
  · exact h2
  · split
    · exact h2
    · unfold removeConn die
      simp only
      repeat' split
      all_goals first | exact h2 | (rw [(restart_own _).conns]; exact h2)

theorem handleClose_chanOff {c : C} {k : Nat} {x : ConnRec} (hx : findIn c.conns k = some x) :
    ((findConn (handleClose c k) k).map (·.chanOn)).getD false = false := by
  rw [findConn_eq, handleClose_find c k x hx]; rfl

theorem runTask_forceClose {c : C} {k : Nat} {x : ConnRec} (hx : findIn c.conns k = some x) :
    runTask c (.forceCloseInLoop k) = if x.st ≠ .disconnected then handleClose c k else c := by
  show (if connSt c k = .connected ∨ connSt c k = .disconnecting then _ else _) = _
  rw [connSt_eq hx]
  cases x.st <;> simp

theorem runHookDown_none (c : C) (k : Nat) (h : c.hooksDown = []) : runHookDown c k = c := by
  unfold runHookDown
  rw [h]
  split <;> rfl

theorem hookOp_connection (c : C) (j : Nat) (op : HookOp) : (hookOp c j op).connection = c.connection := by
  cases op with
  | disconnect =>
    show (userDisconnect c).connection = _
    unfold userDisconnect connShutdown
    simp only
    repeat' split
    all_goals first | rfl | assumption | (rename_i h; exact h.symm)
  | stop =>
    show (userStop c .loop).connection = _
    rw [userStop_eq]
  | connect =>
    show (userConnect c .loop).connection = _
    rw [userConnect_loop]; exact startCycle_connection _
  | query => rfl

theorem runHookDown_connection (c : C) (j : Nat) : (runHookDown c j).connection = c.connection := by
  unfold runHookDown
  repeat' split
  all_goals first | rfl | exact hookOp_connection _ _ _

theorem userDisconnect_eq (c : C) (k : Nat) (x : ConnRec) (hcn : c.connection = some k) (hx : findIn c.conns k = some x)
    (hst : x.st = .connected) :
    userDisconnect c = { c with tConnect := false, conns := c.conns.map (updRec k toDisconnecting),
                                pending := c.pending ++ [.shutdownInLoop k] } := by
  cases c
  simp only at hcn hx
  subst hcn
  unfold userDisconnect connShutdown
  simp only [connSt, findConn_eq, hx, Option.map_some, Option.getD_some, hst, if_true, updConn_eq, enqueue]
  rfl

def fireOne (c : C) (t : Nat × TKind) : C :=
  if c.dead then c else
    match t.2 with
    | .retry => startInLoop c
    | .park => c

theorem fireTimers_eq (c : C) :
    fireTimers c =
      (let c2 := (c.timers.filter (fun t => decide (t.1 ≤ c.now))).foldl fireOne
          { c with timers := c.timers.filter (fun t => decide (¬ t.1 ≤ c.now)) }
       if c2.dead then c2 else reapConnector c2) := rfl

theorem fire_fold_own (due : List (Nat × TKind)) (c : C) : Own c (due.foldl fireOne c) := by
  induction due generalizing c with
  | nil => exact Own.refl c
  | cons t due ih =>
    rw [List.foldl_cons]
    refine Own.trans ?_ (ih _)
    unfold fireOne
    split
    · exact Own.refl c
    · split
      · exact startInLoop_own c
      · exact Own.refl c

theorem fireTimers_own (c : C) : Own c (fireTimers c) := by
  rw [fireTimers_eq]
  simp only
  have h1 := (Own.fields c c.cstate c.chan c.chanOn (c.timers.filter (fun t => decide (¬ t.1 ≤ c.now)))).trans
    (fire_fold_own (c.timers.filter (fun t => decide (t.1 ≤ c.now))) _)
  split
  · exact h1
  · exact h1.trans (reapConnector_own _)

def kill : ConnRec → ConnRec := fun r => { r with destroyed := true }

theorem connHeld_iff (c : C) (x : ConnRec) : connHeld c x = true ↔ held c.clientAlive c.connection c.pending x := by
  unfold connHeld held
  simp only [Bool.or_eq_true, Bool.and_eq_true, beq_iff_eq, List.any_eq_true, or_assoc]

def dyingP (c : C) (x : ConnRec) : Bool := !x.destroyed && !connHeld c x

theorem reap_eq (c : C) : reap c =
    (match (c.conns.filter (dyingP c)).find? (fun r => r.st ≠ .disconnected) with
     | some _ =>
       if c.asserts then die c (.abort "state_ == kDisconnected")
       else die c (.uaf "~TcpConnection: channel destroyed while registered")
     | none =>
       { c with conns := c.conns.map (fun r => if dyingP c r then kill r else r),
                trace := c.trace ++ (c.conns.filter (dyingP c)).map (fun r => Ev.connClosed r.sock) }) := rfl

def reapRec (c : C) : ConnRec → ConnRec := fun r => if dyingP c r then kill r else r

theorem reap_frame (c : C) : ∃ cs tr d, reap c = { c with conns := cs, trace := tr, dead := d } := by
  rw [reap_eq]; unfold die; repeat' split
  all_goals exact ⟨_, _, _, rfl⟩

theorem reap_batch (c : C) : (reap c).batch = c.batch := by
  obtain ⟨_, _, _, h⟩ := reap_frame c; rw [h]

theorem shutdownTask_emits (c : C) (k : Nat) (x : ConnRec) (hx : findIn c.conns k = some x) (hd : x.destroyed = false) :
    runTask c (.shutdownInLoop k) = emit c (.shutdownWr k) := by
  unfold runTask
  simp only
  have : ((c.conns.find? (fun r => r.sock == k)).map (·.destroyed)).getD true = false := by
    change ((findIn c.conns k).map (·.destroyed)).getD true = false
    rw [hx]; simpa using hd
  rw [this]; simp

theorem reapRec_fields (c : C) (y : ConnRec) :
    (reapRec c y).sock = y.sock ∧ (reapRec c y).st = y.st ∧ (reapRec c y).userRef = y.userRef ∧
    (y.destroyed = true → (reapRec c y).destroyed = true) := by
  unfold reapRec kill; split <;> simp

theorem reap_alive (c : C) : (reap c).clientAlive = c.clientAlive := by
  obtain ⟨_, _, _, h⟩ := reap_frame c; rw [h]

def detachClose : ConnRec → ConnRec := fun r => { r with closeCb := .detached, st := .disconnecting }

theorem updRec_comp (k : Nat) (f g : ConnRec → ConnRec) (hf : ∀ r, (f r).sock = r.sock) (cs : List ConnRec) :
    (cs.map (updRec k f)).map (updRec k g) = cs.map (updRec k (g ∘ f)) := by
  rw [List.map_map]; apply List.map_congr_left; intro r _
  simp only [Function.comp, updRec]
  by_cases h : r.sock = k
  · simp [h, hf]
  · simp [h]

theorem useCount_frame (c : C) (k : Nat) (t : List Ev) (d : Option Nat) :
    useCount { c with destroyedAt := d, trace := t } k = useCount c k := rfl

theorem userDestroy_shared_eq (c : C) (k : Nat) (hcn : c.connection = some k) (hu : ¬ (useCount c k == 1) = true) :
    userDestroy c .loop = reapConnector
      { c with destroyedAt := some c.now, trace := c.trace ++ [.ghost .destroy],
               conns := c.conns.map (updRec k detach),
               clientAlive := false, connection := none } := by
  cases c
  simp only at hcn
  subst hcn
  unfold userDestroy
  simp only [dtorHasConn, dtorSetCbDispatch, if_true]
  split
  · rename_i h; exact absurd h hu
  · rfl

theorem connForceClose_eq (c : C) (k : Nat) (x : ConnRec) (hx : findIn c.conns k = some x) (hst : x.st ≠ .disconnected) :
    connForceClose c k = { c with conns := c.conns.map (updRec k toDisconnecting), pending := c.pending ++ [.forceCloseInLoop k] } := by
  unfold connForceClose
  rw [connSt_eq hx, if_pos (by cases h : x.st <;> simp_all)]
  rfl

theorem userDestroy_unique_eq (c : C) (k : Nat) (x : ConnRec) (hcn : c.connection = some k)
    (hx : findIn c.conns k = some x) (hst : x.st ≠ .disconnected) (hu : (useCount c k == 1) = true) :
    userDestroy c .loop = reapConnector
      { c with destroyedAt := some c.now, trace := c.trace ++ [.ghost .destroy],
               conns := c.conns.map (updRec k detachClose), pending := c.pending ++ [.forceCloseInLoop k],
               clientAlive := false, connection := none } := by
  cases c
  simp only at hcn hx
  subst hcn
  unfold userDestroy
  simp only [dtorHasConn, dtorSetCbDispatch, if_true]
  split
  case isFalse h => exact absurd hu h
  rw [connForceClose_eq _ k (detach x) ?_ hst]
  · simp only [updConn_eq]
    rw [show (fun r : ConnRec => ({ r with closeCb := CloseCb.detached } : ConnRec)) = detach from rfl]
    rw [updRec_comp k detach toDisconnecting (fun _ => rfl)]
    rfl
  · exact findIn_upd_self detach (fun _ => rfl) hx

theorem userDestroy_idle_eq (c : C) (hcn : c.connection = none) :
    userDestroy c .loop = reapConnector
      { c with destroyedAt := some c.now, trace := c.trace ++ [.ghost .destroy], cConnect := false,
               pending := c.pending ++ [.stopInLoop], timers := c.timers ++ [(c.now + dtorParkUs, .park)],
               clientAlive := false, connection := none } := by
  cases c
  simp only at hcn
  subst hcn
  unfold userDestroy connectorStop
  simp only [stopDispatch, enqueue]

theorem userDestroy_alive (c : C) (w : Who) : (userDestroy c w).clientAlive = false := by
  unfold userDestroy; rw [reapConnector_alive]

theorem step_live (c : C) (i : In) (h : c.dead = false) :
    step c i = (match i with
      | .dropRef | .destroy _ | .holdRef => if (stepLive c i).dead then stepLive c i else reap (stepLive c i)
      | _ => stepLive c i) := by
  unfold step; rw [if_neg (by rw [h]; exact Bool.false_ne_true)]; cases i <;> rfl

theorem step_iter (c : C) (a : List Src) (h : c.dead = false) : step c (.iter a) = iter c a := by
  rw [step_live c _ h]; rfl

end MuduoVerif.Client
