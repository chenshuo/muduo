import MuduoVerif.Proofs.ClientGrow
import MuduoVerif.Proofs.ClientIter
import MuduoVerif.Proofs.ClientTrace
/-!
`Grow` along the dispatch phase and the functor batch of a state that satisfies the invariant, and the "leads to" facts:
what the next loop iteration(s) do with a queued half-close, with the connection of a destroyed client, with the
attempt of a destroyed client.
-/
namespace MuduoVerif.Client
open MuduoVerif.Gen.Client

theorem dispatchConn_quiet (c : C) (r : List Task) (ph : Bool) (hi : Mid c r ph) (j rev : Nat) :
    Quiet c (dispatchConn c j rev) := by
  unfold dispatchConn
  rw [findConn_eq]
  split
  · exact Quiet.refl c
  · rename_i x hx
    split
    · exact Quiet.refl c
    · rename_i hcond
      simp only [not_or, Decidable.not_not] at hcond
      have hon' : x.chanOn = true := by simpa using hcond.2.1
      have hst := hi.c3 x (findIn_some hx).1 hon'
      by_cases hdc : MuduoVerif.Gen.Conn.dispClose rev ∧ MuduoVerif.Gen.Conn.dispCloseSub false true false
      · simp only [hdc, and_self, if_true]
        have h1 := handleClose_quiet c j x hx hst
        split
        · exact h1
        · rw [handleClose_chanOff hx, if_neg (by simp [MuduoVerif.Gen.Conn.dispReadSub])]
          exact h1
      · simp only [hdc, if_false]
        split
        · exact Quiet.refl c
        · split
          · exact handleRead_quiet c j x hx hst
          · exact Quiet.refl c

theorem Mid.fresh {c : C} {r : List Task} {ph : Bool} (hi : Mid c r ph) {k : Nat} (hop : c.sockSt[k]? = some .opened) :
    findIn c.conns k = none ∧ Ev.up k ∉ c.trace := by
  refine ⟨hi.n.fresh hop, fun hm => ?_⟩
  obtain ⟨s, hs, hr⟩ := hi.tr
  have := ((cnt_scan hs).mem .up k).mp hm
  rw [Spec.has_eq (by rw [hr.ph k, phaseAt_opened hop])] at this; cases this

theorem handleWrite_grow (c : C) (r : List Task) (hi : Mid c r false) (hon : c.chanOn = true) : Grow c (handleWrite c) := by
  obtain ⟨k, hk, hop⟩ := hi.a3 hon
  unfold handleWrite
  rw [if_pos (by simp [writeActs, hi.a1 hon]), hk]
  simp only
  rw [popSoErr_eq]
  -- the channel is unregistered and its reset queued, whatever follows
  have h0 : ∀ {c' : C}, c'.trace = c.trace → c'.pending = c.pending ++ [.resetChannel] → c'.kept = c.kept → Grow c c' :=
    fun ht hp hk => (Quiet.step [] [.resetChannel] (by rw [ht, List.append_nil]) hp hk).grow
  split
  · refine Grow.trans ?_ (retry_grow _ _); exact h0 rfl rfl rfl
  · rw [popSelf_eq]
    split
    · refine Grow.trans ?_ (retry_grow _ _); exact h0 rfl rfl rfl
    · split
      · refine Grow.trans ?_ (newConnection_grow _ _ (hi.fresh hop).1 (hi.fresh hop).2); exact h0 rfl rfl rfl
      · refine Grow.trans ?_ (closeSock_grow _ _); exact h0 rfl rfl rfl

theorem dispatchConnector_grow (c : C) (r : List Task) (rev : Nat) (hi : Mid c r false) : Grow c (dispatchConnector c rev) := by
  unfold dispatchConnector
  split
  · rename_i h
    split
    · have h1 := handleError_mid c r hi h.2
      rw [if_neg (by simp [h1.notDead])]
      split
      · rename_i h2
        exact (handleError_quiet c).grow.trans
          (handleWrite_grow _ r h1 (by simpa [MuduoVerif.Gen.Conn.dispWriteSub] using h2.2))
      · exact (handleError_quiet c).grow
    · rw [if_neg (by simp [hi.notDead])]
      split
      · exact handleWrite_grow c r hi h.2
      · exact Grow.refl c
  · exact Grow.refl c

theorem dispatch_grow (c : C) (s : Src) (hi : Mid c [] false) : Grow c (dispatch c s) := by
  cases s with
  | timer => exact (fireTimers_own c).quiet.grow
  | connector rev => exact dispatchConnector_grow c [] rev hi
  | conn k rev => exact (dispatchConn_quiet c [] false hi k rev).grow

theorem dispatch_fold_grow (active : List Src) (c : C) (hi : Mid c [] false) :
    Grow c (active.foldl (fun (c : C) s => if c.dead then c else dispatch c s) c) := by
  induction active generalizing c with
  | nil => exact Grow.refl c
  | cons s active ih =>
    rw [List.foldl_cons, if_neg (by simp [hi.notDead])]
    exact (dispatch_grow c s hi).trans (ih _ (dispatch_mid c [] s hi))

theorem runTask_quiet (c : C) (r : List Task) (t : Task) (hi : Mid c (t :: r) true) : Quiet c (runTask c t) := by
  cases t with
  | startCycle => unfold runTask; simp only; split; exact (startCycle_own c).quiet; exact (Quiet.refl c).die _
  | stopInLoop => unfold runTask; simp only; split; exact (stopInLoop_own c).quiet; exact (Quiet.refl c).die _
  | resetChannel => unfold runTask; simp only; split; exact (resetChannel_own c).quiet; exact (Quiet.refl c).die _
  | connectDestroyed k =>
    obtain ⟨x, hx, hst⟩ := hi.c9 k (by simp)
    exact connectDestroyed_quiet c k x hx hst
  | shutdownInLoop k =>
    unfold runTask; simp only
    split
    · split
      · exact (Quiet.refl c).die _
      · exact Quiet.refl c
    · exact Quiet.step [_] [] rfl (List.append_nil _).symm rfl
  | forceCloseInLoop k =>
    obtain ⟨x, hx, hcb⟩ := hi.c8 k (by simp)
    rw [runTask_forceClose hx]
    split
    · rename_i hst
      exact handleClose_quiet c k x hx hst
    · exact Quiet.refl c
  | setCloseCb k => have := hi.a13 (.setCloseCb k) (by simp); cases this
  | addTimer d kd => have := hi.a13 (.addTimer d kd) (by simp); cases this

theorem runTask_grow (c : C) (r : List Task) (t : Task) (hi : Mid c (t :: r) true) : Grow c (runTask c t) :=
  (runTask_quiet c r t hi).grow

theorem task_fold_quiet (rest : List Task) (c : C) (hi : Mid c rest true) :
    Quiet c (rest.foldl (fun (c : C) t => if c.dead then c else runTask c t) c) := by
  induction rest generalizing c with
  | nil => exact Quiet.refl c
  | cons t rest ih =>
    rw [List.foldl_cons, if_neg (by simp [hi.notDead])]
    exact (runTask_quiet c rest t hi).trans (ih _ (runTask_mid c rest t hi))

theorem task_fold_grow (rest : List Task) (c : C) (hi : Mid c rest true) :
    Grow c (rest.foldl (fun (c : C) t => if c.dead then c else runTask c t) c) := (task_fold_quiet rest c hi).grow

/-- one iteration, taken apart: `c1` after the dispatch phase, `c2` after the functor batch -/
structure IterParts (c : C) (active : List Src) (c1 c2 : C) : Prop where
  m1 : Mid c1 [] false
  g1 : Grow { c with horizon := c.nsock } c1
  m2 : Mid c2 [] true
  e2 : c2 = c1.pending.foldl (fun (c : C) t => if c.dead then c else runTask c t) { c1 with pending := [], batch := c1.pending }
  ms : Mid { c1 with pending := [], batch := c1.pending } c1.pending true
  m3 : Mid { c2 with batch := [] } [] true
  e : iter c active = reap { c2 with batch := [] }

theorem iter_parts (c : C) (active : List Src) (hi : Bnd c) : ∃ c1 c2, IterParts c active c1 c2 := by
  unfold Bnd at hi
  have h0 := mid_horizon hi
  have h1 := dispatch_fold_mid active _ h0
  have hg1 := dispatch_fold_grow active _ h0
  have h2 := mid_to_batch h1
  have h3 := task_fold_mid _ _ h2
  have h4 := mid_clear_batch h3
  refine ⟨_, _, h1, hg1, h3, rfl, h2, h4, ?_⟩
  unfold iter
  simp only
  rw [if_neg (by rw [h1.notDead]; exact Bool.false_ne_true), if_neg (by rw [h3.notDead]; exact Bool.false_ne_true),
    reapConnector_id h4, if_neg (by rw [h4.notDead]; exact Bool.false_ne_true)]

section
variable {c c1 c2 : C} {active : List Src} (hp : IterParts c active c1 c2)
include hp

theorem IterParts.q2 : Quiet { c1 with pending := [], batch := c1.pending } c2 :=
  hp.e2 ▸ task_fold_quiet _ _ hp.ms

theorem IterParts.g2 : Grow { c1 with pending := [], batch := c1.pending } c2 := hp.q2.grow

theorem IterParts.alive : c2.clientAlive = c.clientAlive := hp.g2.alive.trans hp.g1.alive

theorem IterParts.conn {k : Nat} {x : ConnRec} (hx : findIn c.conns k = some x) :
    ∃ x1 x2, findIn c1.conns k = some x1 ∧ findIn c2.conns k = some x2 ∧ x2.destroyed = x.destroyed ∧
      x1.destroyed = x.destroyed ∧ (x.st = .disconnected → x1.st = .disconnected ∧ x2.st = .disconnected) ∧
      x2.userRef = x.userRef := by
  obtain ⟨x1, hx1, d1, s1, u1, _⟩ := hp.g1.conn k x hx
  obtain ⟨x2, hx2, d2, s2, u2, _⟩ := hp.g2.conn k x1 hx1
  exact ⟨x1, x2, hx1, hx2, d2.trans d1, d1, fun h => ⟨s1 h, s2 (s1 h)⟩, u2.trans u1⟩

theorem IterParts.iter_eq : iter c active =
    { c2 with batch := [], conns := c2.conns.map (reapRec { c2 with batch := [] }),
              trace := c2.trace ++ (c2.conns.filter (dyingP { c2 with batch := [] })).map fun r => Ev.connClosed r.sock } := by
  rw [hp.e, reap_eq2 hp.m3]

theorem IterParts.find {k : Nat} {x2 : ConnRec} (hx : findIn c2.conns k = some x2) :
    findIn (iter c active).conns k = some (reapRec { c2 with batch := [] } x2) := by
  rw [hp.e]; exact (reap_keeps _ hp.m3 k x2 hx).1

theorem IterParts.trace : ∃ d0 d1 d2, c1.trace = c.trace ++ d0 ∧ c2.trace = c1.trace ++ d1 ∧
    (iter c active).trace = c.trace ++ d0 ++ d1 ++ d2 := by
  obtain ⟨d0, h0⟩ := hp.g1.tr
  obtain ⟨d1, h1⟩ := hp.g2.tr
  have h0 : c.trace ++ d0 = c1.trace := h0
  have h1 : c1.trace ++ d1 = c2.trace := h1
  refine ⟨d0, d1, (c2.conns.filter (dyingP { c2 with batch := [] })).map fun r => Ev.connClosed r.sock, h0.symm, h1.symm, ?_⟩
  rw [hp.iter_eq, h0, h1]

end

/-- every functor of the batch runs - in a state grown from the batch's first, and what it leaves grows into the last -/
theorem task_fold_runs (t : Task) (rest : List Task) : ∀ (c : C), Mid c rest true → t ∈ rest →
    ∃ c' r', Grow c c' ∧ Mid c' (t :: r') true ∧
      Grow (runTask c' t) (rest.foldl (fun (c : C) t => if c.dead then c else runTask c t) c) := by
  induction rest with
  | nil => intro c _ h; cases h
  | cons u rest ih =>
    intro c hi hin
    rw [List.foldl_cons, if_neg (by simp [hi.notDead])]
    have hm := runTask_mid c rest u hi
    by_cases hu : t = u
    · subst hu; exact ⟨c, rest, Grow.refl c, hi, task_fold_grow rest _ hm⟩
    · obtain ⟨c', r', g, hm', g'⟩ := ih _ hm ((List.mem_cons.mp hin).resolve_left hu)
      exact ⟨c', r', (runTask_grow c rest u hi).trans g, hm', g'⟩

theorem task_fold_shutdown (k : Nat) (rest : List Task) : ∀ (c : C), Mid c rest true → Task.shutdownInLoop k ∈ rest →
    (∃ x, findIn c.conns k = some x ∧ x.destroyed = false) →
    ∃ d, (rest.foldl (fun (c : C) t => if c.dead then c else runTask c t) c).trace = c.trace ++ d ∧ Ev.shutdownWr k ∈ d := by
  intro c hi hin hx
  obtain ⟨c', _, g, _, g'⟩ := task_fold_runs _ rest c hi hin
  obtain ⟨x, hx, hd⟩ := hx
  obtain ⟨x', hx', hd', _⟩ := g.conn k x hx
  rw [shutdownTask_emits c' k x' hx' (hd'.trans hd)] at g'
  obtain ⟨d0, h0⟩ := g.tr
  obtain ⟨d1, h1⟩ := g'.tr
  have h1 : c'.trace ++ [Ev.shutdownWr k] ++ d1 = _ := h1
  exact ⟨d0 ++ Ev.shutdownWr k :: d1, by rw [← h1, ← h0]; simp, by simp⟩

theorem IterParts.shutdown {c c1 c2 : C} {active : List Src} (hp : IterParts c active c1 c2) {k : Nat}
    (hin : Task.shutdownInLoop k ∈ c1.pending) (hx : ∃ x, findIn c1.conns k = some x ∧ x.destroyed = false) :
    ∃ d0 d1, c1.trace = c.trace ++ d0 ∧ (iter c active).trace = c.trace ++ d0 ++ d1 ∧ Ev.shutdownWr k ∈ d1 := by
  obtain ⟨d1', h1', hm1⟩ := task_fold_shutdown k c1.pending _ hp.ms hin hx
  obtain ⟨d0, d1, d2, h0, h1, h⟩ := hp.trace
  rw [← hp.e2, h1] at h1'
  rw [List.append_cancel_left h1'] at h
  exact ⟨d0, d1' ++ d2, h0, by rw [h, List.append_assoc], List.mem_append_left _ hm1⟩

theorem iter_shutdown (c : C) (hb : Bnd c) (k : Nat) (hin : Task.shutdownInLoop k ∈ c.pending)
    (hx : ∃ x, findIn c.conns k = some x ∧ x.destroyed = false) (active : List Src) :
    ∃ d, (iter c active).trace = c.trace ++ d ∧ Ev.shutdownWr k ∈ d := by
  obtain ⟨c1, c2, hp⟩ := iter_parts c active hb
  obtain ⟨x, hx, hd⟩ := hx
  obtain ⟨x1, _, hx1, _, _, hd1, _⟩ := hp.conn hx
  obtain ⟨d0, d1, _, h, hm⟩ := hp.shutdown (hp.g1.pend.subset hin) ⟨x1, hx1, hd1.trans hd⟩
  exact ⟨d0 ++ d1, by rw [h, List.append_assoc], List.mem_append_right _ hm⟩

theorem iter_gone_quiet (c : C) (hb : Bnd c) (hal : c.clientAlive = false) (active : List Src) (k : Nat) :
    (iter c active).sockSt[k]? ≠ some SockSt.opened := by
  obtain ⟨c1, c2, hp⟩ := iter_parts c active hb
  rw [hp.iter_eq]
  intro ho
  -- an open socket is that of a registered channel, whose owner is the client or a queued `stopInLoop`
  rcases hp.m3.a14 (hp.m3.a4 k ho).2 with h | h
  · exact absurd (hp.alive.trans hal) (by rw [show c2.clientAlive = true from h]; simp)
  · cases hp.g2.nostop (hp.g1.alive.trans hal) (by simpa using h)

theorem task_fold_force (k : Nat) (rest : List Task) (c : C) (hi : Mid c rest true) (hin : Task.forceCloseInLoop k ∈ rest) :
    ∃ y, findIn (rest.foldl (fun (c : C) t => if c.dead then c else runTask c t) c).conns k = some y ∧ y.st = .disconnected := by
  obtain ⟨c', _, _, hm, g'⟩ := task_fold_runs _ rest c hi hin
  obtain ⟨x, hx, hcb⟩ := hm.c8 k (by simp)
  have hdown : ∃ y, findIn (runTask c' (.forceCloseInLoop k)).conns k = some y ∧ y.st = .disconnected := by
    rw [runTask_forceClose hx]
    split
    · rw [handleClose_find c' k x hx]
      exact ⟨_, rfl, by simp [goDown]⟩
    · rename_i hst
      exact ⟨x, hx, Decidable.not_not.mp hst⟩
  obtain ⟨y, hy, hys⟩ := hdown
  obtain ⟨y', hy', _, hst', _⟩ := g'.conn k y hy
  exact ⟨y', hy', hst' hys⟩

theorem iter_force (c : C) (hb : Bnd c) (hal : c.clientAlive = false) (k : Nat) (x : ConnRec)
    (hx : findIn c.conns k = some x) (hur : x.userRef = false) (hin : Task.forceCloseInLoop k ∈ c.pending)
    (active : List Src) :
    (iter c active).clientAlive = false ∧
    ∃ y, findIn (iter c active).conns k = some y ∧ y.st = .disconnected ∧ y.userRef = false := by
  obtain ⟨c1, c2, hp⟩ := iter_parts c active hb
  obtain ⟨_, x2, _, hx2, _, _, _, hur2⟩ := hp.conn hx
  obtain ⟨y, hy, hys⟩ := task_fold_force k c1.pending _ hp.ms (hp.g1.pend.subset hin)
  rw [← hp.e2, hx2] at hy; cases hy
  refine ⟨by rw [hp.iter_eq]; exact hp.alive.trans hal, _, hp.find hx2, ?_, ?_⟩
  · rw [(reapRec_fields _ x2).2.1]; exact hys
  · rw [(reapRec_fields _ x2).2.2.1, hur2, hur]

theorem iter_reaps (c : C) (hb : Bnd c) (hal : c.clientAlive = false) (k : Nat) (y : ConnRec)
    (hy : findIn c.conns k = some y) (hst : y.st = .disconnected) (hur : y.userRef = false) (active : List Src) :
    ∃ z, findIn (iter c active).conns k = some z ∧ z.destroyed = true := by
  obtain ⟨c1, c2, hp⟩ := iter_parts c active hb
  obtain ⟨y1, y2, hy1, hy2, _, _, hst12, hur2⟩ := hp.conn hy
  refine ⟨_, hp.find hy2, ?_⟩
  cases hd : y2.destroyed
  · -- nobody holds it: not the user, not the client (gone), no functor queued by the batch
    have : dyingP { c2 with batch := [] } y2 = true := by
      simp only [dyingP, connHeld, hd, Bool.not_false, Bool.true_and, Bool.not_eq_true', Bool.or_eq_false_iff]
      refine ⟨⟨by rw [hur2, hur], by simp [show c2.clientAlive = false from hp.alive.trans hal]⟩, ?_⟩
      rw [List.any_eq_false]
      intro t ht hh
      rw [(findIn_some hy2).2] at hh
      cases hp.g2.hold k y1 hy1 (hst12 hst).1 t ht hh
    simp [reapRec, this, kill]
  · exact (reapRec_fields _ y2).2.2.2 hd

end MuduoVerif.Client
