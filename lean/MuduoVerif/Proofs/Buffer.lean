import MuduoVerif.Model.Buffer
/-! Lemmas about the `Buffer` model: the index invariant `WF`, what each operation does to the readable window
(`*_spec`), the big-endian integer round trip, where the read index can go, the two searches (one `_spec` each, by the result). -/
namespace MuduoVerif.Buffer
open MuduoVerif.Gen.Buffer

/-- index invariant of `Buffer` (the picture at the top of Buffer.h) -/
structure WF (b : Buf) : Prop where
  rw : b.reader ≤ b.writer
  ws : b.writer ≤ b.data.length
  cp : kCheapPrepend ≤ b.data.length

theorem splice_length (d : Bytes) (pos : Nat) (x : Bytes) (h : pos + x.length ≤ d.length) :
    (splice d pos x).length = d.length := by
  simp [splice]; omega

theorem resize_length (d : Bytes) (n : Nat) : (resize d n).length = n := by
  simp [resize]; omega

/-! ### the readable window `[r, w)` of the vector under the ways the code changes the vector: a copy behind the
window, a copy in front of it, `resize`, the slide of `makeSpace` -/

theorem window_splice_after (d : Bytes) (r w : Nat) (x : Bytes) (hrw : r ≤ w)
    (h : w + x.length ≤ d.length) :
    ((splice d w x).drop r).take (w + x.length - r) = (d.drop r).take (w - r) ++ x := by
  rw [splice, List.append_assoc, List.drop_append_of_le_length (by rw [List.length_take]; omega), List.drop_take,
    ← List.append_assoc]
  exact List.take_left' (by simp only [List.length_append, List.length_take, List.length_drop]; omega)

theorem window_splice_before (d : Bytes) (r w : Nat) (x : Bytes) (hxr : x.length ≤ r) (hrw : r ≤ w)
    (h : w ≤ d.length) :
    ((splice d (r - x.length) x).drop (r - x.length)).take (w - (r - x.length))
      = x ++ (d.drop r).take (w - r) := by
  rw [splice, List.append_assoc, List.drop_left' (by rw [List.length_take]; omega), Nat.sub_add_cancel hxr,
    List.take_append, List.take_of_length_le (by omega)]
  congr 2; omega

theorem window_resize (d : Bytes) (r w n : Nat) (hrw : r ≤ w) (h : w ≤ d.length) (hn : w ≤ n) :
    ((resize d n).drop r).take (w - r) = (d.drop r).take (w - r) := by
  rw [resize, List.drop_append_of_le_length (by rw [List.length_take]; omega),
    List.take_append_of_le_length (by simp only [List.length_drop, List.length_take]; omega), List.drop_take,
    List.take_take, Nat.min_eq_left (by omega)]

theorem window_slide (d : Bytes) (r w k : Nat) (hrw : r ≤ w) (h : w ≤ d.length) (hk : k ≤ r) :
    ((splice d k ((d.drop r).take (w - r))).drop k).take (k + (w - r) - k) = (d.drop r).take (w - r) := by
  rw [splice, List.append_assoc, List.drop_left' (by rw [List.length_take]; omega)]
  exact List.take_left' (by simp only [List.length_take, List.length_drop]; omega)

theorem content_length {b : Buf} (h : WF b) : (content b).length = readable b := by
  have := h.ws
  simp only [content, readable, List.length_take, List.length_drop]; omega

theorem mk_wf (n : Nat) : WF (mk n) := by
  constructor <;> simp [mk]
theorem mk_content (n : Nat) : content (mk n) = [] := by simp [mk, content]
theorem mk_sizes (n : Nat) :
    readable (mk n) = 0 ∧ writable (mk n) = n ∧ prependable (mk n) = kCheapPrepend := by
  simp [mk, readable, writable, prependable]

theorem retrieveAll_spec {b : Buf} (h : WF b) : WF (retrieveAll b) ∧ content (retrieveAll b) = [] :=
  ⟨⟨Nat.le_refl _, h.cp, h.cp⟩, by simp [retrieveAll, content]⟩

theorem retrieve_spec {b : Buf} {n : Nat} (h : WF b) (hp : retrievePre b n) :
    WF (retrieve b n) ∧ content (retrieve b n) = (content b).drop n := by
  unfold retrievePre at hp
  unfold retrieve
  split
  · next hk =>
    unfold retrieveKeeps readable at hk
    refine ⟨⟨by show b.reader + n ≤ b.writer; omega, h.ws, h.cp⟩, ?_⟩
    simp only [content, List.drop_take, List.drop_drop, Nat.sub_sub]
  · next hk =>
    unfold retrieveKeeps at hk
    rw [(retrieveAll_spec h).2, List.drop_of_length_le (by rw [content_length h]; omega)]
    exact ⟨(retrieveAll_spec h).1, rfl⟩

theorem makeSpace_spec {b : Buf} {len : Nat} (h : WF b) (hn : ensureNeedsSpace (writable b) len) :
    WF (makeSpace b len) ∧ content (makeSpace b len) = content b ∧ len ≤ writable (makeSpace b len) := by
  obtain ⟨h1, h2, h3⟩ := h
  unfold ensureNeedsSpace writable at hn
  unfold makeSpace
  split
  · refine ⟨by constructor <;> simp [resize_length] <;> omega, ?_, by simp [writable, resize_length]⟩
    simp only [content]
    exact window_resize _ _ _ _ h1 h2 (by omega)
  · next hg =>
    unfold makeSpaceGrows writable prependable at hg
    have hsl : (splice b.data kCheapPrepend (content b)).length = b.data.length :=
      splice_length _ _ _ (by rw [content_length ⟨h1, h2, h3⟩, readable]; omega)
    exact ⟨⟨Nat.le_add_right _ _, by simp only [hsl, readable]; omega, by simp only [hsl]; omega⟩,
      window_slide _ _ _ _ h1 h2 (by omega), by simp only [writable, hsl, readable]; omega⟩

theorem ensureWritable_spec {b : Buf} {len : Nat} (h : WF b) :
    WF (ensureWritable b len) ∧ content (ensureWritable b len) = content b
      ∧ len ≤ writable (ensureWritable b len) := by
  unfold ensureWritable
  split
  · next hn => exact makeSpace_spec h hn
  · next hn => exact ⟨h, rfl, Nat.le_of_not_lt hn⟩

theorem writeAtEnd_spec {b : Buf} {x : Bytes} (h : WF b) (hp : hasWrittenPre b x.length) :
    WF (writeAtEnd b x) ∧ content (writeAtEnd b x) = content b ++ x := by
  obtain ⟨h1, h2, h3⟩ := h
  unfold hasWrittenPre writable at hp
  have hsl : (splice b.data b.writer x).length = b.data.length := splice_length _ _ _ (by omega)
  refine ⟨by constructor <;> simp [writeAtEnd, hasWritten, hsl] <;> omega, ?_⟩
  simp only [writeAtEnd, hasWritten, content]
  exact window_splice_after _ _ _ _ h1 (by omega)

theorem unwrite_spec {b : Buf} {n : Nat} (h : WF b) (hp : unwritePre b n) :
    WF (unwrite b n) ∧ content (unwrite b n) = (content b).take ((content b).length - n) := by
  obtain ⟨h1, h2, h3⟩ := h
  unfold unwritePre readable at hp
  refine ⟨⟨by show b.reader ≤ b.writer - n; omega, Nat.le_trans (Nat.sub_le _ _) h2, h3⟩, ?_⟩
  rw [content_length ⟨h1, h2, h3⟩]
  simp only [unwrite, content, readable, List.take_take]
  congr 1; omega

theorem append_eq (b : Buf) (x : Bytes) : append b x = writeAtEnd (ensureWritable b x.length) x := rfl

theorem append_spec {b : Buf} {x : Bytes} (h : WF b) :
    WF (append b x) ∧ content (append b x) = content b ++ x := by
  obtain ⟨hw, hc, hl⟩ := ensureWritable_spec (len := x.length) h
  rw [append_eq, ← hc]
  exact writeAtEnd_spec hw hl

theorem prepend_spec {b : Buf} {x : Bytes} (h : WF b) (hp : prependPre b x) :
    WF (prepend b x) ∧ content (prepend b x) = x ++ content b := by
  obtain ⟨h1, h2, h3⟩ := h
  unfold prependPre prependable at hp
  have hsl : (splice b.data (b.reader - x.length) x).length = b.data.length :=
    splice_length _ _ _ (by omega)
  exact ⟨by constructor <;> simp [prepend, hsl] <;> omega, window_splice_before _ _ _ _ hp h1 h2⟩

theorem shrink_spec {b : Buf} {reserve : Nat} (h : WF b) :
    WF (shrink b reserve) ∧ content (shrink b reserve) = content b
      ∧ reserve ≤ writable (shrink b reserve) := by
  obtain ⟨hw, hc, hl⟩ := ensureWritable_spec (len := readable b + reserve) (mk_wf kInitialSize)
  obtain ⟨hw', hc'⟩ := append_spec (x := content b) hw
  refine ⟨hw', by rw [shrink, hc', hc, mk_content]; rfl, ?_⟩
  -- appending `readable b` bytes into a buffer with `readable b + reserve` writable bytes
  have hlen := content_length h
  unfold shrink
  generalize ensureWritable (mk kInitialSize) (readable b + reserve) = e at *
  have he : ensureWritable e (content b).length = e := by
    rw [ensureWritable, if_neg (by unfold ensureNeedsSpace; omega)]
  have := hw.ws
  unfold writable at hl
  simp only [append_eq, he, writeAtEnd, hasWritten, writable]
  rw [splice_length _ _ _ (by omega)]
  omega

theorem readFd_spec {b : Buf} {d : Bytes} (h : WF b) :
    WF (readFd b d) ∧ content (readFd b d) = content b ++ d := by
  unfold readFd
  split
  · next hf => exact writeAtEnd_spec h hf
  · next hf =>
    unfold readFdFits at hf
    -- the first segment fills the writable area exactly
    have hlen : (d.take (writable b)).length = writable b := by rw [List.length_take]; omega
    have hws := h.ws
    obtain ⟨hw1, hc1⟩ := writeAtEnd_spec (x := d.take (writable b)) h (by rw [hasWrittenPre, hlen]; exact Nat.le_refl _)
    have heq : writeAtEnd b (d.take (writable b))
        = { b with data := splice b.data b.writer (d.take (writable b)), writer := b.data.length } := by
      simp only [writeAtEnd, hasWritten, hlen]
      congr 1; unfold writable; omega
    rw [heq] at hw1 hc1
    obtain ⟨hw2, hc2⟩ := append_spec (x := d.drop (writable b)) hw1
    exact ⟨hw2, by rw [hc2, hc1, List.append_assoc, List.take_append_drop]⟩

theorem decodeBE_fold (bs : Bytes) (acc : Nat) :
    bs.foldl (fun a b => a * 256 + b.toNat) acc = acc * 256 ^ bs.length + decodeBE bs := by
  unfold decodeBE
  induction bs generalizing acc with
  | nil => simp
  | cons c cs ih =>
    simp only [List.foldl_cons, List.length_cons]
    rw [ih (acc * 256 + c.toNat), ih (0 * 256 + c.toNat)]
    simp [Nat.pow_succ, Nat.add_mul, Nat.mul_assoc, Nat.mul_comm 256, Nat.add_assoc]

theorem decodeBE_cons (b : UInt8) (bs : Bytes) :
    decodeBE (b :: bs) = b.toNat * 256 ^ bs.length + decodeBE bs := by
  have := decodeBE_fold bs b.toNat
  simpa [decodeBE] using this

theorem encodeBE_length (n u : Nat) : (encodeBE n u).length = n := by
  induction n generalizing u with
  | zero => rfl
  | succ n ih => simp [encodeBE, ih]

theorem decode_encodeBE (n u : Nat) (h : u < 256 ^ n) : decodeBE (encodeBE n u) = u := by
  induction n generalizing u with
  | zero => simp [encodeBE, decodeBE] at *; omega
  | succ n ih =>
    have hpos : 0 < 256 ^ n := Nat.pow_pos (by decide)
    have hlt : u / 256 ^ n < 256 := Nat.div_lt_of_lt_mul (by rwa [Nat.pow_succ] at h)
    rw [encodeBE, decodeBE_cons, encodeBE_length, ih _ (Nat.mod_lt _ hpos), UInt8.toNat_ofNat',
      Nat.mod_eq_of_lt (by omega), Nat.mul_comm]
    exact Nat.div_add_mod u (256 ^ n)

theorem decodeBE_lt (bs : Bytes) : decodeBE bs < 256 ^ bs.length := by
  induction bs with
  | nil => simp [decodeBE]
  | cons b bs ih =>
    have := Nat.mul_le_mul_right (256 ^ bs.length) (Nat.le_of_lt_succ b.toNat_lt)
    rw [decodeBE_cons, List.length_cons, Nat.pow_succ]; omega

theorem encode_decodeBE (bs : Bytes) : encodeBE bs.length (decodeBE bs) = bs := by
  induction bs with
  | nil => rfl
  | cons b bs ih =>
    have hp : 0 < 256 ^ bs.length := Nat.pow_pos (by decide)
    rw [decodeBE_cons, List.length_cons, encodeBE, Nat.mul_comm, Nat.mul_add_div hp, Nat.mul_add_mod,
      Nat.div_eq_of_lt (decodeBE_lt bs), Nat.mod_eq_of_lt (decodeBE_lt bs), ih]
    simp

theorem toUnsigned_lt (bits : Nat) (v : Int) : toUnsigned bits v < 2 ^ bits := by
  have hpos : (0 : Int) < 2 ^ bits := Int.pow_pos (by decide)
  rw [toUnsigned, Int.toNat_lt (Int.emod_nonneg v (Int.ne_of_gt hpos)), Int.natCast_pow]
  exact Int.emod_lt_of_pos v hpos

theorem toSigned_toUnsigned (bits : Nat) (hb : 0 < bits) (v : Int)
    (hlo : -(2 ^ (bits - 1) : Int) ≤ v) (hhi : v < (2 ^ (bits - 1) : Int)) :
    toSigned bits (toUnsigned bits v) = v := by
  obtain ⟨k, rfl⟩ : ∃ k, bits = k + 1 := ⟨bits - 1, by omega⟩
  rw [Nat.add_sub_cancel] at hlo hhi
  have hc : ((2 ^ k : Nat) : Int) = 2 ^ k := Int.natCast_pow 2 k
  rw [toSigned, toUnsigned, Nat.add_sub_cancel, Int.pow_succ, ← hc]
  rw [← hc] at hlo hhi
  generalize 2 ^ k = P at *
  by_cases hv : 0 ≤ v
  · rw [Int.emod_eq_of_lt hv (by omega)]; split <;> omega
  · rw [← Int.add_emod_right, Int.emod_eq_of_lt (by omega) (by omega)]; split <;> omega

theorem intBytes_length (n : Nat) (v : Int) : (intBytes n v).length = n := encodeBE_length _ _

theorem pow256 (n : Nat) : 256 ^ n = 2 ^ (8 * n) := by
  rw [Nat.pow_mul]

theorem toUnsigned_toSigned (bits u : Nat) (h : u < 2 ^ bits) : toUnsigned bits (toSigned bits u) = u := by
  have hc : ((2 ^ bits : Nat) : Int) = 2 ^ bits := Int.natCast_pow 2 bits
  unfold toSigned toUnsigned
  rw [← hc]
  split
  · rw [Int.emod_eq_of_lt (by omega) (by omega)]; rfl
  · rw [Int.sub_emod_right, Int.emod_eq_of_lt (by omega) (by omega)]; rfl

theorem intBytes_toSigned_decodeBE (bs : Bytes) :
    intBytes bs.length (toSigned (8 * bs.length) (decodeBE bs)) = bs := by
  rw [intBytes, toUnsigned_toSigned _ _ (by rw [← pow256]; exact decodeBE_lt bs), encode_decodeBE]

theorem int_roundtrip_bytes (n : Nat) (hn : 0 < n) (v : Int)
    (hlo : -(2 ^ (8 * n - 1) : Int) ≤ v) (hhi : v < (2 ^ (8 * n - 1) : Int)) :
    toSigned (8 * n) (decodeBE (intBytes n v)) = v := by
  unfold intBytes
  rw [decode_encodeBE _ _ (by rw [pow256]; exact toUnsigned_lt _ _)]
  exact toSigned_toUnsigned _ (by omega) v hlo hhi

/-! ### where the read index can go (for the cheap-prepend guarantee) -/
theorem ensureWritable_reader (b : Buf) (n : Nat) :
    (ensureWritable b n).reader = kCheapPrepend ∨ (ensureWritable b n).reader = b.reader := by
  unfold ensureWritable makeSpace
  repeat' split
  all_goals simp

theorem append_reader (b : Buf) (x : Bytes) :
    (append b x).reader = kCheapPrepend ∨ (append b x).reader = b.reader :=
  ensureWritable_reader b x.length

theorem mk_append_reader (i n : Nat) (x : Bytes) :
    (append (ensureWritable (mk i) n) x).reader = kCheapPrepend := by
  have h1 := ensureWritable_reader (mk i) n
  have h2 := append_reader (ensureWritable (mk i) n) x
  have : (mk i).reader = kCheapPrepend := rfl
  omega

/-- the ghost counter is cleared exactly when the read index is back at `kCheapPrepend`: that is enough
whenever the read index did not go down -/
theorem borrowed_of_reader {r r' g : Nat} (hr : r' = kCheapPrepend ∨ r ≤ r') (hg : kCheapPrepend ≤ r + g) :
    kCheapPrepend ≤ r' + if r' = kCheapPrepend then 0 else g := by
  split <;> omega

/-- `findSub` is `std::search`; `i` is the offset the result is counted from -/
theorem findSub_spec (pat l : Bytes) (i : Nat) :
    match findSub pat l i with
    | some k => i ≤ k ∧ pat.isPrefixOf (l.drop (k - i)) = true ∧ ∀ j, j < k - i → pat.isPrefixOf (l.drop j) = false
    | none => pat ≠ [] → ∀ j, pat.isPrefixOf (l.drop j) = false := by
  fun_induction findSub pat l i with
  | case1 i h => simp [h]
  | case2 i h => intro _ j; cases pat <;> simp_all
  | case3 c cs i h => simp [h]
  | case4 c cs i h ih =>
    revert ih
    cases findSub pat cs (i + 1) with
    | none =>
      intro ih hp j
      cases j with
      | zero => exact Bool.eq_false_iff.mpr h
      | succ j => simpa using ih hp j
    | some k =>
      intro ⟨h1, h2, h3⟩
      obtain ⟨d, rfl⟩ : ∃ d, k = i + 1 + d := ⟨k - (i + 1), by omega⟩
      refine ⟨by omega, by simpa [show i + 1 + d - i = d + 1 by omega] using h2, fun j hj => ?_⟩
      cases j with
      | zero => exact Bool.eq_false_iff.mpr h
      | succ j => simpa using h3 j (by omega)

/-- `findByte` is `memchr` -/
theorem findByte_spec (c : UInt8) (l : Bytes) :
    match findByte c l with
    | some k => l[k]? = some c ∧ ∀ j, j < k → l[j]? ≠ some c
    | none => ∀ j : Nat, l[j]? ≠ some c := by
  by_cases hlt : l.findIdx (· == c) < l.length
  · simp only [findByte, hlt, if_true]
    refine ⟨?_, fun j hj he => ?_⟩
    · rw [List.getElem?_eq_getElem hlt]
      exact congrArg some (beq_iff_eq.mp (List.findIdx_getElem (w := hlt)))
    · rw [List.getElem?_eq_getElem (Nat.lt_trans hj hlt)] at he
      have := List.not_of_lt_findIdx hj
      rw [Option.some.inj he] at this
      exact absurd (beq_self_eq_true c) (by rw [this]; decide)
  · simp only [findByte, hlt, if_false]
    intro j he
    have := List.findIdx_eq_length.mp (Nat.le_antisymm List.findIdx_le_length (Nat.le_of_not_lt hlt)) c
      (List.mem_of_getElem? he)
    simp at this

/-- a search for the first position with `Q` (`N`: without) that is run on the part of a range from `start` on and
reports its result with `start` added finds the first position with `Q` from `start` on -/
theorem first_map_add_start {Q N : Nat → Prop} (r : Option Nat) (start : Nat)
    (h : match r with
      | some k0 => Q (start + k0) ∧ ∀ j, j < k0 → N (start + j)
      | none => ∀ j, N (start + j)) :
    match r.map (· + start) with
    | some k => start ≤ k ∧ Q k ∧ ∀ j, start ≤ j → j < k → N j
    | none => ∀ j, start ≤ j → N j := by
  cases r with
  | none => exact fun j hj => Nat.add_sub_cancel' hj ▸ h (j - start)
  | some k0 =>
    refine ⟨Nat.le_add_left _ _, (Nat.add_comm start k0 ▸ h.1 : Q (k0 + start)), fun j hj (hjk : j < k0 + start) => ?_⟩
    exact Nat.add_sub_cancel' hj ▸ h.2 (j - start) (by omega)

theorem findCRLF_spec (b : Buf) (start : Nat) :
    match findCRLF b start with
    | some k => start ≤ k ∧ List.isPrefixOf [13, 10] ((content b).drop k) = true
      ∧ ∀ j, start ≤ j → j < k → List.isPrefixOf [13, 10] ((content b).drop j) = false
    | none => ∀ j, start ≤ j → List.isPrefixOf [13, 10] ((content b).drop j) = false := by
  refine first_map_add_start (findSub [13, 10] ((content b).drop start) 0) start ?_
  have := findSub_spec [13, 10] ((content b).drop start) 0
  simp only [List.drop_drop, Nat.sub_zero] at this
  split <;> simp_all

theorem findEOL_spec (b : Buf) (start : Nat) :
    match findEOL b start with
    | some k => start ≤ k ∧ (content b)[k]? = some 10 ∧ ∀ j, start ≤ j → j < k → (content b)[j]? ≠ some 10
    | none => ∀ j : Nat, start ≤ j → (content b)[j]? ≠ some 10 := by
  refine first_map_add_start (findByte 10 ((content b).drop start)) start ?_
  have := findByte_spec 10 ((content b).drop start)
  simp only [List.getElem?_drop] at this
  exact this

end MuduoVerif.Buffer
