import MuduoVerif.Proofs.Calendar
import MuduoVerif.Proofs.TsTextTie
import MuduoVerif.Proofs.Inet
/-!
Lemmas about the text forms of `Timestamp` (C20): the formats of `Generated/TsText.lean`, rendered by
`Model/Calendar.lean`, read back to the instant they were printed from.

The generated formats, buffers and the split of the microsecond count are unfolded here, so the proofs are re-checked
against whatever Timestamp.cc says now.
-/
namespace MuduoVerif.Calendar
open MuduoVerif.Gen.Calendar MuduoVerif.Gen.TsText

/-! `natDigits` / `digitsVal` are `Inet.decChars` / `Inet.decVal` under the names of this model: the facts come from there -/

theorem natDigits_isDigit (n : Nat) : ∀ c ∈ natDigits n, c.isDigit = true := Inet.decChars_isDigit n

theorem digitsVal_natDigits (n : Nat) : digitsVal (natDigits n) = n := Inet.decVal_decChars n

theorem natDigits_length_pos (n : Nat) : 0 < (natDigits n).length := Inet.decChars_length_pos n

theorem natDigits_length_le (n k : Nat) (hk : 0 < k) (h : n < 10 ^ k) : (natDigits n).length ≤ k :=
  Inet.decChars_length_le n k hk h

theorem digitsVal_zeros (k : Nat) (cs : List Char) : digitsVal (List.replicate k '0' ++ cs) = digitsVal cs := by
  unfold digitsVal
  induction k with
  | zero => simp
  | succ k ih => simp only [List.replicate_succ, List.cons_append, Nat.ofDigitChars_cons]; simpa using ih

/-- `%0<w>d` of a value that fits: exactly `w` digits whose value is the number -/
theorem fmtInt_zero (w : Nat) (hw : 0 < w) (v : Int) (h0 : 0 ≤ v) (h1 : v < 10 ^ w) :
    (fmtInt w true v).length = w ∧ (∀ c ∈ fmtInt w true v, c.isDigit = true) ∧ (digitsVal (fmtInt w true v) : Int) = v := by
  have hn : v.natAbs < 10 ^ w := by
    have : ((v.natAbs : Nat) : Int) < ((10 ^ w : Nat) : Int) := by rw [Int.natAbs_of_nonneg h0]; exact_mod_cast h1
    exact_mod_cast this
  have hl := natDigits_length_le v.natAbs w hw hn
  have hneg : ¬ v < 0 := by omega
  simp only [fmtInt, hneg, decide_false, Bool.false_eq_true, if_false, if_true, List.nil_append, Nat.add_zero]
  refine ⟨by simp; omega, ?_, ?_⟩
  · intro c hc
    rcases List.mem_append.mp hc with h | h
    · rw [List.eq_of_mem_replicate h]; rfl
    · exact natDigits_isDigit _ c h
  · rw [digitsVal_zeros, digitsVal_natDigits, Int.natAbs_of_nonneg h0]

theorem fmtInt_blank (w : Nat) (v : Int) (h0 : 0 ≤ v) :
    fmtInt w false v = List.replicate (w - (natDigits v.natAbs).length) ' ' ++ natDigits v.natAbs := by
  have hneg : ¬ v < 0 := by omega
  simp [fmtInt, hneg]

theorem takeWhile_digits (ds rest : List Char) (c : Char) (hd : ∀ x ∈ ds, x.isDigit = true) (hc : c.isDigit = false) :
    (ds ++ c :: rest).takeWhile Char.isDigit = ds ∧ (ds ++ c :: rest).dropWhile Char.isDigit = c :: rest := by
  induction ds with
  | nil => simp [hc]
  | cons d ds ih =>
    have h := hd d (by simp)
    have ih' := ih (fun x hx => hd x (by simp [hx]))
    simp [h, ih'.1, ih'.2]

theorem dropWhile_blanks (k : Nat) (cs : List Char) (h : cs.head? ≠ some ' ') :
    (List.replicate k ' ' ++ cs).dropWhile (· = ' ') = cs := by
  induction k with
  | zero =>
    cases cs with
    | nil => rfl
    | cons c cs =>
      have : c ≠ ' ' := by intro e; apply h; simp [e]
      simp [this]
  | succ k ih => simpa [List.replicate_succ, List.dropWhile] using ih

theorem render_toString (a b : Int) :
    renderGo none toStringFormat [a, b] = fmtInt 0 false a ++ '.' :: fmtInt 6 true b := by
  simp [toStringFormat, renderGo]

theorem render_formattedMicro (y mo d h mi s u : Int) :
    renderGo none formattedFormatMicro [y, mo, d, h, mi, s, u] =
      fmtInt 4 false y ++ (fmtInt 2 true mo ++ (fmtInt 2 true d ++ ' ' :: (fmtInt 2 true h ++ ':' :: (fmtInt 2 true mi ++
        ':' :: (fmtInt 2 true s ++ '.' :: fmtInt 6 true u))))) := by
  simp [formattedFormatMicro, renderGo]

theorem render_formatted (y mo d h mi s : Int) :
    renderGo none formattedFormat [y, mo, d, h, mi, s] =
      fmtInt 4 false y ++ (fmtInt 2 true mo ++ (fmtInt 2 true d ++ ' ' :: (fmtInt 2 true h ++ ':' :: (fmtInt 2 true mi ++
        ':' :: fmtInt 2 true s)))) := by
  simp [formattedFormat, renderGo]

/-- **`Timestamp::toString` reads back** to the microsecond, for every non-negative count that fits `int64_t` -/
theorem toString_roundtrip (us : Int) (h0 : 0 ≤ us) (h1 : us < 2 ^ 63) :
    parseToString (tsToStringChars us) = some us := by
  have hs : toStringSeconds us = us / 1000000 := by
    simp only [toStringSeconds, kMicro_eq]; exact Int.tdiv_eq_ediv_of_nonneg h0
  have hm : toStringMicros us = us % 1000000 := by
    simp only [toStringMicros, kMicro_eq]; exact Int.tmod_eq_emod_of_nonneg h0
  have hs0 : 0 ≤ us / 1000000 := by omega
  obtain ⟨l6, d6, v6⟩ := fmtInt_zero 6 (by decide) (us % 1000000) (by omega) (by omega)
  have hsn : (us / 1000000).natAbs < 10 ^ 19 := by omega
  have hl := natDigits_length_le _ 19 (by decide) hsn
  have hp := natDigits_length_pos (us / 1000000).natAbs
  unfold tsToStringChars snprintf
  rw [render_toString, hs, hm, fmtInt_blank 0 _ hs0]
  simp only [Nat.zero_sub, List.replicate_zero, List.nil_append, toStringBuf]
  -- at most 19 digits, the point and six digits: shorter than the buffer, nothing is cut
  rw [List.take_of_length_le (by simp [l6]; omega)]
  unfold parseToString
  obtain ⟨t1, t2⟩ := takeWhile_digits (natDigits (us / 1000000).natAbs) (fmtInt 6 true (us % 1000000)) '.'
    (natDigits_isDigit _) (by decide)
  simp only [t1, t2]
  have hne : natDigits (us / 1000000).natAbs ≠ [] := List.ne_nil_of_length_pos hp
  have hall : (fmtInt 6 true (us % 1000000)).all Char.isDigit = true := List.all_eq_true.mpr d6
  simp only [hne, l6, hall, ne_eq, not_false_eq_true, and_self, if_true, Option.some.injEq]
  rw [digitsVal_natDigits, v6, Int.natAbs_of_nonneg hs0]
  omega

theorem fmtInt_two (v : Int) (h0 : 0 ≤ v) (h1 : v < 100) :
    ∃ a b, fmtInt 2 true v = [a, b] ∧ a.isDigit = true ∧ b.isDigit = true ∧ (digitsVal [a, b] : Int) = v := by
  obtain ⟨l, d, e⟩ := fmtInt_zero 2 (by decide) v h0 (by omega)
  match hf : fmtInt 2 true v, l with
  | [a, b], _ => exact ⟨a, b, rfl, d a (by simp [hf]), d b (by simp [hf]), hf ▸ e⟩

/-- **the scanner reads the layout back**: blanks, a run of digits `Y..Y MM DD`, then `" HH:MM:SS"` and what follows -/
theorem parseFormatted_text (k : Nat) (yd : List Char) (hne : yd ≠ []) (hyd : ∀ c ∈ yd, c.isDigit = true)
    (o1 o2 d1 d2 h1 h2 m1 m2 s1 s2 : Char) (ho1 : o1.isDigit = true) (ho2 : o2.isDigit = true) (hd1 : d1.isDigit = true)
    (hd2 : d2.isDigit = true) (tail : List Char) :
    parseFormatted (List.replicate k ' ' ++ (yd ++ (o1 :: o2 :: d1 :: d2 :: ' ' :: h1 :: h2 :: ':' :: m1 :: m2 :: ':' :: s1 :: s2 :: tail))) =
      (let sec := fromUtcTime { year := digitsVal yd, month := digitsVal [o1, o2], day := digitsVal [d1, d2],
                                hour := digitsVal [h1, h2], minute := digitsVal [m1, m2], second := digitsVal [s1, s2] }
       match tail with
       | [] => some (sec * 1000000)
       | '.' :: u => if u.length = 6 then some (sec * 1000000 + digitsVal u) else none
       | _ => none) := by
  have hhead : (yd ++ (o1 :: o2 :: d1 :: d2 :: ' ' :: h1 :: h2 :: ':' :: m1 :: m2 :: ':' :: s1 :: s2 :: tail)).head? ≠ some ' ' := by
    match yd, hne, hyd with
    | c :: cs, _, hyd =>
      have := hyd c (by simp)
      intro e
      simp only [List.cons_append, List.head?_cons, Option.some.injEq] at e
      rw [e] at this
      exact absurd this (by decide)
  obtain ⟨t1, t2⟩ := takeWhile_digits (yd ++ [o1, o2, d1, d2]) (h1 :: h2 :: ':' :: m1 :: m2 :: ':' :: s1 :: s2 :: tail) ' '
    (by simp only [List.mem_append, List.mem_cons, List.not_mem_nil, or_false]; rintro x (h | rfl | rfl | rfl | rfl) <;>
      first | exact hyd x h | assumption) (by decide)
  simp only [List.append_assoc, List.cons_append, List.nil_append] at t1 t2
  unfold parseFormatted
  simp only [dropWhile_blanks _ _ hhead, t1, t2]
  have := List.length_pos_iff.mpr hne
  rw [if_neg (by simp; omega), show (yd ++ [o1, o2, d1, d2]).length - 4 = yd.length by simp,
    show (yd ++ [o1, o2, d1, d2]).length - 2 = (yd ++ [o1, o2]).length by simp, List.take_left,
    List.drop_left, show yd ++ [o1, o2, d1, d2] = (yd ++ [o1, o2]) ++ [d1, d2] by simp, List.drop_left]
  rfl

/-- **`Timestamp::toFormattedString` reads back**: with microseconds to the microsecond, without to the second - for
every non-negative count whose year has at most four digits (no cut by the 64-byte buffer is possible then) -/
theorem formatted_roundtrip (us : Int) (h0 : 0 ≤ us) (hy : (BreakTime (us / 1000000)).year ≤ 9999)
    (hy0 : 0 ≤ (BreakTime (us / 1000000)).year) :
    parseFormatted (tsFormattedChars us true) = some us ∧
    parseFormatted (tsFormattedChars us false) = some (us / 1000000 * 1000000) := by
  have hs : formattedSeconds us = us / 1000000 := by
    simp only [formattedSeconds, kMicro_eq]; exact Int.tdiv_eq_ediv_of_nonneg h0
  have hm : formattedMicros us = us % 1000000 := by
    simp only [formattedMicros, kMicro_eq]; exact Int.tmod_eq_emod_of_nonneg h0
  have ht : tMin ≤ us / 1000000 := by unfold tMin jdnMin; omega
  obtain ⟨f1, f2, f3, f4, f5, f6, f7, f8, f9, f10⟩ := breakTime_fields _ ht
  obtain ⟨l6, d6, v6⟩ := fmtInt_zero 6 (by decide) (us % 1000000) (by omega) (by omega)
  have hback := gen_fromUtc_break _ ht
  unfold tsFormattedChars snprintf
  simp only [hs, hm, formattedShowsMicros, if_true, Bool.false_eq_true, if_false, List.cons_append, List.nil_append,
    formattedBufMicro, formattedBuf, render_formattedMicro, render_formatted]
  -- every field prints with a fixed number of digits (the year: one to four): the layout `parseFormatted_text` reads
  generalize BreakTime (us / 1000000) = dt at *
  obtain ⟨o1, o2, eo, ho1, ho2, vo⟩ := fmtInt_two dt.month (by omega) (by omega)
  obtain ⟨d1, d2, ed, hd1, hd2, vd⟩ := fmtInt_two dt.day (by omega) (by omega)
  obtain ⟨h1, h2, eh, _, _, vh⟩ := fmtInt_two dt.hour f5 (by omega)
  obtain ⟨m1, m2, em, _, _, vm⟩ := fmtInt_two dt.minute f7 (by omega)
  obtain ⟨s1, s2, es, _, _, vs⟩ := fmtInt_two dt.second f9 (by omega)
  have hyl := natDigits_length_le dt.year.natAbs 4 (by decide) (by omega)
  have hylp := natDigits_length_pos dt.year.natAbs
  have hval : (digitsVal (natDigits dt.year.natAbs) : Int) = dt.year := by
    rw [digitsVal_natDigits, Int.natAbs_of_nonneg hy0]
  simp only [fmtInt_blank 4 _ hy0, eo, ed, eh, em, es, List.cons_append, List.nil_append, List.append_assoc]
  constructor
  · rw [List.take_of_length_le (by simp [l6]; omega),
      parseFormatted_text _ _ (List.ne_nil_of_length_pos hylp) (natDigits_isDigit _) _ _ _ _ _ _ _ _ _ _ ho1 ho2 hd1 hd2]
    simp only [l6, if_true, hval, vo, vd, vh, vm, vs, hback, v6, Option.some.injEq]
    omega
  · rw [List.take_of_length_le (by simp; omega),
      parseFormatted_text _ _ (List.ne_nil_of_length_pos hylp) (natDigits_isDigit _) _ _ _ _ _ _ _ _ _ _ ho1 ho2 hd1 hd2]
    simp only [hval, vo, vd, vh, vm, vs, hback]

end MuduoVerif.Calendar
