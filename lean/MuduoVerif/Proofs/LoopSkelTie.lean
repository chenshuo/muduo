import MuduoVerif.Generated.LoopSkel
import MuduoVerif.Generated.Loop
import MuduoVerif.Model.LoopSkelDecl
/-!
# T1 tie for the event-loop family: statement order of `EventLoop.cc`, `EventLoopThread.cc`, `EventLoopThreadPool.cc`,
`Acceptor.cc` and the constructor / destructor of `Channel.cc`

`Gen.LoopSkel.<fn>` is the statement skeleton `vlib/gen/loopskel.py` extracts from /repo's current sources on every run;
`Decl.<fn>` (`Model/LoopSkelDecl.lean`) is what the steps of `Model/Loop.lean`, `Pool.lean`, `Acceptor.lean`, `Poller.lean`
and `Timer.lean` assume of that function.  Each `skeleton_<fn>` is closed by `rfl`: it holds exactly as long as the
source performs the same calls (with the same printed arguments), stores, lock / unlock positions, log statements of
level ERROR and above, assertions and returns, in the same order, under the same nesting of the same printed conditions
and loops.

The READING LEMMAS below state, as kernel-checked facts about the EXTRACTED skeletons (not the declared ones), the
orders the properties rest on - so that what a property depends on is written down next to it and not only implied by a
37-fold equality.  The property modules re-export them.
-/
namespace MuduoVerif.LoopSkel
open MuduoVerif.SysSkel


theorem skeleton_ignoreSigPipeCtor : Gen.LoopSkel.ignoreSigPipeCtor = Decl.ignoreSigPipeCtor := rfl
theorem skeleton_getEventLoopOfCurrentThread :
    Gen.LoopSkel.getEventLoopOfCurrentThread = Decl.getEventLoopOfCurrentThread := rfl
theorem skeleton_loopCtor : Gen.LoopSkel.loopCtor = Decl.loopCtor := rfl
theorem skeleton_loopDtor : Gen.LoopSkel.loopDtor = Decl.loopDtor := rfl
theorem skeleton_loopFn : Gen.LoopSkel.loopFn = Decl.loopFn := rfl
theorem skeleton_quit : Gen.LoopSkel.quit = Decl.quit := rfl
theorem skeleton_runInLoop : Gen.LoopSkel.runInLoop = Decl.runInLoop := rfl
theorem skeleton_queueInLoop : Gen.LoopSkel.queueInLoop = Decl.queueInLoop := rfl
theorem skeleton_queueSize : Gen.LoopSkel.queueSize = Decl.queueSize := rfl
theorem skeleton_runAt : Gen.LoopSkel.runAt = Decl.runAt := rfl
theorem skeleton_runAfter : Gen.LoopSkel.runAfter = Decl.runAfter := rfl
theorem skeleton_runEvery : Gen.LoopSkel.runEvery = Decl.runEvery := rfl
theorem skeleton_cancel : Gen.LoopSkel.cancel = Decl.cancel := rfl
theorem skeleton_updateChannel : Gen.LoopSkel.updateChannel = Decl.updateChannel := rfl
theorem skeleton_removeChannel : Gen.LoopSkel.removeChannel = Decl.removeChannel := rfl
theorem skeleton_hasChannel : Gen.LoopSkel.hasChannel = Decl.hasChannel := rfl
theorem skeleton_abortNotInLoopThread : Gen.LoopSkel.abortNotInLoopThread = Decl.abortNotInLoopThread := rfl
theorem skeleton_wakeup : Gen.LoopSkel.wakeup = Decl.wakeup := rfl
theorem skeleton_handleRead : Gen.LoopSkel.handleRead = Decl.handleRead := rfl
theorem skeleton_doPendingFunctors : Gen.LoopSkel.doPendingFunctors = Decl.doPendingFunctors := rfl
theorem skeleton_printActiveChannels : Gen.LoopSkel.printActiveChannels = Decl.printActiveChannels := rfl
theorem skeleton_threadCtor : Gen.LoopSkel.threadCtor = Decl.threadCtor := rfl
theorem skeleton_threadDtor : Gen.LoopSkel.threadDtor = Decl.threadDtor := rfl
theorem skeleton_startLoop : Gen.LoopSkel.startLoop = Decl.startLoop := rfl
theorem skeleton_threadFunc : Gen.LoopSkel.threadFunc = Decl.threadFunc := rfl
theorem skeleton_poolCtor : Gen.LoopSkel.poolCtor = Decl.poolCtor := rfl
theorem skeleton_poolDtor : Gen.LoopSkel.poolDtor = Decl.poolDtor := rfl
theorem skeleton_poolStart : Gen.LoopSkel.poolStart = Decl.poolStart := rfl
theorem skeleton_getNextLoop : Gen.LoopSkel.getNextLoop = Decl.getNextLoop := rfl
theorem skeleton_getLoopForHash : Gen.LoopSkel.getLoopForHash = Decl.getLoopForHash := rfl
theorem skeleton_getAllLoops : Gen.LoopSkel.getAllLoops = Decl.getAllLoops := rfl
theorem skeleton_acceptorCtor : Gen.LoopSkel.acceptorCtor = Decl.acceptorCtor := rfl
theorem skeleton_acceptorDtor : Gen.LoopSkel.acceptorDtor = Decl.acceptorDtor := rfl
theorem skeleton_acceptorListen : Gen.LoopSkel.acceptorListen = Decl.acceptorListen := rfl
theorem skeleton_acceptorHandleRead : Gen.LoopSkel.acceptorHandleRead = Decl.acceptorHandleRead := rfl
theorem skeleton_channelCtor : Gen.LoopSkel.channelCtor = Decl.channelCtor := rfl
theorem skeleton_channelDtor : Gen.LoopSkel.channelDtor = Decl.channelDtor := rfl

/-- `EventLoop.cc` (everything but `createEventfd`: `SysSkel.skeleton_createEventfd`) -/
theorem skeletons_agree_loop :
    Gen.LoopSkel.ignoreSigPipeCtor = Decl.ignoreSigPipeCtor ∧
    Gen.LoopSkel.getEventLoopOfCurrentThread = Decl.getEventLoopOfCurrentThread ∧
    Gen.LoopSkel.loopCtor = Decl.loopCtor ∧
    Gen.LoopSkel.loopDtor = Decl.loopDtor ∧
    Gen.LoopSkel.loopFn = Decl.loopFn ∧
    Gen.LoopSkel.quit = Decl.quit ∧
    Gen.LoopSkel.runInLoop = Decl.runInLoop ∧
    Gen.LoopSkel.queueInLoop = Decl.queueInLoop ∧
    Gen.LoopSkel.queueSize = Decl.queueSize ∧
    Gen.LoopSkel.runAt = Decl.runAt ∧
    Gen.LoopSkel.runAfter = Decl.runAfter ∧
    Gen.LoopSkel.runEvery = Decl.runEvery ∧
    Gen.LoopSkel.cancel = Decl.cancel ∧
    Gen.LoopSkel.updateChannel = Decl.updateChannel ∧
    Gen.LoopSkel.removeChannel = Decl.removeChannel ∧
    Gen.LoopSkel.hasChannel = Decl.hasChannel ∧
    Gen.LoopSkel.abortNotInLoopThread = Decl.abortNotInLoopThread ∧
    Gen.LoopSkel.wakeup = Decl.wakeup ∧
    Gen.LoopSkel.handleRead = Decl.handleRead ∧
    Gen.LoopSkel.doPendingFunctors = Decl.doPendingFunctors ∧
    Gen.LoopSkel.printActiveChannels = Decl.printActiveChannels :=
  ⟨skeleton_ignoreSigPipeCtor, skeleton_getEventLoopOfCurrentThread, skeleton_loopCtor, skeleton_loopDtor,
   skeleton_loopFn, skeleton_quit, skeleton_runInLoop, skeleton_queueInLoop, skeleton_queueSize, skeleton_runAt,
   skeleton_runAfter, skeleton_runEvery, skeleton_cancel, skeleton_updateChannel, skeleton_removeChannel,
   skeleton_hasChannel, skeleton_abortNotInLoopThread, skeleton_wakeup, skeleton_handleRead,
   skeleton_doPendingFunctors, skeleton_printActiveChannels⟩

theorem skeletons_agree_thread_pool :
    Gen.LoopSkel.threadCtor = Decl.threadCtor ∧
    Gen.LoopSkel.threadDtor = Decl.threadDtor ∧
    Gen.LoopSkel.startLoop = Decl.startLoop ∧
    Gen.LoopSkel.threadFunc = Decl.threadFunc ∧
    Gen.LoopSkel.poolCtor = Decl.poolCtor ∧
    Gen.LoopSkel.poolDtor = Decl.poolDtor ∧
    Gen.LoopSkel.poolStart = Decl.poolStart ∧
    Gen.LoopSkel.getNextLoop = Decl.getNextLoop ∧
    Gen.LoopSkel.getLoopForHash = Decl.getLoopForHash ∧
    Gen.LoopSkel.getAllLoops = Decl.getAllLoops :=
  ⟨skeleton_threadCtor, skeleton_threadDtor, skeleton_startLoop, skeleton_threadFunc, skeleton_poolCtor,
   skeleton_poolDtor, skeleton_poolStart, skeleton_getNextLoop, skeleton_getLoopForHash, skeleton_getAllLoops⟩

theorem skeletons_agree_acceptor :
    Gen.LoopSkel.acceptorCtor = Decl.acceptorCtor ∧
    Gen.LoopSkel.acceptorDtor = Decl.acceptorDtor ∧
    Gen.LoopSkel.acceptorListen = Decl.acceptorListen ∧
    Gen.LoopSkel.acceptorHandleRead = Decl.acceptorHandleRead :=
  ⟨skeleton_acceptorCtor, skeleton_acceptorDtor, skeleton_acceptorListen, skeleton_acceptorHandleRead⟩

theorem skeletons_agree_channel :
    Gen.LoopSkel.channelCtor = Decl.channelCtor ∧ Gen.LoopSkel.channelDtor = Decl.channelDtor :=
  ⟨skeleton_channelCtor, skeleton_channelDtor⟩

/-- **(a) `queueInLoop`: the append is inside the critical section, and the wake-up comes after it** (and after the
mutex is released).  `Model/Loop.lean` has `doAppend` (under `mutex_`) and the wake-up as a LATER step; were the wake-up
first, the loop could wake, swap an empty queue and sleep again with the functor queued (lost wake-up). -/
theorem queueInLoop_append_locked_then_wakeup :
    insideLock "mutex_" (.call "pendingFunctors_.push_back" "cb") (flat Gen.LoopSkel.queueInLoop) = true ∧
    before (.call "pendingFunctors_.push_back" "cb") (.call "wakeup" "") (flat Gen.LoopSkel.queueInLoop) = true ∧
    before (.call "unlock" "mutex_") (.call "wakeup" "") (flat Gen.LoopSkel.queueInLoop) = true ∧
    outsideLock "mutex_" (.call "wakeup" "") (flat Gen.LoopSkel.queueInLoop) = true ∧
    balanced "mutex_" false (flat Gen.LoopSkel.queueInLoop) = true ∧
    onlyUnder "!isInLoopThread() || callingPendingFunctors_ || !looping_" (.call "wakeup" "")
      Gen.LoopSkel.queueInLoop = true := by decide +kernel

/-- **(b) `quit`: the flag is stored before the wake-up** (`doQuitStore`, then `stepQuitStored`), and the wake-up is made
exactly when the caller is not the loop thread -/
theorem quit_store_precedes_wakeup :
    before (.store "quit_" "true") (.call "wakeup" "") (flat Gen.LoopSkel.quit) = true ∧
    onlyUnder "!isInLoopThread()" (.call "wakeup" "") Gen.LoopSkel.quit = true := by decide +kernel

/-- **(c) `doPendingFunctors`**: `callingPendingFunctors_ = true` precedes the swap; the swap is inside the critical
section; the functors are called after it and OUTSIDE the critical section (they may call `queueInLoop`); the batch is
destroyed (`functors.clear()`) after the calls, also outside the critical section, and the flag is reset only after that
(a destructor that queues a functor still finds the flag set and wakes the loop); the reset is the last statement -/
theorem doPendingFunctors_order :
    inOrder [.store "callingPendingFunctors_" "true", .call "functors.swap" "pendingFunctors_", .call "functor" "",
             .call "functors.clear" "", .store "callingPendingFunctors_" "false"]
      (flat Gen.LoopSkel.doPendingFunctors) = true ∧
    insideLock "mutex_" (.call "functors.swap" "pendingFunctors_") (flat Gen.LoopSkel.doPendingFunctors) = true ∧
    outsideLock "mutex_" (.call "functor" "") (flat Gen.LoopSkel.doPendingFunctors) = true ∧
    outsideLock "mutex_" (.store "callingPendingFunctors_" "true") (flat Gen.LoopSkel.doPendingFunctors) = true ∧
    balanced "mutex_" false (flat Gen.LoopSkel.doPendingFunctors) = true ∧
    flat (loopBody .forDo "functor : functors" Gen.LoopSkel.doPendingFunctors) = [.call "functor" ""] ∧
    outsideLock "mutex_" (.call "functors.clear" "") (flat Gen.LoopSkel.doPendingFunctors) = true ∧
    outsideLock "mutex_" (.store "callingPendingFunctors_" "false") (flat Gen.LoopSkel.doPendingFunctors) = true ∧
    (flat Gen.LoopSkel.doPendingFunctors).getLast? = some (.store "callingPendingFunctors_" "false") := by decide +kernel

/-- **(d) `loop`**: per iteration of `while (!quit_)`: clear `activeChannels_` -> `poll` -> handle the events (inside the
`eventHandling_` bracket, each active channel in report order) -> `doPendingFunctors()` last; `looping_ = true` before the
first iteration; after the `while` the drain `do doPendingFunctors(); while (queueSize() > 0)`, then `looping_ = false`
and the re-arming `quit_ = false` -/
theorem loop_iteration_order :
    hasLoop .whileDo "!quit_" Gen.LoopSkel.loopFn = true ∧
    inOrder [.call "activeChannels_.clear" "", .call "poller_.poll" "kPollTimeMs, &activeChannels_",
             .store "eventHandling_" "true", .call "currentActiveChannel_.handleEvent" "pollReturnTime_",
             .store "eventHandling_" "false", .call "doPendingFunctors" ""]
      (flat (loopBody .whileDo "!quit_" Gen.LoopSkel.loopFn)) = true ∧
    (flat (loopBody .whileDo "!quit_" Gen.LoopSkel.loopFn)).getLast? = some (.call "doPendingFunctors" "") ∧
    flat (loopBody .forDo "channel : activeChannels_" (loopBody .whileDo "!quit_" Gen.LoopSkel.loopFn)) =
      [.store "currentActiveChannel_" "channel", .call "currentActiveChannel_.handleEvent" "pollReturnTime_"] ∧
    before (.store "looping_" "true") (.call "poller_.poll" "kPollTimeMs, &activeChannels_")
      (flat Gen.LoopSkel.loopFn) = true ∧
    loopBody .doWhile "{call queueSize()} > 0" Gen.LoopSkel.loopFn = [.act (.call "doPendingFunctors" "")] ∧
    before (.call "doPendingFunctors" "") (.store "looping_" "false") (flat Gen.LoopSkel.loopFn) = true ∧
    before (.store "looping_" "false") (.store "quit_" "false") (flat Gen.LoopSkel.loopFn) = true ∧
    (flat Gen.LoopSkel.loopFn).getLast? = some (.store "quit_" "false") := by decide +kernel

theorem runInLoop_inline_or_queue :
    onlyUnder "isInLoopThread()" (.call "cb" "") Gen.LoopSkel.runInLoop = true ∧
    onlyUnless "isInLoopThread()" (.call "queueInLoop" "cb") Gen.LoopSkel.runInLoop = true := by decide +kernel

/-- `queueSize`: the size is read under `mutex_`; `wakeup` / `handleRead`: one 8-byte `sockets::write` / `sockets::read` on
the eventfd each -/
theorem queueSize_locked_and_eventfd_io :
    insideLock "mutex_" (.ret "pendingFunctors_.size()") (flat Gen.LoopSkel.queueSize) = true ∧
    (flat Gen.LoopSkel.wakeup).filter (fun a => a matches .call .. | .sys ..) =
      [.call "sockets::write" "wakeupFd_, &one, sizeof(one)"] ∧
    (flat Gen.LoopSkel.handleRead).filter (fun a => a matches .call .. | .sys ..) =
      [.call "sockets::read" "wakeupFd_, &one, sizeof(one)"] := by decide +kernel

/-- the shape flags `vlib/gen/loop.py` extracts by its own means (`Generated/Loop.lean`, used by `Model/Loop.lean`) say the
same as the skeletons -/
theorem shape_flags_agree :
    Gen.Loop.quitStoresFirst = before (.store "quit_" "true") (.call "wakeup" "") (flat Gen.LoopSkel.quit) ∧
    Gen.Loop.appendUnderLock =
      insideLock "mutex_" (.call "pendingFunctors_.push_back" "cb") (flat Gen.LoopSkel.queueInLoop) ∧
    Gen.Loop.callingSetBeforeSwap =
      before (.store "callingPendingFunctors_" "true") (.call "functors.swap" "pendingFunctors_")
        (flat Gen.LoopSkel.doPendingFunctors) ∧
    Gen.Loop.callingResetAfterRun =
      before (.call "functor" "") (.store "callingPendingFunctors_" "false") (flat Gen.LoopSkel.doPendingFunctors) ∧
    Gen.Loop.drainSwaps =
      insideLock "mutex_" (.call "functors.swap" "pendingFunctors_") (flat Gen.LoopSkel.doPendingFunctors) ∧
    Gen.Loop.drainEachIteration =
      ((flat (loopBody .whileDo "!quit_" Gen.LoopSkel.loopFn)).getLast? == some (.call "doPendingFunctors" "")) ∧
    Gen.Loop.quitResetAtExit = ((flat Gen.LoopSkel.loopFn).getLast? == some (.store "quit_" "false")) ∧
    Gen.Loop.dtorLocks = insideLock "mutex_" (.call "loop_.quit" "") (flat Gen.LoopSkel.threadDtor) ∧
    Gen.Loop.publishLocks = insideLock "mutex_" (.store "loop_" "&loop") (flat Gen.LoopSkel.threadFunc) ∧
    Gen.Loop.clearLocks = insideLock "mutex_" (.store "loop_" "NULL") (flat Gen.LoopSkel.threadFunc) := by decide +kernel

/-- **(e) `EventLoop::EventLoop`**: a second loop in the same thread ends the process (`LOG_FATAL` exactly under
`if (t_loopInThisThread)`, the pointer is set exactly otherwise); the eventfd exists before the channel made on it; the
read callback is installed BEFORE the channel is subscribed -/
theorem loopCtor_order :
    onlyUnder "t_loopInThisThread" (.log .fatal) Gen.LoopSkel.loopCtor = true ∧
    onlyUnless "t_loopInThisThread" (.store "t_loopInThisThread" "this") Gen.LoopSkel.loopCtor = true ∧
    inOrder [.call "createEventfd" "", .store "wakeupFd_" "<result>",
             .store "wakeupChannel_" "new Channel(this, wakeupFd_)",
             .call "wakeupChannel_.setReadCallback" "bind(&EventLoop::handleRead, this)",
             .call "wakeupChannel_.enableReading" ""] (flat Gen.LoopSkel.loopCtor) = true ∧
    before (.log .fatal) (.call "wakeupChannel_.enableReading" "") (flat Gen.LoopSkel.loopCtor) = true ∧
    (flat Gen.LoopSkel.loopCtor).getLast? = some (.call "wakeupChannel_.enableReading" "") := by decide +kernel

/-- **(e) `EventLoop::~EventLoop`**: `disableAll` -> `remove` -> `::close(wakeupFd_)` -> `t_loopInThisThread = NULL`, nothing
else -/
theorem loopDtor_order :
    flat Gen.LoopSkel.loopDtor =
      [.call "wakeupChannel_.disableAll" "", .call "wakeupChannel_.remove" "", .sys "close" "wakeupFd_",
       .store "t_loopInThisThread" "NULL"] ∧
    inOrder [.call "wakeupChannel_.disableAll" "", .call "wakeupChannel_.remove" "", .sys "close" "wakeupFd_",
             .store "t_loopInThisThread" "NULL"] (flat Gen.LoopSkel.loopDtor) = true := by decide +kernel

/-- **(j) `Channel::Channel`**: `events_ = 0`, `revents_ = 0`, `index_ = -1` (`kNew`), not tied, not handling an event, not
added to the loop; **`Channel::~Channel`**: asserts that no event is being handled and that the channel is not added to
the loop (in the current source the destructor does not ask the loop itself - it may be gone), nothing else -/
theorem channel_ctor_dtor :
    [.store "events_" "0", .store "revents_" "0", .store "index_" "-1", .store "tied_" "false",
     .store "eventHandling_" "false", .store "addedToLoop_" "false"].all
        (fun a => (flat Gen.LoopSkel.channelCtor).contains a) = true ∧
    (flat Gen.LoopSkel.channelCtor).all (fun a => a matches .store ..) = true ∧
    ((flat Gen.LoopSkel.channelCtor).filter (fun a => a matches .store "index_" _)) = [.store "index_" "-1"] ∧
    flat Gen.LoopSkel.channelDtor = [.assertion "!eventHandling_", .assertion "!addedToLoop_"] := by decide +kernel

theorem channel_forwarders :
    inOrder [.assertion "channel.ownerLoop() == this", .call "assertInLoopThread" "",
             .call "poller_.updateChannel" "channel"] (flat Gen.LoopSkel.updateChannel) = true ∧
    inOrder [.assertion "channel.ownerLoop() == this", .call "assertInLoopThread" "",
             .call "poller_.removeChannel" "channel"] (flat Gen.LoopSkel.removeChannel) = true ∧
    inOrder [.assertion "channel.ownerLoop() == this", .call "assertInLoopThread" "",
             .call "poller_.hasChannel" "channel", .ret "<result>"] (flat Gen.LoopSkel.hasChannel) = true := by decide +kernel

/-- **(f)** `runAt` hands its deadline and the interval `0.0` to `addTimer`; `runAfter` computes
`addTime(Timestamp::now(), delay)` and goes through `runAt` (interval `0.0`); `runEvery` computes
`addTime(Timestamp::now(), interval)` - the first run is one interval from now - and hands the INTERVAL to `addTimer`;
`cancel` forwards the id to `timerQueue_->cancel`; each returns what the callee returned -/
theorem timer_forwarders :
    flat Gen.LoopSkel.runAt = [.call "timerQueue_.addTimer" "cb, time, 0", .ret "<result>"] ∧
    flat Gen.LoopSkel.runAfter =
      [.assign "time" "addTime(Timestamp::now(), delay)", .call "runAt" "time, cb", .ret "<result>"] ∧
    flat Gen.LoopSkel.runEvery =
      [.assign "time" "addTime(Timestamp::now(), interval)", .call "timerQueue_.addTimer" "cb, time, interval",
       .ret "<result>"] ∧
    before (.assign "time" "addTime(Timestamp::now(), interval)") (.call "timerQueue_.addTimer" "cb, time, interval")
      (flat Gen.LoopSkel.runEvery) = true ∧
    flat Gen.LoopSkel.cancel = [.call "timerQueue_.cancel" "timerId", .ret "<result>"] := by decide +kernel

/-- **(g) `threadFunc`**: the loop is constructed first and the init callback gets it; `loop_ = &loop` and the
notification are inside the critical section, in that order, and precede `loop.loop()`, which runs OUTSIDE it; after
`loop()` returned, `loop_ = NULL`, `finished_ = true` and `notifyAll` are inside a critical section, in that order -/
theorem threadFunc_order :
    inOrder [.assign "loop" "EventLoop()", .call "callback_" "&loop", .store "loop_" "&loop", .call "cond_.notify" "",
             .call "loop.loop" "", .store "loop_" "NULL", .store "finished_" "true", .call "cond_.notifyAll" ""]
      (flat Gen.LoopSkel.threadFunc) = true ∧
    insideLock "mutex_" (.store "loop_" "&loop") (flat Gen.LoopSkel.threadFunc) = true ∧
    insideLock "mutex_" (.call "cond_.notify" "") (flat Gen.LoopSkel.threadFunc) = true ∧
    outsideLock "mutex_" (.call "loop.loop" "") (flat Gen.LoopSkel.threadFunc) = true ∧
    outsideLock "mutex_" (.call "callback_" "&loop") (flat Gen.LoopSkel.threadFunc) = true ∧
    insideLock "mutex_" (.store "loop_" "NULL") (flat Gen.LoopSkel.threadFunc) = true ∧
    insideLock "mutex_" (.store "finished_" "true") (flat Gen.LoopSkel.threadFunc) = true ∧
    insideLock "mutex_" (.call "cond_.notifyAll" "") (flat Gen.LoopSkel.threadFunc) = true ∧
    balanced "mutex_" false (flat Gen.LoopSkel.threadFunc) = true ∧
    onlyUnder "callback_" (.call "callback_" "&loop") Gen.LoopSkel.threadFunc = true := by decide +kernel

/-- **(g) `~EventLoopThread`**: `loop_->quit()` only when `loop_ != NULL`, inside the critical section (so `threadFunc`
cannot clear `loop_` and destroy the loop between the test and the end of `quit()`); the `join` follows, outside the
critical section, exactly when the thread was started -/
theorem threadDtor_order :
    insideLock "mutex_" (.call "loop_.quit" "") (flat Gen.LoopSkel.threadDtor) = true ∧
    onlyUnder "loop_ != NULL" (.call "loop_.quit" "") Gen.LoopSkel.threadDtor = true ∧
    inOrder [.store "exiting_" "true", .call "loop_.quit" "", .call "unlock" "mutex_", .call "thread_.join" ""]
      (flat Gen.LoopSkel.threadDtor) = true ∧
    outsideLock "mutex_" (.call "thread_.join" "") (flat Gen.LoopSkel.threadDtor) = true ∧
    onlyUnder "thread_.started()" (.call "thread_.join" "") Gen.LoopSkel.threadDtor = true ∧
    balanced "mutex_" false (flat Gen.LoopSkel.threadDtor) = true := by decide +kernel

/-- **(g) `startLoop`**: the thread is started BEFORE the wait; the wait is the body of
`while (loop_ == NULL && !finished_)` inside the critical section; `loop_` is read inside it and returned -/
theorem startLoop_order :
    inOrder [.call "thread_.start" "", .call "cond_.wait" "", .assign "loop" "loop_", .ret "loop"]
      (flat Gen.LoopSkel.startLoop) = true ∧
    outsideLock "mutex_" (.call "thread_.start" "") (flat Gen.LoopSkel.startLoop) = true ∧
    insideLock "mutex_" (.call "cond_.wait" "") (flat Gen.LoopSkel.startLoop) = true ∧
    insideLock "mutex_" (.assign "loop" "loop_") (flat Gen.LoopSkel.startLoop) = true ∧
    loopBody .whileDo "loop_ == NULL && !finished_" Gen.LoopSkel.startLoop = [.act (.call "cond_.wait" "")] ∧
    balanced "mutex_" false (flat Gen.LoopSkel.startLoop) = true := by decide +kernel

/-- **(h) `EventLoopThreadPool::start`**: `started_ = true` first; the loop runs `i = 0 .. numThreads_ - 1` upwards and per
index creates the thread, appends it to `threads_`, calls its `startLoop()` and appends the RESULT to `loops_`, in that
order (so `loops_[i]` is the loop of the `i`-th thread: `Pool.start`); `cb(baseLoop_)` is called only under
`numThreads_ == 0 && cb` -/
theorem poolStart_order :
    hasLoop .forDo "i = 0; i < numThreads_; ++i" Gen.LoopSkel.poolStart = true ∧
    flat (loopBody .forDo "i = 0; i < numThreads_; ++i" Gen.LoopSkel.poolStart) =
      [.sys "snprintf" "buf, sizeof(buf), \"%s%d\", name_.c_str(), i", .assign "t" "new EventLoopThread(cb, buf)",
       .call "threads_.push_back" "t", .call "t.startLoop" "", .call "loops_.push_back" "<result>"] ∧
    inOrder [.call "baseLoop_.assertInLoopThread" "", .store "started_" "true", .assign "t" "new EventLoopThread(cb, buf)",
             .call "threads_.push_back" "t", .call "t.startLoop" "", .call "loops_.push_back" "<result>"]
      (flat Gen.LoopSkel.poolStart) = true ∧
    onlyUnder "numThreads_ == 0 && cb" (.call "cb" "baseLoop_") Gen.LoopSkel.poolStart = true := by decide +kernel

/-- the selectors: on the base loop's thread; `getNextLoop` reads `loops_[next_]` BEFORE it advances the cursor and wraps
at `loops_.size()`; `getLoopForHash` does not touch the cursor -/
theorem pool_selectors :
    inOrder [.assign "loop" "baseLoop_", .assign "loop" "loops_[next_]", .store "next_" "next_ + 1", .store "next_" "0",
             .ret "loop"] (flat Gen.LoopSkel.getNextLoop) = true ∧
    thenOf "next_ >= loops_.size()" (thenOf "!loops_.empty()" Gen.LoopSkel.getNextLoop) = [.act (.store "next_" "0")] ∧
    (flat Gen.LoopSkel.getLoopForHash).all (fun a => !(a matches .store ..)) = true ∧
    thenOf "!loops_.empty()" Gen.LoopSkel.getLoopForHash = [.act (.assign "loop" "loops_[hashCode % loops_.size()]")] ∧
    thenOf "loops_.empty()" Gen.LoopSkel.getAllLoops = [.act (.ret "vector(1, baseLoop_)")] ∧
    elseOf "loops_.empty()" Gen.LoopSkel.getAllLoops = [.act (.ret "loops_")] := by decide +kernel

/-- **(i) `Acceptor::listen`**: loop-thread assertion, `listening_ = true`, `acceptSocket_.listen()`, `enableReading()` - the
socket listens BEFORE the channel is subscribed; nothing else -/
theorem acceptorListen_order :
    flat Gen.LoopSkel.acceptorListen =
      [.call "loop_.assertInLoopThread" "", .store "listening_" "true", .call "acceptSocket_.listen" "",
       .call "acceptChannel_.enableReading" ""] ∧
    before (.call "acceptSocket_.listen" "") (.call "acceptChannel_.enableReading" "")
      (flat Gen.LoopSkel.acceptorListen) = true := by decide +kernel

/-- **(i) `Acceptor::Acceptor`**: socket created, spare descriptor opened (and asserted), then the reuse flags and `bind`,
all BEFORE the read callback is set; the constructor does not subscribe the channel and does not listen -/
theorem acceptorCtor_order :
    inOrder [.call "sockets::createNonblockingOrDie" "listenAddr.family()", .store "acceptSocket_" "<result>",
             .store "acceptChannel_" "Channel(loop, acceptSocket_.fd())", .store "listening_" "false",
             .sys "open" "\"/dev/null\", 0 | 524288", .store "idleFd_" "<result>", .assertion "idleFd_ >= 0",
             .call "acceptSocket_.setReuseAddr" "true", .call "acceptSocket_.setReusePort" "reuseport",
             .call "acceptSocket_.bindAddress" "listenAddr",
             .call "acceptChannel_.setReadCallback" "bind(&Acceptor::handleRead, this)"]
      (flat Gen.LoopSkel.acceptorCtor) = true ∧
    (flat Gen.LoopSkel.acceptorCtor).contains (.call "acceptChannel_.enableReading" "") = false ∧
    (flat Gen.LoopSkel.acceptorCtor).contains (.call "acceptSocket_.listen" "") = false := by decide +kernel

/-- **(i) `Acceptor::~Acceptor`**: `disableAll` -> `remove` -> `::close(idleFd_)`, nothing else -/
theorem acceptorDtor_order :
    flat Gen.LoopSkel.acceptorDtor =
      [.call "acceptChannel_.disableAll" "", .call "acceptChannel_.remove" "", .sys "close" "idleFd_"] := by decide +kernel

/-- **(i) `Acceptor::handleRead`**: one `accept` first; on success the callback gets `(connfd, peerAddr)` when there is one,
else `sockets::close(connfd)`; on failure `LOG_SYSERR`, and exactly under `errno == EMFILE` (24) the sequence close the
spare descriptor -> `::accept` into it -> close it -> reopen `/dev/null` -/
theorem acceptorHandleRead_structure :
    (flat Gen.LoopSkel.acceptorHandleRead).take 3 =
      [.call "loop_.assertInLoopThread" "", .call "acceptSocket_.accept" "&peerAddr", .assign "connfd" "<result>"] ∧
    thenOf "connfd >= 0" Gen.LoopSkel.acceptorHandleRead =
      [.ite "newConnectionCallback_" [.act (.call "newConnectionCallback_" "connfd, peerAddr")]
         [.act (.call "sockets::close" "connfd")]] ∧
    (elseOf "connfd >= 0" Gen.LoopSkel.acceptorHandleRead).head? = some (.act (.log .syserr)) ∧
    thenOf "errno == 24" (elseOf "connfd >= 0" Gen.LoopSkel.acceptorHandleRead) =
      [.act (.sys "close" "idleFd_"), .act (.sys "accept" "acceptSocket_.fd(), NULL, NULL"),
       .act (.store "idleFd_" "<result>"), .act (.sys "close" "idleFd_"),
       .act (.sys "open" "\"/dev/null\", 0 | 524288"), .act (.store "idleFd_" "<result>")] ∧
    elseOf "errno == 24" (elseOf "connfd >= 0" Gen.LoopSkel.acceptorHandleRead) = [] ∧
    (flat (dropIte "errno == 24" (elseOf "connfd >= 0" Gen.LoopSkel.acceptorHandleRead))) = [.log .syserr] := by decide +kernel

/-- the wake-up before the append, the append outside the critical section, the flag stored after the wake-up, the
functors called inside the critical section, a subscription before `listen()`, `callingPendingFunctors_` reset before the
batch is destroyed: each is rejected -/
theorem reading_rejects :
    before (.call "pendingFunctors_.push_back" "cb") (.call "wakeup" "")
      [.call "wakeup" "", .call "lock" "mutex_", .call "pendingFunctors_.push_back" "cb", .call "unlock" "mutex_"] = false ∧
    insideLock "mutex_" (.call "pendingFunctors_.push_back" "cb")
      [.call "lock" "mutex_", .call "unlock" "mutex_", .call "pendingFunctors_.push_back" "cb", .call "wakeup" ""] = false ∧
    before (.store "quit_" "true") (.call "wakeup" "") [.call "wakeup" "", .store "quit_" "true"] = false ∧
    outsideLock "mutex_" (.call "functor" "")
      [.call "lock" "mutex_", .call "functors.swap" "pendingFunctors_", .call "functor" "", .call "unlock" "mutex_"] = false ∧
    before (.call "acceptSocket_.listen" "") (.call "acceptChannel_.enableReading" "")
      [.call "acceptChannel_.enableReading" "", .call "acceptSocket_.listen" ""] = false ∧
    inOrder [.call "functor" "", .call "functors.clear" "", .store "callingPendingFunctors_" "false"]
      [.call "functor" "", .store "callingPendingFunctors_" "false", .call "functors.clear" ""] = false ∧
    balanced "mutex_" false [.call "lock" "mutex_", .call "wakeup" ""] = false ∧
    onlyUnder "g" (.call "f" "") [.ite "g" [.act (.call "f" "")] [], .act (.call "f" "")] = false := by decide +kernel

end MuduoVerif.LoopSkel
