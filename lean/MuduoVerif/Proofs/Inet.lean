import MuduoVerif.Model.Inet
import MuduoVerif.Proofs.Buffer
/-!
Proofs about the IPv4 text forms and the byte-order helpers (`Model/Inet.lean`):
printing then parsing is the identity (`parseIp_toIp`, `parseIpPort_toIpPort`), the accepted texts
are exactly the printed ones (`parseIp_sound`, `parseIpPortChars_sound`), `toIp` is injective, the
byte-order conversions are involutions on their range and put the big-endian bytes into memory.
-/
namespace MuduoVerif.Inet
open MuduoVerif.Buffer (Bytes encodeBE decodeBE decode_encodeBE encode_decodeBE decodeBE_cons decodeBE_lt)

theorem memLE_length (n x : Nat) : (memLE n x).length = n := by
  induction n generalizing x with
  | zero => rfl
  | succ n ih => simp [memLE, ih]

theorem decodeBE_concat (bs : Bytes) (b : UInt8) :
    decodeBE (bs ++ [b]) = decodeBE bs * 256 + b.toNat := by
  simp [decodeBE, List.foldl_append]

theorem toNat_ofNat_mod (x : Nat) : (UInt8.ofNat (x % 256)).toNat = x % 256 := by
  simp [UInt8.toNat_ofNat']

theorem bswap_eq_decodeBE_memLE (n x : Nat) : bswap n x = decodeBE (memLE n x) := by
  induction n generalizing x with
  | zero => rfl
  | succ n ih =>
    simp only [bswap, memLE]
    rw [decodeBE_cons, memLE_length, toNat_ofNat_mod, ih]


theorem encodeBE_succ_concat (n x : Nat) :
    encodeBE (n + 1) x = encodeBE n (x / 256) ++ [UInt8.ofNat (x % 256)] := by
  induction n generalizing x with
  | zero => simp [encodeBE]; exact UInt8.ofNat_mod_size.symm
  | succ n ih =>
    rw [encodeBE, ih, encodeBE]
    have h1 : x % 256 ^ (n + 1) / 256 = x / 256 % 256 ^ n := by
      rw [Nat.pow_succ, Nat.mul_comm, Nat.mod_mul_right_div_self]
    have h2 : x % 256 ^ (n + 1) % 256 = x % 256 := by
      apply Nat.mod_mod_of_dvd
      exact ⟨256 ^ n, by rw [Nat.pow_succ, Nat.mul_comm]⟩
    have h3 : x / 256 / 256 ^ n = x / 256 ^ (n + 1) := by
      rw [Nat.div_div_eq_div_mul, Nat.pow_succ, Nat.mul_comm]
    rw [h1, h2, h3]; simp


theorem encodeBE_eq_reverse_memLE (n x : Nat) : encodeBE n x = (memLE n x).reverse := by
  induction n generalizing x with
  | zero => rfl
  | succ n ih => rw [encodeBE_succ_concat, memLE, List.reverse_cons, ih]

theorem memLE_decodeBE (bs : Bytes) : memLE bs.length (decodeBE bs) = bs.reverse := by
  rw [← List.reverse_reverse (memLE _ _), ← encodeBE_eq_reverse_memLE, encode_decodeBE]

theorem memLE_bswap (n x : Nat) : memLE n (bswap n x) = encodeBE n x := by
  rw [bswap_eq_decodeBE_memLE, encodeBE_eq_reverse_memLE]
  have := memLE_decodeBE (memLE n x)
  rwa [memLE_length] at this

theorem bswap_bswap (n x : Nat) (h : x < 256 ^ n) : bswap n (bswap n x) = x := by
  rw [bswap_eq_decodeBE_memLE n (bswap n x), memLE_bswap, decode_encodeBE n x h]

theorem bswap_lt (n x : Nat) : bswap n x < 256 ^ n := by
  have := decodeBE_lt (memLE n x)
  rwa [memLE_length, ← bswap_eq_decodeBE_memLE] at this

theorem hostToNetwork_mem (n x : Nat) (_h : x < 256 ^ n) :
    memLE n (hostToNetwork n x) = MuduoVerif.Buffer.encodeBE n x := memLE_bswap n x

theorem port_roundtrip (p : Nat) (h : p < 2 ^ 16) : networkToHost 2 (hostToNetwork 2 p) = p :=
  bswap_bswap 2 p h


theorem isDigit_iff (c : Char) : c.isDigit = true ↔ 48 ≤ c.toNat ∧ c.toNat ≤ 57 := by
  simpa using Char.isDigit_iff_toNat (c := c)

theorem digitChar_of_isDigit (c : Char) (h : c.isDigit = true) :
    Nat.digitChar (c.toNat - 48) = c := by
  rw [isDigit_iff] at h
  apply Char.toNat_inj.mp
  rw [Nat.toNat_digitChar_of_lt_ten (by omega)]; omega

theorem digit_lt (c : Char) (h : c.isDigit = true) : c.toNat - 48 < 10 := by
  rw [isDigit_iff] at h; omega

theorem digit_pos (c : Char) (h : c.isDigit = true) (h0 : c ≠ '0') : 0 < c.toNat - 48 := by
  rw [isDigit_iff] at h
  have : c.toNat ≠ 48 := fun e => h0 (Char.toNat_inj.mp e)
  omega

theorem decChars_isDigit (n : Nat) : ∀ c ∈ decChars n, c.isDigit = true :=
  fun _ hc => Nat.isDigit_of_mem_toDigits (by decide) (by decide) hc

theorem decVal_decChars (n : Nat) : decVal (decChars n) = n := Nat.ofDigitChars_ten_toDigits

theorem decChars_head_ne (n : Nat) (h : 0 < n) : (decChars n).head? ≠ some '0' := by
  induction n using Nat.strongRecOn with
  | ind n ih =>
    unfold decChars at ih ⊢
    rw [Nat.toDigits_eq_if (by decide)]
    split
    · simp; omega
    · have hne : Nat.toDigits 10 (n / 10) ≠ [] := Nat.toDigits_ne_nil
      have := ih (n / 10) (by omega) (by omega)
      obtain ⟨d, ds, e⟩ := List.exists_cons_of_ne_nil hne
      rw [e] at this ⊢
      simpa using this

theorem decChars_zero : decChars 0 = ['0'] := rfl

theorem decChars_length_pos (n : Nat) : 0 < (decChars n).length := Nat.length_toDigits_pos

theorem decChars_length_le (n k : Nat) (hk : 0 < k) (h : n < 10 ^ k) : (decChars n).length ≤ k :=
  (Nat.length_toDigits_le_iff (by decide) hk).mpr h

theorem parseDec_decChars (maxLen maxVal n : Nat) (hl : 0 < maxLen) (h1 : n < 10 ^ maxLen)
    (h2 : n ≤ maxVal) : parseDec maxLen maxVal (decChars n) = some n := by
  have hp := decChars_length_pos n
  have hle := decChars_length_le n maxLen hl h1
  have hd : (decChars n).all Char.isDigit = true := List.all_eq_true.mpr (decChars_isDigit n)
  have hz : ¬ ((decChars n).head? = some '0' ∧ (decChars n).length ≠ 1) := by
    intro ⟨hh, hl⟩
    rcases Nat.eq_zero_or_pos n with rfl | hpos
    · exact hl rfl
    · exact decChars_head_ne n hpos hh
  unfold parseDec
  rw [if_neg (by omega), if_neg (by simp [hd]), if_neg hz, decVal_decChars, if_pos h2]

theorem decChars_ofDigitChars (cs : List Char) (n : Nat) (hn : 0 < n)
    (hd : ∀ c ∈ cs, c.isDigit = true) :
    decChars (Nat.ofDigitChars 10 cs n) = decChars n ++ cs := by
  induction cs generalizing n with
  | nil => simp
  | cons c cs ih =>
    have hc := hd c (by simp)
    rw [Nat.ofDigitChars_cons, ih _ (by omega) (fun x hx => hd x (by simp [hx]))]
    unfold decChars
    simp only [Char.reduceToNat]
    rw [← Nat.toDigits_append_toDigits (by decide) hn (digit_lt c hc),
      Nat.toDigits_of_lt_base (digit_lt c hc)]
    rw [digitChar_of_isDigit c hc]; simp

theorem parseDec_sound (maxLen maxVal : Nat) (cs : List Char) (v : Nat)
    (h : parseDec maxLen maxVal cs = some v) : v ≤ maxVal ∧ decChars v = cs := by
  unfold parseDec at h
  split at h; · cases h
  split at h; · cases h
  split at h; · cases h
  split at h
  case isFalse => cases h
  rename_i h1 h2 h3 h4
  cases h
  refine ⟨h4, ?_⟩
  have hd : ∀ c ∈ cs, c.isDigit = true := by
    have : cs.all Char.isDigit = true := by simpa using h2
    exact List.all_eq_true.mp this
  -- a leading `'0'` stands alone; behind any other first digit the rest prints as itself (`decChars_ofDigitChars`)
  match cs, h1, h3, hd with
  | [], h1, _, _ => simp at h1
  | c :: rest, _, h3, hd =>
    have hc := hd c (by simp)
    by_cases hc0 : c = '0'
    · subst hc0
      have : rest = [] := by
        simp at h3; exact h3
      subst this; rfl
    · unfold decVal
      rw [Nat.ofDigitChars_cons]
      have hpos := digit_pos c hc hc0
      simp only [Char.reduceToNat] at hpos ⊢
      rw [Nat.mul_zero, Nat.zero_add, decChars_ofDigitChars _ _ hpos (fun x hx => hd x (by simp [hx]))]
      unfold decChars
      rw [Nat.toDigits_of_lt_base (digit_lt c hc), digitChar_of_isDigit c hc]; rfl


theorem splitOn_of_not_mem (sep : Char) (s : List Char) (h : sep ∉ s) : splitOn sep s = [s] := by
  induction s with
  | nil => rfl
  | cons c s ih =>
    have hc : c ≠ sep := fun e => h (by simp [e])
    have hs : sep ∉ s := fun e => h (by simp [e])
    simp [splitOn, hc, ih hs]

theorem splitOn_append (sep : Char) (s rest : List Char) (h : sep ∉ s) :
    splitOn sep (s ++ sep :: rest) = s :: splitOn sep rest := by
  induction s with
  | nil => simp [splitOn]
  | cons c s ih =>
    have hc : c ≠ sep := fun e => h (by simp [e])
    have hs : sep ∉ s := fun e => h (by simp [e])
    simp [splitOn, hc, ih hs]

theorem joinWith_cons (sep : Char) (p : List Char) (ps : List (List Char)) (h : ps ≠ []) :
    joinWith sep (p :: ps) = p ++ sep :: joinWith sep ps := by
  cases ps with
  | nil => exact absurd rfl h
  | cons q qs => rfl

theorem splitOn_spec (sep : Char) (cs : List Char) :
    splitOn sep cs ≠ [] ∧ joinWith sep (splitOn sep cs) = cs ∧ ∀ p ∈ splitOn sep cs, sep ∉ p := by
  fun_induction splitOn sep cs with
  | case1 => simp [joinWith]
  | case2 cs ih =>
    exact ⟨nofun, by rw [joinWith_cons _ _ _ ih.1, ih.2.1]; rfl, by simpa using ih.2.2⟩
  | case3 c cs hc hsp ih => exact absurd hsp ih.1
  | case4 c cs hc p ps hsp ih =>
    rw [hsp] at ih
    obtain ⟨_, hj, hp⟩ := ih
    rw [List.forall_mem_cons] at hp ⊢
    refine ⟨nofun, ?_, by simpa using ⟨fun e => hc e.symm, hp.1⟩, hp.2⟩
    cases ps with
    | nil => simp only [joinWith] at hj ⊢; rw [hj]
    | cons q qs => simp only [joinWith] at hj ⊢; rw [← hj]; rfl

theorem splitOn_ne_nil (sep : Char) (cs : List Char) : splitOn sep cs ≠ [] := (splitOn_spec sep cs).1

theorem joinWith_splitOn (sep : Char) (cs : List Char) : joinWith sep (splitOn sep cs) = cs := (splitOn_spec sep cs).2.1

theorem not_mem_of_splitOn (sep : Char) (cs : List Char) : ∀ p ∈ splitOn sep cs, sep ∉ p := (splitOn_spec sep cs).2.2

theorem splitLast_of_not_mem (sep : Char) (r : List Char) (h : sep ∉ r) : splitLast sep r = none := by
  induction r with
  | nil => rfl
  | cons c r ih =>
    have hc : c ≠ sep := fun e => h (by simp [e])
    have hs : sep ∉ r := fun e => h (by simp [e])
    simp [splitLast, ih hs, hc]

theorem splitLast_append (sep : Char) (l r : List Char) (h : sep ∉ r) :
    splitLast sep (l ++ sep :: r) = some (l, r) := by
  induction l with
  | nil => simp [splitLast, splitLast_of_not_mem sep r h]
  | cons c l ih => simp [splitLast, ih]

theorem splitLast_sound (sep : Char) (cs l r : List Char) (h : splitLast sep cs = some (l, r)) :
    cs = l ++ sep :: r := by
  induction cs generalizing l with
  | nil => simp [splitLast] at h
  | cons c cs ih =>
    unfold splitLast at h
    split at h
    · rename_i l' r' he
      cases h
      simp [← ih l' he]
    · split at h
      · rename_i hc
        cases h
        simp [hc]
      · cases h


theorem not_mem_decChars {c : Char} (hc : c.isDigit = false) (n : Nat) : c ∉ decChars n :=
  fun h => by rw [decChars_isDigit n c h] at hc; cases hc

theorem toIpChars_eq (a : Nat) :
    toIpChars a = decChars (a / 2 ^ 24 % 256) ++ '.' :: (decChars (a / 2 ^ 16 % 256) ++ '.' ::
      (decChars (a / 2 ^ 8 % 256) ++ '.' :: decChars (a % 256))) := rfl

theorem parseOctet_decChars (b : Nat) (h : b < 256) : parseOctet (decChars b) = some b :=
  parseDec_decChars 3 255 b (by decide) (by omega) (by omega)

theorem parsePort_decChars (p : Nat) (h : p < 2 ^ 16) : parsePort (decChars p) = some p :=
  parseDec_decChars 5 65535 p (by decide) (by omega) (by omega)

theorem octets_eq (a : Nat) :
    octets a = [a / 256 / 256 / 256 % 256, a / 256 / 256 % 256, a / 256 % 256, a % 256] := by
  simp only [octets, Nat.div_div_eq_div_mul, Nat.reduceMul, Nat.reducePow]

theorem ofOctets_octets (a : Nat) (h : a < 2 ^ 32) :
    ofOctets (a / 2 ^ 24 % 256) (a / 2 ^ 16 % 256) (a / 2 ^ 8 % 256) (a % 256) = a := by
  have := octets_eq a
  simp only [octets, List.cons.injEq, and_true] at this
  rw [this.1, this.2, ofOctets]
  omega

theorem octets_ofOctets (b0 b1 b2 b3 : Nat) (h0 : b0 ≤ 255) (h1 : b1 ≤ 255) (h2 : b2 ≤ 255)
    (h3 : b3 ≤ 255) : octets (ofOctets b0 b1 b2 b3) = [b0, b1, b2, b3] := by
  have s : ∀ q b, b ≤ 255 → (q * 256 + b) / 256 = q ∧ (q * 256 + b) % 256 = b := fun q b h => by omega
  rw [octets_eq, ofOctets]
  simp only [s _ _ h3, s _ _ h2, s _ _ h1, Nat.mod_eq_of_lt (show b0 < 256 by omega)]

theorem ofOctets_lt (b0 b1 b2 b3 : Nat) (h0 : b0 ≤ 255) (h1 : b1 ≤ 255) (h2 : b2 ≤ 255)
    (h3 : b3 ≤ 255) : ofOctets b0 b1 b2 b3 < 2 ^ 32 := by
  unfold ofOctets; omega

/-- the bytes in `sin_addr` are the big-endian bytes of the host-order value -/
theorem octets_eq_encodeBE (a : Nat) (h : a < 2 ^ 32) :
    (octets a).map UInt8.ofNat = encodeBE 4 a := by
  rw [octets_eq, encodeBE_succ_concat, encodeBE_succ_concat, encodeBE_succ_concat, encodeBE_succ_concat]
  rfl

theorem parseIpChars_toIpChars (a : Nat) (h : a < 2 ^ 32) : parseIpChars (toIpChars a) = some a := by
  have hb : ∀ x, x % 256 < 256 := fun x => Nat.mod_lt _ (by decide)
  unfold parseIpChars
  rw [toIpChars_eq, splitOn_append _ _ _ (not_mem_decChars rfl _),
    splitOn_append _ _ _ (not_mem_decChars rfl _), splitOn_append _ _ _ (not_mem_decChars rfl _),
    splitOn_of_not_mem _ _ (not_mem_decChars rfl _)]
  simp only [parseOctet_decChars _ (hb _), ofOctets_octets a h]

/-- the texts `inet_pton` accepts are exactly the ones `inet_ntop` prints -/
theorem parseIpChars_sound (cs : List Char) (a : Nat) (h : parseIpChars cs = some a) :
    a < 2 ^ 32 ∧ toIpChars a = cs := by
  unfold parseIpChars at h
  split at h
  case h_2 => cases h
  rename_i p0 p1 p2 p3 hsp
  split at h
  case h_2 => cases h
  rename_i b0 b1 b2 b3 e0 e1 e2 e3
  cases h
  obtain ⟨l0, d0⟩ := parseDec_sound _ _ _ _ e0
  obtain ⟨l1, d1⟩ := parseDec_sound _ _ _ _ e1
  obtain ⟨l2, d2⟩ := parseDec_sound _ _ _ _ e2
  obtain ⟨l3, d3⟩ := parseDec_sound _ _ _ _ e3
  refine ⟨ofOctets_lt _ _ _ _ l0 l1 l2 l3, ?_⟩
  unfold toIpChars
  rw [octets_ofOctets _ _ _ _ l0 l1 l2 l3]
  simp only [List.map, d0, d1, d2, d3]
  rw [← hsp, joinWith_splitOn]

theorem parseIpPortChars_toIpPortChars (a p : Nat) (ha : a < 2 ^ 32) (hp : p < 2 ^ 16) :
    parseIpPortChars (toIpPortChars a p) = some (a, p) := by
  unfold parseIpPortChars toIpPortChars
  rw [splitLast_append _ _ _ (not_mem_decChars rfl p)]
  simp only [parseIpChars_toIpChars a ha, parsePort_decChars p hp]

theorem parseIpPortChars_sound (cs : List Char) (a p : Nat) (h : parseIpPortChars cs = some (a, p)) :
    a < 2 ^ 32 ∧ p < 2 ^ 16 ∧ toIpPortChars a p = cs := by
  unfold parseIpPortChars at h
  split at h
  case h_2 => cases h
  rename_i l r hsp
  split at h
  case h_2 => cases h
  rename_i a' p' ea ep
  cases h
  obtain ⟨ha, hl⟩ := parseIpChars_sound _ _ ea
  obtain ⟨hp, hr⟩ := parseDec_sound _ _ _ _ ep
  refine ⟨ha, by omega, ?_⟩
  rw [splitLast_sound _ _ _ _ hsp, toIpPortChars, hl, hr]

theorem parseIp_toIp (a : Nat) (h : a < 2 ^ 32) : parseIp (toIp a) = some a := by
  unfold parseIp toIp
  rw [String.toList_ofList]; exact parseIpChars_toIpChars a h

theorem toIp_injective (a b : Nat) (ha : a < 2 ^ 32) (hb : b < 2 ^ 32) (h : toIp a = toIp b) :
    a = b := by
  have := parseIp_toIp a ha
  rw [h, parseIp_toIp b hb] at this
  exact (Option.some.inj this).symm

theorem parseIp_sound (s : String) (a : Nat) (h : parseIp s = some a) :
    a < 2 ^ 32 ∧ toIp a = s := by
  obtain ⟨h1, h2⟩ := parseIpChars_sound _ _ h
  exact ⟨h1, by rw [toIp, h2, String.ofList_toList]⟩

theorem parseIpPort_toIpPort (a p : Nat) (ha : a < 2 ^ 32) (hp : p < 2 ^ 16) :
    parseIpPort (toIpPort a p) = some (a, p) := by
  unfold parseIpPort toIpPort
  rw [String.toList_ofList]; exact parseIpPortChars_toIpPortChars a p ha hp

/-- the code's formatting: `toIp`, then `":%u"` -/
theorem toIpPort_eq (a p : Nat) : toIpPort a p = toIp a ++ ":" ++ toString p := by
  apply String.toList_inj.mp
  simp [toIpPort, toIp, toIpPortChars, decChars, String.toList_append]

/-- the code's formatting of the IPv6 branch: `'['`, the v6 text, then `"]:%u"` -/
theorem v6IpPort_eq (t : String) (p : Nat) : v6IpPort t p = "[" ++ t ++ "]:" ++ toString p := by
  apply String.toList_inj.mp
  simp [v6IpPort, v6IpPortChars, decChars, String.toList_append]

/-- the longest IPv4 text fits `INET_ADDRSTRLEN = 16` with its NUL (`assert(size >= INET_ADDRSTRLEN)`) -/
theorem toIpChars_length (a : Nat) : (toIpChars a).length ≤ 15 := by
  have hl : ∀ x, (decChars (x % 256)).length ≤ 3 := fun x =>
    decChars_length_le _ 3 (by decide) (by have := Nat.mod_lt x (show 0 < 256 by decide); omega)
  rw [toIpChars_eq]
  simp only [List.length_append, List.length_cons]
  have := hl (a / 2 ^ 24); have := hl (a / 2 ^ 16); have := hl (a / 2 ^ 8); have := hl a
  omega

/-- `toIpPort` needs at most 21 characters + NUL; the callers pass `char buf[64]` -/
theorem toIpPortChars_length (a p : Nat) (hp : p < 2 ^ 16) : (toIpPortChars a p).length ≤ 21 := by
  have := toIpChars_length a
  have := decChars_length_le p 5 (by decide) (by omega)
  simp only [toIpPortChars, List.length_append, List.length_cons]
  omega

end MuduoVerif.Inet
