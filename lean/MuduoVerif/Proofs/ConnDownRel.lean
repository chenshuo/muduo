import MuduoVerif.Proofs.ConnMono
/-!
One more invariant of every reachable state (`reach_downRel`), beside `LifeInv` / `FlowInv`: a connection that is down,
or whose `connectDestroyed` is queued, has been released by its owner (`DownRel`).  It holds because `handleClose`, which
brings the connection down and queues `connectDestroyed`, also makes the owner drop it, and nothing else does either
while the owner holds the connection (`Keeps`: a `Frame`).
-/
namespace MuduoVerif.Conn

/-- going down and being released go together: a connection that is down, or whose
`connectDestroyed` is queued, has been dropped by its owner.  (An invariant of every reachable
state: `reach_downRel`.) -/
structure DownRel (c : Conn) : Prop where
  down : c.st = .kDisconnected → c.owner = false
  cd : Task.connectDestroyed ∈ c.queue → c.owner = false

/-- `c'` was obtained from `c` by code that releases the connection whenever it brings it down
or queues `connectDestroyed` -/
structure Keeps (c c' : Conn) : Prop where
  owner : c.owner = false → c'.owner = false
  rel : c'.st = .kDisconnected → c'.owner = true → c.st = .kDisconnected
  cd : Task.connectDestroyed ∈ c'.pending → c'.owner = true → Task.connectDestroyed ∈ c.pending
  batch : c'.batch = c.batch

theorem Keeps.same {c c' : Conn} (h1 : c'.owner = c.owner) (h2 : c'.st = c.st) (h3 : c'.pending = c.pending)
    (h4 : c'.batch = c.batch) : Keeps c c' :=
  ⟨fun h => h1.trans h, fun h _ => h2 ▸ h, fun h _ => h3 ▸ h, h4⟩

theorem Keeps.released {c c' : Conn} (h : c'.owner = false) (hb : c'.batch = c.batch) : Keeps c c' :=
  ⟨fun _ => h, (fun _ h' => by rw [h] at h'; cases h'), (fun _ h' => by rw [h] at h'; cases h'), hb⟩

theorem Keeps.trans {a b c : Conn} (h1 : Keeps a b) (h2 : Keeps b c) : Keeps a c := by
  have hob : c.owner = true → b.owner = true := by
    intro h
    cases hb : b.owner with
    | true => rfl
    | false => rw [h2.owner hb] at h; cases h
  exact ⟨fun h => h2.owner (h1.owner h), fun h ho => h1.rel (h2.rel h ho) (hob ho),
    fun h ho => h1.cd (h2.cd h ho) (hob ho), h2.batch.trans h1.batch⟩

theorem DownRel.keep {c c' : Conn} (hr : DownRel c) (hk : Keeps c c') : DownRel c' := by
  constructor
  · intro hd
    cases ho : c'.owner with
    | false => rfl
    | true =>
      have h1 := hr.down (hk.rel hd ho)
      rw [hk.owner h1] at ho; cases ho
  · intro hq
    cases ho : c'.owner with
    | false => rfl
    | true =>
      have hq' : Task.connectDestroyed ∈ c.queue := by
        unfold Conn.queue at hq ⊢; rw [hk.batch] at hq
        exact List.mem_append.mpr ((List.mem_append.mp hq).imp_right (hk.cd · ho))
      have h1 := hr.cd hq'
      rw [hk.owner h1] at ho; cases ho

/-- no elementary update brings the connection down or queues `connectDestroyed` … -/
theorem keeps_frame : Frame Keeps where
  refl _ := .same rfl rfl rfl rfl
  trans := .trans
  data _ _ h := .same (congrArg Conn.owner h :) (congrArg Conn.st h :) (congrArg Conn.pending h :) (congrArg Conn.batch h :)
  emits _ _ _ := .same rfl rfl rfl rfl
  enqueues _ _ ht := ⟨id, fun h _ => h, fun h _ => (List.mem_append.mp h).resolve_right
    (by simpa using fun e => ht e.symm), rfl⟩
  updates _ _ _ _ := .same rfl rfl rfl rfl
  closing _ _ := ⟨id, (fun h _ => by cases h), fun h _ => h, rfl⟩
  shut _ := .same rfl rfl rfl rfl
  timer _ _ := .same rfl rfl rfl rfl
  dead _ := .same rfl rfl rfl rfl
  delivers _ _ := .same rfl rfl rfl rfl
  consumes _ := .same rfl rfl rfl rfl
  unregister _ := .same rfl rfl rfl rfl

theorem sendInLoop_keeps (c : Conn) (d : Bytes) (q : Bool) : Keeps c (sendInLoop c d q) :=
  sendInLoop_frame keeps_frame (fun _ => .same rfl rfl rfl rfl) c d q

theorem send_keeps (c : Conn) (d : Bytes) (_ : c.st = .kConnected) : Keeps c (sendInLoop c d false) :=
  sendInLoop_keeps c d false

theorem act_keeps (c : Conn) (f : Bool) (a : Act) : Keeps c (act c f a) :=
  act_frame keeps_frame send_keeps c f a

/-- … and `handleClose`, which does both, also makes the owner drop the connection (`closeCallback_`) -/
theorem handleClose_keeps (c : Conn) : Keeps c (handleClose c) := by
  have hb := (handleClose_grow c).mono.batch
  unfold handleClose at hb ⊢
  split
  · exact Keeps.same rfl rfl rfl rfl
  · rename_i hg
    rw [if_neg hg] at hb
    exact Keeps.released rfl hb

theorem connectDestroyed_owner (c : Conn) : (connectDestroyed c).owner = c.owner := by
  have hr : ∀ c : Conn, (removeChannel c).owner = c.owner := fun c => by unfold removeChannel; split <;> rfl
  unfold connectDestroyed; split
  · rw [hr, callback_owner]; rfl
  · exact hr c

/-- a functor taken from the head of the batch runs (`connectDestroyed` at the head shows that the
owner has dropped the connection) -/
theorem runTask_downRel (c : Conn) (t : Task) (rest : List Task) (hb : c.batch = t :: rest) (hr : DownRel c) :
    DownRel (runTask { c with batch := rest } t) := by
  have hq : c.queue = t :: (rest ++ c.pending) := by simp [Conn.queue, hb]
  have hpop : DownRel ({ c with batch := rest } : Conn) :=
    ⟨hr.down, fun h => hr.cd (by rw [hq]; exact List.mem_cons_of_mem _ h)⟩
  refine hpop.keep (runTask_frame keeps_frame send_keeps _ t handleClose_keeps
    (fun d _ => sendInLoop_keeps _ d true) (fun ht => ?_) (fun _ _ => .same rfl rfl rfl rfl)
    (fun _ _ _ => .same rfl rfl rfl rfl))
  subst ht
  exact Keeps.released ((connectDestroyed_owner _).trans (hr.cd (by rw [hq]; exact List.mem_cons_self ..)))
    (connectDestroyed_grow _).mono.batch

theorem maybeDestroy_downRel (c : Conn) (hr : DownRel c) : DownRel (maybeDestroy c) := by
  obtain ⟨_, _, _, _, e⟩ := maybeDestroy_eq c
  rw [e]; exact ⟨hr.down, hr.cd⟩

theorem iter_downRel (c : Conn) (a : List Src) (hr : DownRel c) : DownRel (iter c a) :=
  iter_inv (fun c s hr => hr.keep
      (dispatch_frame keeps_frame send_keeps handleClose_keeps (fun _ _ => .same rfl rfl rfl rfl) c s))
    (fun c hr => ⟨hr.down, fun h => hr.cd (by simpa [Conn.queue] using h)⟩)
    (fun c t rest _ hb hr => runTask_downRel c t rest hb hr) maybeDestroy_downRel c a hr

theorem step_downRel (c : Conn) (i : Input) (hne : i.notEstablish) (hr : DownRel c) : DownRel (step c i) := by
  cases i with
  | establish => exact absurd hne (by simp [Input.notEstablish])
  | act f a =>
    simp only [step]; split
    · exact hr
    · split <;> exact hr.keep (act_keeps _ _ _)
  | iter a => exact iter_downRel _ _ hr
  | ownerDestroy =>
    simp only [step]; split
    · exact hr
    · exact maybeDestroy_downRel _ ⟨fun _ => rfl, fun _ => rfl⟩
  | _ => exact ⟨hr.down, hr.cd⟩

theorem establish_downRel (c : Conn) (h : Fresh c) : DownRel (step c .establish) := by
  simp only [step, connectEstablished]
  rw [if_neg (by simp [h.dead]), if_neg (by simp [h.st])]
  apply DownRel.keep _ (callback_frame keeps_frame send_keeps _ _ _ (.same rfl rfl rfl rfl))
  constructor
  · intro hd; simp [enableReading, setEvents] at hd
  · intro hq; simp [Conn.queue, enableReading, setEvents, h.batch, h.pending] at hq

theorem reach_downRel (c0 : Conn) (h0 : Fresh c0) (ins : List Input) (hne : ∀ i ∈ ins, i.notEstablish) :
    DownRel (run (step c0 .establish) ins) :=
  foldl_inv ins (fun c i hi => step_downRel c i (hne i hi)) _ (establish_downRel c0 h0)

end MuduoVerif.Conn
