import MuduoVerif.Generated.ConnSkel
/-!
# T1 tie for the statement order of the connection engine (C01, C02, C03, C13)

`Gen.ConnSkel.<fn>` is the statement skeleton `vlib/gen/connskel.py` extracts from /repo's current
`TcpConnection.cc` / `Channel.cc` on every run; `Decl.<fn>` (`Model/ConnSkelDecl.lean`) is the skeleton the
corresponding definition of `Model/Conn.lean` implements.  Each `skeleton_<fn>` is closed by `rfl`: it holds
exactly as long as the source performs the same significant actions, in the same order, under the same nesting
of the same (generated) guards as the model.  The guards themselves are tied by `Generated/Conn.lean`.
`Props/C01, C02, C03, C13` re-export `skeletons_agree`, so a change of statement order in one of these functions
breaks those property modules.
-/
namespace MuduoVerif.ConnSkel

theorem skeleton_sendInLoop : Gen.ConnSkel.sendInLoop = Decl.sendInLoop := rfl
theorem skeleton_shutdown : Gen.ConnSkel.shutdown = Decl.shutdown := rfl
theorem skeleton_shutdownInLoop : Gen.ConnSkel.shutdownInLoop = Decl.shutdownInLoop := rfl
theorem skeleton_forceClose : Gen.ConnSkel.forceClose = Decl.forceClose := rfl
theorem skeleton_forceCloseWithDelay : Gen.ConnSkel.forceCloseWithDelay = Decl.forceCloseWithDelay := rfl
theorem skeleton_forceCloseInLoop : Gen.ConnSkel.forceCloseInLoop = Decl.forceCloseInLoop := rfl
theorem skeleton_startReadInLoop : Gen.ConnSkel.startReadInLoop = Decl.startReadInLoop := rfl
theorem skeleton_stopReadInLoop : Gen.ConnSkel.stopReadInLoop = Decl.stopReadInLoop := rfl
theorem skeleton_connectEstablished : Gen.ConnSkel.connectEstablished = Decl.connectEstablished := rfl
theorem skeleton_connectDestroyed : Gen.ConnSkel.connectDestroyed = Decl.connectDestroyed := rfl
theorem skeleton_handleRead : Gen.ConnSkel.handleRead = Decl.handleRead := rfl
theorem skeleton_handleWrite : Gen.ConnSkel.handleWrite = Decl.handleWrite := rfl
theorem skeleton_handleClose : Gen.ConnSkel.handleClose = Decl.handleClose := rfl
theorem skeleton_handleError : Gen.ConnSkel.handleError = Decl.handleError := rfl
theorem skeleton_handleEventWithGuard : Gen.ConnSkel.handleEventWithGuard = Decl.handleEventWithGuard := rfl

/-- the member functions the model implements step by step (what `Props/C01, C02, C03, C13` re-export) -/
theorem skeletons_agree :
    Gen.ConnSkel.sendInLoop = Decl.sendInLoop ∧
    Gen.ConnSkel.shutdown = Decl.shutdown ∧
    Gen.ConnSkel.shutdownInLoop = Decl.shutdownInLoop ∧
    Gen.ConnSkel.forceClose = Decl.forceClose ∧
    Gen.ConnSkel.forceCloseWithDelay = Decl.forceCloseWithDelay ∧
    Gen.ConnSkel.forceCloseInLoop = Decl.forceCloseInLoop ∧
    Gen.ConnSkel.startReadInLoop = Decl.startReadInLoop ∧
    Gen.ConnSkel.stopReadInLoop = Decl.stopReadInLoop ∧
    Gen.ConnSkel.connectEstablished = Decl.connectEstablished ∧
    Gen.ConnSkel.connectDestroyed = Decl.connectDestroyed ∧
    Gen.ConnSkel.handleRead = Decl.handleRead ∧
    Gen.ConnSkel.handleWrite = Decl.handleWrite ∧
    Gen.ConnSkel.handleClose = Decl.handleClose ∧
    Gen.ConnSkel.handleError = Decl.handleError ∧
    Gen.ConnSkel.handleEventWithGuard = Decl.handleEventWithGuard :=
  ⟨skeleton_sendInLoop, skeleton_shutdown, skeleton_shutdownInLoop, skeleton_forceClose, skeleton_forceCloseWithDelay,
   skeleton_forceCloseInLoop, skeleton_startReadInLoop, skeleton_stopReadInLoop, skeleton_connectEstablished,
   skeleton_connectDestroyed, skeleton_handleRead, skeleton_handleWrite, skeleton_handleClose, skeleton_handleError,
   skeleton_handleEventWithGuard⟩

/-! the remaining public entry points: the hand-off of `startRead()` / `stopRead()` is unconditional, the three `send`
overloads test the state, then the thread -/
theorem skeleton_startRead : Gen.ConnSkel.startRead = Decl.startRead := rfl
theorem skeleton_stopRead : Gen.ConnSkel.stopRead = Decl.stopRead := rfl
theorem skeleton_sendPiece : Gen.ConnSkel.sendPiece = Decl.sendPiece := rfl
theorem skeleton_sendBuf : Gen.ConnSkel.sendBuf = Decl.sendBuf := rfl
theorem skeleton_sendPtr : Gen.ConnSkel.sendPtr = Decl.sendPtr := rfl
theorem skeleton_sendInLoopPiece : Gen.ConnSkel.sendInLoopPiece = Decl.sendInLoopPiece := rfl
theorem skeleton_setTcpNoDelay : Gen.ConnSkel.setTcpNoDelay = Decl.setTcpNoDelay := rfl

theorem entry_points_agree :
    Gen.ConnSkel.startRead = Decl.startRead ∧
    Gen.ConnSkel.stopRead = Decl.stopRead ∧
    Gen.ConnSkel.sendPiece = Decl.sendPiece ∧
    Gen.ConnSkel.sendBuf = Decl.sendBuf ∧
    Gen.ConnSkel.sendPtr = Decl.sendPtr ∧
    Gen.ConnSkel.sendInLoopPiece = Decl.sendInLoopPiece ∧
    Gen.ConnSkel.setTcpNoDelay = Decl.setTcpNoDelay :=
  ⟨skeleton_startRead, skeleton_stopRead, skeleton_sendPiece, skeleton_sendBuf, skeleton_sendPtr,
   skeleton_sendInLoopPiece, skeleton_setTcpNoDelay⟩

/-! the trampolines that run the weak functors (`TcpConnection.cc`'s `notify*`, `WeakCallback::operator()`) and the
default callbacks -/
theorem skeleton_notifyWriteComplete : Gen.ConnSkel.notifyWriteComplete = Decl.notifyWriteComplete := rfl
theorem skeleton_notifyHighWaterMark : Gen.ConnSkel.notifyHighWaterMark = Decl.notifyHighWaterMark := rfl
theorem skeleton_weakCallbackCall : Gen.ConnSkel.weakCallbackCall = Decl.weakCallbackCall := rfl
theorem skeleton_defaultConnectionCallback : Gen.ConnSkel.defaultConnectionCallback = Decl.defaultConnectionCallback := rfl
theorem skeleton_defaultMessageCallback : Gen.ConnSkel.defaultMessageCallback = Decl.defaultMessageCallback := rfl

/-- lock, test, call - in the three trampolines; the default callbacks do what the model assumes -/
theorem trampolines_agree :
    Gen.ConnSkel.notifyWriteComplete = Decl.notifyWriteComplete ∧
    Gen.ConnSkel.notifyHighWaterMark = Decl.notifyHighWaterMark ∧
    Gen.ConnSkel.weakCallbackCall = Decl.weakCallbackCall ∧
    Gen.ConnSkel.defaultConnectionCallback = Decl.defaultConnectionCallback ∧
    Gen.ConnSkel.defaultMessageCallback = Decl.defaultMessageCallback :=
  ⟨skeleton_notifyWriteComplete, skeleton_notifyHighWaterMark, skeleton_weakCallbackCall,
   skeleton_defaultConnectionCallback, skeleton_defaultMessageCallback⟩

end MuduoVerif.ConnSkel
