import MuduoVerif.Proofs.ClientHook
/-! Preservation of `Mid` by the channel dispatch of a connection, by the queued functors, by the timer queue, by one
loop iteration and by `reap`. -/
namespace MuduoVerif.Client
open MuduoVerif.Gen.Client

theorem handleRead_mid (c : C) (r : List Task) (ph : Bool) (hi : Mid c r ph) (k : Nat) (x : ConnRec)
    (hx : findIn c.conns k = some x) (hst : x.st ≠ .disconnected) (hch : x.closeCb = .client → c.chan = none) :
    Mid (handleRead c k) r ph := by
  unfold handleRead
  simp only
  rw [popRead_eq]
  have h1 := hi.env c.envConnect c.envSoErr c.envSelf (popRead c).2.envRead (popRead c).2.starved c.horizon
  split
  · exact handleClose_mid _ r ph h1 k x hx hst hch
  · exact h1

theorem dispatchConn_mid (c : C) (r : List Task) (ph : Bool) (hi : Mid c r ph) (k rev : Nat) :
    Mid (dispatchConn c k rev) r ph := by
  unfold dispatchConn
  rw [findConn_eq]
  split
  · exact hi
  · rename_i x hx
    split
    · exact hi
    · rename_i hcond
      simp only [not_or, Decidable.not_not] at hcond
      obtain ⟨hnd, hon, _, hck⟩ := hcond
      obtain ⟨hxm, hxs⟩ := findIn_some hx
      have hon' : x.chanOn = true := by simpa using hon
      have hst := hi.c3 x hxm hon'
      have hch : x.closeCb = .client → c.chan = none := by
        intro hcb
        have hcn := (hi.c6 x hxm hst hcb).2
        cases hc : c.chan with
        | none => rfl
        | some k' =>
          have := hi.a7 k' x.sock hc hcn
          rw [hxs] at this; rw [hc, ← this] at hck; exact absurd rfl hck
      by_cases hdc : MuduoVerif.Gen.Conn.dispClose rev ∧ MuduoVerif.Gen.Conn.dispCloseSub false true false
      · -- close callback ran
        simp only [hdc, and_self, if_true]
        have h1 := handleClose_mid c r ph hi k x hx hst hch
        rw [if_neg (by simp [h1.notDead])]
        rw [handleClose_chanOff hx, if_neg (by simp [MuduoVerif.Gen.Conn.dispReadSub])]
        exact h1
      · simp only [hdc, if_false]
        rw [if_neg (by simp [hi.notDead])]
        split
        · exact handleRead_mid c r ph hi k x hx hst hch
        · exact hi

theorem holds_down {c : C} {r : List Task} {ph : Bool} (hi : Mid c r ph) {t : Task} {k : Nat} {x : ConnRec}
    (hx : findIn c.conns k = some x) (hst : x.st = .disconnected) (ht : ∀ j, t.holds j = (k == j)) :
    ∀ y ∈ c.conns, y.st ≠ .disconnected → t.holds y.sock = false := by
  intro y hy hs
  cases hh : t.holds y.sock with
  | false => rfl
  | true =>
    have := findIn_of_mem hi.c2 hy
    rw [ht] at hh
    rw [← beq_iff_eq.mp hh, hx] at this; cases this; exact absurd hst hs

theorem connectDestroyed_mid (c : C) (r : List Task) (ph : Bool) (k : Nat) (hi : Mid c (.connectDestroyed k :: r) ph) :
    Mid (connectDestroyed c k) r ph := by
  obtain ⟨x, hx, hst⟩ := hi.c9 k (by simp)
  unfold connectDestroyed
  rw [findConn_eq, hx]
  simp only
  rw [if_neg (by rw [hst]; simp), updConn_eq]
  -- the connection is down already: only its channel is removed
  have h1 := hi.pop (by simp) (fun e => by cases e)
    (holds_down hi hx hst fun _ => rfl)
  exact h1.upd hx chanOff (fun _ => ⟨rfl, rfl, rfl, rfl⟩) Iff.rfl (fun a => by cases a) (fun _ => rfl)

theorem shutdownTask_mid (c : C) (r : List Task) (ph : Bool) (k : Nat) (hi : Mid c (.shutdownInLoop k :: r) ph) :
    Mid (runTask c (.shutdownInLoop k)) r ph := by
  have hdrop : Mid c r ph := hi.pop (by simp) (fun e => by cases e) fun _ _ _ => holds_shutdown k _
  unfold runTask
  simp only
  split
  · rw [if_neg (by rw [gen_shutdown_weak]; simp)]; exact hdrop
  · rename_i hnd
    change ¬ ((findIn c.conns k).map (·.destroyed)).getD true = true at hnd
    cases hx : findIn c.conns k with
    | none => rw [hx] at hnd; simp at hnd
    | some x =>
      rw [hx] at hnd
      have hd : x.destroyed = false := by simpa using hnd
      exact hdrop.trace (hi.tr.shutdownWr (hi.handed hx) hx hd)

theorem forceCloseTask_mid (c : C) (r : List Task) (ph : Bool) (k : Nat) (hi : Mid c (.forceCloseInLoop k :: r) ph) :
    Mid (runTask c (.forceCloseInLoop k)) r ph := by
  obtain ⟨x, hx, hcb⟩ := hi.c8 k (by simp)
  rw [runTask_forceClose hx]
  split
  · rename_i hst
    rw [handleClose_detached_eq c k x hx hcb (hi.c10 x (findIn_some hx).1 hcb) hi.notDead]
    have h1 := closeDetached_mid c _ ph hi x hx hst hcb
    -- the functor that has run held `k`, which is down now
    exact h1.pop (by simp) (fun e => by cases e)
      (holds_down h1 (findIn_upd_self goDown (fun _ => rfl) hx) rfl fun _ => rfl)
  · rename_i hst
    exact hi.pop (by simp) (fun e => by cases e) (holds_down hi hx (Decidable.not_not.mp hst) fun _ => rfl)

theorem runTask_mid (c : C) (r : List Task) (t : Task) (hi : Mid c (t :: r) true) : Mid (runTask c t) r true := by
  have hal := fun hh => mem_q_connectorAlive (t := t) hi.a15 (by simp) hh
  cases t with
  | startCycle =>
    have hal := hal (by simp [taskHoldsConnector, gen_holdsRef.1])
    unfold runTask; simp only; rw [if_pos hal]
    have hin : Task.startCycle ∈ (Task.startCycle :: r) ++ c.pending := by simp
    have hcn := hi.a10.2 hin
    have hna : ¬ attempting c.cstate c.timers := fun h => (hi.a9 h).2.1 hin
    have hnr : Task.resetChannel ∉ (Task.startCycle :: r) ++ c.pending := fun h => (hi.a6 h).2.2.2 hin
    -- a queued `startCycle` excludes a connection (a10), an attempt (a9) and a queued reset (a6): `channel_` is null
    have hch := hi.chanNone hnr fun h => hna (.inl h)
    have hns : Task.startCycle ∉ r ++ c.pending := by
      intro h
      have h1 := hi.a10.1
      have := List.count_pos_iff.mpr h
      rw [List.cons_append, List.count_cons_self] at h1; omega
    exact startCycle_mid c r _ true (.inr rfl) hi hch hcn hna hns fun hcc => hi.k.aliveOfCc hcc (.inr hin)
  | stopInLoop =>
    have hal := hal (by simp [taskHoldsConnector, gen_holdsRef.2.1])
    unfold runTask; simp only; rw [if_pos hal]
    exact stopInLoop_mid c r true hi
  | resetChannel =>
    have hal := hal (by simp [taskHoldsConnector, gen_holdsRef.2.2.1])
    unfold runTask; simp only; rw [if_pos hal]
    exact resetChannel_mid c r true hi
  | connectDestroyed k => exact connectDestroyed_mid c r true k hi
  | shutdownInLoop k => exact shutdownTask_mid c r true k hi
  | forceCloseInLoop k => exact forceCloseTask_mid c r true k hi
  | setCloseCb k => have := hi.a13 (.setCloseCb k) (by simp); cases this
  | addTimer d kd => have := hi.a13 (.addTimer d kd) (by simp); cases this

theorem fire_fold_mid (due : List (Nat × TKind)) (c : C) (r : List Task) (ph : Bool) (hi : Mid c r ph)
    (h : nRetry due = 0 ∨ (nRetry due = 1 ∧ StartPre c r)) : Mid (due.foldl fireOne c) r ph := by
  induction due generalizing c with
  | nil => exact hi
  | cons t due ih =>
    rw [List.foldl_cons]
    have hnd := hi.notDead
    cases hk : t.2 with
    | park =>
      have e : fireOne c t = c := by simp [fireOne, hnd, hk]
      rw [e]
      apply ih c hi
      have : nRetry (t :: due) = nRetry due := by simp [nRetry, isRetryT, hk]
      rw [this] at h; exact h
    | retry =>
      have e : fireOne c t = startInLoop c := by simp [fireOne, hnd, hk]
      have hc : nRetry (t :: due) = nRetry due + 1 := by simp [nRetry, isRetryT, hk]
      rw [e]
      rcases h with h | ⟨h, hp⟩
      · omega
      · exact ih _ (startInLoop_mid c r ph hi hp) (.inl (by omega))

theorem notDue_mid (c : C) (r : List Task) (ph : Bool) (hi : Mid c r ph) :
    Mid { c with timers := c.timers.filter (fun t => decide (¬ t.1 ≤ c.now)) } r ph :=
  hi.lessTimers List.filter_sublist

theorem fireTimers_mid (c : C) (r : List Task) (ph : Bool) (hi : Mid c r ph) : Mid (fireTimers c) r ph := by
  rw [fireTimers_eq]
  have hsplit := nRetry_split c.timers c.now
  have h1 := notDue_mid c r ph hi
  have h2 : Mid ((c.timers.filter (fun t => decide (t.1 ≤ c.now))).foldl fireOne
      { c with timers := c.timers.filter (fun t => decide (¬ t.1 ≤ c.now)) }) r ph := by
    apply fire_fold_mid _ _ r ph h1
    by_cases hz : nRetry (c.timers.filter (fun t => decide (t.1 ≤ c.now))) = 0
    · exact .inl hz
    · -- a back-off timer is due: it is the only one (a8), the state is `kDisconnected`, and by a5 no channel still awaits its reset
      right
      have hle := hi.a8.1
      have hpos : 0 < nRetry c.timers := by omega
      have hatt : attempting c.cstate c.timers := .inr hpos
      obtain ⟨t0, ht0, hr0⟩ := nRetry_pos_iff.mp (by omega : 0 < nRetry (c.timers.filter (fun t => decide (t.1 ≤ c.now))))
      obtain ⟨ht0m, ht0d⟩ := List.mem_filter.mp ht0
      have hst := hi.a8.2 hpos
      have hon := hi.off (.inl hst)
      refine ⟨by omega, hst, ?_, (hi.a9 hatt).1, by show nRetry (c.timers.filter _) = 0; omega, (hi.a9 hatt).2.1, (hi.a9 hatt).2.2,
        fun hcc => hi.k.aliveOfCc hcc (.inl hatt)⟩
      · cases hc : c.chan with
        | none => rfl
        | some k =>
          have := (hi.a5 (by simp [hc]) hon).2 t0 ht0m hr0
          simp at ht0d; omega
  simp only
  rw [if_neg (by rw [h2.notDead]; exact Bool.false_ne_true), reapConnector_id h2]
  exact h2

theorem dispatch_mid (c : C) (r : List Task) (s : Src) (hi : Mid c r false) : Mid (dispatch c s) r false := by
  cases s with
  | timer => exact fireTimers_mid c r false hi
  | connector rev => exact dispatchConnector_mid c r rev hi
  | conn k rev => exact dispatchConn_mid c r false hi k rev

theorem dispatch_fold_mid (active : List Src) (c : C) (hi : Mid c [] false) :
    Mid (active.foldl (fun (c : C) s => if c.dead then c else dispatch c s) c) [] false := by
  induction active generalizing c with
  | nil => exact hi
  | cons s active ih =>
    rw [List.foldl_cons, if_neg (by simp [hi.notDead])]
    exact ih _ (dispatch_mid c [] s hi)

theorem task_fold_mid (rest : List Task) (c : C) (hi : Mid c rest true) :
    Mid (rest.foldl (fun (c : C) t => if c.dead then c else runTask c t) c) [] true := by
  induction rest generalizing c with
  | nil => exact hi
  | cons t rest ih =>
    rw [List.foldl_cons, if_neg (by simp [hi.notDead])]
    exact ih _ (runTask_mid c rest t hi)

theorem Tr.connClosedMany {n ss u nr sp al} (d : List Nat) : ∀ (cs : List ConnRec) (tr : List Ev),
    Tr tr n ss cs u nr sp al → d.Nodup →
    (∀ k ∈ d, ∃ x, findIn cs k = some x ∧ x.destroyed = false ∧ x.st = .disconnected ∧ ss[k]? = some SockSt.handedOver) →
    Tr (tr ++ d.map Ev.connClosed) n ss (cs.map (fun r => if r.sock ∈ d then kill r else r)) u nr sp al := by
  induction d with
  | nil =>
    intro cs tr h _ _
    simpa using h
  | cons k d ih =>
    intro cs tr h hnd hall
    obtain ⟨x, hx, hxd, hxs, hk⟩ := hall k (by simp)
    have h1 : Tr (tr ++ [Ev.connClosed k]) n ss (cs.map (updRec k kill)) u nr sp al := by
      refine h.connClosed (x' := kill x) hk hx hxd hxs ?_ rfl ?_
      · exact findIn_upd_self kill (fun _ => rfl) hx
      · exact fun j hj => findIn_upd_ne kill (fun _ => rfl) hj
    have hnd' := (List.nodup_cons.mp hnd)
    -- `k` first, then the rest of `d` on the list with `k` killed: `d` has no duplicates, so their records are as they were
    have h2 := ih (cs.map (updRec k kill)) (tr ++ [Ev.connClosed k]) h1 hnd'.2 (by
      intro k' hk'
      obtain ⟨y, hy, hyd, hys, hk2⟩ := hall k' (by simp [hk'])
      have hne : k' ≠ k := fun e => hnd'.1 (e ▸ hk')
      exact ⟨y, (findIn_upd_ne kill (fun _ => rfl) hne).trans hy, hyd, hys, hk2⟩)
    have e1 : tr ++ [Ev.connClosed k] ++ d.map Ev.connClosed = tr ++ (k :: d).map Ev.connClosed := by simp
    have e2 : (cs.map (updRec k kill)).map (fun r => if r.sock ∈ d then kill r else r) =
        cs.map (fun r => if r.sock ∈ k :: d then kill r else r) := by
      rw [List.map_map]; apply List.map_congr_left; intro r _
      simp only [Function.comp, updRec]
      by_cases hr : r.sock = k
      · have : (kill r).sock = k := hr
        simp [hr, hnd'.1, kill]
      · simp [hr]
    rw [← e1, ← e2]; exact h2

theorem MidN.map {ss cs al cn q} (h : MidN ss cs al cn q) (g : ConnRec → ConnRec)
    (hg : ∀ r, (g r).sock = r.sock ∧ (g r).st = r.st ∧ (g r).closeCb = r.closeCb ∧ (g r).chanOn = r.chanOn)
    (h4 : ∀ x ∈ cs, (g x).destroyed = true → x.st = .disconnected ∧ x.chanOn = false)
    (h5 : ∀ x ∈ cs, x.st ≠ .disconnected → held al cn q (g x)) : MidN ss (cs.map g) al cn q :=
  h.mapg (fun r => (hg r).1)
    (fun x hx => by
      obtain ⟨e1, e2, e3, e4⟩ := hg x
      have o := h.ok hx
      exact ⟨e1 ▸ o.c1, by rw [e4, e2]; exact o.c3, by rw [e2, e4]; exact h4 x hx, by rw [e2]; exact h5 x hx,
        by rw [e2, e3, e1]; exact o.c6, by rw [e3]; exact o.c10⟩)
    (fun k hk => (h.c7 k hk).imp fun x hx => ⟨hx.1, by rw [(hg x).2.1]; exact hx.2.1, by rw [(hg x).2.2.1]; exact hx.2.2⟩)
    (fun k hk => (h.c8 k hk).imp fun x hx => ⟨hx.1, by rw [(hg x).2.2.1]; exact hx.2⟩)
    (fun k hk => (h.c9 k hk).imp fun x hx => ⟨hx.1, by rw [(hg x).2.1]; exact hx.2⟩)

/-- a connection nobody refers to is down and unregistered (the destructor's assertion holds) -/
theorem dying_down {c : C} (hi : Mid c [] true) {x : ConnRec} (hx : x ∈ c.conns) (hd : dyingP c x = true) :
    x.destroyed = false ∧ ¬ held c.clientAlive c.connection c.pending x ∧ x.st = .disconnected ∧ x.chanOn = false := by
  simp only [dyingP, Bool.and_eq_true, Bool.not_eq_true'] at hd
  have hnh : ¬ held c.clientAlive c.connection c.pending x := by
    rw [← connHeld_iff]; simp [hd.2]
  have hst : x.st = .disconnected := by
    cases h : x.st
    · exact absurd (by simpa using hi.c5 x hx (by rw [h]; simp)) hnh
    · exact absurd (by simpa using hi.c5 x hx (by rw [h]; simp)) hnh
    · rfl
  refine ⟨hd.1, hnh, hst, ?_⟩
  cases h : x.chanOn
  · rfl
  · exact absurd hst (hi.c3 x hx h)

theorem reap_eq2 {c : C} (hi : Mid c [] true) :
    reap c = { c with conns := c.conns.map (reapRec c),
                      trace := c.trace ++ (c.conns.filter (dyingP c)).map (fun r => Ev.connClosed r.sock) } := by
  have : (c.conns.filter (dyingP c)).find? (fun r => r.st ≠ .disconnected) = none := by
    rw [List.find?_eq_none]
    intro x hx
    simp [(dying_down hi (List.mem_filter.mp hx).1 (List.mem_filter.mp hx).2).2.2.1]
  rw [reap_eq, this]; rfl

theorem reap_keeps (U : C) (hm : Mid U [] true) (k : Nat) (y : ConnRec) (hy : findIn U.conns k = some y) :
    findIn (reap U).conns k = some (reapRec U y) ∧ (reap U).pending = U.pending := by
  rw [reap_eq2 hm]
  refine ⟨?_, rfl⟩
  show findIn (U.conns.map (reapRec U)) k = _
  rw [findIn_mapg k _ (fun r => (reapRec_fields _ r).1), hy]; rfl

theorem reap_mid (c : C) (hi : Mid c [] true) : Mid (reap c) [] true := by
  have hdy := fun x hx hd => dying_down hi (x := x) hx hd
  rw [reap_eq2 hi]
  -- the trace gains one `connClosed` per dying record; their sockets are distinct (c2), so `connClosedMany` takes them in turn
  have htr : Tr (c.trace ++ (c.conns.filter (dyingP c)).map (fun r => Ev.connClosed r.sock)) c.nsock c.sockSt
      (c.conns.map (reapRec c)) c.ups c.nretry c.stopReq c.clientAlive := by
    have hsub : ((c.conns.filter (dyingP c)).map (·.sock)).Nodup :=
      List.Nodup.sublist (List.Sublist.map _ List.filter_sublist) hi.c2
    have h := hi.tr.connClosedMany ((c.conns.filter (dyingP c)).map (·.sock)) c.conns c.trace hsub (by
      intro k hk
      obtain ⟨x, hx, rfl⟩ := List.mem_map.mp hk
      obtain ⟨hxm, hxd⟩ := List.mem_filter.mp hx
      exact ⟨x, findIn_of_mem hi.c2 hxm, (hdy x hxm hxd).1, (hdy x hxm hxd).2.2.1, hi.c1 x hxm⟩)
    have e1 : ((c.conns.filter (dyingP c)).map (·.sock)).map Ev.connClosed =
        (c.conns.filter (dyingP c)).map (fun r => Ev.connClosed r.sock) := by
      rw [List.map_map]; rfl
    have e2 : c.conns.map (fun r => if r.sock ∈ (c.conns.filter (dyingP c)).map (·.sock) then kill r else r) =
        c.conns.map (reapRec c) := by
      apply List.map_congr_left
      intro x hx
      unfold reapRec
      by_cases hd : dyingP c x = true
      · have : x.sock ∈ (c.conns.filter (dyingP c)).map (·.sock) :=
          List.mem_map.mpr ⟨x, List.mem_filter.mpr ⟨hx, hd⟩, rfl⟩
        simp [hd, this]
      · have : x.sock ∉ (c.conns.filter (dyingP c)).map (·.sock) := by
          intro hm
          obtain ⟨y, hy, hys⟩ := List.mem_map.mp hm
          obtain ⟨hym, hyd⟩ := List.mem_filter.mp hy
          have h1 := findIn_of_mem hi.c2 hym
          have h2 := findIn_of_mem hi.c2 hx
          rw [hys, h2] at h1
          cases h1; exact hd hyd
        simp [hd, this]
    rw [e1, e2] at h; exact h
  have hg : ∀ x ∈ c.conns, (reapRec c x = x) ∨ (reapRec c x = kill x ∧ dyingP c x = true) := by
    intro x _
    unfold reapRec
    by_cases hd : dyingP c x = true
    · right; rw [if_pos hd]; exact ⟨rfl, hd⟩
    · left; rw [if_neg hd]
  refine Mid.of hi.notDead hi.k hi.a13 hi.a15 hi.a16 hi.s1 ?_ hi.g1 hi.g3 hi.h1 htr
  refine hi.n.map (reapRec c) (fun r => by unfold reapRec kill; split <;> exact ⟨rfl, rfl, rfl, rfl⟩) (fun x hx hd => ?_)
    (fun x hx hs => ?_)
  · rcases hg x hx with e | ⟨_, e⟩
    · rw [e] at hd; exact hi.c4 x hx hd
    · exact (hdy x hx e).2.2
  · rcases hg x hx with e | ⟨_, e⟩
    · rw [e]; exact hi.c5 x hx hs
    · exact absurd (hdy x hx e).2.2.1 hs

theorem mid_horizon {c : C} (hi : Mid c [] true) : Mid { c with horizon := c.nsock } [] false :=
  Mid.of hi.notDead hi.k hi.a13 hi.a15 (fun a => by cases a) hi.s1 hi.n hi.g1 hi.g3 hi.h1 hi.t1

/-- `doPendingFunctors` swaps the queue out: what was pending is the batch -/
theorem mid_to_batch {c : C} (hi : Mid c [] false) : Mid { c with pending := [], batch := c.pending } c.pending true := by
  have e : c.pending ++ [] = [] ++ c.pending := List.append_nil _
  refine Mid.of hi.notDead ?_ ?_ (fun _ h => h) (fun _ h => by cases h) hi.s1 ?_ hi.g1 hi.g3 hi.h1 hi.t1
  · show MidK _ _ _ _ (c.pending ++ []) _ _ _ _ _ _
    rw [e]; exact hi.k
  · show ∀ t ∈ c.pending ++ [], _
    rw [e]; exact hi.a13
  · show MidN _ _ _ _ (c.pending ++ [])
    rw [e]; exact hi.n

theorem mid_clear_batch {c : C} (hi : Mid c [] true) : Mid { c with batch := [] } [] true :=
  Mid.of hi.notDead hi.k hi.a13 (fun _ h => by cases h) hi.a16 hi.s1 hi.n hi.g1 hi.g3 hi.h1 hi.t1

theorem iter_bnd (c : C) (active : List Src) (hi : Bnd c) : Bnd (iter c active) := by
  unfold Bnd at hi ⊢
  have h1 := dispatch_fold_mid active _ (mid_horizon hi)
  unfold iter
  simp only
  generalize List.foldl (fun (c : C) s => if c.dead then c else dispatch c s) _ active = c1 at h1 ⊢
  rw [if_neg (by rw [h1.notDead]; exact Bool.false_ne_true)]
  have h3 := task_fold_mid c1.pending _ (mid_to_batch h1)
  generalize List.foldl (fun (c : C) t => if c.dead then c else runTask c t) _ c1.pending = c2 at h3 ⊢
  rw [if_neg (by rw [h3.notDead]; exact Bool.false_ne_true)]
  have h4 := mid_clear_batch h3
  rw [reapConnector_id h4, if_neg (by rw [h4.notDead]; exact Bool.false_ne_true)]
  exact reap_mid _ h4

end MuduoVerif.Client
