import MuduoVerif.Proofs.RpcShape
/-! The serving side: the log restricted to one request is the list `served` (`SrvInv`), so every REQUEST gets exactly
one reply, the right one. -/
namespace MuduoVerif.Rpc
open MuduoVerif.Gen.Rpc

def isReply (r : Nat) : Ev → Bool
  | .reply r' _ _ _ => decide (r' = r)
  | _ => false

def isDispatch (r : Nat) : Ev → Bool
  | .dispatch r' _ => decide (r' = r)
  | _ => false

def isFreeSrv (r : Nat) : Ev → Bool
  | .free (.srvResp r') => decide (r' = r)
  | _ => false

/-- RESPONSE frames that answer request number `r` -/
def replyCount (r : Nat) (log : List Ev) : Nat := log.countP (isReply r)
/-- `service->CallMethod` invocations for request number `r` -/
def dispatchCount (r : Nat) (log : List Ev) : Nat := log.countP (isDispatch r)
def freeSrvCount (r : Nat) (log : List Ev) : Nat := log.countP (isFreeSrv r)
/-- done-callbacks of request `r` that the service still holds -/
def held (r : Nat) (cl : List (Nat × Nat × Nat)) : Nat := cl.countP (fun c => decide (c.1 = r))

theorem held_filter (r r' : Nat) (cl : List (Nat × Nat × Nat)) :
    held r' (cl.filter (fun c => c.1 ≠ r)) = if r' = r then 0 else held r' cl := by
  unfold held
  rw [List.countP_filter]
  split
  next h => simp [h]
  next h =>
    congr 1; funext c
    by_cases hc : c.1 = r' <;> simp [hc, h]

theorem held_kept (hs : Bool) (r r' : Nat) (m : Msg) :
    held r' (kept hs r m) = if r' = r then (kept hs r m).length else 0 := by
  unfold kept held
  by_cases hr : r = r' <;> split <;> simp_all [eq_comm]

theorem kept_spec {hs : Bool} {r : Nat} {m : Msg} {c : Nat × Nat × Nat} (h : c ∈ kept hs r m) :
    c.1 = r ∧ c.2.1 = m.id ∧ expected hs m = (some c.2.2, none) ∧ m.meth = some .defer := by
  unfold kept at h
  split at h
  next p hp hm =>
    cases List.mem_singleton.mp h
    exact ⟨rfl, rfl, Prod.ext hp (expected_some (Prod.ext hp rfl)).1, hm⟩
  · cases h

theorem countP_ofReq {p : Ev → Bool} {r : Nat} (h : ∀ e, p e = true → e.ofReq r = true) (log : List Ev) :
    log.countP p = (log.filter (Ev.ofReq r)).countP p := by
  rw [List.countP_filter]
  congr 1; funext e
  cases hp : p e <;> simp [h e, hp]

structure SrvInv (s : Chan) : Prop where
  /-- the log restricted to request number `r` is the list `served`; nothing is logged under an unused number -/
  log : ∀ r, s.log.filter (Ev.ofReq r) =
    match s.reqs r with
    | none => []
    | some m => served s.hasServices r m (held r s.closures)
  fresh : ∀ r, s.nextReq ≤ r → s.reqs r = none ∧ held r s.closures = 0
  known : ∀ r m, s.reqs r = some m → m.type = .REQUEST ∧ .arrived m ∈ s.log
  /-- a done-callback the service holds is bound to the id of a valid request to a deferring method, and to its answer -/
  clos : ∀ c ∈ s.closures, ∃ m, s.reqs c.1 = some m ∧ c.2.1 = m.id ∧
    expected s.hasServices m = (some c.2.2, none) ∧ m.meth = some .defer
  numbered : ∀ m, .arrived m ∈ s.log → m.type = .REQUEST → ∃ r, s.reqs r = some m

theorem SrvInv.init (a h : Bool) : SrvInv (init a h) := by
  constructor <;> simp [MuduoVerif.Rpc.init, held]

theorem SrvInv.lt_of_req {s : Chan} (si : SrvInv s) {r : Nat} {m : Msg} (h : s.reqs r = some m) : r < s.nextReq :=
  Nat.lt_of_not_le fun hle => by simp [(si.fresh r hle).1] at h

/-- a step of the caller side: nothing of the serving side moves -/
structure CallStep (s s' : Chan) : Prop where
  log : ∃ evs, s'.log = evs ++ s.log ∧ ∀ e ∈ evs, e.callSide = true ∧ ∀ m, e = .arrived m → m.type ≠ .REQUEST
  closures : s'.closures = s.closures
  reqs : s'.reqs = s.reqs
  nextReq : s'.nextReq = s.nextReq
  hasServices : s'.hasServices = s.hasServices

theorem ofReq_callSide {e : Ev} (h : e.callSide = true) (r : Nat) : e.ofReq r = false := by
  unfold Ev.ofReq; split <;> simp_all [Ev.callSide]

theorem SrvInv.ext {s s' : Chan} (si : SrvInv s) (evs : List Ev) (hl : s'.log = evs ++ s.log)
    (hev : ∀ e ∈ evs, (∀ r, e.ofReq r = false) ∧ ∀ m, e = .arrived m → m.type ≠ .REQUEST)
    (hc : s'.closures = s.closures) (hr : s'.reqs = s.reqs) (hn : s'.nextReq = s.nextReq)
    (hh : s'.hasServices = s.hasServices) : SrvInv s' := by
  have hmem : ∀ e, e ∈ s.log → e ∈ s'.log := fun e he => by rw [hl]; exact List.mem_append_right _ he
  constructor <;> simp only [hc, hr, hn, hh]
  · intro r
    rw [hl, List.filter_append, List.filter_eq_nil_iff.mpr (fun e he => by simp [(hev e he).1 r])]
    exact si.log r
  · exact si.fresh
  · exact fun r m hm => ⟨(si.known r m hm).1, hmem _ (si.known r m hm).2⟩
  · exact si.clos
  · intro m hm ht
    rw [hl] at hm
    exact si.numbered m ((List.mem_append.mp hm).resolve_left (fun h => (hev _ h).2 m rfl ht)) ht

theorem SrvInv.call {s s' : Chan} (si : SrvInv s) (h : CallStep s s') : SrvInv s' := by
  obtain ⟨evs, hl, hev⟩ := h.log
  exact si.ext evs hl (fun e he => ⟨ofReq_callSide (hev e he).1, (hev e he).2⟩) h.closures h.reqs h.nextReq h.hasServices

theorem SrvInv.request {s : Chan} (si : SrvInv s) {m : Msg} (ht : m.type = .REQUEST) :
    SrvInv { s with nextReq := s.nextReq + 1, reqs := setAt s.reqs s.nextReq (some m),
                    closures := kept s.hasServices s.nextReq m ++ s.closures,
                    log := served s.hasServices s.nextReq m (kept s.hasServices s.nextReq m).length ++ .arrived m :: s.log } := by
  obtain ⟨hu1, hu2⟩ := si.fresh s.nextReq (Nat.le_refl _)
  have hold : ∀ {r mm}, s.reqs r = some mm → setAt s.reqs s.nextReq (some m) r = some mm := fun {r mm} h => by
    rwa [setAt_other _ _ _ _ (fun hr => by simp [hr, hu1] at h)]
  -- the new request's events are all its own; nothing was logged or held under its number before
  have hheld : ∀ r, held r (kept s.hasServices s.nextReq m ++ s.closures) =
      if r = s.nextReq then (kept s.hasServices s.nextReq m).length else held r s.closures := fun r => by
    rw [held, List.countP_append, ← held, ← held, held_kept]
    split <;> simp_all
  constructor
  · intro r
    show ((served _ _ _ _ ++ Ev.arrived m :: s.log).filter _) = _
    rw [List.filter_append, served_filter, List.filter_cons_of_neg (by simp [Ev.ofReq]), si.log r, hheld r]
    by_cases hr : r = s.nextReq
    · simp [hr, hu1, setAt_same]
    · simp [hr, setAt_other _ _ _ _ hr]
  · intro r (hle : s.nextReq + 1 ≤ r)
    have hr : r ≠ s.nextReq := by omega
    show setAt s.reqs s.nextReq (some m) r = none ∧ _
    rw [setAt_other _ _ _ _ hr, hheld r, if_neg hr]
    exact si.fresh r (by omega)
  · intro r mm (hmm : setAt s.reqs s.nextReq (some m) r = some mm)
    by_cases hr : r = s.nextReq
    · rw [hr, setAt_same] at hmm; cases hmm; exact ⟨ht, by simp⟩
    · rw [setAt_other _ _ _ _ hr] at hmm
      exact ⟨(si.known r mm hmm).1, by simp [(si.known r mm hmm).2]⟩
  · intro c hc
    rcases List.mem_append.mp hc with h | h
    · obtain ⟨a, b⟩ := kept_spec h
      exact ⟨m, by rw [a]; exact setAt_same _ _ _, b⟩
    · obtain ⟨mm, a, b⟩ := si.clos c h
      exact ⟨mm, hold a, b⟩
  · intro mm hmm htt
    rcases List.mem_append.mp hmm with h | h
    · exact nomatch mem_served h
    · rcases List.mem_cons.mp h with h | h
      · cases h; exact ⟨s.nextReq, setAt_same _ _ _⟩
      · obtain ⟨r, hr⟩ := si.numbered mm h htt
        exact ⟨r, hold hr⟩

theorem SrvInv.fire {s : Chan} (si : SrvInv s) {r : Nat} {c : Nat × Nat × Nat}
    (hf : s.closures.find? (fun c => c.1 = r) = some c) :
    SrvInv { s with closures := s.closures.filter (fun c => c.1 ≠ r),
                    log := .free (.srvResp r) :: .reply r c.2.1 (some c.2.2) none :: s.log } := by
  have hcm : c ∈ s.closures := List.mem_of_find?_eq_some hf
  have hcr : c.1 = r := by simpa using List.find?_some hf
  obtain ⟨m, hm1, hm2, hm3, _⟩ := si.clos c hcm
  rw [hcr] at hm1
  have hpos : held r s.closures ≠ 0 := Nat.pos_iff_ne_zero.mp (List.countP_pos_iff.mpr ⟨c, hcm, by simp [hcr]⟩)
  constructor <;> simp only [held_filter]
  · -- the service held the done-callback, so the log had `[dispatch]` for `r`: with the two new events it is the answered list
    intro r'
    show ((Ev.free (.srvResp r) :: Ev.reply r c.2.1 (some c.2.2) none :: s.log).filter _) = _
    have := si.log r'
    by_cases hr : r' = r
    · subst hr
      simp only [hm1] at this ⊢
      simp [Ev.ofReq, this, served, hm3, hpos, hm2]
    · simpa [List.filter_cons, Ev.ofReq, hr, Ne.symm hr] using this
  · intro r' hle
    have := si.fresh r' hle
    exact ⟨this.1, by split <;> simp [this.2]⟩
  · exact fun r' mm hmm => ⟨(si.known r' mm hmm).1, by simp [(si.known r' mm hmm).2]⟩
  · exact fun c' hc' => si.clos c' (List.mem_filter.mp hc').1
  · exact fun mm hmm => si.numbered mm (by simpa using hmm)

theorem CallStep.completion (s : Chan) (k : Nat) (m : Msg) :
    CallStep s { s with pending := none
                        log := .free (.resp k) :: .ran k m.id (view m) ::
                                 ((if m.payload.isSome then [.parse k] else []) ++ s.log) } :=
  ⟨⟨.free (.resp k) :: .ran k m.id (view m) :: (if m.payload.isSome then [.parse k] else []), by simp,
    by cases m.payload.isSome <;> simp [Ev.callSide]⟩, rfl, rfl, rfl, rfl⟩

theorem SrvInv.trans {s s' : Chan} {a : Act} (si : SrvInv s) (h : Trans s a s') : SrvInv s' := by
  cases h with
  | callBegin => exact si.call ⟨⟨[], rfl, by simp⟩, rfl, rfl, rfl, rfl⟩
  | callInsert k => exact si.call ⟨⟨[], rfl, by simp⟩, rfl, rfl, rfl, rfl⟩
  | callSend k => exact si.call ⟨⟨[.sent (s.idOf k) k], rfl, by simp [Ev.callSide]⟩, rfl, rfl, rfl, rfl⟩
  | abort m _ ht => exact si.call ⟨⟨[.abort, .arrived m], rfl, by simp [Ev.callSide, ht]⟩, rfl, rfl, rfl, rfl⟩
  | ignore m _ ht => exact si.call ⟨⟨[.arrived m], rfl, by simp [Ev.callSide, ht]⟩, rfl, rfl, rfl, rfl⟩
  | found m k _ ht => exact si.call ⟨⟨[.arrived m], rfl, by simp [Ev.callSide, ht]⟩, rfl, rfl, rfl, rfl⟩
  | request m _ ht => exact si.request ht
  | finish k m => exact si.call (.completion s k m)
  | fire r c hc => exact si.fire hc
  | stale r => exact si.ext [.uaf (.closure r)] rfl (by simp [Ev.ofReq]) rfl rfl rfl rfl

theorem SrvInv.run (asserts hs : Bool) (acts : List Act) : SrvInv (run asserts hs acts) :=
  run_induct asserts hs (SrvInv.init asserts hs) SrvInv.trans acts

/-- the account of a numbered request, read off `served` -/
theorem SrvInv.account {s : Chan} (si : SrvInv s) {r : Nat} {m : Msg} (hr : s.reqs r = some m) :
    replyCount r s.log = (if held r s.closures = 0 ∨ (expected s.hasServices m).1 = none then 1 else 0) ∧
    dispatchCount r s.log = (if (expected s.hasServices m).1.isSome then 1 else 0) ∧
    freeSrvCount r s.log ≤ replyCount r s.log ∧
    (∀ id p e, .reply r id p e ∈ s.log → id = m.id ∧ (p, e) = expected s.hasServices m) ∧
    (∀ p, .dispatch r p ∈ s.log → m.request.parse = some p) := by
  have hl := si.log r
  simp only [hr] at hl
  have hmem : ∀ e, e.ofReq r = true → (e ∈ s.log ↔ e ∈ served s.hasServices r m (held r s.closures)) :=
    fun e he => by rw [← hl, List.mem_filter, he]; simp
  have hp : ∀ p, (expected s.hasServices m).1 = some p → m.request.parse = some p :=
    fun p he => (expected_some (Prod.ext he rfl)).2
  rw [replyCount, dispatchCount, freeSrvCount,
    countP_ofReq (r := r) (p := isReply r) (by intro e; cases e <;> simp [isReply, Ev.ofReq]),
    countP_ofReq (r := r) (p := isDispatch r) (by intro e; cases e <;> simp [isDispatch, Ev.ofReq]),
    countP_ofReq (r := r) (p := isFreeSrv r) (by intro e; unfold isFreeSrv; split <;> simp [Ev.ofReq]), hl]
  simp only [hmem _ (show (Ev.reply r _ _ _).ofReq r = true by simp [Ev.ofReq]),
    hmem _ (show (Ev.dispatch r _).ofReq r = true by simp [Ev.ofReq])]
  revert hp
  unfold served
  rcases expected s.hasServices m with ⟨_ | p, e⟩
  · simp [isReply, isDispatch, isFreeSrv]
  · by_cases hh : held r s.closures = 0 <;> simp [isReply, isDispatch, isFreeSrv, hh]

/-! ### `CallStep` across the function `finish` (the proofs go by the relation `Trans`); no proof uses it -/

theorem CallStep.finish (s : Chan) : CallStep s (finish s) := by
  rcases finish_trans s with h | h
  · rw [h]; exact ⟨⟨[], rfl, by simp⟩, rfl, rfl, rfl, rfl⟩
  · generalize MuduoVerif.Rpc.finish s = s' at h
    cases h
    exact .completion s _ _

end MuduoVerif.Rpc
