import MuduoVerif.Model.Http
import MuduoVerif.Proofs.Stream
/-!
Lemmas about the HTTP parser model (`Model/Http.lean`).  The request line: `std::find` / `std::find_if` as list
functions, the split at a separator, the method table, the version test, and `processRequestLine` in a form that
names the pieces of the line.  The loops: `findCRLF`, one iteration of `parseRequest` on the first complete line
(`lineStep_cases`), the flattened driver `step` is `StepOk` under `Parsing` and equals the nested one
(`parseRequest` inside `HttpServer::onMessage`: `serve_eq_drain`, `feed_eq`, `feedAll_eq`), the states in which
`parseRequest` spins.
-/
namespace MuduoVerif.Http
open MuduoVerif.Gen.Http MuduoVerif.Stream

theorem length_takeWhile_eq_iff (q : UInt8 → Bool) (l : Bytes) :
    (l.takeWhile q).length = l.length ↔ ∀ b ∈ l, q b = true := by
  rw [List.takeWhile_eq_take_findIdx_not, List.length_take, Nat.min_eq_left List.findIdx_le_length,
    List.findIdx_eq_length]
  simp

@[simp] theorem find_nil (ch : UInt8) : find ch [] = 0 := rfl

theorem take_find (ch : UInt8) (l : Bytes) : l.take (find ch l) = l.takeWhile (· != ch) :=
  (List.prefix_iff_eq_take.mp (List.takeWhile_prefix _)).symm
theorem drop_find (ch : UInt8) (l : Bytes) : l.drop (find ch l) = l.dropWhile (· != ch) :=
  (congrArg (List.drop _) (List.takeWhile_append_dropWhile (l := l)).symm).trans (List.drop_left' rfl)

theorem find_of_not_mem (ch : UInt8) (a : Bytes) (h : ch ∉ a) : find ch a = a.length :=
  (length_takeWhile_eq_iff _ a).mpr fun _ hb => bne_iff_ne.mpr fun e => h (e ▸ hb)

theorem find_append_of_not_mem (ch : UInt8) (a b : Bytes) (h : ch ∉ a) :
    find ch (a ++ ch :: b) = a.length := by
  have ha : ∀ x ∈ a, (x != ch) = true := fun x hx => bne_iff_ne.mpr fun e => h (e ▸ hx)
  rw [find, List.takeWhile_append_of_pos ha, List.takeWhile_cons_of_neg (by simp), List.append_nil]

theorem splitAt_eq_some_iff (ch : UInt8) (l a b : Bytes) :
    splitAt ch l = some (a, b) ↔ l = a ++ ch :: b ∧ ch ∉ a := by
  constructor
  · intro h
    by_cases hm : ch ∈ l
    · obtain ⟨as, bs, rfl, hn⟩ := List.eq_append_cons_of_mem hm
      simp [splitAt, find_append_of_not_mem ch as bs hn] at h
      obtain ⟨rfl, rfl⟩ := h
      exact ⟨rfl, hn⟩
    · simp [splitAt, find_of_not_mem ch l hm] at h
  · rintro ⟨rfl, hn⟩
    simp [splitAt, find_append_of_not_mem ch a b hn]

theorem splitAt_eq_none_iff (ch : UInt8) (l : Bytes) : splitAt ch l = none ↔ ch ∉ l := by
  constructor
  · intro h hm
    obtain ⟨as, bs, rfl, hn⟩ := List.eq_append_cons_of_mem hm
    rw [(splitAt_eq_some_iff ch _ as bs).mpr ⟨rfl, hn⟩] at h
    cases h
  · intro h
    simp [splitAt, find_of_not_mem ch l h]

theorem findIf_eq_length_iff (p : UInt8 → Bool) (l : Bytes) :
    findIf p l = l.length ↔ ∀ b ∈ l, p b = false := by
  rw [findIf, length_takeWhile_eq_iff]; simp

/-- `question != start`: the target is not empty and does not begin with the query separator -/
theorem find_ne_zero_iff (ch : UInt8) (l : Bytes) : find ch l ≠ 0 ↔ l ≠ [] ∧ l.head? ≠ some ch := by
  cases l with
  | nil => simp
  | cons x l => by_cases h : x = ch <;> simp [find, h]

theorem setMethod_accepted_iff (m : Bytes) :
    methodAccepted (setMethod m) ↔ m ∈ methodTable.map (·.1) := by
  unfold setMethod
  cases hf : methodTable.find? (fun e => e.1 == m) with
  | none =>
    simp only
    constructor
    · intro h; exact absurd rfl h
    · intro h
      rw [List.mem_map] at h
      obtain ⟨e, he, hem⟩ := h
      have := List.find?_eq_none.mp hf e he
      simp [hem] at this
  | some e =>
    simp only
    have hmem := List.mem_of_find?_eq_some hf
    have heq := List.find?_some hf
    simp only [beq_iff_eq] at heq
    constructor
    · intro _
      exact List.mem_map.mpr ⟨e, hmem, heq⟩
    · intro _
      have hall : ∀ e ∈ methodTable, methodAccepted e.2 := by decide
      exact hall e hmem

/-- the method an accepted token is mapped to (the table has no duplicate tokens) -/
theorem setMethod_of_mem (e : Bytes × Method) (h : e ∈ methodTable) : setMethod e.1 = e.2 := by
  have hall : ∀ e ∈ methodTable, setMethod e.1 = e.2 := by decide
  exact hall e h

theorem versionOf_append (e : UInt8 × Version) (h : e ∈ versionTable) :
    versionOf (versionPrefix ++ [e.1]) = some e.2 := by
  have hall : ∀ e ∈ versionTable, versionOf (versionPrefix ++ [e.1]) = some e.2 := by decide
  exact hall e h

theorem versionOf_isSome_iff (tok : Bytes) :
    (versionOf tok).isSome ↔ ∃ d, d ∈ versionTable.map (·.1) ∧ tok = versionPrefix ++ [d] := by
  constructor
  · intro h
    unfold versionOf at h
    split at h
    · next hc =>
      have hne : tok ≠ [] := by rintro rfl; exact absurd hc.1 (by decide)
      refine ⟨tok.getLast hne, ?_, ?_⟩
      · split at h
        · next e hf =>
          have := List.find?_some hf
          rw [List.getLast?_eq_some_getLast hne, beq_iff_eq, Option.some.injEq] at this
          exact List.mem_map.mpr ⟨e, List.mem_of_find?_eq_some hf, this⟩
        · cases h
      · rw [← hc.2, ← hc.1, ← List.dropLast_eq_take, List.dropLast_concat_getLast hne]
    · cases h
  · rintro ⟨d, hd, rfl⟩
    obtain ⟨e, he, rfl⟩ := List.mem_map.mp hd
    rw [versionOf_append e he]; rfl

/-- the test on the target, on the list level -/
def targetOk (t : Bytes) : Prop :=
  find querySep t ≠ 0 ∧ findIf (fun b => decide (isControl b)) t = t.length
instance : Decidable (targetOk t) := by unfold targetOk; infer_instance

theorem processRequestLine_parts (m t ver : Bytes) (hm : methodSep ∉ m) (ht : targetSep ∉ t) :
    processRequestLine (m ++ methodSep :: (t ++ targetSep :: ver)) =
      if methodAccepted (setMethod m) ∧ targetOk t then
        (versionOf ver).map fun v =>
          { method := setMethod m, path := t.take (find querySep t), query := t.drop (find querySep t),
            version := v }
      else none := by
  unfold processRequestLine
  rw [(splitAt_eq_some_iff methodSep _ m _).mpr ⟨rfl, hm⟩]
  simp only
  have hf : find targetSep (t ++ targetSep :: ver) = t.length := find_append_of_not_mem _ t ver ht
  rw [hf]
  have htake : (t ++ targetSep :: ver).take t.length = t := by simp
  have hdrop : (t ++ targetSep :: ver).drop (t.length + 1) = ver := by simp
  rw [htake, hdrop]
  by_cases hma : methodAccepted (setMethod m)
  · rw [if_pos hma]
    have hta : targetAccepted t.length (t ++ targetSep :: ver).length (find querySep t)
        (findIf (fun b => decide (isControl b)) t) ↔ targetOk t := by
      unfold targetAccepted targetOk
      simp only [List.length_append, List.length_cons]
      constructor
      · rintro ⟨⟨_, h2⟩, h3⟩; exact ⟨h2, h3⟩
      · rintro ⟨h2, h3⟩; exact ⟨⟨by omega, h2⟩, h3⟩
    by_cases hto : targetOk t
    · rw [if_pos (hta.mpr hto), if_pos ⟨hma, hto⟩]
      cases versionOf ver <;> rfl
    · rw [if_neg (fun h => hto (hta.mp h)), if_neg (fun h => hto h.2)]
  · rw [if_neg hma, if_neg (fun h => hma h.1)]

theorem processRequestLine_no_sep (line : Bytes) (h : methodSep ∉ line) : processRequestLine line = none := by
  unfold processRequestLine
  rw [(splitAt_eq_none_iff methodSep line).mpr h]

theorem processRequestLine_one_sep (m rest : Bytes) (hm : methodSep ∉ m) (hr : targetSep ∉ rest) :
    processRequestLine (m ++ methodSep :: rest) = none := by
  unfold processRequestLine
  rw [(splitAt_eq_some_iff methodSep _ m _).mpr ⟨rfl, hm⟩]
  simp only
  by_cases hma : methodAccepted (setMethod m)
  · rw [if_pos hma]
    have hta : ¬ targetAccepted (find targetSep rest) rest.length
        (find querySep (rest.take (find targetSep rest)))
        (findIf (fun b => decide (isControl b)) (rest.take (find targetSep rest))) := by
      unfold targetAccepted
      rw [find_of_not_mem targetSep rest hr]
      exact fun h => h.1.1 rfl
    rw [if_neg hta]
  · rw [if_neg hma]

theorem findCRLF_spec (buf : Bytes) :
    match findCRLF buf with
    | some j => (j + 2 ≤ buf.length ∧ buf.drop j = 13 :: 10 :: buf.drop (j + 2)) ∧
        ∀ x, findCRLF (buf.take (j + 2) ++ x) = some j
    | none => ∀ j rest, buf.drop j ≠ 13 :: 10 :: rest := by
  fun_induction findCRLF buf with
  | case1 => simp
  | case2 a => intro j; cases j <;> simp
  | case3 a b rest hc => simp [findCRLF, hc]
  | case4 a b rest hc ih =>
    revert ih
    cases findCRLF (b :: rest) with
    | none =>
      intro ih j r
      cases j with
      | zero => rintro ⟨⟩; exact hc ⟨rfl, rfl⟩
      | succ j => simpa using ih j r
    | some i =>
      intro ⟨⟨h1, h2⟩, h3⟩
      exact ⟨⟨Nat.succ_le_succ h1, by simpa using h2⟩, fun x => by simpa [findCRLF, hc] using h3 x⟩

theorem findCRLF_some (buf : Bytes) (j : Nat) (h : findCRLF buf = some j) :
    j + 2 ≤ buf.length ∧ buf.drop j = 13 :: 10 :: buf.drop (j + 2) :=
  (h ▸ findCRLF_spec buf :).1

theorem findCRLF_none (buf : Bytes) (h : findCRLF buf = none) (j : Nat) (rest : Bytes) :
    buf.drop j ≠ 13 :: 10 :: rest :=
  (h ▸ findCRLF_spec buf :) j rest

theorem findCRLF_take (buf x : Bytes) (j : Nat) (h : findCRLF buf = some j) :
    findCRLF (buf.take (j + 2) ++ x) = some j :=
  (h ▸ findCRLF_spec buf :).2 x

/-- the parser stands at a line boundary of an unfinished request: `parseRequest` may be called -/
def Parsing (ctx : Ctx) : Prop := ctx.state = .kExpectRequestLine ∨ ctx.state = .kExpectHeaders

theorem Parsing.fresh : Parsing Ctx.fresh := Or.inl rfl

theorem spins_of_parsing {ctx : Ctx} (h : Parsing ctx) : spins ctx.state = false := by
  rcases h with h | h <;> rw [h] <;> decide

theorem lineStep_take (ctx : Ctx) (buf x : Bytes) (j : Nat) (h : findCRLF buf = some j) :
    lineStep ctx (buf.take (j + 2) ++ x) = lineStep ctx buf := by
  have hj := (findCRLF_some buf j h).1
  have ht : (buf.take (j + 2) ++ x).take j = buf.take j := by
    rw [List.take_append_of_le_length (by rw [List.length_take]; omega), List.take_take,
      Nat.min_eq_left (Nat.le_add_right j 2)]
  unfold lineStep
  rw [findCRLF_take buf x j h, h]
  simp only [ht]

theorem lineStep_append (ctx : Ctx) (buf x : Bytes) (j : Nat) (h : findCRLF buf = some j) :
    lineStep ctx (buf ++ x) = lineStep ctx buf := by
  have := lineStep_take ctx buf (buf.drop (j + 2) ++ x) j h
  rwa [← List.append_assoc, List.take_append_drop] at this

theorem lineStep_cases {ctx : Ctx} (hI : Parsing ctx) (buf : Bytes) :
    (findCRLF buf = none ∧ lineStep ctx buf = .need) ∨
    (∃ j, findCRLF buf = some j ∧
      (lineStep ctx buf = .fail ∨
       (∃ ctx', lineStep ctx buf = .next ctx' (j + crlfLen) ∧ Parsing ctx') ∨
       (∃ ctx', lineStep ctx buf = .done ctx' (j + crlfLen) ∧ ctx'.state = .kGotAll))) := by
  unfold lineStep
  rw [spins_of_parsing hI]
  rcases hI with hs | hs
  · rw [hs]
    simp only [Bool.false_eq_true, if_false]
    cases hf : findCRLF buf with
    | none => left; exact ⟨rfl, rfl⟩
    | some j =>
      right; refine ⟨j, rfl, ?_⟩
      simp only
      cases processRequestLine (buf.take j) with
      | none => left; rfl
      | some l => right; left; exact ⟨_, rfl, Or.inr rfl⟩
  · rw [hs]
    simp only [Bool.false_eq_true, if_false]
    cases hf : findCRLF buf with
    | none => left; exact ⟨rfl, rfl⟩
    | some j =>
      right; refine ⟨j, rfl, ?_⟩
      simp only
      split
      · right; left; exact ⟨_, rfl, Or.inr rfl⟩
      · right; right; exact ⟨_, rfl, rfl⟩

theorem step_of_no_crlf {ctx : Ctx} (hI : Parsing ctx) {buf : Bytes} (h : findCRLF buf = none) :
    step ctx buf = .need := by
  rcases lineStep_cases hI buf with ⟨_, hn⟩ | ⟨j, hj, _⟩
  · rw [step, hn]
  · rw [h] at hj; cases hj

theorem step_append {ctx : Ctx} (hI : Parsing ctx) (buf x : Bytes) (h : step ctx buf ≠ .need) :
    step ctx (buf ++ x) = step ctx buf := by
  rcases lineStep_cases hI buf with ⟨_, hn⟩ | ⟨j, hj, _⟩
  · exact absurd (by rw [step, hn]) h
  · rw [step, step, lineStep_append ctx buf x j hj]

theorem step_adv {ctx : Ctx} (hI : Parsing ctx) {buf : Bytes} {s' : Ctx} {evs : List Event} {k : Nat}
    (h : step ctx buf = .adv s' evs k) : ∃ j, findCRLF buf = some j ∧ k = j + 2 ∧ Parsing s' := by
  unfold step at h
  rcases lineStep_cases hI buf with ⟨_, hn⟩ | ⟨j, hj, hf | ⟨c, hc, hp⟩ | ⟨c, hc, _⟩⟩
  · rw [hn] at h; cases h
  · rw [hf] at h; cases h
  · rw [hc] at h; cases h; exact ⟨j, hj, rfl, hp⟩
  · rw [hc] at h; cases h; exact ⟨j, hj, rfl, Parsing.fresh⟩

theorem stepOk : Stream.StepOk Parsing step where
  adv_ok := by
    intro s buf s' evs k hI h
    obtain ⟨j, hj, rfl, hp⟩ := step_adv hI h
    have := (findCRLF_some buf j hj).1
    exact ⟨by omega, by omega, hp⟩
  append := fun x hI h => step_append hI _ x h

/-- what `HttpServer::onMessage` does with the result of one `parseRequest`, continued by the
flattened driver -/
def serveCont (r : PRes) : Stream.Res Ctx Event :=
  if r.ok = false then { s := r.ctx, rest := r.rest, dead := true, stuck := false, evs := [.badRequest] }
  else if r.ctx.state = .kGotAll then (Stream.drain step Ctx.fresh r.rest).pre [.request r.ctx.req]
  else { s := r.ctx, rest := r.rest, dead := false, stuck := false, evs := [] }

/-- one call of `parseRequest` (any sufficient iteration allowance) followed by the server's
reaction is the flattened line-by-line driver; the call returns; and when it ends in "got all" it
has consumed something -/
theorem parseLoop_spec : ∀ (m : Nat) (ctx : Ctx) (buf : Bytes), Parsing ctx → buf.length < m →
    Stream.drain step ctx buf = serveCont (parseLoop m ctx buf) ∧
    (parseLoop m ctx buf).stuck = false ∧
    ((parseLoop m ctx buf).ctx.state = .kGotAll → (parseLoop m ctx buf).rest.length < buf.length) := by
  intro m
  induction m with
  | zero => intro ctx buf _ h; omega
  | succ m ih =>
    intro ctx buf hI hlen
    rw [Stream.drain_unfold stepOk ctx buf hI]
    have hng : ctx.state ≠ .kGotAll := by
      rcases hI with h | h <;> rw [h] <;> decide
    rcases lineStep_cases hI buf with ⟨_, hn⟩ | ⟨j, hj, hf | ⟨c, hc, hp⟩ | ⟨c, hc, hg⟩⟩
    · rw [parseLoop, step, hn]
      exact ⟨by simp [serveCont, hng], rfl, fun h => absurd h hng⟩
    · rw [parseLoop, step, hf]
      exact ⟨by simp [serveCont], rfl, fun h => absurd h hng⟩
    · have hj2 := (findCRLF_some buf j hj).1
      have hl : (buf.drop (j + crlfLen)).length < m := by
        simp only [List.length_drop, crlfLen]; omega
      obtain ⟨h1, h2, h3⟩ := ih c (buf.drop (j + crlfLen)) hp hl
      simp only [step, parseLoop, hc]
      refine ⟨by rw [h1]; simp, h2, fun h => ?_⟩
      have := h3 h; simp only [List.length_drop] at this ⊢; omega
    · have hj2 := (findCRLF_some buf j hj).1
      rw [parseLoop, step, hc]
      exact ⟨by simp [serveCont, hg], rfl, fun _ => by simp only [List.length_drop, crlfLen]; omega⟩

theorem serveLoop_eq_drain : ∀ (n : Nat) (ctx : Ctx) (buf : Bytes), Parsing ctx → buf.length < n →
    serveLoop n ctx buf = Stream.drain step ctx buf := by
  intro n
  induction n with
  | zero => intro ctx buf _ h; omega
  | succ n ih =>
    intro ctx buf hI hlen
    obtain ⟨h1, h2, h3⟩ := parseLoop_spec (buf.length + 1) ctx buf hI (Nat.lt_succ_self _)
    rw [h1]
    unfold serveLoop parseRequest
    rw [h2]
    simp only [Bool.false_eq_true, if_false]
    unfold serveCont
    by_cases hok : (parseLoop (buf.length + 1) ctx buf).ok = false
    · simp only [hok, if_true]
    · simp only [hok]
      by_cases hg : (parseLoop (buf.length + 1) ctx buf).ctx.state = .kGotAll
      · simp only [hg, if_true]
        rw [ih Ctx.fresh _ Parsing.fresh (by have := h3 hg; omega)]
      · simp only [hg, if_false]

theorem serve_eq_drain (ctx : Ctx) (buf : Bytes) (hI : Parsing ctx) :
    serve ctx buf = Stream.drain step ctx buf :=
  serveLoop_eq_drain _ ctx buf hI (Nat.lt_succ_self _)

theorem feed_eq (d : Stream.Dec Ctx) (hI : Parsing d.s) (c : Bytes) : feed d c = Stream.feed step d c := by
  unfold feed Stream.feed
  rw [serve_eq_drain d.s (d.buf ++ c) hI]

theorem feed_parsing (d : Stream.Dec Ctx) (hI : Parsing d.s) (c : Bytes) : Parsing (feed d c).1.s := by
  rw [feed_eq d hI c]
  exact (Stream.feed_settled stepOk d hI c).1

theorem feedAll_eq : ∀ (cs : List Bytes) (d : Stream.Dec Ctx), Parsing d.s →
    feedAll d cs = Stream.feedAll step d cs := by
  intro cs
  induction cs with
  | nil => intro d _; rfl
  | cons c cs ih =>
    intro d hI
    simp only [feedAll, Stream.feedAll]
    rw [ih _ (feed_parsing d hI c), feed_eq d hI c]

theorem init_settled : Stream.Settled Parsing step init :=
  ⟨Parsing.fresh, Or.inr rfl⟩

/-- in a state without a (non-empty) arm the loop of `parseRequest` never leaves -/
theorem parseLoop_spins (ctx : Ctx) (h : spins ctx.state = true) :
    ∀ (n : Nat) (buf : Bytes), parseLoop n ctx buf = { ctx := ctx, rest := buf, ok := true, stuck := true } := by
  intro n
  induction n with
  | zero => intro buf; rfl
  | succ n ih =>
    intro buf
    have : lineStep ctx buf = .spin := by unfold lineStep; rw [h]; rfl
    simp only [parseLoop, this, ih buf]

/-! ### Further facts about `find` and `findIf`; no proof uses them -/

theorem find_le (ch : UInt8) (l : Bytes) : find ch l ≤ l.length := (List.takeWhile_sublist _).length_le

theorem findIf_le (p : UInt8 → Bool) (l : Bytes) : findIf p l ≤ l.length := (List.takeWhile_sublist _).length_le

theorem not_mem_take_find (ch : UInt8) (l : Bytes) : ch ∉ l.take (find ch l) := by
  by_cases hm : ch ∈ l
  · obtain ⟨as, bs, rfl, hn⟩ := List.eq_append_cons_of_mem hm
    simpa [find_append_of_not_mem ch as bs hn] using hn
  · rw [find_of_not_mem ch l hm, List.take_length]; exact hm

theorem eq_take_find_append (ch : UInt8) (l : Bytes) (h : find ch l < l.length) :
    l = l.take (find ch l) ++ ch :: l.drop (find ch l + 1) := by
  by_cases hm : ch ∈ l
  · obtain ⟨as, bs, rfl, hn⟩ := List.eq_append_cons_of_mem hm
    simp [find_append_of_not_mem ch as bs hn]
  · rw [find_of_not_mem ch l hm] at h; omega

end MuduoVerif.Http
