import MuduoVerif.Generated.OwnerSkel
/-!
# T1 tie for the statement order of `TcpServer.cc` (Owner engine, C02)

`Gen.OwnerSkel.<fn>` is the statement skeleton `vlib/gen/ownerskel.py` extracts from /repo's current `TcpServer.cc` on
every run; `Decl.<fn>` (`Model/OwnerSkelDecl.lean`) is the skeleton the corresponding step of `Model/Owner.lean`
assumes.  Each `skeleton_<fn>` is closed by `rfl`: it holds exactly as long as the source performs the same
significant actions, in the same order, under the same nesting.  The reading lemmas below are evaluated on the EXTRACTED
skeletons (not on the declared ones): they say what the order is needed for, so that a change of order breaks a
statement about the protocol and not only an equality.
-/
namespace MuduoVerif.OwnerSkel

theorem skeleton_ctor : Gen.OwnerSkel.ctor = Decl.ctor := rfl
theorem skeleton_dtor : Gen.OwnerSkel.dtor = Decl.dtor := rfl
theorem skeleton_setThreadNum : Gen.OwnerSkel.setThreadNum = Decl.setThreadNum := rfl
theorem skeleton_start : Gen.OwnerSkel.start = Decl.start := rfl
theorem skeleton_newConnection : Gen.OwnerSkel.newConnection = Decl.newConnection := rfl
theorem skeleton_removeConnection : Gen.OwnerSkel.removeConnection = Decl.removeConnection := rfl
theorem skeleton_removeConnectionGuarded : Gen.OwnerSkel.removeConnectionGuarded = Decl.removeConnectionGuarded := rfl
theorem skeleton_removeConnectionIfAlive : Gen.OwnerSkel.removeConnectionIfAlive = Decl.removeConnectionIfAlive := rfl
theorem skeleton_removeConnectionInLoop : Gen.OwnerSkel.removeConnectionInLoop = Decl.removeConnectionInLoop := rfl

theorem skeletons_agree :
    Gen.OwnerSkel.ctor = Decl.ctor ∧
    Gen.OwnerSkel.dtor = Decl.dtor ∧
    Gen.OwnerSkel.setThreadNum = Decl.setThreadNum ∧
    Gen.OwnerSkel.start = Decl.start ∧
    Gen.OwnerSkel.newConnection = Decl.newConnection ∧
    Gen.OwnerSkel.removeConnection = Decl.removeConnection ∧
    Gen.OwnerSkel.removeConnectionGuarded = Decl.removeConnectionGuarded ∧
    Gen.OwnerSkel.removeConnectionIfAlive = Decl.removeConnectionIfAlive ∧
    Gen.OwnerSkel.removeConnectionInLoop = Decl.removeConnectionInLoop :=
  ⟨skeleton_ctor, skeleton_dtor, skeleton_setThreadNum, skeleton_start, skeleton_newConnection, skeleton_removeConnection,
   skeleton_removeConnectionGuarded, skeleton_removeConnectionIfAlive, skeleton_removeConnectionInLoop⟩

/-- the callbacks `TcpServer::newConnection` has to install on a connection before it gives it away -/
def connSetup : List String :=
  ["setConnectionCallback", "setMessageCallback", "setWriteCompleteCallback", "setCloseCallback"]

/-- **the hand-over is the last thing the acceptor thread does to a connection** (what makes `Owner.accept` ONE step, and
what `TcpConnection`'s "set-up setters run before the object is shared" rests on for the library's own caller): in
/repo's current `TcpServer::newConnection` the functor `connectEstablished(conn)` is handed to a loop exactly once, it
is the only hand-off of the function, all four callbacks (connection, message, write-complete, close) have been
installed on `conn` before it, and no action on `conn` - no member call, no further copy into the map, a member or a
local - follows it.  After `ioLoop->runInLoop(..)` the io thread may be inside `connectEstablished`, `handleRead`,
`handleClose` (which calls `closeCallback_`) at any moment; an installation after that point is a write of a
`std::function` the io thread may be reading, or calling while it is still empty. -/
theorem handover_is_last :
    HandoverLast "conn" "TcpConnection::connectEstablished(conn)" connSetup Gen.OwnerSkel.newConnection := by decide +kernel

/-- the same about any skeleton equal to the declared one: the declaration itself has the property -/
theorem handover_is_last_decl :
    HandoverLast "conn" "TcpConnection::connectEstablished(conn)" connSetup Decl.newConnection :=
  skeleton_newConnection ▸ handover_is_last

/-- `newConnection`: the connection is in `connections_` before it is handed over (a close that the io loop reports at
once finds the entry: `assert(n == 1)` in `removeConnectionInLoop`), and the loop it is handed to is the very `ioLoop` it
was created with -/
theorem insert_precedes_handover :
    Precedes (.mapInsert "connName" "conn") Act.isHandoff (flatten Gen.OwnerSkel.newConnection) ∧
    Precedes (.create "TcpConnection" "ioLoop, connName, sockfd, localAddr, peerAddr") Act.isHandoff
      (flatten Gen.OwnerSkel.newConnection) ∧
    (flatten Gen.OwnerSkel.newConnection).contains
      (.handoff .run "ioLoop" "TcpConnection::connectEstablished(conn)") = true := by decide +kernel

/-- `removeConnectionInLoop`: the map entry is erased before `connectDestroyed` is queued (`Owner.removeInLoop`: `mapErase`
then `handDestroy`), and the hand-off is the last statement -/
theorem erase_precedes_destroy :
    Precedes (.mapErase "conn.name()") Act.isHandoff (flatten Gen.OwnerSkel.removeConnectionInLoop) ∧
    HandoverLast "conn" "TcpConnection::connectDestroyed(conn)" [] Gen.OwnerSkel.removeConnectionInLoop := by decide +kernel

/-- `~TcpServer`: the life token expires before the first connection is handed its `connectDestroyed`
(`Owner.destroyServer`: `alive := false` first), and per connection the map entry is reset before the hand-off -/
theorem token_expires_first :
    Precedes (.on "alive_" "reset" "") (fun a => a.isHandoff || a.touches "conn" || a.touches "item.second")
      (flatten Gen.OwnerSkel.dtor) ∧
    Precedes (.on "item.second" "reset" "") Act.isHandoff (flatten Gen.OwnerSkel.dtor) ∧
    HandoverLast "conn" "TcpConnection::connectDestroyed(conn)" [] Gen.OwnerSkel.dtor := by decide +kernel

/-- `start`: every io loop exists before the acceptor listens (`Owner.init`: `pool := Pool.start L` from the first
`accept` on) -/
theorem pool_before_listen :
    Precedes (.on "threadPool_" "start" "threadInitCallback_") Act.isHandoff (flatten Gen.OwnerSkel.start) := by decide +kernel

/-- non-vacuity of the reading: an order with the close callback installed after the hand-over is rejected by
`HandoverLast`, and so is a skeleton that never installs it -/
theorem handover_is_last_rejects :
    ¬ HandoverLast "conn" "TcpConnection::connectEstablished(conn)" connSetup
        [ .act (.on "conn" "setWriteCompleteCallback" "writeCompleteCallback_"),
          .act (.handoff .run "ioLoop" "TcpConnection::connectEstablished(conn)"),
          .act (.on "conn" "setCloseCallback" "TcpServer::removeConnectionGuarded(weak(alive_), this, loop_, _1)") ] ∧
    ¬ HandoverLast "conn" "TcpConnection::connectEstablished(conn)" connSetup
        [ .act (.on "conn" "setConnectionCallback" "connectionCallback_"),
          .act (.on "conn" "setMessageCallback" "messageCallback_"),
          .act (.on "conn" "setWriteCompleteCallback" "writeCompleteCallback_"),
          .act (.handoff .run "ioLoop" "TcpConnection::connectEstablished(conn)") ] := by decide +kernel

end MuduoVerif.OwnerSkel
