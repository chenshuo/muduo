import MuduoVerif.Proofs.ClientIter
/-! The scope guard `okIn` (which inputs the theorems cover in a state) and its closure over histories, `Guarded`.  `Bnd` is
kept by every guarded input (`step_bnd`: the user's operations one by one, an iteration by `iter_bnd`), so it holds after
every guarded history (`reach_bnd`). -/
namespace MuduoVerif.Client
open MuduoVerif.Gen.Client

/-- the property's scope guard for `connect()`: no attempt in progress, no connection, no `connect()` of another thread
still queued, and no pending retry timer - except the timer of a cycle that `stop()` has ended (`connect_` is false; the
loop has not run `stop()`'s functor yet, which would have cancelled it): `connect()` on the loop thread is then inside
the property (F33: the new cycle cancels the stale timer).  [From another thread in that same window - `stop()`'s functor
still queued, the stopped cycle's timer still armed - `connect()` stays outside: the stale timer may fire before the two
queued functors run, and the invariant `Mid.a9` (no attempt while a `connect()` is queued) does not cover that.] -/
def connectOk (c : C) (w : Who) : Prop :=
  c.cstate ≠ .kConnecting ∧ c.connection = none ∧ (nRetry c.timers = 0 ∨ (w = .loop ∧ c.cConnect = false)) ∧
  .startCycle ∉ c.pending

instance (c : C) (w : Who) : Decidable (connectOk c w) := by unfold connectOk; infer_instance

/-- the user gives up a reference to a connection only if it is down or somebody else still holds it
(`TcpConnection`'s own contract: its destructor asserts `kDisconnected`) -/
def dropOk (c : C) : Prop :=
  ∀ x ∈ c.conns, x.userRef = true → x.st = .disconnected ∨ (c.clientAlive = true ∧ c.connection = some x.sock) ∨
    ∃ t ∈ c.pending, t.holds x.sock = true

instance (c : C) : Decidable (dropOk c) := by unfold dropOk; infer_instance

/-- which inputs the theorems cover in state `c` -/
def okIn (c : C) : In → Prop
  | .connect w => c.clientAlive = true ∧ connectOk c w
  | .disconnect _ => c.clientAlive = true
  | .stop _ => c.clientAlive = true
  -- a client that reconnects by itself must not be told `connect()` by its DOWN callback as well (two attempts)
  | .enableRetry => c.clientAlive = true ∧ HookOp.connect ∉ c.hooksDown
  | .destroy w => c.clientAlive = true ∧ w = .loop
  | .dropRef => dropOk c
  -- operations of the connection callback: `connect()` never from the UP callback (a connection is outstanding:
  -- the property's own quantifier), from the DOWN callback only when the client does not reconnect by itself
  | .hookUp op => op ≠ .connect
  | .hookDown op => op = .connect → c.retry = false
  | _ => True

instance (c : C) (i : In) : Decidable (okIn c i) := by
  cases i <;> unfold okIn <;> infer_instance

/-- a history inside the scope guard -/
def Guarded (c : C) : List In → Prop
  | [] => True
  | i :: is => okIn c i ∧ Guarded (step c i) is

instance : (c : C) → (ins : List In) → Decidable (Guarded c ins)
  | _, [] => by unfold Guarded; infer_instance
  | c, i :: is => by
    unfold Guarded
    have := instDecidableGuarded (step c i) is
    infer_instance

theorem bnd_chan {c : C} (hi : Mid c [] true) (hnc : c.cstate ≠ .kConnecting) : c.chan = none :=
  hi.chanNone (by simpa using hi.a16 rfl) hnc

theorem MidK.enqueueStart {on st ch ss q tm now cn ups al cc} (h : MidK on st ch ss q tm now cn ups al cc)
    (hna : ¬ attempting st tm) (hcn : cn = none) (hnr : .resetChannel ∉ q) (hns : .startCycle ∉ q) (hal : al = true) :
    MidK on st ch ss (q ++ [.startCycle]) tm now cn ups al cc :=
  { h with
    a5 := fun a b => absurd (h.a5 a b).1 hnr
    a6 := fun a => (List.mem_append.mp a).elim (fun m => absurd m hnr) (fun m => by cases List.mem_singleton.mp m)
    a9 := fun a => absurd a hna
    a10 := ⟨by rw [List.count_append, List.count_eq_zero.mpr hns]; simp, fun _ => hcn⟩
    a11 := fun a => by rw [hal] at a; cases a
    a14 := fun a => (h.a14 a).imp_right (List.mem_append_left _) }

theorem userConnect_mid (c : C) (w : Who) (hi : Mid c [] true) (hal : c.clientAlive = true) (hok : connectOk c w) :
    Mid (userConnect c w) [] true := by
  obtain ⟨hnc, hcn, hnt, hns⟩ := hok
  have hch := bnd_chan hi hnc
  have h1 := wantConnect_mid c [] true hi hal
  cases w with
  | loop =>
    rw [userConnect_loop]
    exact startCycle_mid' _ [] [] true (.inl rfl) h1 hch hcn hnc (by simpa using hns) (fun _ => hal)
  | foreign =>
    have hnt : nRetry c.timers = 0 := by
      rcases hnt with h | h
      · exact h
      · exact absurd h.1 (by decide)
    have hna : ¬ attempting c.cstate c.timers := by
      rintro (h | h)
      · exact hnc h
      · omega
    have hnr : Task.resetChannel ∉ c.pending := hi.a16 rfl
    rw [userConnect_foreign]
    exact Mid.of h1.notDead (h1.k.enqueueStart hna hcn hnr hns hal)
      (plain_snoc hi.a13 rfl) h1.a15
      (fun _ m => (List.mem_append.mp m).elim hnr (fun e => by cases List.mem_singleton.mp e)) h1.s1 (h1.n.snoc _)
      h1.g1 h1.g3 h1.h1 h1.t1

theorem MidK.gone {on st ch ss q tm now cn ups al cc} (h : MidK on st ch ss q tm now cn ups al cc)
    (h11 : cc = false ∨ (¬ attempting st tm ∧ .startCycle ∉ q)) (h14 : on = true → .stopInLoop ∈ q) :
    MidK on st ch ss q tm now none ups false cc :=
  { h.noConn with a11 := fun _ => ⟨rfl, h11⟩, a14 := fun a => .inr (h14 a) }

theorem MidN.gone {ss cs al q} (h : MidN ss cs al none q) : MidN ss cs false none q :=
  { h with
    c5 := fun x hx hs => (h.c5 x hx hs).elim .inl fun e => e.elim (fun e => by cases e.2) (fun e => .inr (.inr e))
    c6 := fun x hx hs hc => by cases (h.c6 x hx hs hc).2
    c7 := fun _ a => by cases a
    c10 := fun _ _ _ => rfl }

/-- the client goes and leaves its connection `k` (held by the user, or by a functor of the new queue) with
`detail::removeConnection` as close callback -/
theorem MidN.detach {ss cs al q} {k : Nat} (h : MidN ss cs al (some k) q) {x : ConnRec} (hx : findIn cs k = some x)
    (f : ConnRec → ConnRec)
    (hf : ∀ r, (f r).sock = r.sock ∧ (f r).userRef = r.userRef ∧ (f r).destroyed = r.destroyed ∧ (f r).chanOn = r.chanOn ∧
      (f r).closeCb = .detached)
    (hst : (f x).st = .disconnected ↔ x.st = .disconnected) {q' : List Task} (hq : ∀ t ∈ q, t ∈ q')
    (hheld : x.userRef = true ∨ ∃ t ∈ q', t.holds k = true)
    (h8 : ∀ j, .forceCloseInLoop j ∈ q' → .forceCloseInLoop j ∈ q ∨ j = k)
    (h9 : ∀ j, .connectDestroyed j ∈ q' → .connectDestroyed j ∈ q) :
    MidN ss (cs.map (updRec k f)) false none q' := by
  obtain ⟨e1, e2, e3, e4, e5⟩ := hf x
  have o := h.ok (findIn_some hx).1
  refine h.mapg (updRec_sock fun r => (hf r).1) (fun y hy => ?_) nofun (fun j hj => ?_) (fun j hj => ?_)
  · rcases upd_cases h.c2 hx f hy with ⟨e, e'⟩ | ⟨_, e'⟩ <;> rw [e']
    · have oy := h.ok hy
      refine { oy with c5 := fun a => ?_, c6 := fun a b => absurd (Option.some.inj (oy.c6 a b).2).symm e, c10 := fun _ => rfl }
      rcases oy.c5 a with b | b | ⟨t, ht, hh⟩
      · exact .inl b
      · exact absurd (Option.some.inj b.2).symm e
      · exact .inr (.inr ⟨t, hq t ht, hh⟩)
    · exact ⟨e1 ▸ o.c1, fun a d => o.c3 (e4 ▸ a) (hst.mp d), fun a => ⟨hst.mpr (o.c4 (e3 ▸ a)).1, e4 ▸ (o.c4 (e3 ▸ a)).2⟩,
        (fun _ => by unfold held; rw [e1, e2, (findIn_some hx).2]; exact hheld.elim .inl fun b => .inr (.inr b)),
        (fun _ b => by rw [e5] at b; cases b), fun _ => rfl⟩
  · rcases h8 j hj with m | rfl
    · obtain ⟨y, hy, hc⟩ := h.c8 j m
      refine ⟨y, hy, ?_⟩
      rcases upd_cases h.c2 hx f (findIn_some hy).1 with ⟨_, e'⟩ | ⟨_, e'⟩ <;> rw [e']
      · exact hc
      · exact e5
    · exact ⟨x, hx, by rw [updRec_self (findIn_some hx).2]; exact e5⟩
  · obtain ⟨y, hy, hc⟩ := h.c9 j (h9 j hj)
    refine ⟨y, hy, ?_⟩
    rcases upd_cases h.c2 hx f (findIn_some hy).1 with ⟨_, e'⟩ | ⟨rfl, e'⟩ <;> rw [e']
    · exact hc
    · exact hst.mpr hc

/-- no connection: the connector is stopped and parked for a second -/
theorem destroyIdle_mid (c : C) (hi : Mid c [] true) (hal : c.clientAlive = true) (hcn : c.connection = none) (d : Nat) :
    Mid { c with destroyedAt := some c.now, trace := c.trace ++ [.ghost .destroy], cConnect := false,
                 pending := c.pending ++ [.stopInLoop], timers := c.timers ++ [(d, .park)],
                 clientAlive := false, connection := none } [] true := by
  have hA : Mid { c with cConnect := false } [] true :=
    Mid.of hi.notDead (hi.k.setCc fun a => by cases a) hi.a13 hi.a15 hi.a16 hi.s1 hi.n hi.g1
      (fun a => ⟨rfl, (hi.g3 a).2⟩) hi.h1 hi.t1
  have hB := hA.enqueue .stopInLoop rfl (by simp) (by simp) (fun _ e => by cases e) (fun _ e => by cases e)
  have hN := hB.n
  rw [show ({ c with cConnect := false, pending := c.pending ++ [.stopInLoop] } : C).connection = none from hcn] at hN
  have hK := hB.k.timers (tm' := c.timers ++ [(d, .park)]) (Nat.le_of_eq (nRetry_snoc_park ..)) fun t ht hr =>
    (List.mem_append.mp ht).elim id fun m => by rw [List.mem_singleton.mp m] at hr; cases hr
  exact Mid.of hi.notDead (hK.gone (.inl rfl) fun _ => by simp) hB.a13 hB.a15 hB.a16 hi.s1 hN.gone hi.g1 hB.g3
    hi.h1 (hi.tr.gDestroy hal)

/-- a connection only the client holds: it is detached and force-closed -/
theorem destroyUnique_mid (c : C) (hi : Mid c [] true) (hal : c.clientAlive = true) (k : Nat) (hcn : c.connection = some k) :
    Mid { c with destroyedAt := some c.now, trace := c.trace ++ [.ghost .destroy],
                 conns := c.conns.map (updRec k detachClose), pending := c.pending ++ [.forceCloseInLoop k],
                 clientAlive := false, connection := none } [] true := by
  obtain ⟨x, hx, hst, hcb⟩ := hi.c7 k hcn
  obtain ⟨hna, hns⟩ := hi.connQuiet hcn
  have hstf : (detachClose x).st = .disconnected ↔ x.st = .disconnected := by simp [detachClose, hst]
  have htr := (hi.tr.gDestroy hal).upd_same k detachClose (fun _ => rfl) (fun r hr => by
    rw [hx] at hr; cases hr; exact ⟨rfl, hstf⟩)
  have hN := hi.n; rw [hcn] at hN
  refine Mid.of hi.notDead
    (((hi.k.queue (count_snoc_q (by simp)) (Nat.le_of_eq (count_snoc_q (by simp))) fun _ m => mem_snoc_q.mpr (.inl m)).gone
      (.inr ⟨hna, fun m => hns ((mem_snoc_q.mp m).resolve_right (by simp))⟩) fun a => absurd (.inl (hi.a1 a)) hna))
    (plain_snoc hi.a13 rfl) hi.a15
    (fun a m => (List.mem_append.mp m).elim (hi.a16 a) (fun m => by cases List.mem_singleton.mp m)) hi.s1 ?_ hi.g1 hi.g3 hi.h1
    htr
  exact hN.detach hx detachClose (fun _ => ⟨rfl, rfl, rfl, rfl, rfl⟩) hstf (fun t ht => mem_snoc_q.mpr (.inl ht))
    (.inr ⟨_, mem_snoc_q.mpr (.inr rfl), by simp [Task.holds]⟩) (fun j hj => (mem_snoc_q.mp hj).imp_right fun e => by cases e; rfl)
    (fun j hj => (mem_snoc_q.mp hj).resolve_right (by simp))

/-- a connection the user holds too: it is only detached -/
theorem destroyShared_mid (c : C) (hi : Mid c [] true) (hal : c.clientAlive = true) (k : Nat) (hcn : c.connection = some k)
    (x : ConnRec) (hx : findIn c.conns k = some x) (hur : x.userRef = true) :
    Mid { c with destroyedAt := some c.now, trace := c.trace ++ [.ghost .destroy],
                 conns := c.conns.map (updRec k detach),
                 clientAlive := false, connection := none } [] true := by
  obtain ⟨hna, hns⟩ := hi.connQuiet hcn
  have htr := (hi.tr.gDestroy hal).upd_same k detach (fun _ => rfl) (fun r _ => ⟨rfl, Iff.rfl⟩)
  have hN := hi.n; rw [hcn] at hN
  exact Mid.of hi.notDead (hi.k.gone (.inr ⟨hna, hns⟩) fun a => absurd (.inl (hi.a1 a)) hna) hi.a13 hi.a15 hi.a16 hi.s1
    (hN.detach hx detach (fun _ => ⟨rfl, rfl, rfl, rfl, rfl⟩) Iff.rfl (fun _ ht => ht) (.inl hur) (fun _ hj => .inl hj)
      (fun _ hj => hj)) hi.g1 hi.g3 hi.h1 htr

theorem no_pending_holds {c : C} (hi : Mid c [] true) {k : Nat} (hcn : c.connection = some k) :
    c.pending.filter (·.holds k) = [] := by
  obtain ⟨x, hx, hst, hcb⟩ := hi.c7 k hcn
  -- by kind of functor: `connectDestroyed k` needs `k` down (c9), `forceCloseInLoop k` needs it detached (c8), the rest hold nothing
  rw [List.filter_eq_nil_iff]
  intro t ht hh
  cases t with
  | connectDestroyed j =>
    have hj : j = k := by simpa [Task.holds] using hh
    subst hj
    obtain ⟨y, hy, hys⟩ := hi.c9 j (by simpa using ht)
    rw [hx] at hy; cases hy; exact hst hys
  | forceCloseInLoop j =>
    have hj : j = k := by simpa [Task.holds] using hh
    subst hj
    obtain ⟨y, hy, hyc⟩ := hi.c8 j (by simpa using ht)
    rw [hx] at hy; cases hy; rw [hcb] at hyc; cases hyc
  | setCloseCb j => have := hi.a13 _ (by simpa using ht); cases this
  | shutdownInLoop j => rw [holds_shutdown] at hh; cases hh
  | startCycle => cases hh
  | stopInLoop => cases hh
  | resetChannel => cases hh
  | addTimer a b => cases hh

theorem userDestroy_mid (c : C) (hi : Mid c [] true) (hal : c.clientAlive = true) :
    Mid (userDestroy c .loop) [] true := by
  cases hcn : c.connection with
  | none =>
    have h := destroyIdle_mid c hi hal hcn (c.now + dtorParkUs)
    rw [userDestroy_idle_eq c hcn, reapConnector_id h]; exact h
  | some k =>
    obtain ⟨x, hx, hst, hcb⟩ := hi.c7 k hcn
    by_cases hu : (useCount c k == 1) = true
    · have h := destroyUnique_mid c hi hal k hcn
      rw [userDestroy_unique_eq c k x hcn hx hst hu, reapConnector_id h]; exact h
    · have hur : x.userRef = true := by
        cases hur : x.userRef
        · exfalso
          apply hu
          simp [useCount, findConn_eq, hx, hur, no_pending_holds hi hcn]
        · rfl
      have h := destroyShared_mid c hi hal k hcn x hx hur
      rw [userDestroy_shared_eq c k hcn hu, reapConnector_id h]; exact h

def setRef (k : Nat) : ConnRec → ConnRec := fun r => { r with userRef := r.sock == k }

def clearRef : ConnRec → ConnRec := fun r => { r with userRef := false }

theorem holdRef_mid (c : C) (hi : Mid c [] true) : Mid (holdRef c) [] true := by
  unfold holdRef
  split
  · rename_i k hcn
    have hal : c.clientAlive = true := by
      cases h : c.clientAlive
      · have := (hi.a11 h).1; rw [hcn] at this; cases this
      · rfl
    refine Mid.of hi.notDead hi.k hi.a13 hi.a15 hi.a16 hi.s1 ?_ hi.g1 hi.g3 hi.h1
      (hi.tr.mapg_same (setRef k) (fun _ => ⟨rfl, rfl, rfl⟩))
    -- a connection that is not down has the client's callback (the client exists), so the client holds it
    refine hi.n.map (setRef k) (fun _ => ⟨rfl, rfl, rfl, rfl⟩) (fun x hx hd => hi.c4 x hx hd) (fun x hx hs => ?_)
    cases hcb : x.closeCb
    · exact .inr (.inl ⟨hal, (hi.c6 x hx hs hcb).2⟩)
    · have := hi.c10 x hx hcb; rw [hal] at this; cases this
  · exact hi

theorem dropRef_mid (c : C) (hi : Mid c [] true) (hok : dropOk c) : Mid (dropRef c) [] true := by
  unfold dropRef
  refine Mid.of hi.notDead hi.k hi.a13 hi.a15 hi.a16 hi.s1 ?_ hi.g1 hi.g3 hi.h1
    (hi.tr.mapg_same clearRef (fun _ => ⟨rfl, rfl, rfl⟩))
  refine hi.n.map clearRef (fun _ => ⟨rfl, rfl, rfl, rfl⟩) (fun x hx hd => hi.c4 x hx hd) (fun x hx hs => ?_)
  rcases hi.c5 x hx hs with h | h | h
  · rcases hok x hx h with h' | h' | h'
    · exact absurd h' hs
    · exact .inr (.inl h')
    · exact .inr (.inr h')
  · exact .inr (.inl h)
  · exact .inr (.inr h)

/-- between two iterations `channel_` exists only while registered, so no unregistered channel waits for its reset
while the clock moves -/
theorem advance_mid (c : C) (us : Nat) (hi : Mid c [] true) : Mid { c with now := c.now + us } [] true := by
  have hch : c.chan.isSome = true → c.chanOn = false → False := fun h hon =>
    absurd (hi.a5 h hon).1 (by simpa using hi.a16 rfl)
  exact { hi with a5 := fun a b => (hch a b).elim }

theorem enableRetry_mid (c : C) (hi : Mid c [] true) (hno : HookOp.connect ∉ c.hooksDown) : Mid { c with retry := true } [] true :=
  Mid.of hi.notDead hi.k hi.a13 hi.a15 hi.a16 hi.s1 hi.n hi.g1 hi.g3 ⟨hi.h1.1, fun h => absurd h hno⟩ hi.t1

theorem hookUp_mid (c : C) (op : HookOp) (hi : Mid c [] true) (hop : op ≠ .connect) :
    Mid { c with hooksUp := c.hooksUp ++ [op] } [] true :=
  Mid.of hi.notDead hi.k hi.a13 hi.a15 hi.a16 hi.s1 hi.n hi.g1 hi.g3
    ⟨fun h => (List.mem_append.mp h).elim hi.h1.1 (fun h => hop (List.mem_singleton.mp h).symm), hi.h1.2⟩ hi.t1

theorem hookDown_mid (c : C) (op : HookOp) (hi : Mid c [] true) (hop : op = .connect → c.retry = false) :
    Mid { c with hooksDown := c.hooksDown ++ [op] } [] true :=
  Mid.of hi.notDead hi.k hi.a13 hi.a15 hi.a16 hi.s1 hi.n hi.g1 hi.g3
    ⟨hi.h1.1, fun h => (List.mem_append.mp h).elim hi.h1.2 (fun h => hop (List.mem_singleton.mp h).symm)⟩ hi.t1

theorem step_bnd (c : C) (i : In) (hi : Bnd c) (hok : okIn c i) : Bnd (step c i) := by
  unfold Bnd at hi ⊢
  unfold step
  rw [if_neg (by rw [hi.notDead]; exact Bool.false_ne_true)]
  have reaped : ∀ c1 : C, Mid c1 [] true → Mid (if c1.dead = true then c1 else reap c1) [] true := fun c1 h => by
    rw [if_neg (by rw [h.notDead]; exact Bool.false_ne_true)]; exact reap_mid _ h
  cases i with
  | connect w =>
    simp only [stepLive, okIn] at hok ⊢
    rw [if_pos hok.1]; exact userConnect_mid c w hi hok.1 hok.2
  | disconnect w =>
    simp only [stepLive, okIn] at hok ⊢
    rw [if_pos hok]; exact userDisconnect_midG c [] true hi
  | stop w =>
    simp only [stepLive, okIn] at hok ⊢
    rw [if_pos hok]; exact userStop_midG c [] true w hi hok
  | enableRetry =>
    simp only [stepLive, okIn] at hok ⊢
    rw [if_pos hok.1]; exact enableRetry_mid c hi hok.2
  | destroy w =>
    simp only [okIn] at hok
    obtain ⟨hal, rfl⟩ := hok
    have hsl : stepLive c (.destroy .loop) = userDestroy c .loop := by simp [stepLive, hal]
    simp only
    rw [hsl]
    exact reaped _ (userDestroy_mid c hi hal)
  | holdRef => exact reaped _ (holdRef_mid c hi)
  | dropRef => exact reaped _ (dropRef_mid c hi hok)
  | hookUp op => exact hookUp_mid c op hi hok
  | hookDown op => exact hookDown_mid c op hi hok
  | advance us => exact advance_mid c us hi
  | iter active => exact iter_bnd c active hi
  | envConnect r | envSoError r | envSelf b | envRead n => exact hi.env ..

theorem run_bnd (ins : List In) : ∀ (c : C), Bnd c → Guarded c ins → Bnd (run c ins) := by
  induction ins with
  | nil => intro c h _; exact h
  | cons i ins ih =>
    intro c h hg
    unfold Guarded at hg
    show Bnd (run (step c i) ins)
    exact ih _ (step_bnd c i h hg.1) hg.2

theorem init_bnd (asserts : Bool) : Bnd (init asserts) := by
  unfold Bnd init
  constructor
  all_goals first
    | exact ⟨{}, rfl, ⟨rfl, fun k => by simp [phaseAt], rfl, rfl, rfl, rfl⟩⟩
    | simp [attempting, nRetry, held, specDelay, kInitRetryDelayMs]

theorem reach_bnd (asserts : Bool) (ins : List In) (hg : Guarded (init asserts) ins) : Bnd (run (init asserts) ins) :=
  run_bnd ins _ (init_bnd asserts) hg

end MuduoVerif.Client
