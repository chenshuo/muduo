import MuduoVerif.Proofs.MonitorBase
/-! The invariant `QInv` of the BlockingQueue / BoundedBlockingQueue model (C14): monitor discipline, signals, bound, FIFO, and
each thread's program order.  Whatever completes an operation goes through `QInv.fin`. -/
namespace MuduoVerif.Monitor
open MuduoVerif.Generated.Monitor

/-- elements put so far, in mutex order, each with its producer -/
def puts (log : List QEv) : List (Nat × Nat) :=
  log.flatMap fun e => match e.op with
    | .put v => [(e.t, v)]
    | _ => []

/-- elements returned by `take`/`drain` so far, in mutex order -/
def taken (log : List QEv) : List (Nat × Nat) :=
  log.flatMap fun e => match e.res with
    | .took p v => [(p, v)]
    | .drained xs => xs
    | _ => []

/-- which condition the current operation of `t` waits on; the `put` of a `BlockingQueue` (`b = false`) waits on none -/
def QRole (b : Bool) (prog : Nat → List QOp) (t : Nat) : Cond → Prop
  | .notEmpty => ∃ rest, prog t = .take :: rest
  | .notFull => b = true ∧ ∃ v rest, prog t = .put v :: rest

theorem QRole.unique {b : Bool} {prog : Nat → List QOp} {t : Nat} {c c' : Cond} (h : QRole b prog t c) (h' : QRole b prog t c') :
    c' = c := by
  cases c <;> cases c'
  · rfl
  · obtain ⟨r, hr⟩ := h; obtain ⟨_, v, r', hr'⟩ := h'; rw [hr] at hr'; cases hr'
  · obtain ⟨_, v, r, hr⟩ := h; obtain ⟨r', hr'⟩ := h'; rw [hr] at hr'; cases hr'
  · rfl

theorem QRole.upd {b : Bool} {prog : Nat → List QOp} {t : Nat} {rest : List QOp} (x : Nat) (c : Cond) (hx : x ≠ t)
    (h : QRole b prog x c) : QRole b (upd prog t rest) x c := by
  cases c <;> simpa [QRole, upd_other _ _ _ _ hx] using h

/-- the operations thread `p` has completed, in order -/
def opsOf (p : Nat) (log : List QEv) : List QOp := (log.filter (fun e => e.t = p)).map (·.op)

variable {cap0 : Option Nat} {prog0 : Nat → List QOp}

/-- the invariant of a queue created with capacity `cap0` whose threads were given the programs `prog0` -/
structure QInv (cap0 : Option Nat) (prog0 : Nat → List QOp) (s : QState) : Prop where
  st : s.toMon.Struct (QRole s.bounded s.prog)
  sigE : s.ne.Covers s.q.length
  sigF : ∀ c, s.cap = some c → s.nf.Covers (c - s.q.length)
  bnd : ∀ c, s.cap = some c → s.q.length ≤ c
  fifo : taken s.log ++ s.q = puts s.log
  capc : s.cap = cap0
  /-- what a thread has completed, followed by what it has not, is its program -/
  hist : ∀ p, opsOf p s.log ++ s.prog p = prog0 p

theorem taken_append (l : List QEv) (e : QEv) : taken (l ++ [e]) = taken l ++ taken [e] := by
  simp [taken, List.flatMap_append]
theorem puts_append (l : List QEv) (e : QEv) : puts (l ++ [e]) = puts l ++ puts [e] := by
  simp [puts, List.flatMap_append]

namespace QState
@[simp] theorem fin_ne (s : QState) (t op rest r) : (s.fin t op rest r).ne = s.ne := rfl
@[simp] theorem fin_nf (s : QState) (t op rest r) : (s.fin t op rest r).nf = s.nf := rfl
@[simp] theorem fin_q (s : QState) (t op rest r) : (s.fin t op rest r).q = s.q := rfl
@[simp] theorem fin_cap (s : QState) (t op rest r) : (s.fin t op rest r).cap = s.cap := rfl
@[simp] theorem fin_log (s : QState) (t op rest r) : (s.fin t op rest r).log = s.log ++ [⟨t, op, r⟩] := rfl
end QState

theorem QInv.fin {s : QState} {m : Mon} {q' : List (Nat × Nat)} {t : Nat} {op : QOp} {rest : List QOp} {r : QRes}
    (st : m.Struct (QRole s.bounded s.prog)) (ho : m.owner = some t) (hS : ∀ c, t ∉ (m.ws c).S) (sigE : m.ne.Covers q'.length)
    (sigF : ∀ c, s.cap = some c → m.nf.Covers (c - q'.length)) (bnd : ∀ c, s.cap = some c → q'.length ≤ c)
    (fifo : taken (s.log ++ [⟨t, op, r⟩]) ++ q' = puts (s.log ++ [⟨t, op, r⟩])) (h : QInv cap0 prog0 s)
    (hp : s.prog t = op :: rest) :
    QInv cap0 prog0 (({ s with toMon := m, q := q' } : QState).fin t op rest r) :=
  ⟨st.unlock ho hS fun x c hx hr => QRole.upd x c hx hr, sigE, sigF, bnd, fifo, h.capc, fun p => by
    rw [← h.hist p]
    show opsOf p (s.log ++ [⟨t, op, r⟩]) ++ upd s.prog t rest p = _
    by_cases hpt : p = t
    · subst hpt; simp [opsOf, List.filter_append, hp]
    · have : ¬ t = p := fun e => hpt e.symm
      simp [opsOf, List.filter_append, upd_other _ _ _ _ hpt, this]⟩

/-- `put` with the mutex held; `BlockingQueue::put` has no wait: one equation serves both queues because nobody is ever signalled
on `notFull_` there (`hu`), so that `wake` changes nothing -/
theorem exec_put (s : QState) (t v : Nat) (rest : List QOp) (hu : s.cap = none → t ∉ s.nf.S) :
    s.execOp t (.put v) rest =
      if s.cap = some s.q.length then { s with toMon := (s.toMon.setWs .notFull (s.nf.wake t)).parkOn .notFull t }
      else ({ s with toMon := (s.toMon.setWs .notFull (s.nf.wake t)).notifs [⟨false, .notEmpty⟩],
                     q := s.q ++ [(t, v)] } : QState).fin t (.put v) rest .ok := by
  cases hc : s.cap with
  | none =>
    have e : s.toMon.setWs .notFull (s.nf.wake t) = s.toMon := by rw [WS.wake_eq _ (hu hc)]; exact Mon.setWs_ws _ .notFull
    rw [e]
    simp only [QState.execOp, QState.bounded, hc, Option.isSome_none, putF_unbounded, QState.enter, Mon.enter, QState.notifs]
    rfl
  | some c =>
    simp only [QState.execOp, QState.bounded, hc, Option.isSome_some, putF_bounded, putGuard_some, QState.enter, Mon.enter_eq]
    by_cases hg : s.q.length = c
    · simp [hg]
    · have hg' : ¬ c = s.q.length := fun e => hg e.symm
      simp [hg, hg', QState.notifs]

theorem qinv_put {s : QState} {t v : Nat} {rest : List QOp} (h : QInv cap0 prog0 s) (ho : s.owner = some t)
    (hp : s.prog t = .put v :: rest) : QInv cap0 prog0 (s.execOp t (.put v) rest) := by
  obtain ⟨htS, _, hlen, _⟩ := WS.wake_facts (h.st.nodup .notFull) t
  replace hlen : s.nf.S.length ≤ (s.nf.wake t).S.length + 1 := hlen
  rw [exec_put s t v rest fun hc => (h.st.not_parked (c := .notFull) (by simp [QRole, QState.bounded, hc])).2]
  split
  · rename_i hfull
    refine ⟨h.st.park (c := .notFull) ho ⟨by simp [QState.bounded, hfull], v, rest, hp⟩, h.sigE, fun c hc _ => ?_, h.bnd, h.fifo,
      h.capc, h.hist⟩
    cases hfull.symm.trans hc
    show s.q.length - s.q.length ≤ _
    omega
  · rename_i hroom
    obtain ⟨ho3, hoth, hone⟩ := Mon.notifs_one (s.toMon.setWs .notFull (s.nf.wake t)) .notEmpty
    have hnf : (Mon.notifs _ _).nf = s.nf.wake t := hoth .notFull (by decide)
    have st3 := (h.st.go t .notFull).notifs [⟨false, .notEmpty⟩]
    refine QInv.fin st3 (ho3.trans ho) (fun c => ?_) ?_ (fun c hc => ?_) (fun c hc => ?_) ?_ h hp
    · cases c
      · exact (st3.not_parked (c := .notEmpty) (by simp [QRole, hp])).2
      · show t ∉ (Mon.notifs _ _).nf.S
        rw [hnf]; exact htS
    · simpa using hone.covers h.sigE
    · have := h.bnd c hc
      have : s.q.length ≠ c := fun e => hroom (e ▸ hc)
      rw [hnf]
      refine (h.sigF c hc).of_le id fun _ => ?_
      show c - (s.q ++ [(t, v)]).length + s.nf.S.length ≤ c - s.q.length + (s.nf.wake t).S.length
      simp only [List.length_append, List.length_singleton]
      omega
    · have := h.bnd c hc
      have : s.q.length ≠ c := fun e => hroom (e ▸ hc)
      simp only [List.length_append, List.length_singleton]
      omega
    · rw [taken_append, puts_append, ← h.fifo]
      simp [taken, puts]

theorem exec_take (s : QState) (t : Nat) (rest : List QOp) :
    s.execOp t .take rest =
      match s.q with
      | [] => { s with toMon := (s.toMon.setWs .notEmpty (s.ne.wake t)).parkOn .notEmpty t }
      | x :: q' =>
        ({ s with toMon := (s.toMon.setWs .notEmpty (s.ne.wake t)).notifs (if s.cap.isSome then [⟨false, .notFull⟩] else []),
                  q := q' } : QState).fin t .take rest (.took x.1 x.2) := by
  cases hc : s.cap with
  | none =>
    simp only [QState.execOp, QState.bounded, hc, Option.isSome_none, takeF_unbounded, takeGuard_eq, QState.enter, Mon.enter_eq]
    cases hq : s.q <;> simp [QState.notifs, Mon.notifs]
  | some c =>
    simp only [QState.execOp, QState.bounded, hc, Option.isSome_some, takeF_bounded, takeGuard_eq, QState.enter, Mon.enter_eq]
    cases hq : s.q <;> simp [QState.notifs]

/-- `take` past its wait, with the monitor `m3` after the notification (if any): pop, unlock -/
theorem qinv_take_go {s : QState} {t : Nat} {x : Nat × Nat} {q' : List (Nat × Nat)} {rest : List QOp}
    (h : QInv cap0 prog0 s) (hp : s.prog t = .take :: rest) (hq : s.q = x :: q') {m3 : Mon} (st3 : m3.Struct (QRole s.bounded s.prog))
    (ho3 : m3.owner = some t) (hne : m3.ne = s.ne.wake t)
    (hnf : ∀ c, s.cap = some c → OneSpec s.nf m3.nf) :
    QInv cap0 prog0 (({ s with toMon := m3, q := q' } : QState).fin t .take rest (.took x.1 x.2)) := by
  have hql : s.q.length = q'.length + 1 := by rw [hq]; rfl
  obtain ⟨htS, _, hlen, _⟩ := WS.wake_facts (h.st.nodup .notEmpty) t
  replace hlen : s.ne.S.length ≤ (s.ne.wake t).S.length + 1 := hlen
  refine QInv.fin st3 ho3 (fun c => ?_) ?_ (fun c hc => ?_) (fun c hc => ?_) ?_ h hp
  · cases c
    · show t ∉ m3.ne.S
      rw [hne]; exact htS
    · exact (st3.not_parked (c := .notFull) (by simp [QRole, hp])).2
  · rw [hne]
    exact h.sigE.of_le id fun _ => by show q'.length + _ ≤ _ + (s.ne.wake t).S.length; omega
  · have := h.bnd c hc
    exact ((hnf c hc).covers (h.sigF c hc)).of_le id fun _ => by show c - q'.length + _ ≤ _; omega
  · have := h.bnd c hc
    omega
  · rw [taken_append, puts_append, ← h.fifo, hq]
    simp [taken, puts]

theorem qinv_take {s : QState} {t : Nat} {rest : List QOp} (h : QInv cap0 prog0 s) (ho : s.owner = some t)
    (hp : s.prog t = .take :: rest) : QInv cap0 prog0 (s.execOp t .take rest) := by
  have st2 := h.st.go t .notEmpty
  rw [exec_take]
  split
  · rename_i hq
    refine ⟨h.st.park (c := .notEmpty) ho ⟨rest, hp⟩, fun _ => ?_, h.sigF, h.bnd, h.fifo, h.capc, h.hist⟩
    show s.q.length ≤ _
    rw [hq]; exact Nat.zero_le _
  · rename_i x q' hq
    rcases Option.eq_none_or_eq_some s.cap with hc | ⟨c, hc⟩
    · have hb : s.cap.isSome = false := by rw [hc]; rfl
      simp only [hb, Bool.false_eq_true, if_false]
      exact qinv_take_go h hp hq st2 ho rfl fun c hc' => absurd (hc.symm.trans hc') nofun
    · have hb : s.cap.isSome = true := by rw [hc]; rfl
      simp only [hb, if_true]
      obtain ⟨ho3, hoth, hone⟩ := Mon.notifs_one (s.toMon.setWs .notEmpty (s.ne.wake t)) .notFull
      exact qinv_take_go h hp hq (st2.notifs _) (ho3.trans ho) (hoth .notEmpty (by decide)) fun _ _ => hone

theorem qinv_plain {s : QState} {t : Nat} {op : QOp} {rest : List QOp} {r : QRes} {q' : List (Nat × Nat)} (h : QInv cap0 prog0 s)
    (ho : s.owner = some t) (hp : s.prog t = op :: rest) (hop : op ≠ .take ∧ ∀ v, op ≠ .put v)
    (hq : q' = s.q ∨ (q' = [] ∧ s.cap = none)) (hf : taken [⟨t, op, r⟩] ++ q' = s.q) :
    QInv cap0 prog0 (({ s with q := q' } : QState).fin t op rest r) := by
  have hlen : q'.length ≤ s.q.length := by rcases hq with rfl | ⟨rfl, _⟩ <;> simp
  refine QInv.fin h.st ho (fun c => (h.st.not_parked ?_).2) (h.sigE.of_le id fun _ => by show q'.length + _ ≤ _; omega)
    (fun c hc => ?_) (fun c hc => Nat.le_trans hlen (h.bnd c hc)) ?_ h hp
  · cases c
    · rintro ⟨r', hr'⟩; rw [hp] at hr'; exact hop.1 (List.cons.inj hr').1
    · rintro ⟨_, v, r', hr'⟩; rw [hp] at hr'; exact hop.2 v (List.cons.inj hr').1
  · rcases hq with rfl | ⟨_, hn⟩
    · exact h.sigF c hc
    · exact absurd (hn.symm.trans hc) nofun
  · rw [taken_append, puts_append, List.append_assoc, hf, h.fifo]
    cases op <;> simp [puts] at hop ⊢

theorem qinv_exec {s : QState} {t : Nat} {op : QOp} {rest : List QOp} (h : QInv cap0 prog0 s) (ho : s.owner = some t)
    (hp : s.prog t = op :: rest) : QInv cap0 prog0 (s.execOp t op rest) := by
  cases op with
  | put v => exact qinv_put h ho hp
  | take => exact qinv_take h ho hp
  | drain =>
    rcases Option.eq_none_or_eq_some s.cap with hc | ⟨c, hc⟩
    · have hb : s.bounded = false := by simp [QState.bounded, hc]
      simp only [QState.execOp, hb, Bool.false_eq_true, if_false]
      exact qinv_plain h ho hp (by simp) (.inr ⟨rfl, hc⟩) (by simp [taken])
    · have hb : s.bounded = true := by simp [QState.bounded, hc]
      simp only [QState.execOp, hb, if_true]
      exact qinv_plain (q' := s.q) h ho hp (by simp) (.inl rfl) (by simp [taken])
  | size => exact qinv_plain (q' := s.q) h ho hp (by simp) (.inl rfl) (by simp [taken])
  | empty => exact qinv_plain (q' := s.q) h ho hp (by simp) (.inl rfl) (by simp [taken])
  | full => exact qinv_plain (q' := s.q) h ho hp (by simp) (.inl rfl) (by simp [taken])
  | capacity => exact qinv_plain (q' := s.q) h ho hp (by simp) (.inl rfl) (by simp [taken])

theorem qinv_step {s s' : QState} {a : Act} (h : QInv cap0 prog0 s) (hs : qstep s a = some s') : QInv cap0 prog0 s' := by
  cases a <;> simp only [qstep, Option.ite_none_right_eq_some, Option.some.injEq] at hs
  case acq t =>
    obtain ⟨hc, rfl⟩ := hs
    exact ⟨h.st.acq t fun c => by cases c; exact hc.2.2.1; exact hc.2.2.2, h.sigE, h.sigF, h.bnd, h.fifo, h.capc, h.hist⟩
  case body t =>
    obtain ⟨ho, hs⟩ := hs
    split at hs
    · rename_i hp
      cases hs
      refine ⟨h.st.unlock ho (fun c => (h.st.not_parked ?_).2) fun _ _ _ hr => hr, h.sigE, h.sigF, h.bnd, h.fifo, h.capc, h.hist⟩
      cases c <;> simp [QRole, hp]
    · rename_i op rest hp
      cases hs
      exact qinv_exec h ho hp
  case spur t c =>
    obtain ⟨ht, rfl⟩ := hs
    refine ⟨h.st.spur c t ht, ?_, fun k hk => ?_, h.bnd, h.fifo, h.capc, h.hist⟩
    · cases c
      · exact h.sigE.spur t
      · exact h.sigE
    · cases c
      · exact h.sigF k hk
      · exact (h.sigF k hk).spur t

theorem qinv_init (cap : Option Nat) (prog : Nat → List QOp) (sched : List Nat) : QInv cap prog (qinit cap prog sched) :=
  ⟨.init sched, fun hW => absurd rfl hW, fun _ _ hW => absurd rfl hW, fun _ _ => Nat.zero_le _, rfl, rfl,
    fun _ => rfl⟩

theorem qinv_reach {s0 s : QState} (h0 : QInv cap0 prog0 s0) (hr : QReach s0 s) : QInv cap0 prog0 s := by
  induction hr with
  | refl => exact h0
  | step a _ hs ih => exact qinv_step ih hs

theorem q_blocked_facts {s : QState} (h : QInv cap0 prog0 s) (hb : QBlocked s) :
    s.owner = none ∧ s.ne.S = [] ∧ s.nf.S = [] := by
  have hown : s.owner = none := by
    cases ho : s.owner with
    | none => rfl
    | some u =>
      have := (hb u).2
      simp only [qstep, ho, if_true] at this
      split at this <;> cases this
  -- a signalled thread waits unsignalled nowhere (`S_not_W`), so it could take the free mutex
  have key : ∀ c u, u ∉ (s.ws c).S := fun c u hu => by
    have hW := h.st.S_not_W (fun _ _ _ => QRole.unique) hu
    have hp : s.prog u ≠ [] := by
      have := h.st.role c u (.inr hu)
      cases c
      · obtain ⟨r, hr⟩ := this; rw [hr]; nofun
      · obtain ⟨_, v, r, hr⟩ := this; rw [hr]; nofun
    have := (hb u).1
    simp only [qstep] at this
    rw [if_pos ⟨hown, hp, hW .notEmpty, hW .notFull⟩] at this
    cases this
  exact ⟨hown, List.eq_nil_iff_forall_not_mem.mpr (key .notEmpty), List.eq_nil_iff_forall_not_mem.mpr (key .notFull)⟩

/-! ### concrete runs (for the non-vacuity examples) -/

def runQ (s : QState) : List Act → Option QState
  | [] => some s
  | a :: as => (qstep s a).bind fun s' => runQ s' as

theorem runQ_reach {s0 s : QState} {as : List Act} (h : runQ s0 as = some s) : QReach s0 s :=
  run_inv (fun _ => rfl) (fun _ _ _ => rfl) (fun _ a _ hr hs => .step a hr hs) .refl h

/-- capacity 1, a consumer that arrives first and waits, two puts of one producer: both come out, in order -/
def demoProg : Nat → List QOp
  | 1 => [.put 5, .put 6]
  | 2 => [.take, .take]
  | _ => []

def demoActs : List Act :=
  [.acq 2, .body 2, .acq 1, .body 1, .acq 1, .body 1, .acq 2, .body 2, .acq 1, .body 1, .acq 2, .body 2]

/-- a lone consumer; `loneParked` is the reachable state in which it is parked and nobody can move (the hypotheses of
`nobody_stuck`) -/
def loneProg : Nat → List QOp := fun t => if t = 1 then [.take] else []

def loneParked : QState :=
  { toMon := { owner := none, ne := { W := [1], S := [] }, nf := {}, sched := [] }, cap := none, q := [],
    prog := loneProg, log := [] }

end MuduoVerif.Monitor
