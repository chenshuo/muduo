import MuduoVerif.Model.Timer
import Mathlib.Tactic.Linarith
import Mathlib.Data.List.Basic
/-! Arithmetic of the generated functions of the timer engine: `howMuchTimeFromNow`, `addTime`, `restart`, their machine
(wrapping) variants, and the sentinel comparison of `getExpired`. -/
namespace MuduoVerif.Timer
open MuduoVerif.Gen.Timer

theorem howMuchUs_eq (w n : Int) : howMuchUs w n = max (w - n) 100 := by
  unfold howMuchUs; simp only []; split <;> omega

theorem howMuchUs_floor (w n : Int) : 100 ≤ howMuchUs w n := by
  rw [howMuchUs_eq]; omega

theorem alarm_eq (w n : Int) : n + howMuchUs w n = max w (n + 100) := by
  rw [howMuchUs_eq]; omega

theorem timespec_exact (w n : Int) :
    (howMuchTimeFromNow w n).1 * 1000000 + (howMuchTimeFromNow w n).2 / 1000 = howMuchUs w n
    ∧ 0 ≤ (howMuchTimeFromNow w n).1 ∧ 0 ≤ (howMuchTimeFromNow w n).2 ∧ (howMuchTimeFromNow w n).2 < 1000000000 := by
  have h := howMuchUs_floor w n
  unfold howMuchTimeFromNow kMicroSecondsPerSecond
  simp only []
  generalize howMuchUs w n = u at *
  have h0 : (0 : Int) ≤ u := by omega
  rw [Int.tdiv_eq_ediv_of_nonneg h0, Int.tmod_eq_emod_of_nonneg h0]
  omega

/-- `addTime` of the unchanged code: `seconds` stands for `us / 10^6` (exact rational), the product with
`kMicroSecondsPerSecond` is truncated to an `int64_t` and added in 64 bits: the result is `timestamp + us`, no 32-bit
intermediate value anywhere -/
theorem addTime_eq (t us : Int) : addTime t us = t + us := by
  unfold addTime kMicroSecondsPerSecond
  simp only [Int.mul_tdiv_cancel us (by decide : (1000000 : Int) ≠ 0)]

theorem wrapI64_of_range {x : Int} (h1 : -9223372036854775808 ≤ x) (h2 : x < 9223372036854775808) : wrapI64 x = x := by
  unfold wrapI64
  exact Int.bmod_eq_of_le_mul_two (by omega) (by omega)

/-- the machine's arithmetic (every 64-bit operation and the double → int64_t conversion wrapped) gives the same
result whenever the delay and the sum are representable in an `int64_t` -/
theorem addTimeW_eq (t us : Int) (hd1 : -9223372036854775808 ≤ us) (hd2 : us < 9223372036854775808)
    (h1 : -9223372036854775808 ≤ t + us) (h2 : t + us < 9223372036854775808) : addTimeW t us = t + us := by
  unfold addTimeW kMicroSecondsPerSecond
  simp only [Int.mul_tdiv_cancel us (by decide : (1000000 : Int) ≠ 0)]
  rw [wrapI64_of_range hd1 hd2, wrapI64_of_range h1 h2]

theorem restart_repeating (now d : Int) : restart true now d = now + d := by
  simp [restart, addTime_eq]

theorem entryExpired_le {e : Time × Addr} {now : Time} (h : entryExpired e.1 e.2 now) : e.1 ≤ now := by
  unfold entryExpired at h
  rcases h with h | ⟨h, _⟩
  · exact Int.le_of_lt h
  · exact Int.le_of_eq h

theorem entryExpired_of_le {e : Time × Addr} {now : Time} (h : e.1 ≤ now) (ha : e.2 < sentinelAddr) :
    entryExpired e.1 e.2 now := by
  unfold entryExpired
  rcases Int.lt_or_eq_of_le h with h | h
  · exact Or.inl h
  · exact Or.inr ⟨h, ha⟩

end MuduoVerif.Timer
