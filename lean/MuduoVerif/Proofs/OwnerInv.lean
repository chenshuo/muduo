import MuduoVerif.Model.Owner
/-!
The invariant of the TcpServer ownership model (`Model/Owner.lean`).  Per connection `c` the functors that matter for the
protocol are `est c`, `des c` (both only in the queue of the connection's loop) and `rem c` (only in the base loop's
queue); `ioQ`/`remN` extract them.  `RowP` lists the configurations (queue contents, state class, registered, in the map,
server alive) a connection can be in; `RowTag` names them and `RowIs` speaks of one.  `Agree` is the frame rule: what a step about another connection leaves alone.
-/
namespace MuduoVerif.Owner
open MuduoVerif.Gen.Owner
open MuduoVerif.Gen.Conn (StateE forceCloseAccepts shutdownAccepts forceCloseInLoopActs destroyedWhileConnected)

theorem removeConnection_nf (s : Srv) (l c : Nat) :
    removeConnection s l c = if l = 0 then removeInLoop s l c else s.enq 0 (.rem c) := by
  simp [removeConnection, removeDispatch, removeTarget, target]

theorem handDestroy_rem (s : Srv) (l c : Nat) :
    handDestroy s l c destroyDispatch destroyTarget = s.enq (s.conn c).loop (.des c) := by
  simp [handDestroy, destroyDispatch, destroyTarget, target]

theorem handDestroy_dtor (s : Srv) (c : Nat) :
    handDestroy s 0 c dtorDispatch dtorTarget =
      if (s.conn c).loop = 0 then connectDestroyed s 0 c else s.enq (s.conn c).loop (.des c) := by
  simp [handDestroy, dtorDispatch, dtorTarget, target, eq_comm]

def isIo (c : Nat) (t : Task) : Bool := t == .est c || t == .des c

/-- `est c` / `des c` functors waiting in the queue of the connection's loop, in order -/
def ioQ (s : Srv) (c : Nat) : List Task := (s.q (s.conn c).loop).filter (isIo c)
/-- `rem c` functors waiting in the base loop's queue -/
def remN (s : Srv) (c : Nat) : Nat := (s.q 0).count (.rem c)

/-- no functor of `c` sits in a queue where it does not belong -/
def Stray (s : Srv) (c : Nat) : Prop :=
  ∀ l, (l ≠ (s.conn c).loop → Task.est c ∉ s.q l ∧ Task.des c ∉ s.q l ∧ Task.fcl c ∉ s.q l) ∧
       (l ≠ 0 → Task.rem c ∉ s.q l)

/-- the configurations of a connection -/
def RowP (s : Srv) (c : Nat) (im sa : Bool) : Prop :=
  let C := s.conn c
  -- accepted, `connectEstablished` on its way
  (ioQ s c = [.est c] ∧ remN s c = 0 ∧ C.st = .kConnecting ∧ C.registered = false ∧ im = true ∧ sa = true ∧ C.loop ≠ 0) ∨
  -- up
  (ioQ s c = [] ∧ remN s c = 0 ∧ isUp C.st = true ∧ C.registered = true ∧ im = true ∧ sa = true) ∨
  -- taken down on its loop, `removeConnectionInLoop` on its way to the base loop
  (ioQ s c = [] ∧ remN s c = 1 ∧ C.st = .kDisconnected ∧ C.registered = true ∧ im = true ∧ sa = true ∧ C.loop ≠ 0) ∨
  -- erased from the map, `connectDestroyed` on its way back
  (ioQ s c = [.des c] ∧ remN s c = 0 ∧ C.st = .kDisconnected ∧ C.registered = true ∧ im = false) ∨
  -- finished
  (ioQ s c = [] ∧ remN s c = 0 ∧ C.st = .kDisconnected ∧ C.registered = false ∧ im = false) ∨
  -- server destroyed while `connectEstablished` was on its way
  (ioQ s c = [.est c, .des c] ∧ remN s c = 0 ∧ C.st = .kConnecting ∧ C.registered = false ∧ im = false ∧ sa = false ∧ C.loop ≠ 0) ∨
  -- server destroyed while up
  (ioQ s c = [.des c] ∧ remN s c = 0 ∧ isUp C.st = true ∧ C.registered = true ∧ im = false ∧ sa = false ∧ C.loop ≠ 0) ∨
  -- server destroyed while `removeConnectionInLoop` was on its way (the race `TcpServer.cc` calls unsafe)
  (ioQ s c = [.des c] ∧ remN s c = 1 ∧ C.st = .kDisconnected ∧ C.registered = true ∧ im = false ∧ sa = false ∧ C.loop ≠ 0) ∨
  (ioQ s c = [] ∧ remN s c = 1 ∧ C.st = .kDisconnected ∧ C.registered = false ∧ im = false ∧ sa = false ∧ C.loop ≠ 0)

/-- the configurations, with the map and the server as they are -/
abbrev Row (s : Srv) (c : Nat) : Prop := RowP s c (s.inMap c) s.alive

/-- the rows of `RowP`, in its order; an orphan is a connection whose server was destroyed while it was in the row named,
`orphanRemLeft` one whose `connectDestroyed` has run while `removeConnectionInLoop` still waits -/
inductive RowTag
  | accepted | up | takenDown | erased | finished
  | orphanAccepted | orphanUp | orphanTakenDown | orphanRemLeft

/-- row `r` of `RowP`, said of what the rows speak of: the `est`/`des` functors `io` in the queue of the connection's loop,
the number `rn` of `rem` functors in the base loop's queue, the record `C`, `im` and `sa` -/
def RowIs (c : Nat) (io : List Task) (rn : Nat) (C : Conn) (im sa : Bool) : RowTag → Prop
  | .accepted => io = [.est c] ∧ rn = 0 ∧ C.st = .kConnecting ∧ C.registered = false ∧ im = true ∧ sa = true ∧ C.loop ≠ 0
  | .up => io = [] ∧ rn = 0 ∧ isUp C.st = true ∧ C.registered = true ∧ im = true ∧ sa = true
  | .takenDown => io = [] ∧ rn = 1 ∧ C.st = .kDisconnected ∧ C.registered = true ∧ im = true ∧ sa = true ∧ C.loop ≠ 0
  | .erased => io = [.des c] ∧ rn = 0 ∧ C.st = .kDisconnected ∧ C.registered = true ∧ im = false
  | .finished => io = [] ∧ rn = 0 ∧ C.st = .kDisconnected ∧ C.registered = false ∧ im = false
  | .orphanAccepted => io = [.est c, .des c] ∧ rn = 0 ∧ C.st = .kConnecting ∧ C.registered = false ∧ im = false ∧ sa = false ∧ C.loop ≠ 0
  | .orphanUp => io = [.des c] ∧ rn = 0 ∧ isUp C.st = true ∧ C.registered = true ∧ im = false ∧ sa = false ∧ C.loop ≠ 0
  | .orphanTakenDown => io = [.des c] ∧ rn = 1 ∧ C.st = .kDisconnected ∧ C.registered = true ∧ im = false ∧ sa = false ∧ C.loop ≠ 0
  | .orphanRemLeft => io = [] ∧ rn = 1 ∧ C.st = .kDisconnected ∧ C.registered = false ∧ im = false ∧ sa = false ∧ C.loop ≠ 0

theorem rowP_iff {s : Srv} {c : Nat} {im sa : Bool} :
    RowP s c im sa ↔ ∃ r, RowIs c (ioQ s c) (remN s c) (s.conn c) im sa r := by
  constructor
  · rintro (h | h | h | h | h | h | h | h | h)
    · exact ⟨.accepted, h⟩
    · exact ⟨.up, h⟩
    · exact ⟨.takenDown, h⟩
    · exact ⟨.erased, h⟩
    · exact ⟨.finished, h⟩
    · exact ⟨.orphanAccepted, h⟩
    · exact ⟨.orphanUp, h⟩
    · exact ⟨.orphanTakenDown, h⟩
    · exact ⟨.orphanRemLeft, h⟩
  · rintro ⟨r, h⟩
    cases r
    · exact .inl h
    · exact .inr (.inl h)
    · exact .inr (.inr (.inl h))
    · exact .inr (.inr (.inr (.inl h)))
    · exact .inr (.inr (.inr (.inr (.inl h))))
    · exact .inr (.inr (.inr (.inr (.inr (.inl h)))))
    · exact .inr (.inr (.inr (.inr (.inr (.inr (.inl h))))))
    · exact .inr (.inr (.inr (.inr (.inr (.inr (.inr (.inl h)))))))
    · exact .inr (.inr (.inr (.inr (.inr (.inr (.inr (.inr h)))))))

inductive Cb | init | up | down
deriving DecidableEq, Repr

structure Auto where
  born : Bool := false
  cb : Cb := .init
  erased : Bool := false
  destroyed : Bool := false
  dead : Bool := false
deriving DecidableEq, Repr

/-- which event may follow which, per connection; `none` = not allowed -/
def autoStep (a : Auto) : Kind → Option Auto
  | .new => if !a.born then some { a with born := true } else none
  | .up => if a.born && a.cb == .init && !a.dead then some { a with cb := .up } else none
  | .msg => if a.cb == .up && !a.dead then some a else none
  | .down => if a.cb == .up && !a.dead then some { a with cb := .down } else none
  | .closeCb => if a.cb == .down && !a.dead then some a else none
  | .erase => if a.cb == .down && !a.erased then some { a with erased := true } else none
  | .destroyed => if a.cb == .down && !a.destroyed && !a.dead then some { a with destroyed := true } else none
  | .dtor => if a.destroyed && !a.dead then some { a with dead := true } else none
  | .uaf => none
  | .eraseMiss => none
  | .abort => none

def lifeStep (c : Nat) (o : Option Auto) (e : Ev) : Option Auto :=
  if e.conn = c then o.bind (fun a => autoStep a e.kind) else o

/-- the automaton run over the events of connection `c` -/
def life (c : Nat) (tr : List Ev) : Option Auto := tr.foldl (lifeStep c) (some {})

theorem life_snoc (c : Nat) (tr : List Ev) (e : Ev) : life c (tr ++ [e]) = lifeStep c (life c tr) e := by
  simp [life, List.foldl_append]

def clsOf : StateE → Cb
  | .kConnecting => .init
  | .kConnected => .up
  | .kDisconnecting => .up
  | .kDisconnected => .down

/-- where an event of this kind has to happen -/
def AffOK (s : Srv) (e : Ev) : Prop :=
  match e.kind with
  | .up | .msg | .down | .closeCb | .destroyed => e.loop = (s.conn e.conn).loop
  | .new | .erase | .eraseMiss => e.loop = 0
  | .dtor | .abort | .uaf => True

/-- everything the invariant says about connection `c`, except how `alive` relates to the reference holders;
`im`/`sa`: is the connection in the map / does the server exist (parameters, so that the middle of `~TcpServer` can
be described) -/
structure CCore (s : Srv) (c : Nat) (im sa : Bool) : Prop where
  loop_le : (s.conn c).loop ≤ s.L
  stray : Stray s c
  row : RowP s c im sa
  fcl_up : Task.fcl c ∈ s.q (s.conn c).loop → (s.conn c).st ≠ .kConnecting
  fd : (s.conn c).fdOpen = (s.conn c).alive
  name : (s.conn c).name = s.nameOf (idInitial + c * idStep)
  life : ∃ a, life c s.trace = some a ∧ a.born = true ∧ a.cb = clsOf (s.conn c).st ∧
    a.destroyed = (!(s.conn c).registered && (s.conn c).st != .kConnecting) ∧ a.dead = !(s.conn c).alive ∧
    (sa = true → a.erased = !im)

/-- the invariant of connection `c`: the object exists exactly as long as somebody holds a reference -/
structure CInv (s : Srv) (c : Nat) : Prop where
  core : CCore s c (s.inMap c) s.alive
  alive_held : (s.conn c).alive = s.held c
  /-- a close cause leaves something behind that will take the connection down -/
  cause : (s.conn c).cause = true →
    (s.conn c).st = .kDisconnected ∨ Task.fcl c ∈ s.q (s.conn c).loop ∨ Task.des c ∈ s.q (s.conn c).loop

/-- between the release of references and the destruction that may follow: a dead object has no holder -/
structure CInvW (s : Srv) (c : Nat) : Prop where
  core : CCore s c (s.inMap c) s.alive
  dead_free : (s.conn c).alive = false → s.held c = false
  cause : (s.conn c).cause = true →
    (s.conn c).st = .kDisconnected ∨ Task.fcl c ∈ s.q (s.conn c).loop ∨ Task.des c ∈ s.q (s.conn c).loop

section prim
variable (s : Srv) (c c' l l' : Nat) (C : Conn) (t : Task) (k : Kind)

@[simp] theorem setConn_q : (s.setConn c C).q = s.q := rfl
@[simp] theorem setConn_done : (s.setConn c C).done = s.done := rfl
@[simp] theorem setConn_map : (s.setConn c C).map = s.map := rfl
@[simp] theorem setConn_alive : (s.setConn c C).alive = s.alive := rfl
@[simp] theorem setConn_trace : (s.setConn c C).trace = s.trace := rfl
@[simp] theorem setConn_L : (s.setConn c C).L = s.L := rfl
@[simp] theorem setConn_n : (s.setConn c C).n = s.n := rfl
@[simp] theorem setConn_nameOf : (s.setConn c C).nameOf = s.nameOf := rfl
@[simp] theorem setConn_exited : (s.setConn c C).exited = s.exited := rfl
@[simp] theorem setConn_pool : (s.setConn c C).pool = s.pool := rfl
@[simp] theorem setConn_nextId : (s.setConn c C).nextId = s.nextId := rfl
@[simp] theorem setConn_conn_self : (s.setConn c C).conn c = C := by simp [Srv.setConn]
theorem setConn_conn_other (h : c' ≠ c) : (s.setConn c C).conn c' = s.conn c' := by simp [Srv.setConn, h]
theorem setConn_conn : (s.setConn c C).conn c' = if c' = c then C else s.conn c' := rfl

@[simp] theorem emit_q : (s.emit c k l).q = s.q := rfl
@[simp] theorem emit_done : (s.emit c k l).done = s.done := rfl
@[simp] theorem emit_map : (s.emit c k l).map = s.map := rfl
@[simp] theorem emit_alive : (s.emit c k l).alive = s.alive := rfl
@[simp] theorem emit_conn : (s.emit c k l).conn = s.conn := rfl
@[simp] theorem emit_L : (s.emit c k l).L = s.L := rfl
@[simp] theorem emit_n : (s.emit c k l).n = s.n := rfl
@[simp] theorem emit_nameOf : (s.emit c k l).nameOf = s.nameOf := rfl
@[simp] theorem emit_exited : (s.emit c k l).exited = s.exited := rfl
@[simp] theorem emit_pool : (s.emit c k l).pool = s.pool := rfl
@[simp] theorem emit_nextId : (s.emit c k l).nextId = s.nextId := rfl
@[simp] theorem emit_trace : (s.emit c k l).trace = s.trace ++ [⟨c, k, l⟩] := rfl

@[simp] theorem enq_done : (s.enq l t).done = s.done := rfl
@[simp] theorem enq_map : (s.enq l t).map = s.map := rfl
@[simp] theorem enq_alive : (s.enq l t).alive = s.alive := rfl
@[simp] theorem enq_conn : (s.enq l t).conn = s.conn := rfl
@[simp] theorem enq_L : (s.enq l t).L = s.L := rfl
@[simp] theorem enq_n : (s.enq l t).n = s.n := rfl
@[simp] theorem enq_nameOf : (s.enq l t).nameOf = s.nameOf := rfl
@[simp] theorem enq_exited : (s.enq l t).exited = s.exited := rfl
@[simp] theorem enq_pool : (s.enq l t).pool = s.pool := rfl
@[simp] theorem enq_nextId : (s.enq l t).nextId = s.nextId := rfl
@[simp] theorem enq_trace : (s.enq l t).trace = s.trace := rfl
theorem enq_q : (s.enq l t).q l' = if l' = l then s.q l' ++ [t] else s.q l' := rfl
@[simp] theorem enq_q_self : (s.enq l t).q l = s.q l ++ [t] := by simp [Srv.enq]
theorem enq_q_other (h : l' ≠ l) : (s.enq l t).q l' = s.q l' := by simp [Srv.enq, h]

@[simp] theorem inMap_setConn : (s.setConn c C).inMap c' = s.inMap c' := rfl
@[simp] theorem inMap_emit : (s.emit c k l).inMap c' = s.inMap c' := rfl
@[simp] theorem inMap_enq : (s.enq l t).inMap c' = s.inMap c' := rfl

end prim

/-- `t` is a functor of connection `c` -/
def about (c : Nat) (t : Task) : Bool := t.conn? == some c

@[simp] theorem about_est (c : Nat) : about c (.est c) = true := by simp [about, Task.conn?]
@[simp] theorem about_des (c : Nat) : about c (.des c) = true := by simp [about, Task.conn?]
@[simp] theorem about_rem (c : Nat) : about c (.rem c) = true := by simp [about, Task.conn?]
@[simp] theorem about_fcl (c : Nat) : about c (.fcl c) = true := by simp [about, Task.conn?]
@[simp] theorem about_shut (c : Nat) : about c (.shut c) = true := by simp [about, Task.conn?]

theorem holds_about {c : Nat} {t : Task} (h : t.holds c = true) : about c t = true := by
  cases t <;> simp_all [Task.holds, about, Task.conn?]

theorem isIo_about {c : Nat} {t : Task} (h : isIo c t = true) : about c t = true := by
  cases t <;> simp_all [isIo, about, Task.conn?]

theorem filter_isIo_about (c : Nat) (q : List Task) : (q.filter (about c)).filter (isIo c) = q.filter (isIo c) := by
  rw [List.filter_filter]; congr 1; funext t
  cases h : isIo c t <;> simp [isIo_about, h]

/-- `s'` looks like `s` to `CCore _ c`, which takes "in the map" and "server alive" as parameters: record, functors of `c`,
configuration and trace of `c` -/
structure AgreeC (s s' : Srv) (c : Nat) : Prop where
  conn : s'.conn c = s.conn c
  q : ∀ l, (s'.q l).filter (about c) = (s.q l).filter (about c)
  L : s'.L = s.L
  nameOf : s'.nameOf = s.nameOf
  life : life c s'.trace = life c s.trace

/-- `s'` looks like `s` to `CInv _ c`: `AgreeC` and in addition the holders, the map entry and the server's existence -/
structure Agree (s s' : Srv) (c : Nat) : Prop where
  conn : s'.conn c = s.conn c
  q : ∀ l, (s'.q l).filter (about c) = (s.q l).filter (about c)
  hold : ∀ l, ((s'.q l).any (·.holds c) || (s'.done l).any (·.holds c)) = ((s.q l).any (·.holds c) || (s.done l).any (·.holds c))
  inMap : s'.inMap c = s.inMap c
  alive : s'.alive = s.alive
  L : s'.L = s.L
  nameOf : s'.nameOf = s.nameOf
  life : life c s'.trace = life c s.trace

theorem Agree.c {s s' : Srv} {c : Nat} (h : Agree s s' c) : AgreeC s s' c := ⟨h.conn, h.q, h.L, h.nameOf, h.life⟩

theorem Agree.refl (s : Srv) (c : Nat) : Agree s s c := ⟨rfl, fun _ => rfl, fun _ => rfl, rfl, rfl, rfl, rfl, rfl⟩

theorem Agree.trans {s s' s'' : Srv} {c : Nat} (h1 : Agree s s' c) (h2 : Agree s' s'' c) : Agree s s'' c :=
  ⟨h2.conn.trans h1.conn, fun l => (h2.q l).trans (h1.q l), fun l => (h2.hold l).trans (h1.hold l),
   h2.inMap.trans h1.inMap, h2.alive.trans h1.alive, h2.L.trans h1.L, h2.nameOf.trans h1.nameOf, h2.life.trans h1.life⟩

theorem agree_mem {s s' : Srv} {c : Nat} (h : AgreeC s s' c) {t : Task} (ht : about c t = true) (l : Nat) :
    t ∈ s'.q l ↔ t ∈ s.q l := by
  simpa [ht] using congrArg (t ∈ ·) (h.q l)

theorem agree_ioQ {s s' : Srv} {c : Nat} (h : AgreeC s s' c) : ioQ s' c = ioQ s c := by
  unfold ioQ; rw [h.conn, ← filter_isIo_about, h.q, filter_isIo_about]

theorem agree_remN {s s' : Srv} {c : Nat} (h : AgreeC s s' c) : remN s' c = remN s c := by
  unfold remN; rw [← List.count_filter (about_rem c), h.q, List.count_filter (about_rem c)]

theorem agree_held {s s' : Srv} {c : Nat} (h : Agree s s' c) : s'.held c = s.held c := by
  unfold Srv.held Srv.inQueues
  rw [h.inMap, h.conn, h.L]
  congr 1
  exact List.any_congr rfl (fun l => h.hold l)

/-- the frame rule: a step that does not concern connection `c` keeps what the invariant says about it -/
theorem ccore_agree {s s' : Srv} {c : Nat} {im sa : Bool} (hc : CCore s c im sa) (h : AgreeC s s' c) : CCore s' c im sa where
  loop_le := by rw [h.conn, h.L]; exact hc.loop_le
  stray l := by
    rw [h.conn, agree_mem h (about_est c), agree_mem h (about_des c), agree_mem h (about_fcl c), agree_mem h (about_rem c)]
    exact hc.stray l
  row := by
    unfold RowP
    rw [agree_ioQ h, agree_remN h, h.conn]
    exact hc.row
  fcl_up := by rw [h.conn, agree_mem h (about_fcl c)]; exact hc.fcl_up
  fd := by rw [h.conn]; exact hc.fd
  name := by rw [h.conn, h.nameOf]; exact hc.name
  life := by rw [h.life, h.conn]; exact hc.life

theorem CInvW.agree {s s' : Srv} {c : Nat} (hc : CInvW s c) (h : Agree s s' c) : CInvW s' c where
  core := by rw [h.inMap, h.alive]; exact ccore_agree hc.core h.c
  dead_free := by rw [h.conn, agree_held h]; exact hc.dead_free
  cause := by rw [h.conn, agree_mem h.c (about_fcl c), agree_mem h.c (about_des c)]; exact hc.cause

theorem CInv.weak {s : Srv} {c : Nat} (hc : CInv s c) : CInvW s c :=
  ⟨hc.core, fun h => by rw [← hc.alive_held]; exact h, hc.cause⟩

theorem CInv.agree {s s' : Srv} {c : Nat} (hc : CInv s c) (h : Agree s s' c) : CInv s' c :=
  have hw := hc.weak.agree h
  ⟨hw.core, by rw [h.conn, agree_held h]; exact hc.alive_held, hw.cause⟩

structure MapOK (s : Srv) : Prop where
  keys : ∀ e ∈ s.map, e.1 = (s.conn e.2).name
  nodup : (s.map.map (·.1)).Nodup
  lt : ∀ e ∈ s.map, e.2 < s.n
  names : ∀ c c', c < s.n → c' < s.n → (s.conn c).name = (s.conn c').name → c = c'

/-- the part of the invariant that is not about a particular connection -/
structure GRest (s : Srv) : Prop where
  mapOK : MapOK s
  nextId : s.nextId = idInitial + s.n * idStep
  pool : s.pool = Pool.afterNext (Pool.start s.L) s.n
  assigned : ∀ c, c < s.n → (s.conn c).loop = if s.L = 0 then 0 else c % s.L + 1
  aff : ∀ e ∈ s.trace, AffOK s e
  mapDead : s.alive = false → s.map = []

structure GInv (s : Srv) : Prop where
  conns : ∀ c, c < s.n → CInv s c
  fresh : ∀ c, s.n ≤ c → (∀ l, ∀ t ∈ s.q l, about c t = false) ∧ life c s.trace = some {} ∧ s.conn c = {}
  rest : GRest s

theorem GInv.mapOK {s : Srv} (h : GInv s) : MapOK s := h.rest.mapOK

theorem GInv.conn_fresh {s : Srv} (h : GInv s) {c : Nat} (hc : s.n ≤ c) : s.conn c = {} := (h.fresh c hc).2.2

theorem quiet_row {s : Srv} {c : Nat} (hq : s.quiet) (h : CCore s c (s.inMap c) s.alive) :
    (isUp (s.conn c).st = true ∧ (s.conn c).registered = true ∧ s.inMap c = true ∧ s.alive = true) ∨
    ((s.conn c).st = .kDisconnected ∧ (s.conn c).registered = false ∧ s.inMap c = false) := by
  simpa [RowP, ioQ, remN, (hq _).1] using h.row

theorem quiet_cause {s : Srv} {c : Nat} (hq : s.quiet) (h : CInv s c) (hcause : (s.conn c).cause = true) :
    (s.conn c).st = .kDisconnected := by
  simpa [(hq _).1] using h.cause hcause

theorem quiet_dead {s : Srv} {c : Nat} (hq : s.quiet) (h : CInv s c) (him : s.inMap c = false)
    (hu : (s.conn c).user = 0) : (s.conn c).alive = false ∧ (s.conn c).fdOpen = false := by
  have : (s.conn c).alive = false := by simp [h.alive_held, Srv.held, Srv.inQueues, him, hu, hq _]
  exact ⟨this, by rw [h.core.fd]; exact this⟩

/-! ### A further fact about `about`; no proof uses it -/

theorem any_holds_about (c : Nat) (q : List Task) : (q.filter (about c)).any (·.holds c) = q.any (·.holds c) := by
  rw [List.any_filter]; congr 1; funext t
  cases h : t.holds c <;> simp [holds_about, h]

end MuduoVerif.Owner
