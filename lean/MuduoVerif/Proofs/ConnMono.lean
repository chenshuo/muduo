import MuduoVerif.Proofs.ConnLife
/-!
What code that runs inside one loop iteration cannot undo (`Mono`, `Grow`: walked as a `Frame`; hence `run_down`: only a
hand-over leads out of `kDisconnected`), and how the progress statements ("within k loop iterations", C01–C03) look into
an iteration: the functor phase runs every functor of the batch (`drainPending_runs`), and what `~TcpConnection` does not
change is what the functor phase left (`iter_proj`).
-/
namespace MuduoVerif.Conn

/-- `c'` was obtained from `c` by code that runs inside one loop iteration (dispatch or functor
phase, except the functor swap itself): functors are only appended to `pending`, the batch is
not touched, the clock does not move, the object is not destroyed, a connection that is down
stays down, none becomes `kConnected`, a half-close is not undone -/
structure Mono (c c' : Conn) : Prop where
  pend : ∃ s, c'.pending = c.pending ++ s
  batch : c'.batch = c.batch
  now : c'.now = c.now
  alive : c'.alive = c.alive
  down : c.st = .kDisconnected → c'.st = .kDisconnected
  notConn : c'.st = .kConnected → c.st = .kConnected
  shut : c.shutWr = true → c'.shutWr = true

/-- `Mono`, and delayed closes are only added (everything but `fireTimers`) -/
structure Grow (c c' : Conn) : Prop where
  mono : Mono c c'
  timers : ∃ k, c'.timers = c.timers ++ k

theorem Mono.same {c c' : Conn} (h1 : c'.pending = c.pending) (h2 : c'.batch = c.batch) (h3 : c'.now = c.now)
    (h4 : c'.alive = c.alive) (h5 : c'.st = c.st) (h6 : c'.shutWr = c.shutWr) : Mono c c' :=
  ⟨⟨[], by simp [h1]⟩, h2, h3, h4, fun h => by rw [h5]; exact h, fun h => by rw [← h5]; exact h,
    fun h => by rw [h6]; exact h⟩

theorem Mono.rfl' (c : Conn) : Mono c c := .same rfl rfl rfl rfl rfl rfl

theorem Mono.trans {a b c : Conn} (h1 : Mono a b) (h2 : Mono b c) : Mono a c := by
  obtain ⟨s1, e1⟩ := h1.pend
  obtain ⟨s2, e2⟩ := h2.pend
  exact ⟨⟨s1 ++ s2, by rw [e2, e1, List.append_assoc]⟩, h2.batch.trans h1.batch, h2.now.trans h1.now,
    h2.alive.trans h1.alive, fun h => h2.down (h1.down h), fun h => h1.notConn (h2.notConn h),
    fun h => h2.shut (h1.shut h)⟩

theorem Mono.queue {c c' : Conn} (h : Mono c c') : ∃ s, c'.queue = c.queue ++ s := by
  obtain ⟨s, e⟩ := h.pend
  exact ⟨s, by unfold Conn.queue; rw [h.batch, e, List.append_assoc]⟩

theorem Grow.trans {a b c : Conn} (h1 : Grow a b) (h2 : Grow b c) : Grow a c := by
  obtain ⟨k1, e1⟩ := h1.timers
  obtain ⟨k2, e2⟩ := h2.timers
  exact ⟨h1.mono.trans h2.mono, ⟨k1 ++ k2, by rw [e2, e1, List.append_assoc]⟩⟩

theorem Grow.same {c c' : Conn} (h1 : c'.pending = c.pending) (h2 : c'.batch = c.batch) (h3 : c'.now = c.now)
    (h4 : c'.alive = c.alive) (h5 : c'.st = c.st) (h6 : c'.shutWr = c.shutWr) (h7 : c'.timers = c.timers) :
    Grow c c' :=
  ⟨.same h1 h2 h3 h4 h5 h6, ⟨[], by simp [h7]⟩⟩

theorem grow_frame : Frame Grow where
  refl _ := .same rfl rfl rfl rfl rfl rfl rfl
  trans := .trans
  data _ _ h := .same (congrArg Conn.pending h :) (congrArg Conn.batch h :) (congrArg Conn.now h :)
    (congrArg Conn.alive h :) (congrArg Conn.st h :) (congrArg Conn.shutWr h :) (congrArg Conn.timers h :)
  emits _ _ _ := .same rfl rfl rfl rfl rfl rfl rfl
  enqueues _ t _ := ⟨⟨⟨[t], rfl⟩, rfl, rfl, rfl, id, id, id⟩, ⟨[], by simp [enqueue]⟩⟩
  updates _ _ _ _ := .same rfl rfl rfl rfl rfl rfl rfl
  closing c hu := ⟨⟨⟨[], by simp⟩, rfl, rfl, rfl, fun h => by rw [h] at hu; simp at hu, (fun h => by cases h), id⟩,
    ⟨[], by simp⟩⟩
  shut _ := ⟨⟨⟨[], by simp⟩, rfl, rfl, rfl, id, id, fun _ => rfl⟩, ⟨[], by simp⟩⟩
  timer _ d := ⟨.same rfl rfl rfl rfl rfl rfl, ⟨[d], rfl⟩⟩
  dead _ := .same rfl rfl rfl rfl rfl rfl rfl
  delivers _ _ := .same rfl rfl rfl rfl rfl rfl rfl
  consumes _ := .same rfl rfl rfl rfl rfl rfl rfl
  unregister _ := .same rfl rfl rfl rfl rfl rfl rfl

theorem down_grow (c : Conn) : Grow c { c with st := .kDisconnected } :=
  ⟨⟨⟨[], by simp⟩, rfl, rfl, rfl, fun _ => rfl, (fun h => by cases h), id⟩, ⟨[], by simp⟩⟩

theorem sendInLoop_grow (c : Conn) (d : Bytes) (q : Bool) : Grow c (sendInLoop c d q) :=
  sendInLoop_frame grow_frame (fun _ => .same rfl rfl rfl rfl rfl rfl rfl) c d q

theorem send_grow (c : Conn) (d : Bytes) (_ : c.st = .kConnected) : Grow c (sendInLoop c d false) :=
  sendInLoop_grow c d false

theorem act_grow (c : Conn) (f : Bool) (a : Act) : Grow c (act c f a) :=
  act_frame grow_frame send_grow c f a

theorem handleClose_grow (c : Conn) : Grow c (handleClose c) :=
  handleClose_frame grow_frame send_grow down_grow
    (fun _ => ⟨⟨⟨[.connectDestroyed], rfl⟩, rfl, rfl, rfl, id, id, id⟩, ⟨[], by simp [enqueue]⟩⟩) c

theorem connectDestroyed_grow (c : Conn) : Grow c (connectDestroyed c) :=
  connectDestroyed_frame grow_frame send_grow down_grow c

theorem runTask_grow (c : Conn) (t : Task) : Grow c (runTask c t) :=
  runTask_frame grow_frame send_grow c t handleClose_grow (fun d _ => sendInLoop_grow c d true)
    (fun _ => connectDestroyed_grow c)
    (fun _ _ => .same rfl rfl rfl rfl rfl rfl rfl) (fun _ _ _ => .same rfl rfl rfl rfl rfl rfl rfl)

theorem handleEvent_grow (c : Conn) (r : Nat) : Grow c (handleEvent c r) :=
  handleEvent_frame grow_frame send_grow handleClose_grow c r

theorem fireN_grow (n : Nat) (c : Conn) : Grow c (fireN c n) :=
  fireN_frame grow_frame send_grow n c

theorem fireTimers_mono (c : Conn) : Mono c (fireTimers c) :=
  Mono.trans (b := { c with timers := c.timers.filter (fun d => ¬ d ≤ c.now) })
    (.same rfl rfl rfl rfl rfl rfl) (fireN_grow _ _).mono

theorem dispatch_mono (c : Conn) (s : Src) : Mono c (dispatch c s) :=
  dispatch_inv c s (Mono.rfl' c) (fun r => (handleEvent_grow c r).mono) (fireTimers_mono c)

theorem foldl_dispatch_mono (l : List Src) (c : Conn) : Mono c (l.foldl dispatch c) :=
  foldl_inv l (fun c s _ h => h.trans (dispatch_mono c s)) c (Mono.rfl' c)

/-- what no iteration undoes: the clock does not move within it, a connection that is down stays down, an object that
is gone stays gone -/
structure Later (c c' : Conn) : Prop where
  now : c'.now = c.now
  down : c.st = .kDisconnected → c'.st = .kDisconnected
  gone : c.alive = false → c'.alive = false

theorem Later.mono {c c1 c2 : Conn} (h : Later c c1) (hm : Mono c1 c2) : Later c c2 :=
  ⟨hm.now.trans h.now, fun hd => hm.down (h.down hd), fun hg => hm.alive.trans (h.gone hg)⟩

theorem iter_later (c : Conn) (a : List Src) : Later c (iter c a) := by
  refine iter_inv (P := Later c) (fun c1 s h => h.mono (dispatch_mono c1 s))
    (fun _ h => ⟨h.now, h.down, h.gone⟩)
    (fun c1 t rest _ _ h =>
      Later.mono (c1 := { c1 with batch := rest }) ⟨h.now, h.down, h.gone⟩ (runTask_grow _ t).mono)
    ?_ c a ⟨rfl, id, id⟩
  intro c1 h
  obtain ⟨_, _, _, ha, e⟩ := maybeDestroy_eq c1
  rw [e]
  exact ⟨h.now, h.down,
    fun hg => Bool.eq_false_iff.mpr fun h' => by rw [h.gone hg] at ha; exact absurd (ha h') (by simp)⟩

/-- the functor phase runs every functor of the batch (the process is not aborted: `LifeInv`): a property
of the state and of what is left of the batch that each functor's run keeps holds at the end, with nothing left -/
theorem runBatch_runs {P : Conn → Prop}
    (hrun : ∀ c t rest, c.batch = t :: rest → LifeInv c → P c → P (runTask { c with batch := rest } t))
    (n : Nat) (c : Conn) (hn : c.batch.length ≤ n) (hl : LifeInv c) (hp : P c) :
    P (runBatch n c) ∧ (runBatch n c).batch = [] := by
  induction n generalizing c with
  | zero => exact ⟨hp, List.eq_nil_of_length_eq_zero (Nat.le_zero.mp hn)⟩
  | succ n ih =>
    unfold runBatch
    rw [if_neg (by simp [hl.notDead])]
    split
    · rename_i hb; exact ⟨hp, hb⟩
    · rename_i t rest hb
      apply ih _ _ (runTask_life c t rest hb hl) (hrun c t rest hb hl hp)
      rw [(runTask_grow _ t).mono.batch]; rw [hb] at hn; simpa using hn

theorem drainPending_runs {P : Conn → Prop}
    (hrun : ∀ c t rest, c.batch = t :: rest → LifeInv c → P c → P (runTask { c with batch := rest } t))
    (c : Conn) (hl : LifeInv c) (hp : P { c with pending := [], batch := c.batch ++ c.pending }) :
    P (drainPending c) ∧ (drainPending c).batch = [] :=
  runBatch_runs hrun _ _ (Nat.le_refl _) (swap_life c hl) hp

/-- what `~TcpConnection` does not change is, after an iteration, what the functor phase left -/
theorem iter_proj {α : Sort _} (π : Conn → α) (hπ : ∀ c a d s, π { c with alive := a, dead := d, trace := s } = π c)
    {c : Conn} (hd : c.dead = false) (a : List Src) : π (iter c a) = π (drainPending (a.foldl dispatch c)) := by
  unfold iter
  rw [if_neg (by simp [hd])]
  simp only; split
  · rfl
  · obtain ⟨_, _, _, _, e⟩ := maybeDestroy_eq (drainPending (a.foldl dispatch c))
    rw [e]; exact hπ _ _ _ _

/-! ### `Grow` of a conditional, and `kDisconnected` along a run without a hand-over; no proof uses them -/

theorem grow_if {p : Prop} [Decidable p] {c a b : Conn} (h1 : Grow c a) (h2 : Grow c b) :
    Grow c (if p then a else b) := by split <;> assumption

theorem down_absorbing (c : Conn) (i : Input) (hne : i.notEstablish) (h : c.st = .kDisconnected) :
    (step c i).st = .kDisconnected := by
  cases i with
  | establish => exact absurd hne (by simp [Input.notEstablish])
  | act f a =>
    simp only [step]; split
    · exact h
    · split <;> exact (act_grow _ _ _).mono.down h
  | iter a => exact (iter_later c a).down h
  | ownerDestroy =>
    simp only [step]; split
    · exact h
    · obtain ⟨_, _, _, _, e⟩ := maybeDestroy_eq { connectDestroyed c with owner := false }
      rw [e]; exact (connectDestroyed_grow c).mono.down h
  | _ => exact h

theorem run_down (ins : List Input) (c : Conn) (hne : ∀ i ∈ ins, i.notEstablish) (h : c.st = .kDisconnected) :
    (run c ins).st = .kDisconnected :=
  foldl_inv ins (fun c i hi => down_absorbing c i (hne i hi)) c h

end MuduoVerif.Conn
