import MuduoVerif.Model.Codec
import MuduoVerif.Proofs.Buffer
import MuduoVerif.Proofs.Stream
import MuduoVerif.Proofs.Fold
/-! Lemmas about the framing model.  An iteration of the loop either waits for more bytes, rejects the
length field (`step_bad_length`), or has a complete frame `frame body` at the head of the buffer, and what it does
with that frame is a function of `body` alone (`step_frame`, `verdict`); `step_spec` reads the same off the result.
Everything else about `step` - that it is `StepOk`, bounded consumption, the shape of the events, the round trip -
follows from these. -/
namespace MuduoVerif.Codec
open MuduoVerif.Stream MuduoVerif.Gen.Codec
open MuduoVerif.Buffer (encodeBE decodeBE toSigned toUnsigned intBytes intBytes_length
  int_roundtrip_bytes decode_encodeBE toUnsigned_toSigned intBytes_toSigned_decodeBE)

theorem slice_append_left (buf x : Bytes) (off len : Int) (h : off.toNat + len.toNat ≤ buf.length) :
    slice (buf ++ x) off len = slice buf off len := by
  unfold slice
  rw [List.drop_append_of_le_length (by omega), List.take_append_of_le_length (by simp; omega)]

theorem asInt32_append (buf x : Bytes) (off : Int) (h : off.toNat + 4 ≤ buf.length) :
    asInt32 (buf ++ x) off = asInt32 buf off := by
  unfold asInt32
  rw [slice_append_left _ _ _ _ (by simpa using h)]

theorem slice_head (a b : Bytes) (len : Int) (hl : len = a.length) : slice (a ++ b) 0 len = a := by
  subst hl; simp [slice]

theorem slice_mid (a b c : Bytes) (off len : Int) (ho : off = a.length) (hl : len = b.length) :
    slice (a ++ (b ++ c)) off len = b := by
  subst ho hl; simp [slice]

theorem adlerStep_lt (s : Nat × Nat) (b : UInt8) :
    (adlerStep s b).1 < 65536 ∧ (adlerStep s b).2 < 65536 := by
  simp only [adlerStep, adlerMod]
  constructor <;> omega

theorem adler_fold_lt (bs : Bytes) (s : Nat × Nat) (h : s.1 < 65536 ∧ s.2 < 65536) :
    (bs.foldl adlerStep s).1 < 65536 ∧ (bs.foldl adlerStep s).2 < 65536 :=
  foldl_inv (P := fun s => s.1 < 65536 ∧ s.2 < 65536) bs (fun s b _ _ => adlerStep_lt s b) s h

theorem adler32_lt (init : Nat) (h : init < 2 ^ 32) (bs : Bytes) : adler32 init bs < 2 ^ 32 := by
  unfold adler32
  have := adler_fold_lt bs (init % 65536, init / 65536) ⟨by omega, by simp only; omega⟩
  simp only
  omega

/-- the four bytes written by `appendInt32(static_cast<int32_t>(u))` read back as the same int32 -/
theorem asInt32_intBytes_signed (u : Nat) (h : u < 2 ^ 32) (pre post : Bytes) :
    asInt32 (pre ++ (intBytes 4 (toSigned 32 u) ++ post)) (pre.length : Int) = toSigned 32 u := by
  rw [asInt32, slice_mid _ _ _ _ _ rfl (by rw [intBytes_length]; rfl), intBytes, toUnsigned_toSigned 32 u h,
    decode_encodeBE 4 u (by omega)]

theorem asInt32_intBytes_nat (n : Nat) (h : n < 2 ^ 31) (post : Bytes) :
    asInt32 (intBytes 4 (n : Int) ++ post) 0 = (n : Int) := by
  rw [asInt32, slice_head _ _ _ (by rw [intBytes_length]; rfl)]
  exact int_roundtrip_bytes 4 (by omega) (n : Int) (by omega) (by omega)

theorem intBytes_asInt32 (buf : Bytes) (h : 4 ≤ buf.length) : intBytes 4 (asInt32 buf 0) = buf.take 4 := by
  have hl : (buf.take 4).length = 4 := by rw [List.length_take]; omega
  have := intBytes_toSigned_decodeBE (buf.take 4)
  rwa [hl] at this

-- from here on `4` is `kHeaderLen` = `kChecksumLen` and `c.tag.length + 8` is `minLen c + kHeaderLen`, unfolded: a change of
-- either constant in the source breaks, by arithmetic, these three lemmas and every later one that unfolds it
theorem headerAvailable_iff (n : Nat) (c : Cfg) :
    headerAvailable n (minLen c) ↔ c.tag.length + 8 ≤ n := by
  unfold headerAvailable minLen kMinMessageLen kChecksumLen kHeaderLen; omega

theorem lenOutOfRange_iff (len : Int) (c : Cfg) :
    lenOutOfRange len (minLen c) ↔
      (len > (kMaxMessageLen : Int) ∨ len < (c.tag.length : Int) + kChecksumLen) := by
  unfold lenOutOfRange minLen kMinMessageLen kChecksumLen; omega

theorem frameAvailable_iff (n : Nat) (len : Int) : frameAvailable n len ↔ 4 + len ≤ (n : Int) := by
  unfold frameAvailable kHeaderLen; omega

/-- a length field announcing `body`, then `body` -/
def frame (body : Bytes) : Bytes := intBytes 4 (body.length : Int) ++ body

/-- the signed big-endian value in the last four bytes of the frame body -/
def storedChecksum (body : Bytes) : Int := toSigned 32 (decodeBE (body.drop (body.length - 4)))
/-- `(int32_t) adler32(1, ...)` of everything before them -/
def computedChecksum (body : Bytes) : Int := checksum32 1 (body.take (body.length - 4))

theorem frame_length (body : Bytes) : (frame body).length = 4 + body.length := by
  rw [frame, List.length_append, intBytes_length]

theorem asInt32_frame (body rest : Bytes) (h : body.length < 2 ^ 31) :
    asInt32 (frame body ++ rest) 0 = (body.length : Int) := by
  rw [frame, List.append_assoc]; exact asInt32_intBytes_nat _ h _

theorem validateChecksum_iff (body : Bytes) (h4 : 4 ≤ body.length) :
    validateChecksum body = true ↔ storedChecksum body = computedChecksum body := by
  unfold validateChecksum storedChecksum computedChecksum asInt32 slice checksumFrom checksumLen checksumAt
    kChecksumLen adlerInit
  have e1 : (((body.length : Int) - ((4 : Nat) : Int))).toNat = body.length - 4 := by omega
  have e2 : ((0 : Int) + (body.length : Int) - ((4 : Nat) : Int)).toNat = body.length - 4 := by omega
  have e3 : ((4 : Int)).toNat = 4 := rfl
  have e0 : ((0 : Int)).toNat = 0 := rfl
  have : (body.drop (body.length - 4)).take 4 = body.drop (body.length - 4) :=
    List.take_of_length_le (by simp only [List.length_drop]; omega)
  rw [e1, e2, e3, e0, List.drop_zero, this, beq_iff_eq, eq_comm]

theorem tagMatches_iff (c : Cfg) (body : Bytes) :
    tagMatches c body = true ↔ body.take c.tag.length = c.tag := by
  unfold tagMatches slice tagAt tagCmpLen
  simp

theorem payloadOf_eq (c : Cfg) (body : Bytes) :
    payloadOf c body = (body.drop c.tag.length).take (body.length - 4 - c.tag.length) := by
  unfold payloadOf slice payloadAt payloadLen kChecksumLen
  have e1 : ((0 : Int) + (c.tag.length : Int)).toNat = c.tag.length := by omega
  have e2 : ((body.length : Int) - ((4 : Nat) : Int) - (c.tag.length : Int)).toNat
      = body.length - 4 - c.tag.length := by omega
  rw [e1, e2]

theorem parse_eq (c : Cfg) (body : Bytes) (hmin : c.tag.length + kChecksumLen ≤ body.length) :
    parse c body =
      if storedChecksum body = computedChecksum body then
        if body.take c.tag.length = c.tag then
          if c.parsePayload ((body.drop c.tag.length).take (body.length - 4 - c.tag.length)) then .kNoError
          else .kParseError
        else .kUnknownMessageType
      else .kCheckSumError := by
  have h4 : 4 ≤ body.length := by unfold kChecksumLen at hmin; omega
  simp only [parse, parseDecision, payloadOf_eq, validateChecksum_iff body h4, tagMatches_iff]

/-- what an iteration makes of a complete frame with body `body` at the head of the buffer -/
def verdict (c : Cfg) (body : Bytes) : Out Unit Event :=
  if c.rawSkip (frame body) then .adv () [] (4 + body.length)
  else if parse c body = .kNoError then .adv () [.msg (payloadOf c body)] (4 + body.length)
  else .fail (.err (parse c body))

theorem step_short (c : Cfg) (buf : Bytes) (h : buf.length < c.tag.length + 8) : step c () buf = .need := by
  rw [step, if_neg (mt (headerAvailable_iff _ _).1 (by omega))]

theorem step_bad_length (c : Cfg) (stream : Bytes) (h : c.tag.length + 8 ≤ stream.length)
    (hr : asInt32 stream 0 > (kMaxMessageLen : Int) ∨ asInt32 stream 0 < (c.tag.length : Int) + kChecksumLen) :
    step c () stream = .fail (.err .kInvalidLength) := by
  rw [step, if_pos ((headerAvailable_iff _ _).2 h), if_pos ((lenOutOfRange_iff _ _).2 hr)]; rfl

theorem step_frame (c : Cfg) (body rest : Bytes)
    (hmin : c.tag.length + kChecksumLen ≤ body.length) (hmax : body.length ≤ kMaxMessageLen) :
    step c () (frame body ++ rest) = verdict c body := by
  have hl : (frame body ++ rest).length = 4 + body.length + rest.length := by
    rw [List.length_append, frame_length]
  have hk : (consumedBytes (body.length : Int)).toNat = 4 + body.length := by
    unfold consumedBytes kHeaderLen; omega
  have ht : (frame body ++ rest).take (4 + body.length) = frame body := by
    rw [← frame_length]; exact List.take_left' rfl
  have hs : slice (frame body ++ rest) frameOffset (frameLen (body.length : Int)) = body := by
    rw [frame, List.append_assoc]
    exact slice_mid _ _ _ _ _ (by rw [intBytes_length]; rfl) rfl
  unfold kChecksumLen at hmin
  unfold kMaxMessageLen at hmax
  rw [step, asInt32_frame body rest (by omega), if_pos ((headerAvailable_iff _ _).2 (by omega)),
    if_neg (mt (lenOutOfRange_iff _ _).1 (by unfold kMaxMessageLen kChecksumLen; omega)),
    if_pos ((frameAvailable_iff _ _).2 (by omega)), hk, ht, hs, verdict]
  cases parse c body <;> rfl

theorem step_spec (c : Cfg) (buf : Bytes) :
    match step c () buf with
    | .need => True
    | .fail e => (∃ code, code ≠ .kNoError ∧ e = .err code) ∧ ∀ x, step c () (buf ++ x) = .fail e
    | .adv _ evs k => ∃ body rest, buf = frame body ++ rest ∧ c.tag.length + kChecksumLen ≤ body.length ∧
        body.length ≤ kMaxMessageLen ∧ k = 4 + body.length ∧ (evs = [] ∨ ∃ p, evs = [.msg p]) ∧
        ∀ x, step c () (frame body ++ x) = .adv () evs k := by
  by_cases h1 : c.tag.length + 8 ≤ buf.length
  · by_cases h2 : asInt32 buf 0 > (kMaxMessageLen : Int) ∨ asInt32 buf 0 < (c.tag.length : Int) + kChecksumLen
    · rw [step_bad_length c buf h1 h2]
      exact ⟨⟨_, by decide, rfl⟩, fun x => step_bad_length c _ (by rw [List.length_append]; omega)
        (by rwa [asInt32_append buf x 0 (by simp only [Int.toNat_zero]; omega)])⟩
    · by_cases h3 : 4 + asInt32 buf 0 ≤ (buf.length : Int)
      · -- the buffer is `frame body ++ rest` for the `body` its length field announces
        obtain ⟨body, rest, rfl, hmin, hmax⟩ : ∃ body rest, buf = frame body ++ rest ∧
            c.tag.length + kChecksumLen ≤ body.length ∧ body.length ≤ kMaxMessageLen := by
          refine ⟨(buf.drop 4).take (asInt32 buf 0).toNat, buf.drop (4 + (asInt32 buf 0).toNat), ?_⟩
          unfold kMaxMessageLen kChecksumLen at h2 ⊢
          have hb : ((buf.drop 4).take (asInt32 buf 0).toNat).length = (asInt32 buf 0).toNat := by
            rw [List.length_take, List.length_drop]; omega
          refine ⟨?_, by omega, by omega⟩
          rw [frame, hb, Int.toNat_of_nonneg (by omega), intBytes_asInt32 buf (by omega), List.append_assoc,
            ← List.drop_drop, List.take_append_drop, List.take_append_drop]
        have hv := fun x => step_frame c body x hmin hmax
        by_cases hr : c.rawSkip (frame body) = true
        · rw [hv rest, verdict, if_pos hr]
          exact ⟨body, rest, rfl, hmin, hmax, rfl, .inl rfl, fun x => by rw [hv, verdict, if_pos hr]⟩
        · by_cases hp : parse c body = .kNoError
          · rw [hv rest, verdict, if_neg hr, if_pos hp]
            exact ⟨body, rest, rfl, hmin, hmax, rfl, .inr ⟨_, rfl⟩, fun x => by rw [hv, verdict, if_neg hr, if_pos hp]⟩
          · rw [hv rest, verdict, if_neg hr, if_neg hp]
            exact ⟨⟨_, hp, rfl⟩, fun x => by rw [List.append_assoc, hv, verdict, if_neg hr, if_neg hp]⟩
      · rw [step, if_pos ((headerAvailable_iff _ _).2 h1), if_neg (mt (lenOutOfRange_iff _ _).1 h2),
          if_neg (mt (frameAvailable_iff _ _).1 h3)]
        trivial
  · rw [step_short c buf (by omega)]; trivial

theorem stepOk (c : Cfg) : StepOk (fun _ : Unit => True) (step c) where
  adv_ok := by
    intro s buf s' evs k _ h
    obtain ⟨body, rest, rfl, _, _, rfl, _⟩ := (h ▸ step_spec c buf :)
    exact ⟨by omega, by rw [List.length_append, frame_length]; omega, trivial⟩
  append := by
    intro s buf x _ h
    have := step_spec c buf
    revert this h
    cases step c () buf with
    | need => exact fun h => absurd rfl h
    | fail e => exact fun _ h => h.2 x
    | adv _ evs k =>
      rintro _ ⟨body, rest, rfl, _, _, _, _, h⟩
      rw [List.append_assoc, h]


theorem init_settled (c : Cfg) : Settled (fun _ : Unit => True) (step c) Codec.init :=
  ⟨trivial, Or.inr (step_short c [] (by simp only [List.length_nil]; omega))⟩

theorem decode_eq (c : Cfg) (s : Bytes) :
    decode c s = ({ s := (), buf := (onMessage c s).rest, dead := (onMessage c s).dead }, (onMessage c s).evs) := by
  simp [decode, feed, Stream.feed, Codec.init, onMessage]

theorem decode_fail (c : Cfg) (s : Bytes) (e : Event) (h : step c () s = .fail e) :
    decode c s = ({ s := (), buf := s, dead := true }, [e]) := by
  rw [decode_eq, onMessage, drain_unfold (stepOk c) () s trivial, h]

theorem decode_short (c : Cfg) (s : Bytes) (h : s.length < c.tag.length + 8) :
    decode c s = ({ s := (), buf := s, dead := false }, []) := by
  rw [decode_eq, onMessage, drain_unfold (stepOk c) () s trivial, step_short c s h]

theorem decode_frame_err (c : Cfg) (body rest : Bytes)
    (hmin : c.tag.length + kChecksumLen ≤ body.length) (hmax : body.length ≤ kMaxMessageLen)
    (hraw : c.rawSkip (frame body) = false) {e : ErrorCode} (hp : parse c body = e) (he : e ≠ .kNoError) :
    decode c (frame body ++ rest) = ({ s := (), buf := frame body ++ rest, dead := true }, [.err e]) := by
  refine decode_fail c _ _ ?_
  rw [step_frame c body rest hmin hmax, verdict, if_neg (by rw [hraw]; exact Bool.false_ne_true), hp, if_neg he]

theorem decode_shape (c : Cfg) (s : Bytes) :
    ∃ ps : List Bytes,
      ((decode c s).1.dead = false ∧ (decode c s).2 = ps.map .msg) ∨
      ((decode c s).1.dead = true ∧ ∃ e, e ≠ .kNoError ∧ (decode c s).2 = ps.map .msg ++ [.err e]) := by
  rw [decode_eq]
  refine drain_induction (stepOk c) (P := fun _ _ r => ∃ ps : List Bytes, (r.dead = false ∧ r.evs = ps.map .msg) ∨
    (r.dead = true ∧ ∃ e, e ≠ .kNoError ∧ r.evs = ps.map .msg ++ [.err e]))
    (fun _ _ => ⟨[], .inl ⟨rfl, rfl⟩⟩) ?_ ?_ () s trivial
  · intro _ buf e _ hs
    obtain ⟨⟨code, hc, rfl⟩, _⟩ := (hs ▸ step_spec c buf :)
    exact ⟨[], .inr ⟨rfl, code, hc, rfl⟩⟩
  · rintro _ buf _ evs k _ hs _ _ ⟨ps, ih⟩
    obtain ⟨_, _, _, _, _, _, rfl | ⟨p, rfl⟩, _⟩ := (hs ▸ step_spec c buf :)
    · exact ⟨ps, ih⟩
    · exact ⟨p :: ps, ih.imp (fun h => ⟨h.1, by simp [h.2]⟩) (fun ⟨h1, e, he, h2⟩ => ⟨h1, e, he, by simp [h2]⟩)⟩

/-- everything behind the length field -/
def bodyOf (c : Cfg) (p : Bytes) : Bytes :=
  c.tag ++ p ++ intBytes 4 (checksum32 adlerInit (c.tag ++ p))

theorem encode_eq (c : Cfg) (p : Bytes) : encode c p = frame (bodyOf c p) := rfl

theorem bodyOf_length (c : Cfg) (p : Bytes) : (bodyOf c p).length = c.tag.length + p.length + 4 := by
  simp only [bodyOf, List.length_append, intBytes_length]

theorem encode_length (c : Cfg) (p : Bytes) : (encode c p).length = 4 + (c.tag.length + p.length + 4) := by
  rw [encode_eq, frame_length, bodyOf_length]

theorem adlerInit_lt : adlerInit < 2 ^ 32 := by decide

theorem payloadOf_body (c : Cfg) (p : Bytes) : payloadOf c (bodyOf c p) = p := by
  rw [bodyOf, payloadOf, List.append_assoc]
  exact slice_mid _ _ _ _ _ (by unfold payloadAt; omega)
    (by rw [List.length_append, List.length_append, intBytes_length]; unfold payloadLen kChecksumLen; omega)

/-- stated for any bytes because the example codec sums its own range with the same function (`Ex.validate_body`) -/
theorem validate_sum (s : Bytes) : validateChecksum (s ++ intBytes 4 (checksum32 adlerInit s)) = true := by
  have hL : (s ++ intBytes 4 (checksum32 adlerInit s)).length = s.length + 4 := by
    rw [List.length_append, intBytes_length]
  have h1 : slice (s ++ intBytes 4 (checksum32 adlerInit s)) checksumFrom (checksumLen (s.length + 4 : Nat)) = s :=
    slice_head _ _ _ (by unfold checksumLen kChecksumLen; omega)
  have h2 : asInt32 (s ++ intBytes 4 (checksum32 adlerInit s)) (checksumAt (s.length + 4 : Nat)) = checksum32 adlerInit s := by
    rw [show checksumAt (s.length + 4 : Nat) = (s.length : Int) by unfold checksumAt kChecksumLen; omega,
      ← List.append_nil (intBytes 4 _)]
    exact asInt32_intBytes_signed _ (adler32_lt _ adlerInit_lt _) _ _
  rw [validateChecksum, hL, h1, h2, beq_self_eq_true]

theorem parse_body (c : Cfg) (p : Bytes) : parse c (bodyOf c p) = if c.parsePayload p then .kNoError else .kParseError := by
  have htag : tagMatches c (bodyOf c p) = true := by
    rw [tagMatches_iff, bodyOf, List.append_assoc]; exact List.take_left' rfl
  rw [parse, payloadOf_body, htag, bodyOf, validate_sum]
  rfl

theorem step_encode (c : Cfg) (p rest : Bytes)
    (hmax : c.tag.length + p.length + kChecksumLen ≤ kMaxMessageLen)
    (hp : c.parsePayload p = true) (hraw : c.rawSkip (encode c p) = false) :
    step c () (encode c p ++ rest) = .adv () [.msg p] (encode c p).length := by
  have hL := bodyOf_length c p
  have hpb : parse c (bodyOf c p) = .kNoError := by rw [parse_body, if_pos hp]
  unfold kChecksumLen at hmax
  rw [encode_length, encode_eq, step_frame c _ rest (by unfold kChecksumLen; omega) (by omega), verdict,
    if_neg (by rw [← encode_eq, hraw]; exact Bool.false_ne_true), if_pos hpb, payloadOf_body, hL]

/-- F12: `fillEmptyBuffer` has no size check, so a message whose frame body exceeds
`kMaxMessageLen` (and still fits an int32) is encoded - and the decoder's range test
rejects the result -/
theorem step_encode_oversize (c : Cfg) (p rest : Bytes)
    (hbig : kMaxMessageLen < c.tag.length + p.length + kChecksumLen)
    (h31 : c.tag.length + p.length + kChecksumLen < 2 ^ 31) :
    step c () (encode c p ++ rest) = .fail (.err .kInvalidLength) := by
  have hL := bodyOf_length c p
  unfold kChecksumLen at hbig h31
  refine step_bad_length c _ (by rw [List.length_append, encode_length]; omega) (.inl ?_)
  rw [encode_eq, asInt32_frame _ _ (by omega)]
  omega

theorem decode_encode_append (c : Cfg) (p rest : Bytes)
    (hmax : c.tag.length + p.length + kChecksumLen ≤ kMaxMessageLen)
    (hp : c.parsePayload p = true) (hraw : c.rawSkip (encode c p) = false) :
    decode c (encode c p ++ rest) = ((decode c rest).1, .msg p :: (decode c rest).2) := by
  rw [decode_eq, decode_eq, onMessage, drain_unfold (stepOk c) () _ trivial, step_encode c p rest hmax hp hraw]
  simp [onMessage]

theorem decode_stream (c : Cfg) (ps : List Bytes) (tail : Bytes)
    (hmax : ∀ p ∈ ps, c.tag.length + p.length + kChecksumLen ≤ kMaxMessageLen)
    (hp : ∀ p ∈ ps, c.parsePayload p = true) (hraw : ∀ p ∈ ps, c.rawSkip (encode c p) = false)
    (htail : tail.length < c.tag.length + 8) :
    decode c ((ps.map (encode c)).flatten ++ tail) = ({ s := (), buf := tail, dead := false }, ps.map .msg) := by
  induction ps with
  | nil => simpa using decode_short c tail htail
  | cons p ps ih =>
    simp only [List.map_cons, List.flatten_cons, List.append_assoc]
    rw [decode_encode_append c p _ (hmax p (by simp)) (hp p (by simp)) (hraw p (by simp)),
      ih (fun q hq => hmax q (by simp [hq])) (fun q hq => hp q (by simp [hq]))
        (fun q hq => hraw q (by simp [hq]))]

end MuduoVerif.Codec
