import MuduoVerif.Proofs.PollerOps
/-!
# EPollPoller: the slot-state invariant (`kNew/kAdded/kDeleted` against `channels_` and the kernel's
interest list) and its preservation by every operation — no `epoll_ctl` ever fails; then the poll phase on a
well-behaved kernel (`epEnvOk`) and the refinement
-/
namespace MuduoVerif.Poller
open MuduoVerif.Gen.Poller

/-- what the invariant says about one channel: its object, its `channels_` slot, its kernel entry -/
def EpLocal (ch : Chan) (cm : Option Nat) (kn : Option Nat) (c : Nat) : Prop :=
  if ch.added = true then
    cm = some c ∧
      ((ch.index = kAdded ∧ kn = some ch.events ∧ ch.events ≠ 0) ∨
       (ch.index = kDeleted ∧ ch.events = 0 ∧ kn = none))
  else ch.index = kNew ∧ ch.events = 0 ∧ cm = none ∧ kn = none

structure EpStruct (s : State) : Prop where
  loc : ∀ c, EpLocal (s.chans c) (s.cmap (fdOf c)) (s.kernel (fdOf c)) c
  other : ∀ fd, (∀ c, fd ≠ fdOf c) → s.cmap fd = none ∧ s.kernel fd = none

/-- the back-end call went through: invariant kept, nobody died, only successful `epoll_ctl`s logged -/
structure EpOk (s t : State) : Prop where
  struct : EpStruct t
  dead : t.dead = s.dead
  out : ∃ l, t.out = s.out ++ l ∧ ∀ e ∈ l, e.isCtlOk = true

/-- the post-state of a back-end call on channel `c`, pointwise: `t` is `s` with `c`'s object, map slot and kernel
entry replaced, nobody died, only successful `epoll_ctl`s logged.  What the two `_spec` lemmas compute; `SetAt.ok`
makes it an `EpOk` once the new object, slot and entry satisfy `EpLocal` -/
def SetAt (s : State) (c : Nat) (ch : Chan) (cm kn : Option Nat) (t : State) : Prop :=
  (∀ x, t.chans x = if x = c then ch else s.chans x) ∧
  (∀ fd, t.cmap fd = if fd = fdOf c then cm else s.cmap fd) ∧
  (∀ fd, t.kernel fd = if fd = fdOf c then kn else s.kernel fd) ∧
  t.dead = s.dead ∧ ∃ l, t.out = s.out ++ l ∧ ∀ e ∈ l, e.isCtlOk = true

/-- the channel's object may have been written (`setChan`) before the back-end call -/
theorem SetAt.ok {s t : State} {c : Nat} {ch₀ ch : Chan} {cm kn : Option Nat} (h : EpStruct s)
    (H : SetAt (setChan s c ch₀) c ch cm kn t) (hc : EpLocal ch cm kn c) : EpOk s t := by
  obtain ⟨hch, hcm, hkn, hd, ho⟩ := H
  refine ⟨⟨fun x => ?_, fun fd hfd => ?_⟩, hd, ho⟩
  · rw [hch, hcm, hkn]
    by_cases hx : x = c
    · rw [if_pos hx, if_pos (congrArg fdOf hx), if_pos (congrArg fdOf hx), hx]; exact hc
    · have hfd : fdOf x ≠ fdOf c := mt fdOf_eq_iff.1 hx
      rw [if_neg hx, if_neg hfd, if_neg hfd, show (setChan s c ch₀).chans x = s.chans x from if_neg hx]
      exact h.loc x
  · rw [hcm, hkn, if_neg (hfd c), if_neg (hfd c)]; exact h.other fd hfd

theorem epollUpdate_spec {s : State} {c : Nat} {ch : Chan} {ev rev : Nat} {a : Bool}
    (hl : EpLocal ch (s.cmap (fdOf c)) (s.kernel (fdOf c)) c) (hs : s.chans c = ⟨ev, rev, ch.index, a⟩) :
    SetAt s c ⟨ev, rev, if ev = 0 then kDeleted else kAdded, a⟩ (some c) (if ev = 0 then none else some ev)
      (epollUpdate s c) := by
  -- the three slot states (added / deleted / new), each with and without interest: six runs through the generated guards
  unfold EpLocal at hl
  split at hl
  · obtain ⟨hcm, ⟨hi, hkn, -⟩ | ⟨hi, -, hkn⟩⟩ := hl
    · by_cases he : ev = 0
      · simp [SetAt, epollUpdate, ctl, emit, setIndex, hs, hi, hcm, hkn, he, epAddBranch, kAdded, kNew,
          kDeleted, isNoneEvent, kNoneEvent, ctlADD, ctlDEL, epExistingDeletes, epCtlNoInterest,
          epIndexAfterDel]
      · simp [SetAt, epollUpdate, ctl, emit, hs, hi, hcm, hkn, he, epAddBranch, kAdded, kNew, kDeleted,
          isNoneEvent, kNoneEvent, ctlADD, ctlDEL, epExistingDeletes, epCtlModify]
    · by_cases he : ev = 0
      · simp [SetAt, epollUpdate, hs, hi, hcm, hkn, he, epAddBranch, epIsNew, kNew, kDeleted, isNoneEvent,
          kNoneEvent, epDeletedSkips]
      · simp [SetAt, epollUpdate, ctl, emit, setIndex, hs, hi, hcm, hkn, he, epAddBranch, epIsNew, kAdded,
          kNew, kDeleted, isNoneEvent, kNoneEvent, ctlADD, epDeletedSkips, epCtlAdd, epIndexAfterAdd]
  · obtain ⟨hi, -, hcm, hkn⟩ := hl
    by_cases he : ev = 0
    · simp [SetAt, epollUpdate, setIndex, setCmap, hs, hi, hcm, hkn, he, epAddBranch, epIsNew, kNew,
        kDeleted, isNoneEvent, kNoneEvent, epNewSkips, epIndexAfterNewSkip]
    · simp [SetAt, epollUpdate, ctl, emit, setIndex, setCmap, hs, hi, hcm, hkn, he, epAddBranch, epIsNew,
        kAdded, kNew, kDeleted, isNoneEvent, kNoneEvent, ctlADD, epNewSkips, epCtlAdd, epIndexAfterAdd]

theorem epollRemove_spec {s : State} {c : Nat} {ch : Chan} {rev : Nat} {a : Bool}
    (hl : EpLocal ch (s.cmap (fdOf c)) (s.kernel (fdOf c)) c) (ha : ch.added = true)
    (hs : s.chans c = ⟨0, rev, ch.index, a⟩) : SetAt s c ⟨0, rev, kNew, a⟩ none none (epollRemove s c) := by
  unfold EpLocal at hl
  rw [if_pos ha] at hl
  obtain ⟨hcm, ⟨hi, hkn, -⟩ | ⟨hi, -, hkn⟩⟩ := hl
  · simp [SetAt, epollRemove, ctl, emit, setIndex, setCmap, hs, hi, hcm, hkn, kAdded, kDeleted,
      isNoneEvent, kNoneEvent, ctlADD, ctlDEL, epRemoveDels, epCtlRemove, epIndexAfterRemove]
  · simp [SetAt, epollRemove, setIndex, setCmap, hs, hi, hcm, hkn, kAdded, kDeleted, isNoneEvent,
      kNoneEvent, epRemoveDels, epIndexAfterRemove]

theorem epollUpdate_went {s : State} (h : EpStruct s) (c : Nat) (k : OpKind) :
    EpOk s (epollUpdate (setInterest s c k) c) := by
  refine (epollUpdate_spec (s := setInterest s c k) (h.loc c) (if_pos rfl)).ok h ?_
  by_cases he : newEvents k (s.chans c).events = 0 <;> simp [EpLocal, he]

theorem epollRemove_went {s : State} (h : EpStruct s) (c : Nat) (ha : (s.chans c).added = true)
    (he : (s.chans c).events = 0) :
    EpOk s (epollRemove (setChan s c { s.chans c with added := false }) c) :=
  (epollRemove_spec (s := setChan s c _) (rev := (s.chans c).revents) (a := false) (h.loc c) ha
    ((if_pos rfl).trans (by simp [he]))).ok h (by simp [EpLocal])

theorem epStruct_recreate {s : State} (h : EpStruct s) (c : Nat) (ha : (s.chans c).added = false) :
    EpStruct (setChan s c {}) := by
  have hl := h.loc c
  unfold EpLocal at hl
  rw [if_neg (by simp [ha])] at hl
  refine (SetAt.ok (c := c) (ch₀ := {}) (ch := {}) (cm := none) (kn := none) h ?_ (by simp [EpLocal,
      kNew])).struct
  simp [SetAt, setChan, hl]

theorem epStruct_empty : EpStruct (empty .epoll) :=
  ⟨fun c => by simp [EpLocal, empty, kNew], fun fd _ => ⟨rfl, rfl⟩⟩

theorem EpStruct.congr {s t : State} (h : EpStruct s) (hc : t.cmap = s.cmap) (hk : t.kernel = s.kernel)
    (he : ∀ c, (t.chans c).events = (s.chans c).events) (hi : ∀ c, (t.chans c).index = (s.chans c).index)
    (ha : ∀ c, (t.chans c).added = (s.chans c).added) : EpStruct t := by
  refine ⟨?_, ?_⟩
  · intro c
    have := h.loc c
    unfold EpLocal at this ⊢
    rw [he, hi, ha, hc, hk]; exact this
  · intro fd hfd; rw [hc, hk]; exact h.other fd hfd

theorem EpStruct.frame {s t : State} (f : Frame s t) (h : EpStruct s) : EpStruct t :=
  h.congr f.cmap f.kernel f.ev f.idx f.added

def EpGood (s : State) : Prop := s.be = .epoll ∧ EpStruct s

/-- an epoll loop that is alive and whose invariant holds (`Alive .epoll` of `PollerTrace.lean`) -/
def EpAlive (s : State) : Prop := EpGood s ∧ s.dead = false

/-- the environment assumption of an epoll loop: `epoll_wait` returns as many events as it says, at
most as many as the array holds, and only for descriptors in the interest list -/
def epEnvOk (s : State) : In → Prop
  | .iter ready nret =>
    s.be = .epoll → nret = ready.length ∧ ready.length ≤ s.evsize ∧ ∀ p ∈ ready, (s.kernel (fdOf p.1)).isSome
  | _ => True
instance : Decidable (epEnvOk s i) := by cases i <;> unfold epEnvOk <;> infer_instance

theorem EpStruct.kernel_cmap {s : State} (h : EpStruct s) {c : Nat} (hk : (s.kernel (fdOf c)).isSome) :
    s.cmap (fdOf c) = some c := by
  have hl := h.loc c
  unfold EpLocal at hl
  by_cases ha : (s.chans c).added = true
  · rw [if_pos ha] at hl; exact hl.1
  · rw [if_neg ha] at hl; rw [hl.2.2.2] at hk; exact nomatch hk

theorem lookupRev_cons (c0 r0 : Nat) (rest : List (Nat × Nat)) (c : Nat) :
    lookupRev ((c0, r0) :: rest) c = if c0 = c then r0 else lookupRev rest c := by
  unfold lookupRev
  rw [List.find?_cons]
  by_cases h : c0 = c <;> simp [h]

theorem lookupRev_mem {ready : List (Nat × Nat)} (hnd : (ready.map (·.1)).Nodup) {c rev : Nat}
    (h : (c, rev) ∈ ready) : lookupRev ready c = rev := by
  induction ready with
  | nil => simp at h
  | cons p rest ih =>
    obtain ⟨c0, r0⟩ := p
    simp only [List.map_cons, List.nodup_cons] at hnd
    rw [lookupRev_cons]
    rcases List.mem_cons.1 h with e | e
    · injection e with e1 e2; subst e1; subst e2; simp
    · have hne : c0 ≠ c := fun e' => hnd.1 (e' ▸ List.mem_map.2 ⟨(c, rev), e, rfl⟩)
      rw [if_neg hne]; exact ih hnd.2 e

theorem epollFill_spec (ready : List (Nat × Nat)) :
    ∀ (s : State) (acc : List Nat), (∀ p ∈ ready, s.cmap (fdOf p.1) = some p.1) →
      (epollFill s ready acc).1.dead = s.dead ∧ (epollFill s ready acc).2 = acc.reverse ++ ready.map (·.1) ∧
      ((ready.map (·.1)).Nodup → ∀ c, ((epollFill s ready acc).1.chans c).revents =
        if c ∈ ready.map (·.1) then lookupRev ready c else (s.chans c).revents) := by
  induction ready with
  | nil => intro s acc _; simp [epollFill]
  | cons p rest ih =>
    intro s acc h
    obtain ⟨c0, r0⟩ := p
    obtain ⟨hc, h⟩ := List.forall_mem_cons.1 h
    obtain ⟨h0, h1, h2⟩ := ih (setChan s c0 { s.chans c0 with revents := r0 }) (c0 :: acc) h
    simp only [epollFill, hc, ne_eq, not_true_eq_false, if_false]
    refine ⟨h0, by rw [h1]; simp, fun hnd c => ?_⟩
    obtain ⟨hn, hnd⟩ := List.nodup_cons.1 hnd
    rw [h2 hnd c, lookupRev_cons]
    by_cases hcc : c0 = c
    · subst hcc; simp [hn, setChan]
    · have hcc' : ¬ c = c0 := Ne.symm hcc
      simp only [List.map_cons, List.mem_cons, hcc, hcc', false_or, if_false, setChan]

/-- `EPollPoller::poll` when the kernel behaves: no assertion fails, the reported channels are active in order, and if
each is reported once they hold the reported bits -/
theorem pollerPoll_epoll {s : State} (hbe : s.be = .epoll) (hs : EpStruct s) (ready nret)
    (henv : epEnvOk s (.iter ready nret)) :
    (pollerPoll s ready nret).1.dead = s.dead ∧ (pollerPoll s ready nret).2 = ready.map (·.1) ∧
    ((ready.map (·.1)).Nodup → ∀ c, ((pollerPoll s ready nret).1.chans c).revents =
      if c ∈ ready.map (·.1) then lookupRev ready c else (s.chans c).revents) := by
  obtain ⟨h1, h2, h3⟩ := henv hbe
  have hf := epollFill_spec ready (emit s (.wait s.evsize kPollTimeMs)) [] fun p hp => hs.kernel_cmap (h3 p hp)
  unfold pollerPoll
  rw [hbe]
  by_cases hz : epHasEvents (nret : Int)
  · have hn : ¬ (ready.length > (emit s (.wait s.evsize kPollTimeMs)).evsize ∨ nret ≠ ready.length) := by
      simp only [emit]; omega
    rw [if_pos hz, if_neg hn]
    generalize epollFill (emit s (.wait s.evsize kPollTimeMs)) ready [] = r at hf
    obtain ⟨s1, act⟩ := r
    by_cases hg : epArrayFull nret s1.evsize
    · simp only [if_pos hg]; exact hf
    · simp only [if_neg hg]; exact hf
  · obtain rfl := List.eq_nil_of_length_eq_zero (by unfold epHasEvents at hz; omega : ready.length = 0)
    rw [if_neg hz]
    exact hf

theorem epStruct_refines {s : State} (hbe : s.be = .epoll) (h : EpStruct s)
    (fd : Int) (mask : Nat) : watched s fd mask ↔ specWatched s fd mask := by
  simp only [watched, hbe, specWatched]
  constructor
  · intro hk
    by_cases hfd : ∃ c, fd = fdOf c
    · obtain ⟨c, rfl⟩ := hfd
      have hl := h.loc c
      rw [hk] at hl
      unfold EpLocal at hl
      split at hl
      · rename_i ha
        rcases hl.2 with ⟨_, h2, h3⟩ | ⟨_, _, h3⟩
        · have hm : mask = (s.chans c).events := Option.some.inj h2
          exact ⟨c, rfl, ha, hm.symm, hm ▸ h3⟩
        · cases h3
      · cases hl.2.2.2
    · have := (h.other fd fun c e => hfd ⟨c, e⟩).2
      rw [hk] at this; cases this
  · rintro ⟨c, rfl, ha, he, hm⟩
    have hl := h.loc c
    unfold EpLocal at hl
    rw [if_pos ha] at hl
    rcases hl.2 with ⟨_, h2, _⟩ | ⟨_, h2, _⟩
    · rw [h2, he]
    · rw [he] at h2; exact absurd h2 hm

end MuduoVerif.Poller
