import MuduoVerif.Proofs.Fold
import MuduoVerif.Proofs.PollerPoll
import MuduoVerif.Proofs.PollerEpoll
import MuduoVerif.Proofs.PollerWalk
/-!
# Invariants of the dispatch engine along every history, whatever the back-end

`Good be`: the poller's bookkeeping invariant (`PollStruct` / `EpStruct`).  Every operation keeps it, kills
nobody and logs no failure, so it holds after every history; with a well-behaved kernel the loop stays
alive (`Alive`).

The output trace carries its own history: `.op c k …` events are the accepted operations in the order
they were executed — between polls *and* inside callbacks.  `histEvents`/`histAdded` replay them, and
every callback event is checked against that replay (`TraceInv`).
-/
namespace MuduoVerif.Poller
open MuduoVerif.Gen.Poller

def StructOf : Backend → State → Prop
  | .poll, s => PollStruct s
  | .epoll, s => EpStruct s

/-- a loop on back-end `be` whose poller's bookkeeping invariant holds (`EpGood`, `EpAlive` are `Good .epoll`,
`Alive .epoll`) -/
def Good (be : Backend) (s : State) : Prop := s.be = be ∧ StructOf be s

def Alive (be : Backend) (s : State) : Prop := Good be s ∧ s.dead = false

theorem Good.be {be : Backend} {s : State} (h : Good be s) : s.be = be := h.1

theorem Good.struct {be : Backend} {s : State} (h : Good be s) : StructOf be s := h.2

theorem Alive.good {be : Backend} {s : State} (h : Alive be s) : Good be s := h.1

theorem Alive.dead {be : Backend} {s : State} (h : Alive be s) : s.dead = false := h.2

theorem alive_epoll {s : State} : Alive .epoll s ↔ EpAlive s := Iff.rfl

/-- `t` is `s` after a back-end call that went through: invariant kept, nobody died, only successful
`epoll_ctl`s logged (`EpOk` is `Went .epoll`) -/
def Went (be : Backend) (s t : State) : Prop :=
  StructOf be t ∧ t.dead = s.dead ∧ ∃ l, t.out = s.out ++ l ∧ ∀ e ∈ l, e.isCtlOk = true

theorem EpOk.went {s t : State} (h : EpOk s t) : Went .epoll s t := ⟨h.struct, h.dead, h.out⟩

theorem went_poll {s t : State} (h : PollStruct t ∧ t.dead = s.dead ∧ t.out = s.out) : Went .poll s t :=
  ⟨h.1, h.2.1, [], by rw [h.2.2, List.append_nil], List.forall_mem_nil _⟩

theorem StructOf.congr {be : Backend} {s t : State} (h : StructOf be s) (hc : t.cmap = s.cmap)
    (hp : t.pollfds = s.pollfds) (hk : t.kernel = s.kernel) (he : ∀ c, (t.chans c).events = (s.chans c).events)
    (hi : ∀ c, (t.chans c).index = (s.chans c).index) (ha : ∀ c, (t.chans c).added = (s.chans c).added) :
    StructOf be t := by
  cases be with
  | epoll => exact EpStruct.congr h hc hk he hi ha
  | poll => exact PollStruct.congr h hc hp he hi ha

theorem Good.frame {be : Backend} {s t : State} (h : Good be s) (f : Frame s t) : Good be t :=
  ⟨f.be.trans h.be, h.struct.congr f.cmap f.pollfds f.kernel f.ev f.idx f.added⟩

theorem Good.same {be : Backend} {s t : State} (h : Good be s) (e : Same s t) : Good be t :=
  ⟨e.be.trans h.be, h.struct.congr e.cmap e.pollfds e.kernel (fun _ => by rw [e.chans]) (fun _ => by rw [e.chans])
    (fun _ => by rw [e.chans])⟩

theorem good_update {be : Backend} {s : State} (h : Good be s) (c : Nat) (k : OpKind) :
    Went be s (updateChannel (setInterest s c k) c) := by
  have hbe : (setInterest s c k).be = be := h.be
  unfold updateChannel
  cases be with
  | epoll => rw [hbe]; exact (epollUpdate_went h.struct c k).went
  | poll => rw [hbe]; exact went_poll (pollUpdate_went h.struct c k)

theorem good_remove {be : Backend} {s : State} (h : Good be s) (c : Nat) (ha : (s.chans c).added = true)
    (he : (s.chans c).events = 0) : Went be s (removeChannel (setChan s c { s.chans c with added := false }) c) := by
  have hbe : (setChan s c { s.chans c with added := false }).be = be := h.be
  unfold removeChannel
  cases be with
  | epoll => rw [hbe]; exact (epollRemove_went h.struct c ha he).went
  | poll => rw [hbe]; exact went_poll (pollRemove_went h.struct c ha he)

theorem structOf_empty (be : Backend) : StructOf be (empty be) := by
  cases be with
  | epoll => exact epStruct_empty
  | poll => exact pollStruct_empty

theorem structOf_recreate {be : Backend} {s : State} (h : StructOf be s) (c : Nat)
    (ha : (s.chans c).added = false) : StructOf be (setChan s c {}) := by
  cases be with
  | epoll => exact epStruct_recreate h c ha
  | poll => exact pollStruct_recreate h c ha

/-- `t` is `s` after an operation on a loop whose invariant holds: invariant kept, nobody died, no failure logged -/
structure OpOk (be : Backend) (s t : State) : Prop where
  struct : StructOf be t
  dead : t.dead = s.dead
  out : ∃ l, t.out = s.out ++ l ∧ ∀ e ∈ l, e.isFailure = false

theorem opOk_applyOp {be : Backend} {s : State} (h : Good be s) (c : Nat) (k : OpKind) :
    OpOk be s (applyOp s c k) := by
  -- every accepted branch of `applyOp` is `report` after a back-end call that went through
  have hrep : ∀ t : State, Went be s t → OpOk be s (report t c k) := by
    rintro t ⟨h1, h2, l, hl, hok⟩
    rw [report_eq]
    refine ⟨h1.congr rfl rfl rfl (fun _ => rfl) (fun _ => rfl) (fun _ => rfl), h2, l ++ _,
      by rw [hl, List.append_assoc],
      List.forall_mem_append.2 ⟨fun e he => notFailure_of_isCtlOk (hok e he), fun e he => ?_⟩⟩
    split at he
    · nomatch he
    · rw [List.mem_singleton.1 he]; rfl
  rcases Bool.eq_false_or_eq_true s.dead with hd | hd
  · rw [applyOp_dead hd]; exact ⟨h.struct, rfl, [], (List.append_nil _).symm, List.forall_mem_nil _⟩
  · by_cases hacc : accepts s c k
    · cases k with
      | remove => rw [applyOp_remove hd hacc]; exact hrep _ (good_remove h c hacc.1 hacc.2.1)
      | recreate =>
        rw [applyOp_recreate hd hacc]
        exact hrep _ ⟨structOf_recreate h.struct c hacc.1, rfl, [], (List.append_nil _).symm, List.forall_mem_nil _⟩
      | _ => rw [applyOp_update hd rfl]; exact hrep _ (good_update h c _)
    · rw [applyOp_reject hd hacc]
      exact ⟨h.struct.congr rfl rfl rfl (fun _ => rfl) (fun _ => rfl) (fun _ => rfl), rfl, [.reject c k], rfl,
        fun e he => by rw [List.mem_singleton.1 he]; rfl⟩

theorem Good.applyOp {be : Backend} {s : State} (h : Good be s) (c : Nat) (k : OpKind) : Good be (applyOp s c k) :=
  ⟨(applyOp_be s c k).trans h.be, (opOk_applyOp h c k).struct⟩

theorem alive_init (be : Backend) : Alive be (init be) := by
  have g0 : Good be (empty be) := ⟨rfl, structOf_empty be⟩
  have g1 := g0.applyOp timerChan .enableR
  have d1 : (applyOp (empty be) timerChan .enableR).dead = false := (opOk_applyOp g0 timerChan .enableR).dead
  unfold init
  exact ⟨(g1.applyOp wakeChan .enableR).same ⟨rfl, rfl, rfl, rfl, rfl, rfl⟩,
    (opOk_applyOp g1 wakeChan .enableR).dead.trans d1⟩

theorem init_out (be : Backend) : (init be).out = [] := rfl

/-- after every history, whatever the kernel reports: the poller's invariant holds; no event of the trace is a failed
`epoll_ctl`, `LOG_SYSERR` or `LOG_SYSFATAL`; every event is plumbing of the poll phase, output of an operation, or a
callback; and as long as the loop is alive no assertion has failed -/
structure GoodRun (be : Backend) (s : State) : Prop where
  good : Good be s
  noCtlFailure : ∀ e ∈ s.out, e.isCtlFailure = false
  source : ∀ e ∈ s.out, e.isPlumb ∨ e.isUser = true ∨ e.isCb = true
  noFatal : s.dead = false → ∀ e ∈ s.out, e.isFatal = false

theorem good_run (be : Backend) (ins : List In) : GoodRun be (run (init be) ins) := by
  refine run_preserves ?_ ?_ ?_ ins _
    ⟨(alive_init be).good, List.forall_mem_nil _, List.forall_mem_nil _, fun _ => List.forall_mem_nil _⟩
  · intro s c k h
    have ok := opOk_applyOp h.good c k
    obtain ⟨l, hl, hf⟩ := ok.out
    obtain ⟨l', hl', hu, _⟩ := applyOp_out s c k
    refine ⟨h.good.applyOp c k, ?_, ?_, ?_⟩
    · rw [hl]; exact List.forall_mem_append.2 ⟨h.noCtlFailure, fun e he => notCtlFailure_of_notFailure (hf e he)⟩
    · rw [hl']; exact List.forall_mem_append.2 ⟨h.source, fun e he => .inr (.inl (hu e he))⟩
    · rw [hl]
      exact fun hs => List.forall_mem_append.2
        ⟨h.noFatal (ok.dead ▸ hs), fun e he => notFatal_of_notFailure (hf e he)⟩
  · intro s t f h
    obtain ⟨l, hl, hp, ha⟩ := f.out
    refine ⟨h.good.frame f, ?_, ?_, ?_⟩ <;> rw [hl]
    · exact List.forall_mem_append.2 ⟨h.noCtlFailure, fun e he => notCtlFailure_of_isPlumb (hp e he)⟩
    · exact List.forall_mem_append.2 ⟨h.source, fun e he => .inl (hp e he)⟩
    · exact fun hd => List.forall_mem_append.2
        ⟨h.noFatal (f.dead hd), fun e he => notFatal_of_isPlumb (hp e he) (ha hd e he)⟩
  · intro s t q h
    have hg := h.good.same q.same
    obtain ⟨c, k, hd, _, _, rfl⟩ := q
    exact ⟨hg, List.forall_mem_append.2 ⟨h.noCtlFailure, List.forall_mem_singleton.2 rfl⟩,
      List.forall_mem_append.2 ⟨h.source, List.forall_mem_singleton.2 (.inr (.inr rfl))⟩,
      fun _ => List.forall_mem_append.2 ⟨h.noFatal hd, List.forall_mem_singleton.2 rfl⟩⟩

theorem alive_applyOp {be : Backend} (s : State) (c k) (h : Alive be s) : Alive be (applyOp s c k) :=
  ⟨h.good.applyOp c k, (opOk_applyOp h.good c k).dead.trans h.dead⟩

theorem Alive.same {be : Backend} {s t : State} (h : Alive be s) (e : Same s t) : Alive be t :=
  ⟨h.good.same e, e.dead.trans h.dead⟩

theorem alive_cb {be : Backend} (s t : State) (q : CbStep s t) (h : Alive be s) : Alive be t := h.same q.same

theorem alive_loop {be : Backend} (s : State) (hooks cur it act hh) (h : Alive be s) :
    Alive be { s with hooks := hooks, cur := cur, iteration := it, active := act, handling := hh } :=
  h.same ⟨rfl, rfl, rfl, rfl, rfl, rfl⟩

theorem alive_poll {be : Backend} (s : State) (ready nret) (h : Alive be s) (henv : epEnvOk s (.iter ready nret)) :
    Alive be (pollerPoll s ready nret).1 := by
  refine ⟨h.good.frame (frame_pollerPoll s ready nret), ?_⟩
  obtain ⟨⟨hbe, hs⟩, hd⟩ := h
  cases be with
  | epoll => exact (pollerPoll_epoll hbe hs ready nret henv).1.trans hd
  | poll => exact (pollerPoll_poll hbe hs ready nret).1.trans hd

theorem alive_step {be : Backend} (s : State) (i : In) (h : Alive be s) (henv : epEnvOk s i) : Alive be (step s i) :=
  step_induction alive_applyOp alive_loop alive_cb (fun s ready nret h _ henv => alive_poll s ready nret h henv)
    s i h henv

theorem alive_run (be : Backend) (ins : List In) (henv : Along epEnvOk (init be) ins) : Alive be (run (init be) ins) :=
  run_induction alive_applyOp alive_loop alive_cb (fun s ready nret h _ henv => alive_poll s ready nret h henv)
    ins _ (alive_init be) henv

/-- `PollPoller` looks only at its own array: a poll loop assumes nothing about the kernel -/
theorem along_poll (ins : List In) : ∀ s : State, s.be = .poll → Along epEnvOk s ins := by
  induction ins with
  | nil => intro _ _; trivial
  | cons i rest ih =>
    intro s hbe
    refine ⟨by cases i <;> simp [epEnvOk, hbe], ih _ (Eq.trans ?_ hbe)⟩
    exact run_preserves (P := fun t => t.be = s.be) (fun t c k h => (applyOp_be t c k).trans h)
      (fun _ _ f h => f.be.trans h) (fun _ _ q h => q.same.be.trans h) [i] s rfl

theorem pollAlive_run (ins : List In) : Alive .poll (run (init .poll) ins) :=
  alive_run .poll ins (along_poll ins _ (alive_init .poll).good.be)

def histStepEv (c : Nat) (e : Nat) : Ev → Nat
  | .op c' k _ _ => if c' = c then opEvents k e else e
  | _ => e

def histStepAdded (c : Nat) (a : Bool) : Ev → Bool
  | .op c' k _ _ => if c' = c then opAdded k else a
  | _ => a

/-- the loop's own channels (timer queue, wake-up) are read-enabled by `EventLoop`'s constructor -/
def initEvents (c : Nat) : Nat := if c = wakeChan then kReadEvent else if c = timerChan then kReadEvent else 0
def initAdded (c : Nat) : Bool := if c = wakeChan then true else if c = timerChan then true else false

/-- the interest word of channel `c` according to the operations recorded in the trace -/
def histEvents (c : Nat) (out : List Ev) : Nat := out.foldl (histStepEv c) (initEvents c)
/-- is channel `c` registered according to the operations recorded in the trace? -/
def histAdded (c : Nat) (out : List Ev) : Bool := out.foldl (histStepAdded c) (initAdded c)

theorem histStepEv_noop (c a : Nat) (e : Ev) (h : e.isOp = false) : histStepEv c a e = a := by
  cases e <;> first | rfl | cases h

theorem histStepAdded_noop (c : Nat) (a : Bool) (e : Ev) (h : e.isOp = false) : histStepAdded c a e = a := by
  cases e <;> first | rfl | cases h

theorem histEvents_append_noop (c : Nat) (out l : List Ev) (hl : ∀ e ∈ l, e.isOp = false) :
    histEvents c (out ++ l) = histEvents c out := by
  unfold histEvents; rw [List.foldl_append, foldl_fix _ l _ fun e he => histStepEv_noop c _ e (hl e he)]

theorem histAdded_append_noop (c : Nat) (out l : List Ev) (hl : ∀ e ∈ l, e.isOp = false) :
    histAdded c (out ++ l) = histAdded c out := by
  unfold histAdded; rw [List.foldl_append, foldl_fix _ l _ fun e he => histStepAdded_noop c _ e (hl e he)]

theorem histEvents_op (x : Nat) (out l : List Ev) (hl : ∀ e ∈ l, e.isOp = false) (c k ev i) :
    histEvents x (out ++ l ++ [.op c k ev i]) =
      if x = c then opEvents k (histEvents x out) else histEvents x out := by
  rw [histEvents, List.foldl_append, ← histEvents, histEvents_append_noop x out l hl]
  show (if c = x then _ else _) = _
  by_cases hx : x = c
  · subst hx; rfl
  · rw [if_neg hx, if_neg (Ne.symm hx)]

theorem histAdded_op (x : Nat) (out l : List Ev) (hl : ∀ e ∈ l, e.isOp = false) (c k ev i) :
    histAdded x (out ++ l ++ [.op c k ev i]) = if x = c then opAdded k else histAdded x out := by
  rw [histAdded, List.foldl_append, ← histAdded, histAdded_append_noop x out l hl]
  show (if c = x then _ else _) = _
  by_cases hx : x = c
  · subst hx; rfl
  · rw [if_neg hx, if_neg (Ne.symm hx)]

/-- what the trace says about the callbacks dispatched so far -/
structure TraceInv (s : State) : Prop where
  /-- the channel objects agree with the replay of the recorded operations -/
  ev : s.dead = false → ∀ c, (s.chans c).events = histEvents c s.out
  added : s.dead = false → ∀ c, (s.chans c).added = histAdded c s.out
  /-- interest implies registration -/
  reg : ∀ c, (s.chans c).events ≠ 0 → (s.chans c).added = true
  /-- every callback: matching `revents` bits, and subscribed at the moment of the call according to
  the operations executed before it (including those of earlier callbacks of the same batch) -/
  cb : ∀ i c k rev ev, s.out[i]? = some (.cb c k rev ev) →
    disp k rev ∧ subscribed k ev ∧ ev = histEvents c (s.out.take i) ∧ histAdded c (s.out.take i) = true

theorem TraceInv.cb_append_of {s : State} (h : TraceInv s) {out' l : List Ev} (ho : out' = s.out ++ l)
    (hl : ∀ j c k rev ev, l[j]? = some (.cb c k rev ev) → disp k rev ∧ subscribed k ev ∧
      ev = histEvents c (s.out ++ l.take j) ∧ histAdded c (s.out ++ l.take j) = true) :
    ∀ i c k rev ev, out'[i]? = some (.cb c k rev ev) →
      disp k rev ∧ subscribed k ev ∧ ev = histEvents c (out'.take i) ∧ histAdded c (out'.take i) = true := by
  intro i c k rev ev hi
  rw [ho] at hi ⊢
  by_cases hlt : i < s.out.length
  · rw [List.getElem?_append_left hlt] at hi
    rw [List.take_append_of_le_length (Nat.le_of_lt hlt)]
    exact h.cb i c k rev ev hi
  · rw [List.getElem?_append_right (Nat.le_of_not_lt hlt)] at hi
    rw [List.take_append, List.take_of_length_le (Nat.le_of_not_lt hlt)]
    exact hl _ c k rev ev hi

theorem TraceInv.cb_append {s : State} (h : TraceInv s) {out' l : List Ev} (ho : out' = s.out ++ l)
    (hl : ∀ e ∈ l, e.isCb = false) :
    ∀ i c k rev ev, out'[i]? = some (.cb c k rev ev) →
      disp k rev ∧ subscribed k ev ∧ ev = histEvents c (out'.take i) ∧ histAdded c (out'.take i) = true :=
  h.cb_append_of ho fun _ _ _ _ _ hj => Bool.noConfusion (hl _ (List.mem_of_getElem? hj))

theorem subscribed_ne_zero {k : Kind} {e : Nat} (h : subscribed k e) : e ≠ 0 := by
  intro h0; subst h0
  cases k <;> simp [subscribed, guardClose, guardError, guardRead, guardWrite, isNoneEvent, kNoneEvent,
    isReading, isWriting] at h

theorem traceInv_applyOp (s : State) (c : Nat) (k : OpKind) (h : TraceInv s) : TraceInv (applyOp s c k) := by
  have hcb := (applyOp_out s c k).elim fun l hl => h.cb_append hl.1 fun e he => notCb_of_isUser (hl.2.1 e he)
  rcases applyOp_cases s c k with ⟨_, h1⟩ | ⟨hd, _, h1⟩ | ⟨hd, hacc, h1⟩
  · rw [h1]; exact h
  · refine ⟨fun _ x => ?_, fun _ x => ?_, by rw [h1]; exact h.reg, hcb⟩ <;> rw [h1]
    · exact (h.ev hd x).trans (histEvents_append_noop x _ _ (by simp [Ev.isOp])).symm
    · exact (h.added hd x).trans (histAdded_append_noop x _ _ (by simp [Ev.isOp])).symm
  · obtain ⟨l, hlb, halive, _⟩ := h1.out
    have hlop : ∀ e ∈ l, e.isOp = false := fun e he => notOp_of_isBack (hlb e he)
    refine ⟨fun hd' x => ?_, fun hd' x => ?_, fun x hx => ?_, hcb⟩
    · rw [(halive hd').2, histEvents_op x _ l hlop, h1.ev x, h.ev hd x, h.ev hd c]
      by_cases hx : x = c
      · subst hx; rfl
      · rw [if_neg hx, if_neg hx]
    · rw [(halive hd').2, histAdded_op x _ l hlop, h1.added x, h.added hd x]
    · rw [h1.ev x] at hx
      rw [h1.added x]
      by_cases hxc : x = c
      · subst hxc
        simp only [if_true] at hx ⊢
        cases k with
        | remove =>
          have hr : removeOk s x := hacc
          exact absurd (by simpa [opEvents, newEvents, isNoneEvent, kNoneEvent] using hr.2.1) hx
        | recreate => simp [opEvents] at hx
        | _ => rfl
      · simp only [hxc, if_false] at hx ⊢
        exact h.reg x hx

theorem traceInv_frame (s t : State) (f : Frame s t) (h : TraceInv s) : TraceInv t := by
  obtain ⟨l, hl, hp, _⟩ := f.out
  have hlop : ∀ e ∈ l, e.isOp = false := fun e he => notOp_of_isPlumb (hp e he)
  refine ⟨?_, ?_, ?_, h.cb_append hl (fun e he => notCb_of_isPlumb (hp e he))⟩
  · intro hd x
    rw [hl, histEvents_append_noop x _ _ hlop, f.ev x]; exact h.ev (f.dead hd) x
  · intro hd x
    rw [hl, histAdded_append_noop x _ _ hlop, f.added x]; exact h.added (f.dead hd) x
  · intro x hx
    rw [f.ev x] at hx; rw [f.added x]; exact h.reg x hx

theorem traceInv_cb (s t : State) (q : CbStep s t) (h : TraceInv s) : TraceInv t := by
  obtain ⟨c, k, hd, hdisp, hsub, rfl⟩ := q
  have hn : ∀ e ∈ [Ev.cb c k (s.chans c).revents (s.chans c).events], e.isOp = false := by simp [Ev.isOp]
  refine ⟨fun _ x => (h.ev hd x).trans (histEvents_append_noop x _ _ hn).symm,
    fun _ x => (h.added hd x).trans (histAdded_append_noop x _ _ hn).symm, h.reg,
    h.cb_append_of rfl fun j c' k' rev ev hj => ?_⟩
  cases j with
  | zero =>
    obtain ⟨rfl, rfl, rfl, rfl⟩ := Ev.cb.inj (Option.some.inj hj)
    rw [List.take_zero, List.append_nil]
    exact ⟨hdisp, hsub, h.ev hd c, (h.added hd c).symm.trans (h.reg c (subscribed_ne_zero hsub))⟩
  | succ j => nomatch hj

theorem init_chans (be : Backend) (c : Nat) :
    ((init be).chans c).events = initEvents c ∧ ((init be).chans c).added = initAdded c := by
  have o1 := applyOp_opStep (s := empty be) rfl (c := timerChan) (k := .enableR) trivial
  have o2 := applyOp_opStep (s := applyOp (empty be) timerChan .enableR)
    (opOk_applyOp (be := be) ⟨rfl, structOf_empty be⟩ timerChan .enableR).dead (c := wakeChan) (k := .enableR)
    trivial
  refine ⟨(o2.ev c).trans ?_, (o2.added c).trans ?_⟩
  · rw [o1.ev c, o1.ev wakeChan]
    simp [initEvents, empty, opEvents, newEvents, enableReading, wakeChan, timerChan]
    rfl
  · rw [o1.added c]
    simp [initAdded, empty, opAdded, wakeChan, timerChan]

theorem traceInv_init (be : Backend) : TraceInv (init be) := by
  refine ⟨fun _ c => ?_, fun _ c => ?_, fun c hc => ?_, fun i c k rev ev h => ?_⟩
  · rw [(init_chans be c).1, init_out]; rfl
  · rw [(init_chans be c).2, init_out]; rfl
  · rw [(init_chans be c).1] at hc
    rw [(init_chans be c).2]
    unfold initEvents at hc; unfold initAdded
    split
    · rfl
    · rename_i h1; rw [if_neg h1] at hc
      split
      · rfl
      · rename_i h0; rw [if_neg h0] at hc; exact absurd rfl hc
  · rw [init_out] at h; simp at h

theorem traceInv_run (be : Backend) (ins : List In) : TraceInv (run (init be) ins) :=
  run_preserves traceInv_applyOp traceInv_frame traceInv_cb ins _ (traceInv_init be)

theorem TraceInv.cb_split {s : State} (h : TraceInv s) {pre post : List Ev} {c k rev ev}
    (ho : s.out = pre ++ .cb c k rev ev :: post) :
    disp k rev ∧ subscribed k ev ∧ ev = histEvents c pre ∧ histAdded c pre = true := by
  have hi : s.out[pre.length]? = some (.cb c k rev ev) := by rw [ho]; simp
  have := h.cb pre.length c k rev ev hi
  rw [ho, List.take_left'] at this
  · exact this
  · rfl

/-- after `remove(c)` no callback of `c` runs until an `enable*/disable*` registers it again -/
theorem TraceInv.removed_never_called {s : State} (h : TraceInv s) {pre mid post : List Ev} {c e0 i0 k rev ev}
    (ho : s.out = pre ++ .op c .remove e0 i0 :: (mid ++ .cb c k rev ev :: post)) :
    ∃ k' e' i', Ev.op c k' e' i' ∈ mid ∧ k'.isUpdate = true := by
  have h1 := (h.cb_split (pre := pre ++ .op c .remove e0 i0 :: mid) (by rw [ho, List.append_assoc]; rfl)).2.2.2
  rw [histAdded, List.foldl_append, List.foldl_cons,
    show histStepAdded c _ (.op c .remove e0 i0) = false from if_pos rfl] at h1
  refine List.foldlRecOn (motive := fun b => b = true → _) (b := false) mid (histStepAdded c) nofun
    (fun b hb e he => ?_) h1
  cases e with
  | op c' k' e' i' =>
    by_cases hc : c' = c
    · subst hc
      exact fun hk => ⟨k', e', i', he, (if_pos rfl).symm.trans hk⟩
    · exact fun hk => hb ((if_neg hc).symm.trans hk)
  | _ => exact hb

end MuduoVerif.Poller
