import MuduoVerif.Generated.TzFileSkel
/-!
# T1 tie for the zone-file reader (C20)

`Gen.TzFileSkel.<x>` is what `vlib/gen/tzfileskel.py` extracts from /repo's current `muduo/base/TimeZone.cc` on every
run; `Decl.<x>` (`Model/TzFileSkelDecl.lean`) is what `Model/TzFile.lean` was written for.

* the first 45 conjuncts of `reader_tied`: a parameter of the reader (integer reader: bytes / byte swap / return type /
  exception text; lengths, magic and version tests; reader, type and ORDER of the counters; the size of the first block
  and the skips with their implicit conversions; which reader reads a transition time and the types a value passes
  through) is unchanged.  The model calls the generated definition, so a changed parameter changes the model as well;
  this equation says that the theorems of `Proofs/TzFile.lean` are about the source as it is now.
* the last 12: the statement skeleton (order and nesting of reads, tests, loops, `throw`, `try`, `return`) of a
  function is the one the model's definition implements.

`Props/C20` re-exports `tzfile_reader_tied`, so a change of a width, of the signedness of a reader, of the order of two
reads, of a test or of a skip in the reader breaks that property module.
-/
namespace MuduoVerif.TzFileSkel

theorem tie_readInt32 : Gen.TzFileSkel.readInt32 = Decl.readInt32 := rfl
theorem tie_ttinfo : Gen.TzFileSkel.ttinfo = Decl.ttinfo := rfl

theorem reader_tied :
    Gen.TzFileSkel.readInt32 = Decl.readInt32 ∧
    Gen.TzFileSkel.readInt64 = Decl.readInt64 ∧
    Gen.TzFileSkel.readUInt8 = Decl.readUInt8 ∧
    Gen.TzFileSkel.readBytesMsg = Decl.readBytesMsg ∧
    Gen.TzFileSkel.readBytesArgTy = Decl.readBytesArgTy ∧
    Gen.TzFileSkel.skipArgTy = Decl.skipArgTy ∧
    Gen.TzFileSkel.skipWhence = Decl.skipWhence ∧
    Gen.TzFileSkel.magicLen = Decl.magicLen ∧
    Gen.TzFileSkel.badHead = Decl.badHead ∧
    Gen.TzFileSkel.badHeadMsg = Decl.badHeadMsg ∧
    Gen.TzFileSkel.versionLen = Decl.versionLen ∧
    Gen.TzFileSkel.reservedLen = Decl.reservedLen ∧
    Gen.TzFileSkel.headerCountReader = Decl.headerCountReader ∧
    Gen.TzFileSkel.headerCountTy = Decl.headerCountTy ∧
    Gen.TzFileSkel.headerCounts = Decl.headerCounts ∧
    Gen.TzFileSkel.isV2 = Decl.isV2 ∧
    Gen.TzFileSkel.v1BlockSkip = Decl.v1BlockSkip ∧
    Gen.TzFileSkel.magic2Len = Decl.magic2Len ∧
    Gen.TzFileSkel.badHead2 = Decl.badHead2 ∧
    Gen.TzFileSkel.badHead2Msg = Decl.badHead2Msg ∧
    Gen.TzFileSkel.header2Skip = Decl.header2Skip ∧
    Gen.TzFileSkel.v2BranchV1 = Decl.v2BranchV1 ∧
    Gen.TzFileSkel.rewind = Decl.rewind ∧
    Gen.TzFileSkel.v1BranchV1 = Decl.v1BranchV1 ∧
    Gen.TzFileSkel.timeSize = Decl.timeSize ∧
    Gen.TzFileSkel.blockCountReader = Decl.blockCountReader ∧
    Gen.TzFileSkel.blockCountTy = Decl.blockCountTy ∧
    Gen.TzFileSkel.blockCounts = Decl.blockCounts ∧
    Gen.TzFileSkel.rejectLeap = Decl.rejectLeap ∧
    Gen.TzFileSkel.rejectIsut = Decl.rejectIsut ∧
    Gen.TzFileSkel.rejectIsstd = Decl.rejectIsstd ∧
    Gen.TzFileSkel.rejectOrder = Decl.rejectOrder ∧
    Gen.TzFileSkel.timeReader = Decl.timeReader ∧
    Gen.TzFileSkel.timeElemTy = Decl.timeElemTy ∧
    Gen.TzFileSkel.timeConvs = Decl.timeConvs ∧
    Gen.TzFileSkel.idxReader = Decl.idxReader ∧
    Gen.TzFileSkel.idxVarTy = Decl.idxVarTy ∧
    Gen.TzFileSkel.idxElemTy = Decl.idxElemTy ∧
    Gen.TzFileSkel.ttinfoReaders = Decl.ttinfoReaders ∧
    Gen.TzFileSkel.ttinfo = Decl.ttinfo ∧
    Gen.TzFileSkel.transIdxTys = Decl.transIdxTys ∧
    Gen.TzFileSkel.transTimeTy = Decl.transTimeTy ∧
    Gen.TzFileSkel.charsLen = Decl.charsLen ∧
    Gen.TzFileSkel.blockSkips = Decl.blockSkips ∧
    Gen.TzFileSkel.readsFooter = Decl.readsFooter ∧
    Gen.TzFileSkel.fileReadBytes = Decl.fileReadBytes ∧
    Gen.TzFileSkel.fileReadInt64 = Decl.fileReadInt64 ∧
    Gen.TzFileSkel.fileReadInt32 = Decl.fileReadInt32 ∧
    Gen.TzFileSkel.fileReadUInt8 = Decl.fileReadUInt8 ∧
    Gen.TzFileSkel.fileSkip = Decl.fileSkip ∧
    Gen.TzFileSkel.readDataBlock = Decl.readDataBlock ∧
    Gen.TzFileSkel.readTimeZoneFile = Decl.readTimeZoneFile ∧
    Gen.TzFileSkel.transitionCtor = Decl.transitionCtor ∧
    Gen.TzFileSkel.localTimeCtor = Decl.localTimeCtor ∧
    Gen.TzFileSkel.addLocalTime = Decl.addLocalTime ∧
    Gen.TzFileSkel.addTransition = Decl.addTransition ∧
    Gen.TzFileSkel.loadZoneFile = Decl.loadZoneFile :=
  by and_intros <;> rfl

end MuduoVerif.TzFileSkel
