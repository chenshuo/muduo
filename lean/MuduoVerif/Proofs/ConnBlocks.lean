import MuduoVerif.Proofs.ConnInv
/-!
C01, send direction, per thread: the blocks handed to `send()` on the loop thread are accepted
at once and in call order; those handed to `send()` on other threads are accepted in call
order, none skipped while the connection is not down.
C13, counting: every write-complete callback is paid for by a distinct accepted `send()`.
-/
namespace MuduoVerif.Conn
open MuduoVerif.Gen.Conn

def sendData : Task → Option Bytes
  | .sendInLoop d => some d
  | _ => none

/-- the blocks of the `send()`s still waiting in the functor queue, in queue order -/
def Conn.queuedSends (c : Conn) : List Bytes := c.queue.filterMap sendData
/-- accepted blocks that were sent on the loop thread -/
def Conn.lBlocks (c : Conn) : List Bytes := (c.blocks.filter (fun b => !b.1)).map (·.2)
/-- accepted blocks that came through the functor queue (sent on another thread) -/
def Conn.fBlocks (c : Conn) : List Bytes := (c.blocks.filter (·.1)).map (·.2)

structure BlocksInv (c : Conn) : Prop where
  /-- the accepted byte stream is the concatenation of the accepted blocks -/
  flat : c.accepted = (c.blocks.map (·.2)).flatten
  /-- every block sent on the loop thread is accepted at once, in call order -/
  loopOrder : c.lBlocks = c.offeredL
  /-- blocks sent on other threads are accepted in call order … -/
  foreignPrefix : c.fBlocks <+: c.offeredF
  /-- … none skipped while the connection is not down: what is not accepted yet is still queued, in order -/
  foreignAll : c.st ≠ .kDisconnected → c.fBlocks ++ c.queuedSends = c.offeredF

/-- a step that accepts nothing and offers nothing: the ghost lists are unchanged, and either the
connection is down afterwards or it was not down before and the queued sends are the same -/
structure BlkStep (c c' : Conn) : Prop where
  accepted : c'.accepted = c.accepted
  blocks : c'.blocks = c.blocks
  offeredL : c'.offeredL = c.offeredL
  offeredF : c'.offeredF = c.offeredF
  sends : c'.st ≠ .kDisconnected → c.st ≠ .kDisconnected ∧ c'.queuedSends = c.queuedSends

theorem BlkStep.trans {a b c : Conn} (h1 : BlkStep a b) (h2 : BlkStep b c) : BlkStep a c :=
  ⟨h2.accepted.trans h1.accepted, h2.blocks.trans h1.blocks, h2.offeredL.trans h1.offeredL,
   h2.offeredF.trans h1.offeredF,
   fun h => ⟨(h1.sends (h2.sends h).1).1, (h2.sends h).2.trans (h1.sends (h2.sends h).1).2⟩⟩

theorem BlkStep.same {c c' : Conn} (h1 : c'.accepted = c.accepted) (h2 : c'.blocks = c.blocks)
    (h3 : c'.offeredL = c.offeredL) (h4 : c'.offeredF = c.offeredF) (h5 : c'.st = c.st)
    (h6 : c'.batch = c.batch) (h7 : c'.pending = c.pending) : BlkStep c c' :=
  ⟨h1, h2, h3, h4, fun h => ⟨by rw [← h5]; exact h, by unfold Conn.queuedSends Conn.queue; rw [h6, h7]⟩⟩

theorem BlkStep.ofQ {c c' : Conn} (h1 : c'.accepted = c.accepted) (h2 : c'.blocks = c.blocks)
    (h3 : c'.offeredL = c.offeredL) (h4 : c'.offeredF = c.offeredF) (h5 : c'.st = c.st)
    (h6 : c'.queuedSends = c.queuedSends) : BlkStep c c' :=
  ⟨h1, h2, h3, h4, fun h => ⟨by rw [← h5]; exact h, h6⟩⟩

theorem BlkStep.down {c c' : Conn} (h1 : c'.accepted = c.accepted) (h2 : c'.blocks = c.blocks)
    (h3 : c'.offeredL = c.offeredL) (h4 : c'.offeredF = c.offeredF) (h5 : c'.st = .kDisconnected) : BlkStep c c' :=
  ⟨h1, h2, h3, h4, fun h => absurd h5 h⟩

theorem BlocksInv.frame {c c' : Conn} (hi : BlocksInv c) (h : BlkStep c c') : BlocksInv c' := by
  have hl : c'.lBlocks = c.lBlocks := by unfold Conn.lBlocks; rw [h.blocks]
  have hf : c'.fBlocks = c.fBlocks := by unfold Conn.fBlocks; rw [h.blocks]
  constructor
  · rw [h.accepted, h.blocks]; exact hi.flat
  · rw [hl, h.offeredL]; exact hi.loopOrder
  · rw [hf, h.offeredF]; exact hi.foreignPrefix
  · intro hs
    obtain ⟨h1, h2⟩ := h.sends hs
    rw [hf, h2, h.offeredF]; exact hi.foreignAll h1

theorem queuedSends_enqueue (c : Conn) (t : Task) :
    (enqueue c t).queuedSends = c.queuedSends ++ (sendData t).toList := by
  unfold Conn.queuedSends; rw [queue_enqueue, List.filterMap_append]
  cases h : sendData t <;> simp [h]

theorem enqueue_blk (c : Conn) (t : Task) (h : sendData t = none) : BlkStep c (enqueue c t) :=
  BlkStep.ofQ rfl rfl rfl rfl rfl (by rw [queuedSends_enqueue, h]; simp)

theorem SendStep.queuedSends {c c' : Conn} {l : List Task} (h : SendStep c c' l) : c'.queuedSends = c.queuedSends := by
  have hl : l.filterMap sendData = [] :=
    List.filterMap_eq_nil_iff.mpr fun t ht => by have := h.noSend t ht; cases t <;> first | rfl | cases this
  unfold Conn.queuedSends Conn.queue
  rw [h.batch, h.pending, ← List.append_assoc, List.filterMap_append, hl, List.append_nil]

/-- a step that accepts exactly the block `d` (tagged `q`) on a connection that is not down -/
structure Accepts (c c' : Conn) (q : Bool) (d : Bytes) : Prop where
  up : c.st ≠ .kDisconnected
  accepted : c'.accepted = c.accepted ++ d
  blocks : c'.blocks = c.blocks ++ [(q, d)]
  offeredL : c'.offeredL = c.offeredL
  offeredF : c'.offeredF = c.offeredF
  sends : c'.st ≠ .kDisconnected → c'.queuedSends = c.queuedSends

theorem sendInLoop_blk (c : Conn) (data : Bytes) (q : Bool) :
    (c.st = .kDisconnected ∧ BlkStep c (sendInLoop c data q)) ∨ Accepts c (sendInLoop c data q) q data := by
  by_cases hu : c.st = .kDisconnected
  · rw [sendInLoop_down hu]
    exact Or.inl ⟨hu, BlkStep.same rfl rfl rfl rfl rfl rfl rfl⟩
  · obtain ⟨l, hs, _⟩ := sendInLoop_step c data q hu
    exact Or.inr ⟨hu, (sendInLoop_data c data q hu).accepted, hs.blocks, hs.offeredL, hs.offeredF, fun _ => hs.queuedSends⟩

theorem lBlocks_snoc {c c' : Conn} {q : Bool} {d : Bytes} (h : c'.blocks = c.blocks ++ [(q, d)]) :
    c'.lBlocks = c.lBlocks ++ (if q = true then [] else [d]) := by
  unfold Conn.lBlocks; rw [h]; cases q <;> simp [List.filter_append]

theorem fBlocks_snoc {c c' : Conn} {q : Bool} {d : Bytes} (h : c'.blocks = c.blocks ++ [(q, d)]) :
    c'.fBlocks = c.fBlocks ++ (if q = true then [d] else []) := by
  unfold Conn.fBlocks; rw [h]; cases q <;> simp [List.filter_append]

theorem flat_snoc {c c' : Conn} {q : Bool} {d : Bytes} (hi : c.accepted = (c.blocks.map (·.2)).flatten)
    (ha : c'.accepted = c.accepted ++ d) (hb : c'.blocks = c.blocks ++ [(q, d)]) :
    c'.accepted = (c'.blocks.map (·.2)).flatten := by
  rw [ha, hb, hi]; simp

/-- the block `d` is accepted on a connection that is not down: on the loop thread (`q = false`) it was offered
in the same step; out of the functor queue (`q = true`) it was the first queued `send` -/
theorem BlocksInv.accepts {c c1 c' : Conn} {q : Bool} {d : Bytes} (hi : BlocksInv c)
    (e1 : c1.accepted = c.accepted) (e2 : c1.blocks = c.blocks)
    (e3 : c1.offeredL = c.offeredL ++ (if q = true then [] else [d])) (e4 : c1.offeredF = c.offeredF)
    (e5 : c1.st = c.st) (e6 : c.queuedSends = (if q = true then [d] else []) ++ c1.queuedSends)
    (h : Accepts c1 c' q d) : BlocksInv c' := by
  have hb : c'.blocks = c.blocks ++ [(q, d)] := by rw [h.blocks, e2]
  have hall : c'.fBlocks ++ c1.queuedSends = c.offeredF := by
    have := hi.foreignAll (by rw [← e5]; exact h.up)
    rw [e6, ← List.append_assoc] at this
    rw [fBlocks_snoc hb]; exact this
  constructor
  · exact flat_snoc hi.flat (by rw [h.accepted, e1]) hb
  · rw [lBlocks_snoc hb, h.offeredL, e3, hi.loopOrder]
  · rw [h.offeredF, e4]; exact ⟨_, hall⟩
  · intro hs
    rw [h.sends hs, h.offeredF, e4]; exact hall

theorem shutdownInLoop_blk (c : Conn) : BlkStep c (shutdownInLoop c) := by
  unfold shutdownInLoop; split <;> exact BlkStep.same rfl rfl rfl rfl rfl rfl rfl

theorem disconnecting_blk (c : Conn) (h : c.st ≠ .kDisconnected) : BlkStep c { c with st := .kDisconnecting } :=
  ⟨rfl, rfl, rfl, rfl, fun _ => ⟨h, rfl⟩⟩

theorem handleWrite_blk (c : Conn) : BlkStep c (handleWrite c) :=
  have hs := (handleWrite_step c).step
  BlkStep.ofQ (handleWrite_data c).2.1 hs.blocks hs.offeredL hs.offeredF hs.st hs.queuedSends

theorem sendData_none {t : Task} (h : t.isSend = false) : sendData t = none := by
  cases t <;> first | rfl | cases h

theorem BlocksInv.pop {c : Conn} {t : Task} {rest : List Task} (hb : c.batch = t :: rest) (ht : sendData t = none)
    (hi : BlocksInv c) : BlocksInv { c with batch := rest } :=
  hi.frame (BlkStep.ofQ rfl rfl rfl rfl rfl (by simp [Conn.queuedSends, Conn.queue, hb, ht]))

/-- A `send()` passes its state test only while `kConnected`: on the loop thread the block is offered and
accepted in one step, on another thread it is offered and queued behind everything queued before.  A queued
`send` that finds the object gone is dropped, but then the connection is down (`LifeInv`). -/
theorem blocks_pres : Preserves LifeInv (fun _ => True) BlocksInv where
  frame h e := h.frame (BlkStep.same (congrArg Core.accepted e) (congrArg Core.blocks e) (congrArg Core.offeredL e)
    (congrArg Core.offeredF e) (congrArg Core.st e) (congrArg Core.batch e) (congrArg Core.pending e))
  event _ _ _ h := h.frame (BlkStep.same rfl rfl rfl rfl rfl rfl rfl)
  queued c t h1 _ _ h := h.frame (enqueue_blk c t (sendData_none h1))
  disconnecting c hu h := h.frame (disconnecting_blk c (isUp_ne hu))
  shutdown c hc h := h.frame ((disconnecting_blk c (by rw [hc]; decide)).trans (enqueue_blk _ _ rfl))
  sendForeign c d hc h := by
    have hq : (enqueue { c with offeredF := c.offeredF ++ [d] } (.sendInLoop d)).queuedSends = c.queuedSends ++ [d] := by
      rw [queuedSends_enqueue]; rfl
    refine ⟨h.flat, h.loopOrder, List.IsPrefix.trans h.foreignPrefix (List.prefix_append _ _), fun _ => ?_⟩
    rw [hq]
    show c.fBlocks ++ (c.queuedSends ++ [d]) = c.offeredF ++ [d]
    rw [← List.append_assoc, h.foreignAll (by rw [hc]; decide)]
  sendLoop c d hc h := by
    have hup : c.st ≠ .kDisconnected := by rw [hc]; decide
    rcases sendInLoop_blk { c with offeredL := c.offeredL ++ [d] } d false with ⟨hd, _⟩ | ha
    · exact absurd hd hup
    · exact h.accepts (c1 := { c with offeredL := c.offeredL ++ [d] }) rfl rfl rfl rfl rfl rfl ha
  down _ h := h.frame (BlkStep.down rfl rfl rfl rfl rfl)
  write c h := h.frame (handleWrite_blk c)
  swap _ h := h.frame (BlkStep.ofQ rfl rfl rfl rfl rfl (by simp [Conn.queuedSends, Conn.queue]))
  pop c t rest hb hl ht h := by
    by_cases ha : c.alive = true
    · exact h.pop hb (sendData_none (ht ha))
    · exact h.frame (BlkStep.down rfl rfl rfl rfl (hl.goneDown (Bool.eq_false_iff.mpr ha)))
  runSend c d rest hb h := by
    rcases sendInLoop_blk { c with batch := rest } d true with ⟨hd, hs⟩ | ha
    · exact (h.frame (c' := { c with batch := rest }) (BlkStep.down rfl rfl rfl rfl hd)).frame hs
    · exact h.accepts (c1 := { c with batch := rest }) rfl rfl (List.append_nil _).symm rfl rfl
        (by simp [Conn.queuedSends, Conn.queue, hb, sendData]) ha
  runShut _ t _ hb ht h := (h.pop hb (by cases t <;> first | rfl | cases ht)).frame (shutdownInLoop_blk _)
  runWc _ _ _ _ hb h := (h.pop hb rfl).frame (BlkStep.same rfl rfl rfl rfl rfl rfl rfl)
  envWrite _ _ _ h := h.frame (BlkStep.same rfl rfl rfl rfl rfl rfl rfl)

theorem establish_blocks (c : Conn) (h : Fresh c) : BlocksInv (step c .establish) := by
  apply establish_pres blocks_pres h
  constructor
  · show c.accepted = (c.blocks.map (·.2)).flatten
    rw [h.accepted, h.blocks]; rfl
  · show (c.blocks.filter (fun b => !b.1)).map (·.2) = c.offeredL
    rw [h.blocks, h.offeredL]; rfl
  · show (c.blocks.filter (·.1)).map (·.2) <+: c.offeredF
    rw [h.blocks, h.offeredF]; exact List.prefix_refl _
  · intro _
    show (c.blocks.filter (·.1)).map (·.2) ++ (c.batch ++ c.pending).filterMap sendData = c.offeredF
    rw [h.blocks, h.offeredF, h.batch, h.pending]; rfl

/-- C01 (send, per thread): in every reachable state the blocks sent on the loop thread have been
accepted in call order, the blocks sent on other threads are accepted in call order, and while
the connection is not down the not yet accepted ones are exactly the queued ones, in order -/
theorem per_thread_fifo (c0 : Conn) (h0 : Fresh c0) (ins : List Input) (hne : ∀ i ∈ ins, i.notEstablish) :
    let c := run (step c0 .establish) ins
    BlocksInv c := by
  intro c
  exact run_pres blocks_pres Side.life ins _ hne (fun _ _ => trivial) (establish_life c0 h0) (establish_blocks c0 h0)

/-- write-complete functors waiting in the queue -/
def wcQueued (c : Conn) : Nat := (c.queue.filter Task.isWc).length
/-- write-complete callbacks run so far -/
def wcRun (c : Conn) : Nat := (c.trace.filter Ev.isWc).length

structure WcInv (c : Conn) : Prop where
  /-- callbacks run + callbacks queued + one held in reserve by a non-empty backlog (its drain will
  schedule one) never exceed the number of accepted blocks -/
  count : wcRun c + wcQueued c + (if c.outBuf = [] then 0 else 1) ≤ c.blocks.length
  /-- write interest is on only over a non-empty backlog: one direction of `FlowInv.wi`, here without the guard
  "not down" (a connection that is down has no interest at all, `LifeInv.quiet`), because the count needs it at
  `handleWrite` -/
  writing : c.ch.evWrite = true → c.outBuf ≠ []

/-- a step that runs and queues no write-complete, accepts nothing, keeps the backlog and does
not switch write interest on -/
structure WcStep (c c' : Conn) : Prop where
  cnt : wcRun c' + wcQueued c' ≤ wcRun c + wcQueued c
  outBuf : c'.outBuf = c.outBuf
  blocks : c'.blocks = c.blocks
  evWrite : c'.ch.evWrite = true → c.ch.evWrite = true

theorem WcStep.rfl' (c : Conn) : WcStep c c := ⟨Nat.le_refl _, rfl, rfl, id⟩
theorem WcStep.trans {a b c : Conn} (h1 : WcStep a b) (h2 : WcStep b c) : WcStep a c :=
  ⟨Nat.le_trans h2.cnt h1.cnt, h2.outBuf.trans h1.outBuf, h2.blocks.trans h1.blocks, fun h => h1.evWrite (h2.evWrite h)⟩

theorem WcStep.same {c c' : Conn} (h1 : c'.trace = c.trace) (h2 : c'.batch = c.batch) (h3 : c'.pending = c.pending)
    (h4 : c'.outBuf = c.outBuf) (h5 : c'.blocks = c.blocks) (h6 : c'.ch.evWrite = true → c.ch.evWrite = true) :
    WcStep c c' :=
  ⟨by unfold wcRun wcQueued Conn.queue; rw [h1, h2, h3]; exact Nat.le_refl _, h4, h5, h6⟩

theorem WcInv.frame {c c' : Conn} (hi : WcInv c) (h : WcStep c c') : WcInv c' := by
  constructor
  · rw [h.outBuf, h.blocks]; have := hi.count; have := h.cnt; omega
  · intro hw; rw [h.outBuf]; exact hi.writing (h.evWrite hw)

theorem wcRun_emit (c : Conn) (e : Ev) : wcRun (emit c e) = wcRun c + (if e.isWc = true then 1 else 0) := by
  unfold wcRun emit; simp only [List.filter_append, List.length_append]
  by_cases h : e.isWc = true <;> simp [h]

theorem wcQueued_enqueue (c : Conn) (t : Task) :
    wcQueued (enqueue c t) = wcQueued c + (if t.isWc = true then 1 else 0) := by
  unfold wcQueued; rw [queue_enqueue]; simp only [List.filter_append, List.length_append]
  by_cases h : t.isWc = true <;> simp [h]

theorem emit_wcs (c : Conn) (e : Ev) (h : e.isWc = false) : WcStep c (emit c e) :=
  ⟨by rw [wcRun_emit, if_neg (by rw [h]; decide)]; exact Nat.le_refl _, rfl, rfl, id⟩

theorem enqueue_wcs (c : Conn) (t : Task) (h : t.isWc = false) : WcStep c (enqueue c t) :=
  ⟨by rw [wcQueued_enqueue, if_neg (by rw [h]; decide)]; exact Nat.le_refl _, rfl, rfl, id⟩

theorem setEvents_wcs (c : Conn) (r w : Bool) (h : w = true → c.ch.evWrite = true) : WcStep c (setEvents c r w) :=
  WcStep.same rfl rfl rfl rfl rfl (fun h' => h (by rw [setEvents_evWrite] at h'; exact h'))

theorem SendStep.wcQueued {c c' : Conn} {l : List Task} (h : SendStep c c' l) :
    wcQueued c' = wcQueued c + (l.filter Task.isWc).length := by
  unfold _root_.MuduoVerif.Conn.wcQueued Conn.queue
  rw [h.batch, h.pending, ← List.append_assoc, List.filter_append, List.length_append]

/-- one more block; a write-complete is queued at once only if the whole block went out over an empty backlog,
otherwise the backlog holds it in reserve -/
theorem sendInLoop_wci (c : Conn) (data : Bytes) (q : Bool) (hi : WcInv c) : WcInv (sendInLoop c data q) := by
  by_cases hu : c.st = .kDisconnected
  · rw [sendInLoop_down hu]; exact hi.frame (emit_wcs _ _ rfl)
  · have hd := (sendInLoop_data c data q hu).direct
    have hrun : wcRun (sendInLoop c data q) = wcRun c := by
      unfold wcRun
      split at hd
      · rw [hd.trace]; simp [Ev.isWc]
      · rw [hd.trace]
    have hwr : (sendInLoop c data q).ch.evWrite = true → (sendInLoop c data q).outBuf ≠ [] := by
      obtain ⟨X, h1, h2⟩ := sendInLoop_writing c data q hu
      exact fun hw => h2.mpr ((h1.mp hw).imp_left hi.writing)
    have hnil : ∀ l : List Task, (∀ t ∈ l, t.isWc = false) → (l.filter Task.isWc).length = 0 := fun l h => by
      rw [List.filter_eq_nil_iff.mpr fun t ht => by simp [h t ht]]; rfl
    have hb : (accept c data q).blocks.length = c.blocks.length + 1 := by simp [accept]
    have hq : wcQueued (accept c data q) = wcQueued c := rfl
    have hc := hi.count
    obtain ⟨l, hs, _, hl | ⟨b, hl, ho, ho'⟩⟩ := sendInLoop_step c data q hu
    · refine ⟨?_, hwr⟩
      rw [hrun, hs.wcQueued, hnil l hl, hs.blocks, hb, hq]
      split <;> split at hc <;> omega
    · refine ⟨?_, hwr⟩
      rw [if_pos ho'] at hc
      rw [hrun, hs.wcQueued, hs.blocks, hb, hq, if_pos ho, hl]
      show wcRun c + (wcQueued c + 1) + 0 ≤ c.blocks.length + 1
      omega

theorem shutdownInLoop_wcs (c : Conn) : WcStep c (shutdownInLoop c) := by
  unfold shutdownInLoop; split
  · exact WcStep.trans (b := { c with shutWr := true }) (WcStep.same rfl rfl rfl rfl rfl id) (emit_wcs _ _ rfl)
  · exact WcStep.rfl' c

theorem disableAll_wcs (c : Conn) : WcStep c (disableAll c) := setEvents_wcs c false false (fun h => by cases h)

/-- the drain path: the write-complete owed for the drained backlog is scheduled now; otherwise nothing is queued
and a backlog stays a backlog -/
theorem handleWrite_wci (c : Conn) (hi : WcInv c) : WcInv (handleWrite c) := by
  have hw := handleWrite_step c
  have hs := hw.step
  have ho := hw.outBuf
  have hrun : wcRun (handleWrite c) = wcRun c := by
    unfold wcRun; rcases hw.trace with h | h <;> rw [h]; simp [Ev.isWc]
  constructor
  · have hc := hi.count
    rw [hrun, hs.wcQueued, hs.blocks]
    by_cases hd : drainsNow c = true
    · rw [if_neg (hi.writing (drainsNow_interest hd))] at hc
      have : ((drainQueues c).filter Task.isWc).length ≤ 1 := by
        unfold drainQueues; split <;> split <;> simp [List.filter, Task.isWc]
      rw [if_pos hd, if_pos (ho.mpr (Or.inr hd))]; omega
    · have : ((handleWrite c).outBuf = []) ↔ c.outBuf = [] := by rw [ho]; simp [hd]
      rw [if_neg hd]; simp only [this, List.filter_nil, List.length_nil]; omega
  · intro hw h0
    obtain ⟨hw', hd⟩ := (handleWrite_step c).evWrite.mp hw
    exact hi.writing hw' ((ho.mp h0).resolve_right (by rw [hd]; decide))

theorem wcQueued_pop {c : Conn} {t : Task} {rest : List Task} (hb : c.batch = t :: rest) :
    wcQueued c = (if t.isWc = true then 1 else 0) + wcQueued ({ c with batch := rest } : Conn) := by
  unfold wcQueued Conn.queue; rw [hb]
  by_cases h : t.isWc = true <;> simp [h] <;> omega

theorem WcInv.pop {c : Conn} {t : Task} {rest : List Task} (hb : c.batch = t :: rest) (hi : WcInv c) :
    WcInv { c with batch := rest } :=
  hi.frame ⟨by show wcRun c + wcQueued ({ c with batch := rest } : Conn) ≤ _; rw [wcQueued_pop hb]; omega, rfl, rfl, id⟩

theorem wc_pres : Preserves (fun _ => True) (fun _ => True) WcInv where
  frame h e := h.frame (WcStep.same (congrArg Core.trace e) (congrArg Core.batch e) (congrArg Core.pending e)
    (congrArg Core.outBuf e) (congrArg Core.blocks e) (fun h' => (congrArg Core.evWrite e).symm.trans h'))
  event c e he h := h.frame (emit_wcs c e he)
  queued c t _ _ h3 h := h.frame (enqueue_wcs c t h3)
  disconnecting _ _ h := h.frame (WcStep.same rfl rfl rfl rfl rfl id)
  shutdown c _ h := h.frame (WcStep.trans (b := { c with st := .kDisconnecting }) (WcStep.same rfl rfl rfl rfl rfl id)
    (enqueue_wcs _ _ rfl))
  sendForeign c d _ h := h.frame (WcStep.trans (b := { c with offeredF := c.offeredF ++ [d] })
    (WcStep.same rfl rfl rfl rfl rfl id) (enqueue_wcs _ _ rfl))
  sendLoop _ _ _ h := sendInLoop_wci _ _ _ (h.frame (WcStep.same rfl rfl rfl rfl rfl id))
  down c h := h.frame (WcStep.trans (b := { c with st := .kDisconnected }) (WcStep.same rfl rfl rfl rfl rfl id)
    (disableAll_wcs _))
  write := handleWrite_wci
  swap c h := h.frame ⟨by unfold wcQueued; rw [queue_swap]; exact Nat.le_refl _, rfl, rfl, id⟩
  pop _ _ _ hb _ _ h := h.pop hb
  runSend _ _ _ hb h := sendInLoop_wci _ _ _ (h.pop hb)
  runShut _ _ _ hb _ h := (h.pop hb).frame (shutdownInLoop_wcs _)
  runWc c b rest k hb h := by
    -- the functor leaves the queue and the callback runs: one for one
    have hq : wcQueued c = 1 + wcQueued ({ c with batch := rest } : Conn) := wcQueued_pop hb
    constructor
    · rw [wcRun_emit]
      show wcRun ({ c with batch := rest } : Conn) + 1 + wcQueued ({ c with batch := rest } : Conn)
        + (if c.outBuf = [] then 0 else 1) ≤ c.blocks.length
      have := h.count
      have : wcRun ({ c with batch := rest } : Conn) = wcRun c := rfl
      omega
    · exact h.writing
  envWrite _ _ _ h := h.frame (WcStep.same rfl rfl rfl rfl rfl id)

theorem establish_wci (c : Conn) (h : Fresh c) : WcInv (step c .establish) := by
  apply establish_pres wc_pres h
  constructor
  · show (List.filter Ev.isWc (c.trace ++ [Ev.up])).length + ((c.batch ++ c.pending).filter Task.isWc).length
      + (if c.outBuf = [] then 0 else 1) ≤ c.blocks.length
    rw [h.trace, h.batch, h.pending, h.outBuf, h.blocks]; decide
  · intro hw
    have : (emit (enableReading { c with st := .kConnected }) .up).ch.evWrite = c.ch.evWrite := setEvents_evWrite _ _ _
    rw [this, h.ch] at hw; cases hw

/-- C13 (counting): in every reachable state, the write-complete callbacks run so far, plus those
queued, plus one if there is a backlog (its drain will schedule one), are at most the number of
`send()`s accepted — no write-complete without a send of its own before it -/
theorem wc_needs_send (c0 : Conn) (h0 : Fresh c0) (ins : List Input) (hne : ∀ i ∈ ins, i.notEstablish) :
    let c := run (step c0 .establish) ins
    wcRun c + wcQueued c + (if c.outBuf = [] then 0 else 1) ≤ c.blocks.length := by
  intro c
  exact (run_pres wc_pres Side.none ins _ hne (fun _ _ => trivial) trivial (establish_wci c0 h0)).count

/-- … and write interest is on only over a non-empty backlog (`write_interest` in ConnFlow has the converse too,
for a connection that is not down) -/
theorem writing_needs_backlog (c0 : Conn) (h0 : Fresh c0) (ins : List Input) (hne : ∀ i ∈ ins, i.notEstablish) :
    let c := run (step c0 .establish) ins
    c.ch.evWrite = true → c.outBuf ≠ [] := by
  intro c
  exact (run_pres wc_pres Side.none ins _ hne (fun _ _ => trivial) trivial (establish_wci c0 h0)).writing

example : Fresh ({} : Conn) := fresh_default .epoll true true true (64 * 1024 * 1024) (1 <<< 40) [] [] []

example : ∀ i ∈ ([.envWrite (.took 3), .act false (.send [1,2,3]), .act true (.send [4,5]), .act true (.send [6]),
      .act false (.send [7]), .iter []] : List Input), i.notEstablish := by
  intro i hi; simp at hi; rcases hi with rfl | rfl | rfl | rfl | rfl | rfl <;> trivial

/-- sends from the loop thread and from other threads, before the loop runs the queue … -/
example :
    let c := run (step {} .establish) [.envWrite (.took 3), .act false (.send [1,2,3]), .act true (.send [4,5]),
      .act true (.send [6]), .act false (.send [7])]
    c.lBlocks = [[1,2,3],[7]] ∧ c.fBlocks = [] ∧ c.queuedSends = [[4,5],[6]] ∧ c.offeredF = [[4,5],[6]]
      ∧ c.accepted = [1,2,3,7] := by decide

/-- … and after -/
example :
    let c := run (step {} .establish) [.envWrite (.took 3), .act false (.send [1,2,3]), .act true (.send [4,5]),
      .act true (.send [6]), .act false (.send [7]), .iter []]
    c.lBlocks = [[1,2,3],[7]] ∧ c.fBlocks = [[4,5],[6]] ∧ c.queuedSends = [] ∧ c.accepted = [1,2,3,7,4,5,6] := by decide

/-- the counting bound is attained: three sends (two of them from inside the write-complete
callback), three write-complete callbacks -/
example :
    let c := run (step {} .establish) [.hook .wc (.send [9]), .hook .wc (.send [8,8]), .envWrite (.took 3), .envWrite (.took 1),
      .envWrite (.took 0), .act false (.send [1,2,3]), .iter [], .iter [], .envWrite (.took 2), .iter [.conn 4], .iter [], .iter []]
    wcRun c = 3 ∧ wcQueued c = 0 ∧ c.outBuf = [] ∧ c.blocks.length = 3 := by decide

end MuduoVerif.Conn
