import MuduoVerif.Proofs.PollerPerm
import MuduoVerif.Proofs.PollerDispatch
/-!
# Under epoll every ready, subscribed channel is called within the doubling bound

* the size of `EPollPoller::events_` along a history: never shrinks, doubles (`Gen.Poller.epGrowTo`) exactly in an
  iteration that filled the array (`Gen.Poller.epArrayFull`);
* `k` consecutive waits of an epoll loop while `R` descriptors stay ready.
-/
namespace MuduoVerif.Poller
open MuduoVerif.Gen.Poller

theorem applyOp_evsize (s : State) (c k) : (applyOp s c k).evsize = s.evsize := (applyOp_loop s c k).2.2

theorem le_epGrowTo (n : Nat) : n ≤ epGrowTo n := by unfold epGrowTo; omega

theorem pollerPoll_evsize (s : State) (ready) (nret) :
    (pollerPoll s ready nret).1.evsize =
      if s.be = .epoll ∧ epHasEvents (nret : Int) ∧ ¬ (ready.length > s.evsize ∨ nret ≠ ready.length) ∧
          epArrayFull nret s.evsize then epGrowTo s.evsize else s.evsize := by
  cases hbe : s.be with
  | poll =>
    rw [pollerPoll_poll_eq hbe, if_neg fun h => Backend.noConfusion h.1]
    exact (fill_pollFill ready s.pollfds (emit s (.wait s.pollfds.length kPollTimeMs)) nret []).evsize
  | epoll =>
    unfold pollerPoll
    rw [hbe]
    simp only [true_and]
    by_cases h2 : epHasEvents (nret : Int)
    · rw [if_pos h2]
      by_cases h1 : ready.length > (emit s (.wait s.evsize kPollTimeMs)).evsize ∨ nret ≠ ready.length
      · rw [if_pos h1, if_neg (fun h => h.2.1 h1)]; rfl
      · rw [if_neg h1]
        have h := (fill_epollFill ready (emit s (.wait s.evsize kPollTimeMs)) []).evsize
        generalize epollFill (emit s (.wait s.evsize kPollTimeMs)) ready [] = p at h
        obtain ⟨s1, act⟩ := p
        simp only at h ⊢
        have h' : s1.evsize = s.evsize := h
        rw [h']
        by_cases h3 : epArrayFull nret s.evsize
        · rw [if_pos h3, if_pos ⟨h2, h1, h3⟩]
        · rw [if_neg h3, if_neg (fun h => h3 h.2.2)]; exact h'
    · rw [if_neg h2, if_neg (fun h => h2 h.1)]; rfl

theorem dispatch_evsize (act : List Nat) (s : State) : (dispatch s act).evsize = s.evsize :=
  dispatch_preserves (P := fun t => t.evsize = s.evsize) (fun t c k h => (applyOp_evsize t c k).trans h)
    (fun _ _ _ _ _ _ h => h) (fun t u q h => by obtain ⟨c, k, _, _, _, rfl⟩ := q; exact h) act rfl

theorem iter_evsize (s : State) (ready) (nret) :
    (iter s ready nret).evsize = if s.dead then s.evsize else (pollerPoll s ready nret).1.evsize := by
  rw [iter_eq]
  cases hd : s.dead with
  | true => simp
  | false =>
    simp only [Bool.false_eq_true, if_false]
    split
    · rfl
    · simp only [dispatch_evsize]

theorem iter_evsize_le (s : State) (ready) (nret) : s.evsize ≤ (iter s ready nret).evsize := by
  rw [iter_evsize, pollerPoll_evsize]
  split
  · exact Nat.le_refl _
  · split
    · exact le_epGrowTo _
    · exact Nat.le_refl _

theorem step_evsize_le (s : State) (i : In) : s.evsize ≤ (step s i).evsize := by
  cases i with
  | op c k => exact Nat.le_of_eq (applyOp_evsize s c k).symm
  | hook h => simp only [step]; split <;> exact Nat.le_refl _
  | iter ready nret => exact iter_evsize_le s ready nret

theorem run_evsize_le (ins : List In) (s : State) : s.evsize ≤ (run s ins).evsize :=
  foldl_inv (P := fun t => s.evsize ≤ t.evsize) ins (fun t i _ h => Nat.le_trans h (step_evsize_le t i)) s (Nat.le_refl _)

theorem init_evsize (be : Backend) : (init be).evsize = kInitEventListSize := by
  show (applyOp (applyOp (empty be) timerChan .enableR) wakeChan .enableR).evsize = _
  rw [applyOp_evsize, applyOp_evsize]; rfl

/-- the `j`-th of a series of consecutive waits while the descriptors of `order j` (channel, revents) are ready:
`order j` is the kernel's ready list as it stands at that wait, `epoll_wait` reports its first `min R evsize` entries
(as many as the array `events_` holds) and returns their number -/
def epWait (order : Nat → List (Nat × Nat)) (j : Nat) (s : State) : State :=
  iter s ((order j).take s.evsize) ((order j).take s.evsize).length

def epWaits (order : Nat → List (Nat × Nat)) : Nat → State → State
  | 0, s => s
  | n + 1, s => epWait order n (epWaits order n s)

/-- what `n` consecutive waits without scripted operations keep, and how far the array has grown -/
structure WaitsInv (s0 sn : State) (R n : Nat) : Prop where
  alive : EpAlive sn
  hooks : sn.hooks = []
  kernel : sn.kernel = s0.kernel
  ev : ∀ c, (sn.chans c).events = (s0.chans c).events
  pos : 0 < sn.evsize
  grow : s0.evsize * 2 ^ n ≤ sn.evsize ∨ R < sn.evsize

theorem epWait_env {s0 sn : State} {rdy : List (Nat × Nat)} {l : List (Nat × Nat)} (hl : l.Perm rdy)
    (hker : sn.kernel = s0.kernel) (hk : ∀ p ∈ rdy, (s0.kernel (fdOf p.1)).isSome) :
    epEnvOk sn (.iter (l.take sn.evsize) (l.take sn.evsize).length) :=
  fun _ => ⟨rfl, List.length_take_le _ _, fun p hp => by
    rw [hker]; exact hk p (hl.mem_iff.1 (List.mem_of_mem_take hp))⟩

theorem iter_nohooks_keeps {be : Backend} {s : State} (hg : Alive be s) (hh : s.hooks = []) (ready) (nret)
    (henv : epEnvOk s (.iter ready nret)) :
    (iter s ready nret).hooks = [] ∧ (iter s ready nret).kernel = s.kernel ∧
      ∀ c, ((iter s ready nret).chans c).events = (s.chans c).events := by
  have hsb := (sameBook_pollerPoll s ready nret).hooks.trans hh
  rw [iter_nohooks hg.dead ready nret (alive_poll s ready nret hg henv).dead hsb]
  exact ⟨hsb, (frame_pollerPoll s ready nret).kernel, (frame_pollerPoll s ready nret).ev⟩

theorem epWait_full {s : State} (hbe : s.be = .epoll) (hd : s.dead = false) (hpos : 0 < s.evsize)
    (order : Nat → List (Nat × Nat)) (j : Nat) (hl : s.evsize ≤ (order j).length) :
    (epWait order j s).evsize = epGrowTo s.evsize := by
  unfold epWait
  rw [iter_evsize, hd, pollerPoll_evsize, List.length_take, Nat.min_eq_left hl, if_neg Bool.false_ne_true,
    if_pos ⟨hbe, by unfold epHasEvents; omega, by omega, rfl⟩]

theorem waitsInv_step {s0 sn : State} {rdy : List (Nat × Nat)} {n : Nat} (order : Nat → List (Nat × Nat))
    (hord : (order n).Perm rdy) (hk : ∀ p ∈ rdy, (s0.kernel (fdOf p.1)).isSome)
    (inv : WaitsInv s0 sn rdy.length n) : WaitsInv s0 (epWait order n sn) rdy.length (n + 1) := by
  have henv := epWait_env (sn := sn) hord inv.kernel hk
  have ha := alive_epoll.2 inv.alive
  obtain ⟨h1, h2, h3⟩ := iter_nohooks_keeps ha inv.hooks _ _ henv
  have hle : sn.evsize ≤ (epWait order n sn).evsize := iter_evsize_le sn _ _
  refine ⟨alive_epoll.1 (alive_step sn (.iter _ _) ha henv), h1, h2.trans inv.kernel, fun c => (h3 c).trans (inv.ev c),
    Nat.lt_of_lt_of_le inv.pos hle, ?_⟩
  by_cases hR : rdy.length < sn.evsize
  · exact .inr (Nat.lt_of_lt_of_le hR hle)
  · rw [epWait_full ha.good.be ha.dead inv.pos order n (hord.length_eq ▸ Nat.le_of_not_lt hR), Nat.pow_succ,
      ← Nat.mul_assoc]
    exact .inl (Nat.mul_le_mul_right 2 (inv.grow.resolve_right hR))

theorem epWaits_inv {s : State} (hg : Alive .epoll s) (hh : s.hooks = []) (hpos : 0 < s.evsize)
    {rdy : List (Nat × Nat)} (order : Nat → List (Nat × Nat)) (hord : ∀ j, (order j).Perm rdy)
    (hk : ∀ p ∈ rdy, (s.kernel (fdOf p.1)).isSome) :
    ∀ n, WaitsInv s (epWaits order n s) rdy.length n := by
  intro n
  induction n with
  | zero => exact ⟨alive_epoll.1 hg, hh, rfl, fun _ => rfl, hpos, .inl (by simp [epWaits])⟩
  | succ n ih => exact waitsInv_step order (hord n) hk ih

end MuduoVerif.Poller
