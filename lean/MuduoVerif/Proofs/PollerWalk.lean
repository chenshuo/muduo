import MuduoVerif.Proofs.Fold
import MuduoVerif.Proofs.PollerOps
/-!
The dispatch phase of one iteration, walked once: through states that satisfy an invariant `I` which is stable under
the scripted operations, under the loop's own bookkeeping and under the emission of a guarded callback event
(`Does`).  An invariant with these three stabilities that `Poller::poll` keeps too holds after every input and every
history (`step_induction`, `run_induction`, `run_preserves`).
-/
namespace MuduoVerif.Poller
open MuduoVerif.Gen.Poller

/-- from a state with output `o` to `t` the callbacks `D` were handled, `I` holding whenever one was considered:
`t` logged `l` more, a callback event of `l` is one of `D` with the `revents_` of that moment, and every callback
of `D` that was due at its moment is in `l`.  The users choose `I` so that it pins the `revents_` (and interest) of the
channel they ask about: then whichever state `u` witnesses `only` / `all`, the values are the same -/
structure Does (I : State → Prop) (D : Nat → Kind → Prop) (o : List Ev) (t : State) (l : List Ev) : Prop where
  inv : I t
  out : t.out = o ++ l
  only : ∀ x k rev ev, Ev.cb x k rev ev ∈ l → D x k ∧ ∃ u, I u ∧ rev = (u.chans x).revents
  all : ∀ x k, D x k → ∃ u, I u ∧ (u.dead = false → disp k (u.chans x).revents → subscribed k (u.chans x).events →
    Ev.cb x k (u.chans x).revents (u.chans x).events ∈ l)

theorem Does.trans {I D1 D2 o t u l1 l2} (h1 : Does I D1 o t l1) (h2 : Does I D2 t.out u l2) :
    Does I (fun x k => D1 x k ∨ D2 x k) o u (l1 ++ l2) where
  inv := h2.inv
  out := by rw [h2.out, h1.out, List.append_assoc]
  only x k rev ev hm := (List.mem_append.1 hm).elim
    (fun m => (h1.only x k rev ev m).imp .inl id) (fun m => (h2.only x k rev ev m).imp .inr id)
  all x k hd := hd.elim
    (fun d => let ⟨v, hv, m⟩ := h1.all x k d; ⟨v, hv, fun a b c => List.mem_append_left _ (m a b c)⟩)
    (fun d => let ⟨v, hv, m⟩ := h2.all x k d; ⟨v, hv, fun a b c => List.mem_append_right _ (m a b c)⟩)

theorem Does.mono {I D D' o t l} (h : Does I D o t l) (hD : ∀ x k, D' x k ↔ D x k) : Does I D' o t l :=
  ⟨h.inv, h.out, fun x k rev ev m => (h.only x k rev ev m).imp (hD x k).2 id,
    fun x k d => h.all x k ((hD x k).1 d)⟩

section
variable {I : State → Prop} {G : Hook → Prop}
  (hop : ∀ s h, G h → I s → I (applyOp s h.c h.op))
  (hG : ∀ s, I s → ∀ h ∈ s.hooks, G h)
  (hq : ∀ s hs c, (∀ h ∈ hs, h ∈ s.hooks) → I s → I { s with hooks := hs, cur := c })
  (hcb : ∀ s t, CbStep s t → I s → I t)
include hop

theorem does_ops (hs : List Hook) (s : State) (hg : ∀ h ∈ hs, G h) (h : I s) :
    I (hs.foldl (fun s h => applyOp s h.c h.op) s) ∧
    ∃ l, (hs.foldl (fun s h => applyOp s h.c h.op) s).out = s.out ++ l ∧ ∀ e ∈ l, e.isCb = false :=
  foldl_inv (P := fun t => I t ∧ ∃ l, t.out = s.out ++ l ∧ ∀ e ∈ l, e.isCb = false) hs
    (fun t x hx ⟨ht, l1, e1, c1⟩ =>
      let ⟨l0, e0, c0, _⟩ := applyOp_out t x.c x.op
      ⟨hop t x (hg x hx) ht, l1 ++ l0, by rw [e0, e1, List.append_assoc],
        List.forall_mem_append.2 ⟨c1, fun e m => notCb_of_isUser (c0 e m)⟩⟩)
    s ⟨h, [], (List.append_nil _).symm, List.forall_mem_nil _⟩

include hG hq hcb

theorem does_stage (k : Kind) (x : Nat) {s : State} (h : I s) :
    ∃ l, Does I (fun y k' => y = x ∧ k' = k) s.out (stage k s x) l := by
  rw [stage_eq]
  split
  · rename_i hc
    have h1 := hcb _ _ ⟨x, k, hc.1, hc.2.1, hc.2.2, rfl⟩ h
    obtain ⟨h3, l3, e3, c3⟩ := does_ops hop _ _ (fun y hy => hG _ h1 y (List.mem_filter.1 hy).1)
      (hq _ _ _ (fun y hy => (List.mem_filter.1 hy).1) h1)
    refine ⟨.cb x k (s.chans x).revents (s.chans x).events :: l3, h3, e3.trans (List.append_assoc ..), ?_, ?_⟩
    · intro y k' rev ev hm
      rcases List.mem_cons.1 hm with e | m
      · injection e with a b c _; subst a b c; exact ⟨⟨rfl, rfl⟩, s, h, rfl⟩
      · exact nomatch c3 _ m
    · rintro _ _ ⟨rfl, rfl⟩; exact ⟨s, h, fun _ _ _ => List.mem_cons_self⟩
  · rename_i hc
    exact ⟨[], h, (List.append_nil _).symm, fun _ _ _ _ m => (List.not_mem_nil m).elim,
      fun _ _ ⟨e1, e2⟩ => ⟨s, h, fun a b c => absurd (e1 ▸ e2 ▸ ⟨a, b, c⟩) hc⟩⟩

theorem does_handleEvent (x : Nat) {s : State} (h : I s) :
    ∃ l, Does I (fun y _ => y = x) s.out (handleEvent s x) l := by
  obtain ⟨l1, d1⟩ := does_stage hop hG hq hcb .close x h
  obtain ⟨l2, d2⟩ := does_stage hop hG hq hcb .error x d1.inv
  obtain ⟨l3, d3⟩ := does_stage hop hG hq hcb .read x d2.inv
  obtain ⟨l4, d4⟩ := does_stage hop hG hq hcb .write x d3.inv
  exact ⟨_, (((d1.trans d2).trans d3).trans d4).mono fun y k => by cases k <;> simp⟩

theorem does_dispatch (act : List Nat) : ∀ {s : State}, I s →
    ∃ l, Does I (fun y _ => y ∈ act) s.out (dispatch s act) l := by
  induction act with
  | nil => exact fun h => ⟨[], h, (List.append_nil _).symm, fun _ _ _ _ m => (List.not_mem_nil m).elim,
      fun _ _ m => (List.not_mem_nil m).elim⟩
  | cons x rest ih =>
    intro s h
    obtain ⟨l1, d1⟩ := does_handleEvent hop hG hq hcb x (hq s _ (some x) (fun _ m => m) h)
    obtain ⟨l2, d2⟩ := ih d1.inv
    exact ⟨_, (d1.trans d2).mono fun y k => List.mem_cons⟩

end

section
variable {P : State → Prop} {Q : State → In → Prop}
  (hop : ∀ s c k, P s → P (applyOp s c k))
  (hloop : ∀ s hooks cur it act h, P s →
    P { s with hooks := hooks, cur := cur, iteration := it, active := act, handling := h })
  (hcb : ∀ s t, CbStep s t → P s → P t)
  (hpoll : ∀ s ready nret, P s → s.dead = false → Q s (.iter ready nret) → P (pollerPoll s ready nret).1)
include hop hloop hcb

theorem dispatch_preserves (act : List Nat) {s : State} (h : P s) : P (dispatch s act) :=
  (does_dispatch (G := fun _ => True) (fun s h _ => hop s h.c h.op) (fun _ _ _ _ => trivial)
    (fun s hs c _ => hloop s hs c s.iteration s.active s.handling) hcb act h).elim fun _ d => d.inv

include hpoll

theorem step_induction (s : State) (i : In) (hs : P s) (hq : Q s i) : P (step s i) := by
  cases i with
  | op c k => exact hop s c k hs
  | hook h =>
    simp only [step]
    split
    · exact hs
    · exact hloop s _ s.cur s.iteration s.active s.handling hs
  | iter ready nret =>
    simp only [step]
    rw [iter_eq]
    split
    · exact hs
    · rename_i hd
      have h1 := hpoll s ready nret hs (by simpa using hd) hq
      split
      · exact h1
      · exact hloop _ _ none _ _ false (dispatch_preserves hop hloop hcb _
          (hloop _ (pollerPoll s ready nret).1.hooks (pollerPoll s ready nret).1.cur _ _ true h1))

theorem run_induction (ins : List In) : ∀ s, P s → Along Q s ins → P (run s ins) := by
  induction ins with
  | nil => intro s hs _; exact hs
  | cons i rest ih => intro s hs ha; exact ih _ (step_induction hop hloop hcb hpoll s i hs ha.1) ha.2

end

theorem run_preserves {P : State → Prop}
    (hop : ∀ s c k, P s → P (applyOp s c k))
    (hframe : ∀ s t, Frame s t → P s → P t)
    (hcb : ∀ s t, CbStep s t → P s → P t)
    (ins : List In) : ∀ s, P s → P (run s ins) :=
  foldl_inv ins fun s i _ hs => step_induction (Q := fun _ _ => True) hop
    (fun s hooks cur it act h => hframe _ _ (frame_loop s hooks cur it act h)) hcb
    (fun s ready nret h _ _ => hframe _ _ (frame_pollerPoll s ready nret) h) s i hs trivial

end MuduoVerif.Poller
