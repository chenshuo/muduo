import MuduoVerif.Generated.TsText
import MuduoVerif.Model.TsTextDecl
/-!
# T1 tie for the text forms of `Timestamp` (C20)

`Gen.TsText.<x>` is what `vlib/gen/tstext.py` extracts from /repo's current `muduo/base/Timestamp.cc` on every run;
`TsText.Decl.<x>` is what the theorems about the text forms were proved for.  The model calls the generated
definitions of the widths, flags, separators, buffer sizes and of the split of the microsecond count: a change of one
of these breaks the equation and the theorems.  The argument lists (`toStringArgs`, `formattedArgs`, `formattedArgsMicro`,
`formattedGmtime`) are compared here only; the model writes the arguments in the declared order itself.
-/
namespace MuduoVerif.TsText

theorem text_forms_tied :
    Gen.TsText.toStringSeconds = Decl.toStringSeconds ∧
    Gen.TsText.toStringMicros = Decl.toStringMicros ∧
    Gen.TsText.toStringFormat = Decl.toStringFormat ∧
    Gen.TsText.toStringBuf = Decl.toStringBuf ∧
    Gen.TsText.toStringArgs = Decl.toStringArgs ∧
    Gen.TsText.formattedSeconds = Decl.formattedSeconds ∧
    Gen.TsText.formattedMicros = Decl.formattedMicros ∧
    Gen.TsText.formattedShowsMicros = Decl.formattedShowsMicros ∧
    Gen.TsText.formattedFormatMicro = Decl.formattedFormatMicro ∧
    Gen.TsText.formattedBufMicro = Decl.formattedBufMicro ∧
    Gen.TsText.formattedArgsMicro = Decl.formattedArgsMicro ∧
    Gen.TsText.formattedFormat = Decl.formattedFormat ∧
    Gen.TsText.formattedBuf = Decl.formattedBuf ∧
    Gen.TsText.formattedArgs = Decl.formattedArgs ∧
    Gen.TsText.formattedGmtime = Decl.formattedGmtime :=
  ⟨rfl, rfl, rfl, rfl, rfl, rfl, rfl, rfl, rfl, rfl, rfl, rfl, rfl, rfl, rfl⟩

end MuduoVerif.TsText
