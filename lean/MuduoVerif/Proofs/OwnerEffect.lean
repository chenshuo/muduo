import MuduoVerif.Proofs.OwnerInv
import MuduoVerif.Proofs.Fold
/-! What a handler does to everything but its own connection, said once for all handlers: `Eff` joins `Agree` for the other
connections, `Ext` (configuration, map, trace) and what is appended to the queues (`GrowA`, `BaseAppends`).  The last two are not
needed for `GInv`: they feed the exit invariant (`OwnerExit.lean`: `XInvE`, `OwnerStrand.lean`: `BaseQueueInv`, `ExitInv`). -/
namespace MuduoVerif.Owner
open MuduoVerif.Gen.Owner
open MuduoVerif.Gen.Conn (StateE forceCloseAccepts shutdownAccepts forceCloseInLoopActs destroyedWhileConnected)

theorem life_emit_other (s : Srv) {c c' : Nat} (k : Kind) (l : Nat) (h : c' ≠ c) :
    life c (s.trace ++ [⟨c', k, l⟩]) = life c s.trace := by
  rw [life_snoc]; simp [lifeStep, h]

theorem agree_setConn (s : Srv) {c c' : Nat} (C : Conn) (h : c' ≠ c) : Agree s (s.setConn c' C) c :=
  { Agree.refl s c with conn := setConn_conn_other s c' c C h.symm }

theorem agree_emit (s : Srv) {c c' : Nat} (k : Kind) (l : Nat) (h : c' ≠ c) : Agree s (s.emit c' k l) c :=
  { Agree.refl s c with life := life_emit_other s k l h }

theorem not_holds_of_not_about {c : Nat} {t : Task} (h : about c t = false) : t.holds c = false :=
  Bool.eq_false_iff.mpr fun hh => Bool.false_ne_true (h.symm.trans (holds_about hh))

theorem agree_enq (s : Srv) {c : Nat} (l : Nat) {t : Task} (h : about c t = false) : Agree s (s.enq l t) c :=
  { Agree.refl s c with
    q := fun l' => by rw [enq_q]; split <;> simp [List.filter_append, h]
    hold := fun l' => by rw [enq_q]; split <;> simp [List.any_append, not_holds_of_not_about h] }

/-- the head of queue `l` moves to the batch of loop `l` -/
def pop (s : Srv) (l : Nat) (t : Task) (rest : List Task) : Srv :=
  { s with q := fun i => if i = l then rest else s.q i, done := fun i => if i = l then s.done i ++ [t] else s.done i }

@[simp] theorem pop_conn (s : Srv) (l : Nat) (t : Task) (rest : List Task) : (pop s l t rest).conn = s.conn := rfl

@[simp] theorem pop_map (s : Srv) (l : Nat) (t : Task) (rest : List Task) : (pop s l t rest).map = s.map := rfl

@[simp] theorem pop_alive (s : Srv) (l : Nat) (t : Task) (rest : List Task) : (pop s l t rest).alive = s.alive := rfl

@[simp] theorem pop_trace (s : Srv) (l : Nat) (t : Task) (rest : List Task) : (pop s l t rest).trace = s.trace := rfl

@[simp] theorem pop_L (s : Srv) (l : Nat) (t : Task) (rest : List Task) : (pop s l t rest).L = s.L := rfl

@[simp] theorem pop_n (s : Srv) (l : Nat) (t : Task) (rest : List Task) : (pop s l t rest).n = s.n := rfl

@[simp] theorem pop_nameOf (s : Srv) (l : Nat) (t : Task) (rest : List Task) : (pop s l t rest).nameOf = s.nameOf := rfl

@[simp] theorem pop_inMap (s : Srv) (l : Nat) (t : Task) (rest : List Task) (c : Nat) : (pop s l t rest).inMap c = s.inMap c := rfl

theorem pop_q (s : Srv) (l : Nat) (t : Task) (rest : List Task) (l' : Nat) :
    (pop s l t rest).q l' = if l' = l then rest else s.q l' := rfl

@[simp] theorem pop_q_self (s : Srv) (l : Nat) (t : Task) (rest : List Task) : (pop s l t rest).q l = rest := by simp [pop]

theorem sublist_tail_update {f : Nat → List Task} {l : Nat} {t : Task} {rest : List Task} (h : f l = t :: rest) (l' : Nat) :
    (if l' = l then rest else f l').Sublist (f l') := by
  split
  · next h' => rw [h', h]; exact List.sublist_cons_self _ _
  · exact List.Sublist.refl _

theorem mem_of_mem_pop {s : Srv} {l : Nat} {t : Task} {rest : List Task} (hq : s.q l = t :: rest) {l' : Nat} {u : Task}
    (hu : u ∈ (pop s l t rest).q l') : u ∈ s.q l' :=
  (sublist_tail_update hq l').subset hu

theorem runHead_cons (s : Srv) (l : Nat) (t : Task) (rest : List Task) (h : s.q l = t :: rest) :
    runHead s l = runTask (pop s l t rest) l t := by
  simp [runHead, h, pop]

theorem runHead_nil (s : Srv) (l : Nat) (h : s.q l = []) : runHead s l = s := by
  simp [runHead, h]

/-- the functors' own references: the popped functor still holds what it held, now from the batch -/
theorem pop_hold (s : Srv) (c l : Nat) (t : Task) (rest : List Task) (hq : s.q l = t :: rest) (l' : Nat) :
    (((pop s l t rest).q l').any (·.holds c) || ((pop s l t rest).done l').any (·.holds c)) =
      ((s.q l').any (·.holds c) || (s.done l').any (·.holds c)) := by
  simp only [pop]; split
  · rename_i h'; subst h'; simp [hq, List.any_append, Bool.or_comm, Bool.or_assoc, Bool.or_left_comm]
  · rfl

theorem agree_pop (s : Srv) {c : Nat} (l : Nat) (t : Task) (rest : List Task) (hq : s.q l = t :: rest) (h : about c t = false) :
    Agree s (pop s l t rest) c :=
  { Agree.refl s c with
    hold := pop_hold s c l t rest hq
    q := fun l' => by
      simp only [pop]; split
      · rename_i h'; subst h'; simp [hq, h]
      · rfl }

theorem held_pop (s : Srv) (c l : Nat) (t : Task) (rest : List Task) (hq : s.q l = t :: rest) :
    (pop s l t rest).held c = s.held c := by
  unfold Srv.held Srv.inQueues
  simp only [pop_hold s c l t rest hq]
  rfl

theorem agree_reapOne (s : Srv) {c c' : Nat} (l : Nat) (h : c' ≠ c) : Agree s (reapOne s l c') c := by
  unfold reapOne; split
  · exact (agree_setConn s _ h).trans (agree_emit _ _ _ h)
  · exact Agree.refl s c

/-- loop `l`'s batch without its first functor -/
def undone (s : Srv) (l : Nat) (rest : List Task) : Srv := { s with done := fun i => if i = l then rest else s.done i }

theorem agree_undone (s : Srv) (l : Nat) (t : Task) (rest : List Task) (hd : s.done l = t :: rest) (c : Nat) (h : about c t = false) :
    Agree s (undone s l rest) c :=
  { Agree.refl s c with
    hold := fun l' => by
      simp only [undone]; split
      · rename_i h'; subst h'; simp [hd, not_holds_of_not_about h]
      · rfl }

/-- queue `l` without its first functor (which is destroyed unrun) -/
def dropq (s : Srv) (l : Nat) (rest : List Task) : Srv := { s with q := fun i => if i = l then rest else s.q i }

theorem agree_dropq (s : Srv) (l : Nat) (t : Task) (rest : List Task) (hq : s.q l = t :: rest) (c : Nat) (h : about c t = false) :
    Agree s (dropq s l rest) c :=
  { Agree.refl s c with
    q := fun l' => by
      simp only [dropq]; split
      · rename_i h'; subst h'; simp [hq, h]
      · rfl
    hold := fun l' => by
      simp only [dropq]; split
      · rename_i h'; subst h'; simp [hq, not_holds_of_not_about h]
      · rfl }

theorem runHead_inv {P : Srv → Prop} {s : Srv} {l : Nat} (h0 : P s)
    (h1 : ∀ t rest, s.q l = t :: rest → P (runTask (pop s l t rest) l t)) : P (runHead s l) := by
  cases hq : s.q l with
  | nil => rw [runHead_nil s l hq]; exact h0
  | cons t rest => rw [runHead_cons s l t rest hq]; exact h1 t rest hq

theorem ite_inv {P : Srv → Prop} {p : Prop} [Decidable p] {a b : Srv} (ha : p → P a) (hb : ¬p → P b) :
    P (if p then a else b) := by
  split
  · exact ha ‹_›
  · exact hb ‹_›

theorem iterate_inv {P : Srv → Prop} {f : Srv → Srv} (hf : ∀ s, P s → P (f s)) (k : Nat) : ∀ s, P s → P (iterate f k s) := by
  induction k with
  | zero => exact fun _ h => h
  | succ k ih => exact fun s h => ih (f s) (hf s h)

theorem drainAll_inv {P : Srv → Prop} {l : Nat} (hf : ∀ s, P s → P (drainBatch s l)) (f : Nat) : ∀ s, P s → P (drainAll l f s) := by
  induction f with
  | zero => exact fun _ h => h
  | succ f ih =>
    intro s h
    simp only [drainAll]; split
    · exact hf s h
    · exact ih _ (hf s h)

theorem releaseHead_cons (s : Srv) (l : Nat) (t : Task) (rest : List Task) (h : s.done l = t :: rest) :
    releaseHead s l = match t.conn? with
      | some c => reapOne (undone s l rest) l c
      | none => undone s l rest := by
  simp only [releaseHead, h]; rfl

theorem releaseHead_inv {P : Srv → Prop} {s : Srv} {l : Nat} (h0 : P s)
    (h1 : ∀ t rest, s.done l = t :: rest → P (undone s l rest)) (h2 : ∀ s' c, P s' → P (reapOne s' l c)) :
    P (releaseHead s l) := by
  cases hd : s.done l with
  | nil => simp only [releaseHead, hd]; exact h0
  | cons t rest =>
    rw [releaseHead_cons s l t rest hd]
    cases t.conn? with
    | none => exact h1 t rest hd
    | some c => exact h2 _ c (h1 t rest hd)

theorem dropHead_cons (s : Srv) (l : Nat) (t : Task) (rest : List Task) (h : s.q l = t :: rest) :
    dropHead s l = match t.conn? with
      | some c => reapOne (dropq s l rest) l c
      | none => dropq s l rest := by
  simp only [dropHead, h]; rfl

theorem dropHead_inv {P : Srv → Prop} {s : Srv} {l : Nat} (h0 : P s)
    (h1 : ∀ t rest, s.q l = t :: rest → P (dropq s l rest)) (h2 : ∀ s' c, P s' → P (reapOne s' l c)) :
    P (dropHead s l) := by
  cases hq : s.q l with
  | nil => simp only [dropHead, hq]; exact h0
  | cons t rest =>
    rw [dropHead_cons s l t rest hq]
    cases t.conn? with
    | none => exact h1 t rest hq
    | some c => exact h2 _ c (h1 t rest hq)

theorem destroyServer_inv {P : Srv → Prop} {s : Srv} (h0 : P s) (h1 : s.alive = true → P { s with map := [], alive := false })
    (hf : ∀ s c, P s → P (dtorOne s c)) : P (destroyServer s) := by
  unfold destroyServer
  split
  · exact h0
  · rename_i ha
    exact foldl_inv _ (fun s c _ => hf s c) _ (h1 (by simpa using ha))

theorem inMap_iff (s : Srv) (c : Nat) : s.inMap c = true ↔ ∃ e ∈ s.map, e.2 = c := by
  simp [Srv.inMap, List.any_eq_true]

/-- `connections_.erase(conn->name())` finds exactly the entry of `c` -/
theorem erase_count (s : Srv) (h : MapOK s) (c : Nat) (hc : s.inMap c = true) :
    (s.map.filter (·.1 == (s.conn c).name)).length = 1 := by
  obtain ⟨e, he, hec⟩ := (inMap_iff s c).mp hc
  have := h.nodup.count (a := e.1)
  rw [if_pos (List.mem_map_of_mem he), h.keys e he, hec, List.count_eq_countP, List.countP_map,
    List.countP_eq_length_filter] at this
  exact this

theorem inMap_ge (s : Srv) (h : MapOK s) (c : Nat) (hc : s.n ≤ c) : s.inMap c = false := by
  rw [← Bool.not_eq_true, inMap_iff]
  rintro ⟨e, he, rfl⟩
  exact Nat.not_lt.mpr hc (h.lt e he)

theorem any_mapErase (s : Srv) (h : MapOK s) (c c' : Nat) (hc : c < s.n) :
    (mapErase s.map (s.conn c).name).any (·.2 == c') = (s.inMap c' && decide (c' ≠ c)) := by
  unfold mapErase Srv.inMap
  rw [List.any_filter, Bool.eq_iff_iff]
  simp only [List.any_eq_true, Bool.and_eq_true, bne_iff_ne, beq_iff_eq, decide_eq_true_eq]
  constructor
  · rintro ⟨e, he, hk, rfl⟩
    exact ⟨⟨e, he, rfl⟩, fun hcc => hk (hcc ▸ h.keys e he)⟩
  · rintro ⟨⟨e, he, rfl⟩, hcc⟩
    exact ⟨e, he, fun hk => hcc (h.names _ _ (h.lt e he) hc ((h.keys e he).symm.trans hk)), rfl⟩

theorem any_mapErase_self (s : Srv) (h : MapOK s) (c : Nat) (hc : c < s.n) :
    (mapErase s.map (s.conn c).name).any (·.2 == c) = false := by
  rw [any_mapErase s h c c hc]; simp

theorem inMap_erase_other (s : Srv) (h : MapOK s) (c c' : Nat) (hc : c < s.n) (hne : c' ≠ c) :
    (mapErase s.map (s.conn c).name).any (·.2 == c') = s.inMap c' := by
  rw [any_mapErase s h c c' hc]; simp [hne]

theorem agree_map (s : Srv) (c : Nat) (m : List (Nat × Nat)) (h : m.any (·.2 == c) = s.inMap c) : Agree s { s with map := m } c :=
  { Agree.refl s c with inMap := h }

/-- `s'` extends `s`: same configuration, same assignment of loops and names, the map only shrinks, the trace grows by
events that happen where they have to -/
structure Ext (s s' : Srv) : Prop where
  n : s'.n = s.n
  L : s'.L = s.L
  nameOf : s'.nameOf = s.nameOf
  pool : s'.pool = s.pool
  nextId : s'.nextId = s.nextId
  alive : s'.alive = s.alive
  exited : s'.exited = s.exited
  map : s'.map.Sublist s.map
  loop : ∀ c, (s'.conn c).loop = (s.conn c).loop
  name : ∀ c, (s'.conn c).name = (s.conn c).name
  drain : s'.drain = s.drain
  drainRepeats : s'.drainRepeats = s.drainRepeats
  trace : ∃ evs, s'.trace = s.trace ++ evs ∧ ∀ e ∈ evs, AffOK s e

theorem Ext.refl (s : Srv) : Ext s s :=
  ⟨rfl, rfl, rfl, rfl, rfl, rfl, rfl, List.Sublist.refl _, fun _ => rfl, fun _ => rfl, rfl, rfl, [], by simp, by simp⟩

theorem ext_queues (s : Srv) (q d : Nat → List Task) : Ext s { s with q := q, done := d } := { Ext.refl s with }

theorem affOK_loop {s s' : Srv} (h : ∀ c, (s'.conn c).loop = (s.conn c).loop) (e : Ev) : AffOK s' e ↔ AffOK s e := by
  unfold AffOK; rw [h]

theorem Ext.trans {s s' s'' : Srv} (h1 : Ext s s') (h2 : Ext s' s'') : Ext s s'' := by
  obtain ⟨e1, ht1, ha1⟩ := h1.trace
  obtain ⟨e2, ht2, ha2⟩ := h2.trace
  refine ⟨h2.n.trans h1.n, h2.L.trans h1.L, h2.nameOf.trans h1.nameOf, h2.pool.trans h1.pool, h2.nextId.trans h1.nextId,
    h2.alive.trans h1.alive, h2.exited.trans h1.exited, h2.map.trans h1.map, fun c => (h2.loop c).trans (h1.loop c),
    fun c => (h2.name c).trans (h1.name c), h2.drain.trans h1.drain, h2.drainRepeats.trans h1.drainRepeats, e1 ++ e2, by rw [ht2, ht1, List.append_assoc], ?_⟩
  intro e he
  rcases List.mem_append.mp he with h | h
  · exact ha1 e h
  · exact (affOK_loop h1.loop e).mp (ha2 e h)

theorem MapOK.ext {s s' : Srv} (h : MapOK s) (he : Ext s s') : MapOK s' where
  keys e hem := by rw [he.name]; exact h.keys e (he.map.subset hem)
  nodup := (he.map.map _).nodup h.nodup
  lt e hem := by rw [he.n]; exact h.lt e (he.map.subset hem)
  names c c' h1 h2 h3 := by rw [he.name, he.name] at h3; rw [he.n] at h1 h2; exact h.names c c' h1 h2 h3

theorem ext_setConn (s : Srv) (c : Nat) (C : Conn) (hl : C.loop = (s.conn c).loop) (hn : C.name = (s.conn c).name) :
    Ext s (s.setConn c C) :=
  { Ext.refl s with
    loop := fun i => by rw [setConn_conn]; split <;> simp_all
    name := fun i => by rw [setConn_conn]; split <;> simp_all }

theorem ext_emit (s : Srv) (c : Nat) (k : Kind) (l : Nat) (h : AffOK s ⟨c, k, l⟩) : Ext s (s.emit c k l) :=
  { Ext.refl s with trace := ⟨[⟨c, k, l⟩], rfl, by simpa using h⟩ }

theorem ext_erase (s : Srv) (k : Nat) : Ext s { s with map := mapErase s.map k } :=
  { Ext.refl s with map := List.filter_sublist }

/-- `s'` results from `s` by work that only appends functors: to the base loop's queue, or (`al`: while the server
existed) to the queue of an io loop -/
structure GrowA (al : Bool) (s s' : Srv) : Prop where
  exited : s'.exited = s.exited
  drain : s'.drain = s.drain
  L : s'.L = s.L
  done : s'.done = s.done
  alive : s'.alive = true → s.alive = true
  q : ∀ l, ∃ ts, s'.q l = s.q l ++ ts ∧ (ts ≠ [] → l = 0 ∨ (al = true ∧ l ≤ s.L)) ∧ Task.srvDtor ∉ ts

theorem growA_of_fields (al : Bool) (s s' : Srv) (h1 : s'.exited = s.exited) (h2 : s'.drain = s.drain) (h3 : s'.L = s.L)
    (h4 : s'.done = s.done) (h5 : s'.alive = true → s.alive = true) (h6 : s'.q = s.q) : GrowA al s s' :=
  ⟨h1, h2, h3, h4, h5, fun l => ⟨[], by rw [h6]; simp, by simp, by simp⟩⟩

theorem GrowA.refl (al : Bool) (s : Srv) : GrowA al s s := growA_of_fields al s s rfl rfl rfl rfl id rfl

theorem GrowA.trans {al : Bool} {s s' s'' : Srv} (h1 : GrowA al s s') (h2 : GrowA al s' s'') : GrowA al s s'' := by
  refine ⟨h2.exited.trans h1.exited, h2.drain.trans h1.drain, h2.L.trans h1.L, h2.done.trans h1.done,
    fun h => h1.alive (h2.alive h), fun l => ?_⟩
  obtain ⟨t1, e1, c1, d1⟩ := h1.q l
  obtain ⟨t2, e2, c2, d2⟩ := h2.q l
  refine ⟨t1 ++ t2, by rw [e2, e1, List.append_assoc], ?_, ?_⟩
  · intro hne
    by_cases h : t1 = []
    · subst h
      have : t2 ≠ [] := by simpa using hne
      rcases c2 this with h' | h'
      · exact Or.inl h'
      · exact Or.inr ⟨h'.1, by rw [← h1.L]; exact h'.2⟩
    · exact c1 h
  · simp only [List.mem_append, not_or]; exact ⟨d1, d2⟩

theorem growA_enq (al : Bool) (s : Srv) (l : Nat) (t : Task) (ht : t ≠ .srvDtor) (hl : l = 0 ∨ (al = true ∧ l ≤ s.L)) :
    GrowA al s (s.enq l t) := by
  refine ⟨rfl, rfl, rfl, rfl, id, fun l' => ?_⟩
  rw [enq_q]; split
  · rename_i h; subst h
    exact ⟨[t], rfl, fun _ => hl, by simpa using Ne.symm ht⟩
  · exact ⟨[], by simp, by simp, by simp⟩

/-- functors that still have to run for the protocol to complete -/
def Task.mustRun : Task → Bool
  | .est _ => true
  | .des _ => true
  | _ => false

def Task.isDes : Task → Bool
  | .des _ => true
  | _ => false

/-- what `s'` has appended to the base loop's queue; `b`: the code ran on the base loop's thread -/
structure BaseAppends (b : Bool) (s s' : Srv) : Prop where
  q : ∃ ts, s'.q 0 = s.q 0 ++ ts ∧ (∀ u ∈ ts, if b then u.isDes = true else u.mustRun = false)

theorem baseAppends_of_q (b : Bool) (s s' : Srv) (h : s'.q = s.q) : BaseAppends b s s' := ⟨[], by rw [h]; simp, by simp⟩

theorem BaseAppends.refl (b : Bool) (s : Srv) : BaseAppends b s s := baseAppends_of_q b s s rfl

theorem BaseAppends.trans {b : Bool} {s s' s'' : Srv} (h1 : BaseAppends b s s') (h2 : BaseAppends b s' s'') : BaseAppends b s s'' := by
  obtain ⟨t1, e1, c1⟩ := h1.q
  obtain ⟨t2, e2, c2⟩ := h2.q
  refine ⟨t1 ++ t2, by rw [e2, e1, List.append_assoc], ?_⟩
  intro u hu
  rcases List.mem_append.mp hu with h | h
  · exact c1 u h
  · exact c2 u h

theorem baseAppends_enq (b : Bool) (s : Srv) (l : Nat) (t : Task) (h : l = 0 → if b then t.isDes = true else t.mustRun = false) :
    BaseAppends b s (s.enq l t) := by
  by_cases hl : l = 0
  · subst hl
    exact ⟨[t], by simp, by intro u hu; rw [List.mem_singleton.mp hu]; exact h rfl⟩
  · exact ⟨[], by rw [enq_q_other _ _ _ _ (Ne.symm hl)]; simp, by simp⟩

/-! A handler run by thread `thr` on behalf of connection `c` changes the record of `c`, reports events of `c` where they
have to happen, erases the map entry of `c` and queues functors of `c`.  What follows from that for everything else is
said once, for all handlers.  `al` (the server existed when the handler started) only matters for `grow`, `thr` only
for `app`: a caller that needs neither picks any value. -/

structure Eff (al : Bool) (thr c : Nat) (s s' : Srv) : Prop where
  others : MapOK s → c < s.n → ∀ c', c' ≠ c → Agree s s' c'
  ext : Ext s s'
  grow : (s.conn c).loop ≤ s.L → GrowA al s s'
  app : BaseAppends (decide (thr = 0)) s s'

section eff

variable {al : Bool} {thr c : Nat}

theorem Eff.refl (s : Srv) : Eff al thr c s s :=
  ⟨fun _ _ c' _ => Agree.refl s c', Ext.refl s, fun _ => GrowA.refl al s, BaseAppends.refl _ s⟩

theorem Eff.trans {s s' s'' : Srv} (h1 : Eff al thr c s s') (h2 : Eff al thr c s' s'') : Eff al thr c s s'' :=
  ⟨fun hm hc c' hne => (h1.others hm hc c' hne).trans (h2.others (hm.ext h1.ext) (h1.ext.n ▸ hc) c' hne),
   h1.ext.trans h2.ext,
   fun hle => (h1.grow hle).trans (h2.grow (by rw [h1.ext.loop, h1.ext.L]; exact hle)),
   h1.app.trans h2.app⟩

theorem eff_setConn (s : Srv) (C : Conn) (hl : C.loop = (s.conn c).loop) (hn : C.name = (s.conn c).name) :
    Eff al thr c s (s.setConn c C) :=
  ⟨fun _ _ _ hne => agree_setConn s C hne.symm, ext_setConn s c C hl hn,
   fun _ => growA_of_fields al _ _ rfl rfl rfl rfl id rfl, baseAppends_of_q _ _ _ rfl⟩

theorem eff_emit (s : Srv) (k : Kind) (l : Nat) (h : AffOK s ⟨c, k, l⟩) : Eff al thr c s (s.emit c k l) :=
  ⟨fun _ _ _ hne => agree_emit s k l hne.symm, ext_emit s c k l h,
   fun _ => growA_of_fields al _ _ rfl rfl rfl rfl id rfl, baseAppends_of_q _ _ _ rfl⟩

theorem about_of_ne {c c' : Nat} {t : Task} (h : about c t = true) (hne : c' ≠ c) : about c' t = false := by
  simp only [about, beq_iff_eq] at h
  simp [about, h, hne.symm]

theorem eff_enq (s : Srv) (l : Nat) {t : Task} (hab : about c t = true)
    (hl : (s.conn c).loop ≤ s.L → l = 0 ∨ (al = true ∧ l ≤ s.L))
    (h0 : l = 0 → if decide (thr = 0) then t.isDes = true else t.mustRun = false) : Eff al thr c s (s.enq l t) :=
  ⟨fun _ _ _ hne => agree_enq s l (about_of_ne hab hne), ext_queues s _ _,
   fun hle => growA_enq al s l t (by rintro rfl; simp [about, Task.conn?] at hab) (hl hle), baseAppends_enq _ s l t h0⟩

theorem eff_erase (s : Srv) : Eff al thr c s { s with map := mapErase s.map (s.conn c).name } :=
  ⟨fun hm hc c' hne => agree_map s c' _ (inMap_erase_other s hm c c' hc hne), ext_erase s _,
   fun _ => growA_of_fields al _ _ rfl rfl rfl rfl id rfl, baseAppends_of_q _ _ _ rfl⟩

end eff

theorem eff_reapOne (al : Bool) (thr : Nat) (s : Srv) (l c : Nat) : Eff al thr c s (reapOne s l c) :=
  ite_inv (P := Eff al thr c s) (fun _ => (eff_setConn s _ (by rfl) (by rfl)).trans (eff_emit _ .dtor l trivial))
    (fun _ => Eff.refl s)

theorem eff_connectEstablished (al : Bool) (thr : Nat) (s : Srv) (l c : Nat) : Eff al thr c s (connectEstablished s l c) :=
  ite_inv (P := Eff al thr c s) (fun _ => eff_emit s .abort l trivial) fun h =>
    ite_inv (fun _ => eff_emit s .abort l trivial) fun _ =>
      (eff_setConn s _ (by rfl) (by rfl)).trans (eff_emit _ .up l (by simpa [AffOK] using h))

theorem eff_connectDestroyed (al : Bool) (thr : Nat) (s : Srv) (l c : Nat) : Eff al thr c s (connectDestroyed s l c) :=
  ite_inv (P := Eff al thr c s) (fun _ => eff_emit s .abort l trivial) fun h =>
    have hl : l = (s.conn c).loop := by simpa using h
    ite_inv (fun _ => eff_emit s .abort l trivial) fun _ =>
      ite_inv
        (fun _ => ((eff_setConn s _ (by rfl) (by rfl)).trans (eff_emit _ .down l (by simpa [AffOK] using hl))).trans
          (eff_emit _ .destroyed l (by simpa [AffOK] using hl)))
        (fun _ => (eff_setConn s _ (by rfl) (by rfl)).trans (eff_emit _ .destroyed l (by simpa [AffOK] using hl)))

/-- `removeConnectionIfAlive`: hands `connectDestroyed` to the connection's loop only while the server exists -/
theorem eff_removeInLoop {al : Bool} (s : Srv) (l c : Nat) (hal : s.alive = al) : Eff al l c s (removeInLoop s l c) := by
  subst hal
  refine ite_inv (P := Eff s.alive l c s) (fun _ => ?_) fun ha => ite_inv (fun _ => eff_emit s .abort l trivial) fun h => ?_
  · simp only [removeGuarded, dtorExpiresToken, Bool.and_self, if_true]; exact Eff.refl s
  · have hl : l = 0 := by simpa using h
    rw [handDestroy_rem]
    refine ((eff_erase s).trans (eff_emit _ _ l ?_)).trans
      (eff_enq _ _ (about_des c) (fun hle => Or.inr ⟨by simpa using ha, hle⟩) (fun _ => by simp [hl, Task.isDes]))
    split <;> simp [AffOK, hl]

theorem eff_handleClose (s : Srv) (l c : Nat) (hl : l = (s.conn c).loop) : Eff s.alive l c s (handleClose s l c) := by
  refine ite_inv (P := Eff s.alive l c s) (fun _ => eff_emit s .abort l trivial) fun _ => ?_
  rw [removeConnection_nf]
  have h1 : Eff s.alive l c s (((s.setConn c { s.conn c with st := .kDisconnected, cause := true }).emit c .down l).emit c .closeCb l) :=
    ((eff_setConn s _ (by rfl) (by rfl)).trans (eff_emit _ .down l (by simp [AffOK, hl]))).trans (eff_emit _ .closeCb l (by simp [AffOK, hl]))
  exact ite_inv (P := Eff s.alive l c s) (fun _ => h1.trans (eff_removeInLoop _ l c rfl))
    (fun hl0 => h1.trans (eff_enq _ 0 (about_rem c) (fun _ => Or.inl rfl) (fun _ => by simp [hl0, Task.mustRun])))

theorem eff_forceCloseInLoop (s : Srv) (l c : Nat) : Eff s.alive l c s (forceCloseInLoop s l c) :=
  ite_inv (P := Eff s.alive l c s) (fun _ => eff_emit s .abort l trivial) fun h =>
    ite_inv (fun _ => eff_handleClose s l c (by simpa using h)) (fun _ => Eff.refl s)

theorem eff_runTask (s : Srv) (l : Nat) (t : Task) (c : Nat) (ht : t.conn? = some c) : Eff s.alive l c s (runTask s l t) := by
  cases t <;> simp only [Task.conn?, Option.some.injEq, reduceCtorEq] at ht <;> subst ht <;> simp only [runTask]
  · exact eff_connectEstablished _ _ s l _
  · exact eff_removeInLoop s l _ rfl
  · exact eff_connectDestroyed _ _ s l _
  · exact eff_forceCloseInLoop s l _
  · exact Eff.refl s

theorem conn?_eq_none {t : Task} (h : t.conn? = none) : t = .srvDtor := by
  cases t <;> simp_all [Task.conn?]

theorem ext_reapOne (s : Srv) (l c : Nat) : Ext s (reapOne s l c) := (eff_reapOne false 0 s l c).ext

theorem setConn_setConn (s : Srv) (c : Nat) (C1 C2 : Conn) : (s.setConn c C1).setConn c C2 = s.setConn c C2 := by
  unfold Srv.setConn
  congr 1
  funext i
  split <;> simp_all

theorem dtorOne_nf (s : Srv) (c : Nat) :
    dtorOne s c = reapOne (if (s.conn c).loop = 0 then connectDestroyed (s.setConn c { s.conn c with cause := true }) 0 c
      else (s.setConn c { s.conn c with cause := true }).enq (s.conn c).loop (.des c)) 0 c := by
  unfold dtorOne; rw [handDestroy_dtor]; simp

theorem eff_dtorOne (thr : Nat) (s : Srv) (c : Nat) : Eff true thr c s (dtorOne s c) := by
  rw [dtorOne_nf]
  refine Eff.trans ?_ (eff_reapOne true thr _ 0 c)
  split
  · exact (eff_setConn s _ (by rfl) (by rfl)).trans (eff_connectDestroyed true thr _ 0 c)
  · rename_i hl0
    exact (eff_setConn s _ (by rfl) (by rfl)).trans
      (eff_enq _ _ (about_des c) (fun hle => Or.inr ⟨rfl, by simpa using hle⟩) (fun h0 => absurd h0 hl0))

end MuduoVerif.Owner
