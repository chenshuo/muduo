import MuduoVerif.Proofs.LoopBase
/-!
# `quit_not_lost`, `quit_in_callback` (C05): the quit invariant
-/
namespace MuduoVerif.Loop
open MuduoVerif.Gen.Loop

/-- The flag `quit_` against the ghosts of the current run of `loop()` (`qreq`: some `quit()` has stored the flag;
`selfQuit`: one of them on the loop thread).  The properties: `kept` (C05 `quit_not_lost`: a stored flag stays set until
`loop()` has returned), `woken` (`quit_wakes_poll`: a loop asleep in `poll` with the flag set has its eventfd readable,
or a foreign quitter, in `quit()` or in `~EventLoopThread`, stands between its store and its `wakeup()`), `selfNoPoll`
(`quit_in_callback`: a `quit()` on the loop thread writes no eventfd, and the loop does not get to `poll` again) and
`goneReq` (`returns_only_after_quit`: the `while` is left, and the drain after it run, only on request).  `selfq` and
`quitReq` tie the ghosts to the flag and only carry the induction: across the `while` test `selfNoPoll` needs `selfq`
with `kept` (the flag is still set, so the test leaves), `goneReq` needs `quitReq`. -/
structure QuitInv (s : St) : Prop where
  kept : s.qreq = true → s.quit = true ∨ exited s.phase = true
  woken : s.phase = .polling → s.quit = true →
    0 < s.ev ∨ inflightF s.thr s.L .quitStored ∨ inflightF s.thr s.L .dStored
  selfq : s.selfQuit = true → s.qreq = true
  selfNoPoll : s.selfQuit = true → s.phase ≠ .polling
  quitReq : s.quit = true → s.qreq = true
  goneReq : s.phase = .atExit ∨ s.final = true ∨ exited s.phase = true → s.qreq = true

section
variable {fd : FinalDrain} {bd : Bool} {s s' : St} {k : Nat}

theorem TopStep.quitInv (hs : TopStep s s') (h : QuitInv s) (ht : taskPhase s.phase = true) : QuitInv s' := by
  induction hs
  case wake => exact { h with woken := fun _ _ => .inl (Nat.succ_pos _) }
  case quit =>
    have hp : s.phase ≠ .polling := fun hp => by simp [hp, taskPhase] at ht
    exact { kept := fun _ => .inl rfl, woken := fun hp' => absurd hp' hp, selfq := fun _ => rfl,
            selfNoPoll := fun _ => hp, quitReq := fun _ => rfl, goneReq := fun _ => rfl }
  all_goals exact { h with }

/-- a step of the loop thread that leaves the flag, the ghosts, the eventfd and the other threads alone: what has to
be said about the phase it goes to and about `final` -/
theorem QuitInv.control (h : QuitInv s) (et : s'.thr = s.thr) (el : s'.L = s.L) (eq : s'.quit = s.quit)
    (er : s'.qreq = s.qreq) (es : s'.selfQuit = s.selfQuit) (ee : s'.ev = s.ev)
    (hx : exited s.phase = true → exited s'.phase = true)
    (hpoll : s'.phase = .polling → s.phase = .polling ∨ s.quit = false)
    (hat : s'.phase = .atExit → s.quit = true)
    (hfin : s'.final = true → s.final = true ∨ s.phase = .atExit)
    (hex : exited s'.phase = true → exited s.phase = true ∨ s.final = true) : QuitInv s' := by
  have nopoll : s.selfQuit = true → s'.phase ≠ .polling := fun hs hp => by
    rcases hpoll hp with hp0 | hq
    · exact h.selfNoPoll hs hp0
    · rcases h.kept (h.selfq hs) with hq' | hx'
      · simp [hq] at hq'
      · simpa [hp, exited] using hx hx'
  exact {
    kept := fun hq => by rw [eq]; exact (h.kept (er ▸ hq)).imp_right hx
    woken := fun hp hq => by
      rw [et, el, ee]
      rcases hpoll hp with hp0 | hq0
      · exact h.woken hp0 (eq ▸ hq)
      · rw [eq, hq0] at hq; cases hq
    selfq := by rw [es, er]; exact h.selfq
    selfNoPoll := by rw [es]; exact nopoll
    quitReq := by rw [eq, er]; exact h.quitReq
    goneReq := fun hg => by
      rw [er]
      rcases hg with hg | hg | hg
      · exact h.quitReq (hat hg)
      · exact (hfin hg).elim (h.goneReq ∘ .inr ∘ .inl) (h.goneReq ∘ .inl)
      · exact (hex hg).elim (h.goneReq ∘ .inr ∘ .inr) (h.goneReq ∘ .inr ∘ .inl) }

theorem LoopStep.quitInv (hs : LoopStep fd bd s s') (h : QuitInv s) : QuitInv s' := by
  induction hs
  case nop | pipeRead | pipeEmpty | exec | bury => exact { h with }
  case task hp _ ht => exact ht.quitInv h (by rcases hp with hp | hp | hp <;> simp [hp, taskPhase])
  case wakeRead hp _ _ => exact { h with woken := fun hp' => by simp [hp] at hp' }
  case leave hf _ =>
    have hr := h.goneReq (.inr (.inl hf))
    exact { kept := fun _ => .inr rfl, woken := fun hp => (nomatch hp), selfq := h.selfq,
            selfNoPoll := fun _ => (nomatch ·), quitReq := fun hq => (nomatch hq), goneReq := fun _ => hr }
  case noDrain hp _ =>
    have hr := h.goneReq (.inl hp)
    exact { kept := fun _ => .inr rfl, woken := fun hp => (nomatch hp), selfq := h.selfq,
            selfNoPoll := fun _ => (nomatch ·), quitReq := fun hq => (nomatch hq), goneReq := fun _ => hr }
  case again =>
    exact { kept := .inl, woken := fun hp => (nomatch hp), selfq := fun hs => (nomatch hs),
            selfNoPoll := fun _ => (nomatch ·), quitReq := id, goneReq := fun hg => by simp [relaunch, exited] at hg }
  -- the other steps only move the phase (and `final` around the drain after the `while`)
  all_goals
    exact h.control rfl rfl rfl rfl rfl rfl (by simp [*, exited]) (by simp [*]) (by simp [*]) (by simp [*])
      (by simp [*, exited])

theorem OtherStep.quitInv (hs : OtherStep s k s') (hk : k ≠ s.L) (h : QuitInv s) : QuitInv s' := by
  induction hs
  case nop => exact { h with }
  case quit =>
    exact { kept := fun _ => .inl rfl, woken := fun _ _ => .inr (.inl (inflightF_new hk rfl)), selfq := fun _ => rfl,
            selfNoPoll := h.selfNoPoll, quitReq := fun _ => rfl, goneReq := fun _ => rfl }
  case dQuit =>
    exact { kept := fun _ => .inl rfl, woken := fun _ _ => .inr (.inr (inflightF_new hk rfl)), selfq := fun _ => rfl,
            selfNoPoll := h.selfNoPoll, quitReq := fun _ => rfl, goneReq := fun _ => rfl }
  case wake | dWake => exact { h with woken := fun _ _ => .inl (Nat.succ_pos _) }
  case start hu =>
    have hx : exited s.phase = false := by simp [hu, exited]
    exact { h with kept := fun hq => (h.kept hq).imp_right (by simp [hx]), woken := fun hp => (nomatch hp),
                   selfNoPoll := fun _ => (nomatch ·),
                   goneReq := fun hg => h.goneReq (hg.imp (nomatch ·) (Or.imp_right (by simp [exited]))) }
  -- a thread that does not stand between a flag store and its `wakeup()` moves: whoever does stays there
  all_goals
    exact { h with woken := fun hp hq => (h.woken hp hq).imp_right
                     (Or.imp (inflightF_keep · (by simp [*])) (inflightF_keep · (by simp [*]))) }

end

theorem step_quit {s : St} (k : Nat) (h : QuitInv s) : QuitInv (step s k) :=
  (step_rel s k).elim (·.2.quitInv h) fun ⟨hk, hs⟩ => hs.quitInv hk h

theorem init_quit (elt wl : Bool) (tbl) (dtbl) (pre) (again) (progs) : QuitInv (init elt wl tbl dtbl pre again progs) := by
  cases elt <;> (refine ⟨?_, ?_, ?_, ?_, ?_, ?_⟩ <;> simp [init, exited])

theorem Reachable.quit {s : St} (h : Reachable s) : QuitInv s :=
  reachable_invariant init_quit (fun _ k h => step_quit k h) h

/-! ### `QuitInv` along a schedule; no proof uses it -/

theorem run_quit {s : St} (sched : List Nat) (h : QuitInv s) : QuitInv (run s sched) :=
  run_invariant (fun _ k h => step_quit k h) h sched

end MuduoVerif.Loop
