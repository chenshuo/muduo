import MuduoVerif.Proofs.Race
import Mathlib.Tactic.IntervalCases
/-! Two concrete traces for the non-vacuity examples of `Props/C08.lean`. -/
namespace MuduoVerif.Race

/-- thread 1 constructs an object (plain write of member 0, no lock), forks thread 2, then both
use member 0 under mutex 0, member 1 atomically, and thread 2 alone uses member 2 -/
def goodTrace : Trace := [
  ⟨1, .wr 0⟩, ⟨1, .fork 2⟩,
  ⟨1, .acq 0⟩, ⟨1, .wr 0⟩, ⟨1, .rel 0⟩,
  ⟨2, .acq 0⟩, ⟨2, .rd 0⟩, ⟨2, .rel 0⟩,
  ⟨2, .awr 1⟩, ⟨1, .ard 1⟩,
  ⟨2, .wr 2⟩]

def goodPol : Loc → Disc
  | 0 => .guarded 0
  | 1 => .atomic
  | 2 => .confined 2
  | _ => .unused

theorem goodTrace_wf : WellFormed goodTrace := by
  intro i t m hi u ⟨a, hai, ha, hnr⟩
  have hil := (List.getElem_of_getElem? hi).1
  simp only [goodTrace, List.length_cons, List.length_nil] at hil
  interval_cases i <;> simp [goodTrace] at hi
  · -- thread 1 acquires at 2: nobody acquired before
    interval_cases a <;> simp [goodTrace] at ha
  · -- thread 2 acquires at 5: thread 1 acquired at 2 and released at 4
    obtain ⟨rfl, rfl⟩ := hi
    interval_cases a <;> simp [goodTrace] at ha
    obtain ⟨rfl, rfl⟩ := ha
    exact hnr 4 (by omega) (by omega) (by simp [goodTrace])

theorem goodTrace_respects : Respects goodTrace goodPol := by
  intro i t e x ⟨hi, hx⟩
  have hil := (List.getElem_of_getElem? hi).1
  simp only [goodTrace, List.length_cons, List.length_nil] at hil
  interval_cases i <;> simp [goodTrace] at hi <;> obtain ⟨rfl, rfl⟩ := hi <;>
    simp [Ev.loc?] at hx <;> subst hx
  · -- the constructor's write: initialising — it happens-before thread 2's read through the fork
    left
    intro j u e' ⟨hj, hx'⟩ hne
    have hjl := (List.getElem_of_getElem? hj).1
    simp only [goodTrace, List.length_cons, List.length_nil] at hjl
    interval_cases j <;> simp [goodTrace] at hj <;> obtain ⟨rfl, rfl⟩ := hj <;>
      simp [Ev.loc?] at hx' <;> try (exact absurd rfl hne)
    exact HB.trans (j := 1)
      (HB.po (i := 0) (j := 1) (t := 1) (e₁ := .wr 0) (e₂ := .fork 2) (by omega) (by simp [goodTrace]) (by simp [goodTrace]))
      (HB.fork (i := 1) (j := 6) (t := 1) (u := 2) (e := .rd 0) (by omega) (by simp [goodTrace]) (by simp [goodTrace]))
  · right; exact ⟨2, by omega, by simp [goodTrace], by
      intro k hk1 hk2; interval_cases k⟩
  · right; exact ⟨5, by omega, by simp [goodTrace], by
      intro k hk1 hk2; interval_cases k⟩
  · right; rfl
  · right; rfl
  · right; rfl

/-- two threads write member 0, the second one without the lock -/
def racyTrace : Trace := [⟨1, .acq 0⟩, ⟨1, .wr 0⟩, ⟨1, .rel 0⟩, ⟨2, .wr 0⟩]

theorem racyTrace_wf : WellFormed racyTrace := by
  intro i t m hi u ⟨a, hai, ha, _⟩
  have hil := (List.getElem_of_getElem? hi).1
  simp only [racyTrace, List.length_cons, List.length_nil] at hil
  interval_cases i <;> simp [racyTrace] at hi
  interval_cases a

theorem racyTrace_rejected : ¬ Respects racyTrace goodPol := by
  intro h
  rcases h 3 2 (.wr 0) 0 ⟨by simp [racyTrace], rfl⟩ with hinit | hok
  · -- not initialising: thread 1's write at 1 comes earlier
    have := (hinit 1 1 (.wr 0) ⟨by simp [racyTrace], rfl⟩ (by decide)).lt
    omega
  · -- thread 2 never acquired mutex 0
    obtain ⟨a, ha, haq, _⟩ := hok
    interval_cases a <;> simp [racyTrace] at haq

theorem racyTrace_races : ¬ RaceFree racyTrace := by
  intro h
  have key : ∀ i j, HB racyTrace i j → j = 3 → False := by
    intro i j hb
    induction hb with
    | @po i j t e₁ e₂ hlt h1 h2 =>
      intro hj; subst hj
      simp [racyTrace] at h2; obtain ⟨rfl, rfl⟩ := h2
      interval_cases i <;> simp [racyTrace] at h1
    | sw _ _ h2 => intro hj; subst hj; simp [racyTrace] at h2
    | @fork i j t u e hlt h1 h2 =>
      intro hj; subst hj
      interval_cases i <;> simp [racyTrace] at h1
    | join _ _ h2 => intro hj; subst hj; simp [racyTrace] at h2
    | queue _ _ h2 => intro hj; subst hj; simp [racyTrace] at h2
    | trans _ _ _ ih2 => exact ih2
  rcases h 1 3 1 2 (.wr 0) (.wr 0) 0 ⟨by simp [racyTrace], rfl⟩ ⟨by simp [racyTrace], rfl⟩ (by decide)
      ⟨Or.inl rfl, by simp [Ev.isAtomic]⟩ with hb | hb
  · exact key 1 3 hb rfl
  · have := hb.lt; omega

end MuduoVerif.Race
