import MuduoVerif.Proofs.ConnSend
/-! No function of `Model/Conn.lean` reads the trace, each only appends to it (`Indep`, `run_setTrace`); C11's `resume` rests on this.
`Indep` compares two runs, from states that differ in the trace only, so it is a property of functions, closed under
composition, `if` and reading other fields: neither a `Frame` (one run, before/after) nor a `Preserves` (one state).
The walk follows the definitions of the model, except for `sendInLoop` and `handleWrite`, which are read off their
equations in `Proofs/ConnSend.lean` (`indep_congr`). -/
namespace MuduoVerif.Conn.TraceIndep
open MuduoVerif.Conn MuduoVerif.Gen.Conn

def setTrace (c : Conn) (t : List Ev) : Conn := { c with trace := t }

/-- `f` ignores the trace except for appending a suffix that does not depend on it -/
def Indep (f : Conn → Conn) : Prop := ∀ c : Conn, ∃ s : List Ev, ∀ t : List Ev, f (setTrace c t) = setTrace (f c) (t ++ s)

theorem indep_id : Indep id := fun _ => ⟨[], fun t => by simp⟩

/-- a function that does not mention the trace (`h` holds by unfolding `setTrace`, for every such `f`; `cases c` first,
because a plain `rfl` makes Lean compare two records of 36 fields projection by projection, which costs half as much again) -/
theorem indep_of_fields (f : Conn → Conn) (h : ∀ c t, f (setTrace c t) = setTrace (f c) t := by exact fun c _ => by cases c; rfl) :
    Indep f :=
  fun c => ⟨[], fun t => by rw [h, List.append_nil]⟩

theorem indep_emit (e : Ev) : Indep (fun c => emit c e) := fun _ => ⟨[e], fun _ => rfl⟩

theorem indep_comp {f g : Conn → Conn} (hf : Indep f) (hg : Indep g) : Indep (fun c => g (f c)) := by
  intro c
  obtain ⟨s, hs⟩ := hf c
  obtain ⟨s', hs'⟩ := hg (f c)
  refine ⟨s ++ s', fun t => ?_⟩
  show g (f (setTrace c t)) = _
  rw [hs, hs', List.append_assoc]

theorem indep_bind {α : Type} (key : Conn → α) (g : α → Conn → Conn)
    (hkey : ∀ c t, key (setTrace c t) = key c) (hg : ∀ a, Indep (g a)) :
    Indep (fun c => g (key c) c) := by
  intro c
  obtain ⟨s, hs⟩ := hg (key c) c
  refine ⟨s, fun t => ?_⟩
  show g (key (setTrace c t)) (setTrace c t) = _
  rw [hkey]; exact hs t

theorem indep_ite {p : Conn → Prop} {inst : ∀ c, Decidable (p c)} {f g : Conn → Conn} (hf : Indep f) (hg : Indep g)
    (hp : ∀ c t, p (setTrace c t) ↔ p c := by exact fun _ _ => Iff.rfl) :
    Indep (fun c => @ite _ (p c) (inst c) (f c) (g c)) := by
  intro c
  by_cases h : p c
  · obtain ⟨s, hs⟩ := hf c
    refine ⟨s, fun t => ?_⟩
    have h' : p (setTrace c t) := (hp c t).2 h
    simp only [if_pos h, if_pos h']; exact hs t
  · obtain ⟨s, hs⟩ := hg c
    refine ⟨s, fun t => ?_⟩
    have h' : ¬ p (setTrace c t) := fun x => h ((hp c t).1 x)
    simp only [if_neg h, if_neg h']; exact hs t

theorem indep_abort (e : Ev) : Indep (fun c : Conn => emit { c with dead := true } e) :=
  indep_comp (f := fun c : Conn => { c with dead := true }) (indep_of_fields _) (indep_emit e)

theorem indep_congr {f g : Conn → Conn} (h : ∀ c, f c = g c) (hg : Indep g) : Indep f := funext h ▸ hg

theorem indep_emits (s : Conn → List Ev) {f : Conn → Conn}
    (h : ∀ c t, f (setTrace c t) = setTrace (f c) (t ++ s c) := by exact fun c _ => by cases c; rfl) : Indep f :=
  fun c => ⟨s c, h c⟩

/-- an update of fields of `f c` other than the trace, with values read from fields of `c` other than the trace: the shape
of the equations (`hg` holds by unfolding `setTrace`; at a use, the values may be left to unification) -/
theorem indep_upd (g : Conn → Conn → Conn) {f : Conn → Conn} (hf : Indep f)
    (hg : ∀ c c' t u, g (setTrace c t) (setTrace c' u) = setTrace (g c c') u := by
      exact fun c c' _ _ => by cases c; cases c'; rfl) :
    Indep (fun c => g c (f c)) := fun c =>
  (hf c).imp fun _ hs t => (congrArg (g _) (hs t)).trans (hg ..)

theorem popRead_indep : Indep popRead := indep_congr popRead_eq (indep_of_fields _)

theorem enqueue_indep (t : Task) : Indep (fun c => enqueue c t) := indep_of_fields _
theorem enableWriting_indep : Indep enableWriting := indep_of_fields _
theorem deliver_indep (n : Nat) : Indep (fun c => deliver c n) := indep_of_fields _
theorem consume_indep : Indep consume := indep_of_fields _
theorem sendInLoop_indep (data : Bytes) (q : Bool) : Indep (fun c => sendInLoop c data q) := by
  refine indep_congr (sendInLoop_eq · data q)
    (indep_ite (indep_emit _) (indep_ite (indep_comp ?h enableWriting_indep) ?h))
  exact indep_upd (fun c c1 => { c1 with accepted := _, blocks := _, outBuf := _, pending := _ })
    (indep_ite (indep_emits fun c => [.sysWrite data.length (peekWrite c)]) indep_id)

theorem shutdownInLoop_indep : Indep shutdownInLoop := by
  show Indep (fun c => shutdownInLoop c)
  unfold shutdownInLoop
  exact indep_ite
    (indep_comp (f := fun c : Conn => { c with shutWr := true }) (indep_of_fields _) (indep_emit _))
    indep_id

theorem startReadInLoop_indep : Indep startReadInLoop := by
  show Indep (fun c => startReadInLoop c)
  unfold startReadInLoop
  exact indep_ite (indep_of_fields _) indep_id

theorem stopReadInLoop_indep : Indep stopReadInLoop := by
  show Indep (fun c => stopReadInLoop c)
  unfold stopReadInLoop
  exact indep_ite (indep_of_fields _) indep_id

theorem handOff_indep (foreign : Bool) (d : Dispatch) (t : Task) {inline : Conn → Conn}
    (h : Indep inline) : Indep (fun c => handOff c foreign d t inline) := by
  unfold handOff
  exact indep_ite (enqueue_indep t) h

theorem act_indep (foreign : Bool) (a : Act) : Indep (fun c => act c foreign a) := by
  have hdisc : Indep (fun c : Conn => { c with st := StateE.kDisconnecting }) :=
    indep_of_fields _
  cases a with
  | send d =>
    simp only [act]
    refine indep_ite ?_ indep_id
    refine indep_ite (indep_of_fields _) ?_
    exact indep_comp (f := fun c : Conn => { c with offeredL := c.offeredL ++ [d] })
      (indep_of_fields _) (sendInLoop_indep d false)
  | shutdown =>
    simp only [act]
    refine indep_ite ?_ indep_id
    exact indep_comp hdisc (handOff_indep foreign _ _ shutdownInLoop_indep)
  | forceClose =>
    simp only [act]
    refine indep_ite ?_ indep_id
    exact indep_comp hdisc (handOff_indep foreign _ _ indep_id)
  | forceCloseDelay us =>
    simp only [act]
    refine indep_ite ?_ indep_id
    exact indep_ite (indep_of_fields _) (indep_of_fields _)
  | stopRead => exact handOff_indep foreign _ _ stopReadInLoop_indep
  | startRead => exact handOff_indep foreign _ _ startReadInLoop_indep
  | setWc k => exact indep_of_fields _
  | setHwm k m => exact indep_of_fields _

theorem actLoop_indep (a : Act) : Indep (fun c => actLoop c a) := act_indep false a
theorem actForeign_indep (a : Act) : Indep (fun c => actForeign c a) := act_indep true a

theorem callback_indep (k : Cb) (e : Ev) : Indep (fun c => callback c k e) := by
  refine indep_bind (fun c => c.hooks)
    (fun h c => match takeHook k h with
      | some a => actLoop { emit c e with hooks := dropHook k h } a
      | none => emit c e)
    (fun _ _ => rfl) (fun h => ?_)
  cases hh : takeHook k h with
  | none => exact indep_emit e
  | some a =>
    exact indep_comp (indep_comp (indep_emit e)
      (indep_of_fields (fun c : Conn => { c with hooks := dropHook k h }))) (actLoop_indep a)

theorem handleClose_indep : Indep handleClose := by
  show Indep (fun c => handleClose c)
  unfold handleClose
  refine indep_ite ?_ ?_
  · exact indep_abort _
  · have h1 : Indep (fun c : Conn => disableAll { c with st := StateE.kDisconnected }) :=
      indep_of_fields _
    have h2 : Indep (fun c : Conn => enqueue { c with owner := false } .connectDestroyed) :=
      indep_of_fields _
    exact indep_comp (indep_comp (indep_comp h1 (callback_indep .down .down)) (indep_emit .closeCb)) h2

theorem handleReadRes_indep (r : ReadRes) : Indep (fun c => handleReadRes c r) := by
  cases r with
  | err e => exact indep_id
  | got n =>
    cases n with
    | zero => exact handleClose_indep
    | succ n =>
      show Indep (fun c : Conn => consume (callback (deliver c (n+1)) .msg
        (.msg (deliver c (n+1)).inBuf.length (fnv64 (deliver c (n+1)).inBuf))))
      refine indep_comp ?_ consume_indep
      refine indep_comp (deliver_indep (n+1)) (g := fun c1 => callback c1 .msg (.msg c1.inBuf.length (fnv64 c1.inBuf))) ?_
      exact indep_bind (fun c => c.inBuf) (fun b c => callback c .msg (.msg b.length (fnv64 b)))
        (fun _ _ => rfl) (fun b => callback_indep _ _)

theorem handleRead_indep : Indep handleRead :=
  indep_bind peekRead (fun r c => handleReadRes (emit (popRead c) (.sysReadv r)) r) (fun _ _ => rfl)
    (fun r => indep_comp (indep_comp popRead_indep (indep_emit _)) (handleReadRes_indep r))

theorem handleWrite_indep : Indep handleWrite := by
  refine indep_congr handleWrite_eq (indep_ite (indep_ite
    (indep_upd (fun c c1 => { disableWriting c1 with pending := _ }) ?h) ?h) indep_id)
  exact indep_emits fun c => [.sysWrite c.outBuf.length (peekWrite c)]

theorem guarded_indep {f : Conn → Conn} (hf : Indep f) (rev : Prop) [Decidable rev]
    (sub : Bool → Bool → Bool → Prop) [∀ a b c, Decidable (sub a b c)] : Indep (guarded f rev sub) := by
  show Indep (fun c => if rev ∧ sub c.ch.none c.ch.evRead c.ch.evWrite ∧ c.dead = false then f c else c)
  exact indep_ite hf indep_id

theorem handleEvent_indep (revents : Nat) : Indep (fun c => handleEvent c revents) := by
  unfold handleEvent
  refine indep_ite indep_id ?_
  exact indep_comp (indep_comp (guarded_indep handleClose_indep _ _) (guarded_indep handleRead_indep _ _))
    (guarded_indep handleWrite_indep _ _)

theorem connectEstablished_indep : Indep connectEstablished := by
  show Indep (fun c => connectEstablished c)
  unfold connectEstablished
  refine indep_ite ?_ ?_
  · exact indep_abort _
  · exact indep_comp (f := fun c : Conn => enableReading { c with st := StateE.kConnected })
      (indep_of_fields _) (callback_indep .up .up)

theorem removeChannel_indep : Indep removeChannel := by
  show Indep (fun c => removeChannel c)
  unfold removeChannel
  refine indep_ite ?_ (indep_of_fields _)
  exact indep_abort _

theorem connectDestroyed_indep : Indep connectDestroyed := by
  show Indep (fun c => connectDestroyed c)
  unfold connectDestroyed
  refine indep_ite ?_ removeChannel_indep
  exact indep_comp (indep_comp (f := fun c : Conn => disableAll { c with st := StateE.kDisconnected })
    (indep_of_fields _) (callback_indep .down .down)) removeChannel_indep

theorem fireDelay_indep : Indep fireDelay := by
  show Indep (fun c => fireDelay c)
  unfold fireDelay
  refine indep_ite (actLoop_indep _) ?_
  refine indep_ite indep_id ?_
  exact indep_abort _

theorem addTimer_indep (d : Nat) : Indep (fun c : Conn => { c with timers := c.timers ++ [d] }) :=
  indep_of_fields _

theorem runTask_indep (t : Task) : Indep (fun c => runTask c t) := by
  have hraw : Indep (fun c : Conn => if t.hold = .weak then c
      else emit { c with dead := true } (.uaf "functor with a raw pointer ran after destruction")) :=
    indep_ite indep_id
      (indep_abort _)
  unfold runTask
  cases t with
  | sendInLoop d => exact indep_ite hraw (sendInLoop_indep d true)
  | shutdownInLoop => exact indep_ite hraw shutdownInLoop_indep
  | drainShutdownInLoop => exact indep_ite hraw shutdownInLoop_indep
  | forceCloseInLoop =>
    exact indep_ite hraw (indep_ite handleClose_indep indep_id)
  | connectDestroyed => exact indep_ite hraw connectDestroyed_indep
  | writeComplete b =>
    exact indep_ite hraw
      (indep_bind (fun c => c.wcId) (fun k c => callback c .wc (.wc (b.resolve k))) (fun _ _ => rfl) (fun _ => callback_indep _ _))
  | highWater b n =>
    exact indep_ite hraw
      (indep_bind (fun c => c.hwmId) (fun k c => callback c .hwm (.hwm (b.resolve k) n)) (fun _ _ => rfl) (fun _ => callback_indep _ _))
  | startReadInLoop => exact indep_ite hraw startReadInLoop_indep
  | stopReadInLoop => exact indep_ite hraw stopReadInLoop_indep
  | addDelayTimer d => exact indep_ite (addTimer_indep d) (addTimer_indep d)

theorem maybeDestroy_indep : Indep maybeDestroy := by
  show Indep (fun c => maybeDestroy c)
  unfold maybeDestroy
  refine indep_ite ?_ indep_id
  refine indep_ite (indep_abort _) ?_
  refine indep_ite (indep_abort _) ?_
  exact indep_comp (indep_comp (f := fun c : Conn => { c with alive := false })
    (indep_of_fields _) (indep_emit _)) (indep_emit _)

theorem runBatch_indep (n : Nat) : Indep (runBatch n) := by
  induction n with
  | zero => exact indep_id
  | succ n ih =>
    show Indep (fun c => if c.dead then c else
      match c.batch with
      | [] => c
      | t :: rest => runBatch n (runTask { c with batch := rest } t))
    refine indep_ite indep_id ?_
    refine indep_bind (fun c => c.batch)
      (fun b c => match b with
        | [] => c
        | t :: rest => runBatch n (runTask { c with batch := rest } t))
      (fun _ _ => rfl) (fun b => ?_)
    cases b with
    | nil => exact indep_id
    | cons t rest =>
      exact indep_comp (indep_comp (f := fun c : Conn => { c with batch := rest })
        (indep_of_fields _) (runTask_indep t)) ih

theorem fireN_indep (n : Nat) : Indep (fun c => fireN c n) := by
  induction n with
  | zero => exact indep_id
  | succ n ih => exact indep_comp fireDelay_indep ih

theorem fireTimers_indep : Indep fireTimers :=
  indep_bind (fun c => (c.timers.filter (· ≤ c.now)).length)
    (fun n c => fireN { c with timers := c.timers.filter (fun d => ¬ d ≤ c.now) } n)
    (fun _ _ => rfl)
    (fun n => indep_comp (f := fun c : Conn => { c with timers := c.timers.filter (fun d => ¬ d ≤ c.now) })
      (indep_of_fields _) (fireN_indep n))

theorem dispatch_indep (s : Src) : Indep (fun c => dispatch c s) := by
  cases s with
  | conn r => exact indep_ite indep_id (handleEvent_indep r)
  | timer => exact indep_ite indep_id fireTimers_indep

theorem foldl_dispatch_indep (active : List Src) : Indep (fun c => active.foldl dispatch c) := by
  induction active with
  | nil => exact indep_id
  | cons s rest ih => exact indep_comp (dispatch_indep s) ih

theorem drainPending_indep : Indep drainPending :=
  indep_bind (fun c => (c.batch ++ c.pending).length)
    (fun n c => runBatch n { c with pending := [], batch := c.batch ++ c.pending })
    (fun _ _ => rfl)
    (fun n => indep_comp (f := fun c : Conn => { c with pending := [], batch := c.batch ++ c.pending })
      (indep_of_fields _) (runBatch_indep n))

theorem iter_indep (active : List Src) : Indep (fun c => iter c active) := by
  show Indep (fun c : Conn => if c.dead then c else
    (fun c1 : Conn => if c1.dead then c1 else maybeDestroy c1) (drainPending (active.foldl dispatch c)))
  refine indep_ite indep_id ?_
  have h3 : Indep (fun c1 : Conn => if c1.dead then c1 else maybeDestroy c1) :=
    indep_ite indep_id maybeDestroy_indep
  exact indep_comp (indep_comp (foldl_dispatch_indep active) drainPending_indep) h3

theorem step_indep (i : Input) : Indep (fun c => step c i) := by
  cases i with
  | establish =>
    simp only [step]
    exact indep_ite indep_id connectEstablished_indep
  | act f a =>
    simp only [step]
    exact indep_ite indep_id
      (indep_ite (actForeign_indep a) (actLoop_indep a))
  | hook k a => exact indep_of_fields _
  | setMark n => exact indep_of_fields _
  | setRetrieve n => exact indep_of_fields _
  | peerWrite d => exact indep_of_fields _
  | envWrite r => exact indep_of_fields _
  | envRead r => exact indep_of_fields _
  | advance us => exact indep_of_fields _
  | ownerDestroy =>
    simp only [step]
    refine indep_ite indep_id ?_
    exact indep_comp (indep_comp connectDestroyed_indep
      (indep_of_fields (fun c : Conn => { c with owner := false }))) maybeDestroy_indep
  | iter a => exact iter_indep a

theorem run_indep (ins : List Input) : Indep (fun c => run c ins) := by
  induction ins with
  | nil => exact indep_id
  | cons i rest ih => exact indep_comp (step_indep i) ih

theorem setTrace_self (c : Conn) : setTrace c c.trace = c := by cases c; rfl

theorem run_setTrace (c : Conn) (ins : List Input) :
    ∃ s, (run c ins).trace = c.trace ++ s ∧ ∀ t, run (setTrace c t) ins = setTrace (run c ins) (t ++ s) := by
  obtain ⟨s, hs⟩ := run_indep ins c
  refine ⟨s, ?_, hs⟩
  have h : run c ins = setTrace (run c ins) (c.trace ++ s) := by
    have h' := hs c.trace
    rwa [setTrace_self] at h'
  exact congrArg Conn.trace h

/-! ### `Indep` for four more operations, and the trace of `setTrace`; no proof uses them -/

theorem setEvents_indep (r w : Bool) : Indep (fun c => setEvents c r w) := indep_of_fields _
theorem enableReading_indep : Indep enableReading := indep_of_fields _
theorem disableReading_indep : Indep disableReading := indep_of_fields _
theorem disableAll_indep : Indep disableAll := indep_of_fields _

theorem trace_setTrace (c : Conn) (t : List Ev) : (setTrace c t).trace = t := rfl

end MuduoVerif.Conn.TraceIndep
