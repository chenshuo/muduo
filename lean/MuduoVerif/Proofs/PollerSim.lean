import MuduoVerif.Proofs.PollerTrace
/-!
# The two back-ends in lock step

`InStep sp se`: a poll loop and an epoll loop, both alive, that agree on the interest word, `revents_` and
registration of every channel.  The same operation keeps them so, and so does `Poller::poll` when both
pollers return the same channels.  `Sim` adds the pending scripted operations, the loop's dispatch state
and the observable trace: every operation keeps two such loops in step; so does an iteration in which both
pollers hand the loop the same active list.
-/
namespace MuduoVerif.Poller
open MuduoVerif.Gen.Poller

/-- the back-end independent part of an event: operations (without the back-end's slot index),
rejections and callbacks -/
def Ev.strip : Ev → Option Ev
  | .op c k ev _ => some (.op c k ev 0)
  | .reject c k => some (.reject c k)
  | .cb c k rev ev => some (.cb c k rev ev)
  | _ => none

/-- the observable trace -/
def absOut (out : List Ev) : List Ev := out.filterMap Ev.strip

theorem absOut_append (a b : List Ev) : absOut (a ++ b) = absOut a ++ absOut b := by
  unfold absOut; rw [List.filterMap_append]

theorem absOut_back (l : List Ev) (h : ∀ e ∈ l, e.isBack = true) : absOut l = [] := by
  unfold absOut
  rw [List.filterMap_eq_nil_iff]
  intro e he
  have := h e he
  cases e <;> first | rfl | cases this

theorem absOut_plumb (l : List Ev) (h : ∀ e ∈ l, e.isPlumb) : absOut l = [] := by
  unfold absOut
  rw [List.filterMap_eq_nil_iff]
  intro e he
  have := h e he
  cases e <;> first | rfl | exact this.elim

theorem absOut_frame {s t : State} (f : Frame s t) : absOut t.out = absOut s.out := by
  obtain ⟨l, hl, hp, _⟩ := f.out
  rw [hl, absOut_append, absOut_plumb l hp, List.append_nil]

structure InStep (s t : State) : Prop where
  ps : Alive .poll s
  es : Alive .epoll t
  ev : ∀ c, (s.chans c).events = (t.chans c).events
  rev : ∀ c, (s.chans c).revents = (t.chans c).revents
  added : ∀ c, (s.chans c).added = (t.chans c).added

theorem InStep.same {s t s' t' : State} (h : InStep s t) (e1 : Same s s') (e2 : Same t t') : InStep s' t' := by
  have c1 := e1.chans
  have c2 := e2.chans
  exact ⟨h.ps.same e1, h.es.same e2, fun c => by rw [c1, c2, h.ev], fun c => by rw [c1, c2, h.rev],
    fun c => by rw [c1, c2, h.added]⟩

theorem InStep.watched {s t : State} (h : InStep s t) (fd : Int) (mask : Nat) :
    watched s fd mask ↔ watched t fd mask := by
  rw [pollStruct_refines h.ps.good.be h.ps.good.struct, epStruct_refines h.es.good.be h.es.good.struct]
  unfold specWatched
  exact exists_congr fun c => by rw [h.added c, h.ev c]

theorem inStep_applyOp {s t : State} (h : InStep s t) (c : Nat) (k : OpKind) (hacc : accepts s c k ↔ accepts t c k) :
    InStep (applyOp s c k) (applyOp t c k) ∧
      ∃ g1 g2, (applyOp s c k).out = s.out ++ g1 ∧ (applyOp t c k).out = t.out ++ g2 ∧ absOut g1 = absOut g2 := by
  have ps' := alive_applyOp s c k h.ps
  have es' := alive_applyOp t c k h.es
  rcases applyOp_cases s c k with ⟨hd, _⟩ | ⟨_, hrej, h1⟩ | ⟨_, hok, h1⟩
  · rw [h.ps.2] at hd; cases hd
  · rw [h1, applyOp_reject h.es.2 (fun a => hrej (hacc.2 a))]
    exact ⟨h.same ⟨rfl, rfl, rfl, rfl, rfl, rfl⟩ ⟨rfl, rfl, rfl, rfl, rfl, rfl⟩, _, _, rfl, rfl, rfl⟩
  · have h2 := applyOp_opStep h.es.2 (hacc.1 hok)
    obtain ⟨l1, hl1, ha1, _⟩ := h1.out
    obtain ⟨l2, hl2, ha2, _⟩ := h2.out
    refine ⟨⟨ps', es', fun x => ?_, fun x => ?_, fun x => ?_⟩, _, _, by rw [(ha1 ps'.2).2, List.append_assoc],
      by rw [(ha2 es'.2).2, List.append_assoc], ?_⟩
    · rw [h1.ev x, h2.ev x, h.ev c, h.ev x]
    · rw [h1.rev x, h2.rev x, h.rev c, h.rev x]
    · rw [h1.added x, h2.added x, h.added x]
    · rw [absOut_append, absOut_append, absOut_back l1 hl1, absOut_back l2 hl2]
      show [Ev.op c k _ 0] = [Ev.op c k _ 0]
      rw [h1.ev c, h2.ev c, h.ev c]

/-- what `same_callbacks` asks of one input: for an iteration, a well-behaved kernel that reports every
descriptor at most once, and both pollers handing the loop the same active list -/
def simEnvOk (sp se : State) : In → Prop
  | .iter ready nret =>
    epEnvOk se (.iter ready nret) ∧ (ready.map (·.1)).Nodup ∧
      (pollerPoll sp ready nret).2 = (pollerPoll se ready nret).2
  | _ => True
instance : Decidable (simEnvOk sp se i) := by cases i <;> unfold simEnvOk <;> infer_instance

def Along2 (Q : State → State → In → Prop) : State → State → List In → Prop
  | _, _, [] => True
  | s, t, i :: rest => Q s t i ∧ Along2 Q (step s i) (step t i) rest

instance decAlong2 {Q : State → State → In → Prop} [∀ s t i, Decidable (Q s t i)] :
    ∀ (s t : State) (ins : List In), Decidable (Along2 Q s t ins)
  | _, _, [] => isTrue trivial
  | s, t, i :: rest => @instDecidableAnd _ _ _ (decAlong2 (step s i) (step t i) rest)

theorem inStep_poll {s t : State} (h : InStep s t) (ready) (nret) (he : epEnvOk t (.iter ready nret))
    (hnd : (ready.map (·.1)).Nodup) (hact : (pollerPoll s ready nret).2.Perm (pollerPoll t ready nret).2) :
    InStep (pollerPoll s ready nret).1 (pollerPoll t ready nret).1 := by
  have fs := frame_pollerPoll s ready nret
  have ft := frame_pollerPoll t ready nret
  obtain ⟨_, e1, e2⟩ := pollerPoll_epoll h.es.good.be h.es.good.struct ready nret he
  refine ⟨alive_poll s ready nret h.ps (by intro hb; rw [h.ps.good.be] at hb; cases hb),
    alive_poll t ready nret h.es he, fun c => ?_, fun c => ?_, fun c => ?_⟩
  · rw [fs.ev, ft.ev, h.ev]
  · rw [(pollerPoll_poll h.ps.good.be h.ps.good.struct ready nret).2.1 c, e2 hnd c, ← e1, h.rev c]
    by_cases hm : c ∈ (pollerPoll s ready nret).2
    · rw [if_pos hm, if_pos (hact.mem_iff.1 hm)]
    · rw [if_neg hm, if_neg (fun x => hm (hact.mem_iff.2 x))]
  · rw [fs.added, ft.added, h.added]

/-- the loop's own bookkeeping, as a value: `SameBook s t` says `t.book = s.book` -/
structure Book where
  hooks : List Hook
  handling : Bool
  cur : Option Nat
  active : List Nat
  iteration : Nat

def State.book (s : State) : Book := ⟨s.hooks, s.handling, s.cur, s.active, s.iteration⟩

def State.withBook (s : State) (b : Book) : State :=
  { s with hooks := b.hooks, handling := b.handling, cur := b.cur, active := b.active, iteration := b.iteration }

theorem SameBook.book {s t : State} (h : SameBook s t) : t.book = s.book := by
  unfold State.book; rw [h.hooks, h.handling, h.cur, h.active, h.iteration]

theorem applyOp_book (s : State) (c k) : (applyOp s c k).book = s.book := (applyOp_loop s c k).1.book

structure Sim (s t : State) : Prop where
  step : InStep s t
  book : s.book = t.book
  out : absOut s.out = absOut t.out

/-- the two states agree on everything the specification can see -/
structure AbsEq (s t : State) : Prop where
  ev : ∀ c, (s.chans c).events = (t.chans c).events
  rev : ∀ c, (s.chans c).revents = (t.chans c).revents
  added : ∀ c, (s.chans c).added = (t.chans c).added
  hooks : s.hooks = t.hooks
  handling : s.handling = t.handling
  cur : s.cur = t.cur
  active : s.active = t.active
  iteration : s.iteration = t.iteration

theorem Sim.abs {s t : State} (h : Sim s t) : AbsEq s t :=
  ⟨h.step.ev, h.step.rev, h.step.added, congrArg Book.hooks h.book, congrArg Book.handling h.book,
    congrArg Book.cur h.book, congrArg Book.active h.book, congrArg Book.iteration h.book⟩

theorem Sim.mapBook {s t : State} (h : Sim s t) (F : Book → Book) :
    Sim (s.withBook (F s.book)) (t.withBook (F t.book)) :=
  ⟨h.step.same ⟨rfl, rfl, rfl, rfl, rfl, rfl⟩ ⟨rfl, rfl, rfl, rfl, rfl, rfl⟩, congrArg F h.book, h.out⟩

theorem sim_applyOp {s t : State} (h : Sim s t) (c : Nat) (k : OpKind) :
    Sim (applyOp s c k) (applyOp t c k) := by
  have b := h.abs
  have hacc : accepts s c k ↔ accepts t c k := by
    cases k <;> simp only [accepts, removeOk, recreateOk, b.ev c, b.added c, b.handling, b.cur, b.active]
  obtain ⟨h', g1, g2, o1, o2, e⟩ := inStep_applyOp h.step c k hacc
  exact ⟨h', by rw [applyOp_book, applyOp_book, h.book], by rw [o1, o2, absOut_append, absOut_append, h.out, e]⟩

theorem sim_foldl_ops (hs : List Hook) : ∀ (s t : State), Sim s t →
    Sim (hs.foldl (fun s h => applyOp s h.c h.op) s) (hs.foldl (fun s h => applyOp s h.c h.op) t) := by
  induction hs with
  | nil => intro s t h; exact h
  | cons x rest ih => intro s t h; exact ih _ _ (sim_applyOp h x.c x.op)

theorem sim_runHooks {s t : State} (h : Sim s t) (j : Nat) (k : Kind) :
    Sim (runHooks s j k) (runHooks t j k) := by
  unfold runHooks
  rw [← h.abs.hooks]
  exact sim_foldl_ops _ _ _ (h.mapBook fun b => { b with hooks := s.hooks.filter fun h => !h.isFor j k })

theorem sim_stage (k : Kind) {s t : State} (h : Sim s t) (c : Nat) :
    Sim (stage k s c) (stage k t c) := by
  rw [stage_eq, stage_eq, h.step.ps.dead, h.step.es.dead, ← h.step.rev c, ← h.step.ev c]
  split
  · refine sim_runHooks ?_ c k
    exact ⟨h.step.same ⟨rfl, rfl, rfl, rfl, rfl, rfl⟩ ⟨rfl, rfl, rfl, rfl, rfl, rfl⟩, h.book,
      by simp only [emit, absOut_append, h.out, h.step.rev c, h.step.ev c]⟩
  · exact h

theorem sim_handleEvent {s t : State} (h : Sim s t) (c : Nat) :
    Sim (handleEvent s c) (handleEvent t c) :=
  sim_stage .write (sim_stage .read (sim_stage .error (sim_stage .close h c) c) c) c

theorem sim_dispatch (act : List Nat) : ∀ (s t : State), Sim s t →
    Sim (dispatch s act) (dispatch t act) := by
  induction act with
  | nil => intro s t h; exact h
  | cons c rest ih =>
    intro s t h
    exact ih _ _ (sim_handleEvent (h.mapBook fun b => { b with cur := some c }) c)

theorem sim_poll {s t : State} (h : Sim s t) (ready) (nret) (henv : simEnvOk s t (.iter ready nret)) :
    Sim (pollerPoll s ready nret).1 (pollerPoll t ready nret).1 :=
  ⟨inStep_poll h.step ready nret henv.1 henv.2.1 (henv.2.2 ▸ .refl _),
    by rw [(sameBook_pollerPoll s ready nret).book, (sameBook_pollerPoll t ready nret).book, h.book],
    by rw [absOut_frame (frame_pollerPoll s ready nret), absOut_frame (frame_pollerPoll t ready nret), h.out]⟩

theorem sim_iter {s t : State} (h : Sim s t) (ready) (nret) (henv : simEnvOk s t (.iter ready nret)) :
    Sim (iter s ready nret) (iter t ready nret) := by
  have h1 := sim_poll h ready nret henv
  rw [iter_eq, if_neg (by simp [h.step.ps.dead]), if_neg (by simp [h1.step.ps.dead])]
  rw [iter_eq, if_neg (by simp [h.step.es.dead]), if_neg (by simp [h1.step.es.dead]), ← henv.2.2]
  exact (sim_dispatch _ _ _ (h1.mapBook fun b =>
    { b with iteration := b.iteration + 1, active := (pollerPoll s ready nret).2, handling := true })).mapBook
      fun b => { b with cur := none, handling := false }

theorem sim_run (ins : List In) : ∀ (s t : State), Sim s t → Along2 simEnvOk s t ins →
    Sim (run s ins) (run t ins) := by
  induction ins with
  | nil => intro s t h _; exact h
  | cons i rest ih =>
    intro s t h ha
    obtain ⟨hq, ha'⟩ := ha
    refine ih (step s i) (step t i) ?_ ha'
    cases i with
    | op c k => exact sim_applyOp h c k
    | hook x =>
      simp only [step]
      rw [if_neg (by simp [h.step.ps.2]), if_neg (by simp [h.step.es.2])]
      exact h.mapBook fun b => { b with hooks := b.hooks ++ [x] }
    | iter ready nret => exact sim_iter h ready nret hq

theorem sim_empty : Sim (empty .poll) (empty .epoll) :=
  ⟨⟨⟨⟨rfl, pollStruct_empty⟩, rfl⟩, ⟨⟨rfl, epStruct_empty⟩, rfl⟩, fun _ => rfl, fun _ => rfl, fun _ => rfl⟩, rfl, rfl⟩

theorem Sim.resetOut {s t : State} (h : Sim s t) : Sim { s with out := [] } { t with out := [] } :=
  ⟨h.step.same ⟨rfl, rfl, rfl, rfl, rfl, rfl⟩ ⟨rfl, rfl, rfl, rfl, rfl, rfl⟩, h.book, rfl⟩

theorem sim_init : Sim (init .poll) (init .epoll) :=
  (sim_applyOp (sim_applyOp sim_empty timerChan .enableR) wakeChan .enableR).resetOut

end MuduoVerif.Poller
