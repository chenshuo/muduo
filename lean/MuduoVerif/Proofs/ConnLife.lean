import MuduoVerif.Proofs.ConnFresh
import MuduoVerif.Proofs.ConnFrame
import MuduoVerif.Proofs.ConnSend
/-!
The life-cycle of the connection model: the trace of every run is a word of
`UP MSG* DOWN close` (with other events interleaved), nothing aborts, the descriptor is
closed once, after DOWN and after the channel was unregistered.
-/
namespace MuduoVerif.Conn
open MuduoVerif.Gen.Conn

/-- phases of a connection as its user sees them -/
inductive Phase | init | up | down | closed
deriving DecidableEq, Repr

/-- the automaton of legal callback / destruction sequences; `none` = illegal -/
def lifeStep : Phase → Ev → Option Phase
  | .init, .up => some .up
  | .up, .msg _ _ => some .up
  | .up, .down => some .down
  | .down, .sysClose => some .closed
  | _, .up => none
  | _, .msg _ _ => none
  | _, .down => none
  | _, .sysClose => none
  | _, .abort _ => none
  | _, .uaf _ => none
  | p, _ => some p

def runLife (tr : List Ev) : Option Phase := tr.foldl (fun o e => o.bind (fun p => lifeStep p e)) (some .init)

theorem runLife_snoc (tr : List Ev) (e : Ev) : runLife (tr ++ [e]) = (runLife tr).bind (fun p => lifeStep p e) := by
  simp [runLife, List.foldl_append]

def phaseOf (c : Conn) : Phase :=
  if c.alive = false then .closed else
  match c.st with
  | .kConnecting => .init
  | .kConnected => .up
  | .kDisconnecting => .up
  | .kDisconnected => .down

/-- The life-cycle invariant of every state reached after `connectEstablished`.  Besides the trace automaton it ties
together who holds a `TcpConnectionPtr` (the owner's map: `owner`; a queued functor: `Task.strong`), whether the
object exists (`alive`) and whether its channel is in the poller (`registered`, muduo's `addedToLoop_`), so that when the
last reference goes (`maybeDestroy`) the assertions of `~TcpConnection` and `~Channel` hold, and a functor that runs
after that is a weak one. -/
structure LifeInv (c : Conn) : Prop where
  /-- the callbacks and the `close` recorded so far are a legal word, and have come as far as `st` and `alive` say -/
  life : runLife c.trace = some (phaseOf c)
  /-- no assertion has failed, no functor has run on a freed object -/
  notDead : c.dead = false
  established : c.st ≠ .kConnecting
  /-- the owner erases the connection only in the close callback (`handleClose`, after `setState(kDisconnected)`) or in
  its own destructor (with `connectDestroyed`): a released connection is down, which `~TcpConnection` asserts -/
  ownerGone : c.owner = false → c.st = .kDisconnected
  /-- `setState(kDisconnected)` comes with `disableAll()`: a connection that is down has no interest, so the poller
  reports nothing to it and `Channel::remove` finds `isNoneEvent()` -/
  quiet : c.st = .kDisconnected → c.ch.evRead = false ∧ c.ch.evWrite = false
  /-- released, not yet destroyed, channel still in the poller: the `connectDestroyed` functor that the owner bound with
  its `TcpConnectionPtr` is still queued; it keeps the object until `Channel::remove` has run (`~Channel` asserts
  `!addedToLoop_`) -/
  reg : c.alive = true → c.owner = false → c.registered = true → Task.connectDestroyed ∈ c.queue
  /-- after `~TcpConnection`: the channel was removed, the owner had let go, and no functor still queued holds a reference
  (one would have kept the object): what is left runs as a weak callback that finds the object gone -/
  gone : c.alive = false → c.registered = false ∧ c.owner = false ∧ c.queue.any Task.strong = false


/-- `c'` differs from `c` only in fields the life-cycle invariant does not read -/
structure SameCtl (c c' : Conn) : Prop where
  trace : c'.trace = c.trace
  st : c'.st = c.st
  alive : c'.alive = c.alive
  dead : c'.dead = c.dead
  owner : c'.owner = c.owner
  evRead : c'.ch.evRead = c.ch.evRead
  evWrite : c'.ch.evWrite = c.ch.evWrite
  registered : c'.registered = c.registered
  batch : c'.batch = c.batch
  pending : c'.pending = c.pending

/-- `h` defaults to `rfl` in every field: the usual case, a change of fields outside `SameCtl` -/
theorem LifeInv.frame {c c' : Conn} (hi : LifeInv c)
    (h : SameCtl c c' := by exact ⟨rfl, rfl, rfl, rfl, rfl, rfl, rfl, rfl, rfl, rfl⟩) : LifeInv c' := by
  have hq : c'.queue = c.queue := by unfold Conn.queue; rw [h.batch, h.pending]
  have hp : phaseOf c' = phaseOf c := by unfold phaseOf; rw [h.alive, h.st]
  constructor
  · rw [h.trace, hp]; exact hi.life
  · rw [h.dead]; exact hi.notDead
  · rw [h.st]; exact hi.established
  · rw [h.owner, h.st]; exact hi.ownerGone
  · rw [h.st, h.evRead, h.evWrite]; exact hi.quiet
  · rw [h.alive, h.owner, h.registered, hq]; exact hi.reg
  · rw [h.alive, h.owner, h.registered, hq]; exact hi.gone

/-- events that are not part of the life-cycle alphabet -/
def Ev.neutral : Ev → Bool
  | .up | .msg _ _ | .down | .sysClose | .abort _ | .uaf _ => false
  | _ => true

theorem lifeStep_neutral (p : Phase) (e : Ev) (h : e.neutral = true) : lifeStep p e = some p := by
  cases e <;> cases p <;> simp_all [Ev.neutral, lifeStep]

theorem emit_life (c : Conn) (e : Ev) (h : e.neutral = true) (hi : LifeInv c) : LifeInv (emit c e) :=
  { hi with
    life := by
      simp only [emit, runLife_snoc, hi.life, Option.bind_some]
      rw [lifeStep_neutral _ _ h]; rfl }

theorem enqueue_life (c : Conn) (t : Task) (h : c.alive = true ∨ t.strong = false) (hi : LifeInv c) :
    LifeInv (enqueue c t) :=
  { hi with
    reg := fun h1 h2 h3 => by rw [queue_enqueue]; exact List.mem_append_left _ (hi.reg h1 h2 h3)
    gone := fun hg => ⟨(hi.gone hg).1, (hi.gone hg).2.1, by
      rw [queue_enqueue, List.any_append, (hi.gone hg).2.2, List.any_cons, h.resolve_left (by rw [show c.alive = false from hg]; decide)]; rfl⟩ }

theorem popRead_same (c : Conn) : SameCtl c (popRead c) := by
  unfold popRead; split <;> exact ⟨rfl, rfl, rfl, rfl, rfl, rfl, rfl, rfl, rfl, rfl⟩

/-- what the invariant says of a connection that is not down -/
structure UpFacts (c : Conn) : Prop where
  isUp : c.isUp
  alive : c.alive = true
  owner : c.owner = true

theorem LifeInv.upFacts {c : Conn} (hi : LifeInv c) (h : c.st ≠ .kDisconnected) : UpFacts c := by
  have hu : c.isUp := by
    unfold Conn.isUp; have := hi.established
    cases hs : c.st <;> simp_all
  have ho : c.owner = true := by
    cases hw : c.owner with
    | true => rfl
    | false => exact absurd (hi.ownerGone hw) h
  have ha : c.alive = true := by
    cases hw : c.alive with
    | true => rfl
    | false => have := (hi.gone hw).2.1; rw [ho] at this; cases this
  exact ⟨hu, ha, ho⟩

/-- once the object is gone the connection is down (so a weak `send` functor that finds it gone drops nothing
that was promised) -/
theorem LifeInv.goneDown {c : Conn} (hl : LifeInv c) (h : c.alive = false) : c.st = .kDisconnected :=
  hl.ownerGone (hl.gone h).2.1

theorem LifeInv.phaseUp {c : Conn} (hi : LifeInv c) (hu : c.isUp) : phaseOf c = .up := by
  unfold phaseOf; simp only [(hi.upFacts (isUp_ne hu)).alive]
  rcases hu with h | h <;> simp [h]

/-- a connection that is not down stays within the invariant as long as its state word, `alive`, `dead` and `owner`
are as they were and at most a neutral event is recorded: the other clauses speak of connections that are down,
released or destroyed -/
theorem LifeInv.ofUp {c c' : Conn} (hi : LifeInv c) (hnd : c.st ≠ .kDisconnected)
    (htr : c'.trace = c.trace ∨ ∃ e, e.neutral = true ∧ c'.trace = c.trace ++ [e])
    (hst : c'.st = c.st) (ha : c'.alive = c.alive) (hd : c'.dead = c.dead) (ho : c'.owner = c.owner) : LifeInv c' := by
  obtain ⟨_, ha0, ho0⟩ := hi.upFacts hnd
  have hp : phaseOf c' = phaseOf c := by unfold phaseOf; rw [ha, hst]
  refine ⟨?_, hd.trans hi.notDead, hst ▸ hi.established, fun h => (nomatch ho0.symm.trans (ho.symm.trans h)),
    fun h => absurd (hst.symm.trans h) hnd, fun _ h => (nomatch ho0.symm.trans (ho.symm.trans h)),
    fun h => (nomatch ha0.symm.trans (ha.symm.trans h))⟩
  rcases htr with h | ⟨e, he, h⟩
  · rw [h, hp]; exact hi.life
  · rw [h, hp, runLife_snoc, hi.life, Option.bind_some, lifeStep_neutral _ _ he]

theorem sendInLoop_life (c : Conn) (data : Bytes) (q : Bool) (hi : LifeInv c) : LifeInv (sendInLoop c data q) := by
  by_cases hu : c.st = .kDisconnected
  · rw [sendInLoop_down hu]; exact emit_life _ _ rfl hi
  · have hd := (sendInLoop_data c data q hu).direct
    have htr : (sendInLoop c data q).trace = c.trace ∨
        ∃ e, e.neutral = true ∧ (sendInLoop c data q).trace = c.trace ++ [e] := by
      split at hd
      · exact Or.inr ⟨_, rfl, hd.trace⟩
      · exact Or.inl hd.trace
    obtain ⟨l, hs, _⟩ := sendInLoop_step c data q hu
    exact hi.ofUp hu htr hs.st hs.alive hs.dead hs.owner

theorem shutdownInLoop_life (c : Conn) (hi : LifeInv c) : LifeInv (shutdownInLoop c) := by
  unfold shutdownInLoop; split
  · exact emit_life _ _ rfl (hi.frame)
  · exact hi

theorem setRead_life (c : Conn) (r b : Bool) (hu : c.isUp) (hi : LifeInv c) :
    LifeInv { setEvents c r c.ch.evWrite with reading := b } :=
  hi.ofUp (isUp_ne hu) (Or.inl rfl) rfl rfl rfl rfl

theorem startReadInLoop_life (c : Conn) (hi : LifeInv c) : LifeInv (startReadInLoop c) := by
  unfold startReadInLoop; split
  · rename_i hg; exact setRead_life c true true hg.1 hi
  · exact hi

theorem stopReadInLoop_life (c : Conn) (hi : LifeInv c) : LifeInv (stopReadInLoop c) := by
  unfold stopReadInLoop; split
  · rename_i hg; exact setRead_life c false false hg.1 hi
  · exact hi

theorem handOff_life (c : Conn) (f : Bool) (d : Dispatch) (t : Task) (g : Conn → Conn)
    (ht : c.alive = true ∨ t.strong = false) (hi : LifeInv c) (hg : LifeInv c → LifeInv (g c)) : LifeInv (handOff c f d t g) := by
  unfold handOff; split
  · exact enqueue_life _ _ ht hi
  · exact hg hi

theorem disconnecting_life (c : Conn) (hu : c.isUp) (hi : LifeInv c) : LifeInv ({ c with st := .kDisconnecting } : Conn) := by
  obtain ⟨_, ha, ho⟩ := hi.upFacts (isUp_ne hu)
  exact { hi with
    life := by
      have : phaseOf ({ c with st := .kDisconnecting } : Conn) = .up := by simp [phaseOf, ha]
      rw [this, ← hi.phaseUp hu]; exact hi.life
    established := by simp
    ownerGone := fun h => nomatch ho.symm.trans h
    quiet := fun h => nomatch h
    reg := fun _ h => nomatch ho.symm.trans h
    gone := fun h => nomatch ha.symm.trans h }

theorem act_life (c : Conn) (f : Bool) (a : Act) (hi : LifeInv c) : LifeInv (act c f a) := by
  have up : c.isUp → c.alive = true := fun hu => (hi.upFacts (isUp_ne hu)).alive
  cases a with
  | send d =>
    simp only [act]; split
    · rename_i hg
      split
      · exact enqueue_life _ _ (Or.inl (up (Or.inl hg))) (hi.frame)
      · exact sendInLoop_life _ _ _ (hi.frame)
    · exact hi
  | shutdown =>
    simp only [act]; split
    · rename_i hg
      exact handOff_life _ _ _ _ _ (Or.inl (up (Or.inl hg))) (disconnecting_life c (Or.inl hg) hi) (shutdownInLoop_life _)
    · exact hi
  | forceClose =>
    simp only [act]; split
    · rename_i hg
      exact handOff_life _ _ _ _ _ (Or.inl (up hg)) (disconnecting_life c hg hi) id
    · exact hi
  | forceCloseDelay us =>
    simp only [act]; split
    · rename_i hg
      split
      · exact enqueue_life _ _ (Or.inl (up hg)) (disconnecting_life c hg hi)
      · exact (disconnecting_life c hg hi).frame
    · exact hi
  | stopRead => simp only [act]; exact handOff_life _ _ _ _ _ (Or.inr (by decide)) hi (stopReadInLoop_life _)
  | startRead => simp only [act]; exact handOff_life _ _ _ _ _ (Or.inr (by decide)) hi (startReadInLoop_life _)
  | setWc k => exact hi.frame
  | setHwm k m => exact hi.frame

theorem callback_life (c : Conn) (k : Cb) (e : Ev) (hi : LifeInv (emit c e)) :
    LifeInv (callback c k e) := by
  unfold callback; split
  · exact act_life _ _ _ (hi.frame)
  · exact hi

def SameAO (c c' : Conn) : Prop := c'.alive = c.alive ∧ c'.owner = c.owner

/-- what no user operation does: destroy the object, take it from its owner, bring a connection that is down
back up -/
def Tame (c c' : Conn) : Prop := SameAO c c' ∧ (c.st = .kDisconnected → c'.st = .kDisconnected)

theorem Tame.frame : Frame Tame where
  refl _ := ⟨⟨rfl, rfl⟩, id⟩
  trans h1 h2 := ⟨⟨h2.1.1.trans h1.1.1, h2.1.2.trans h1.1.2⟩, fun h => h2.2 (h1.2 h)⟩
  data _ _ h := by
    have h1 := congrArg Conn.alive h; have h2 := congrArg Conn.owner h; have h3 := congrArg Conn.st h
    exact ⟨⟨h1, h2⟩, fun hd => h3.trans hd⟩
  emits _ _ _ := ⟨⟨rfl, rfl⟩, id⟩
  enqueues _ _ _ := ⟨⟨rfl, rfl⟩, id⟩
  updates _ _ _ _ := ⟨⟨rfl, rfl⟩, id⟩
  closing c hu := ⟨⟨rfl, rfl⟩, fun hd => absurd hd (isUp_ne hu)⟩
  shut _ := ⟨⟨rfl, rfl⟩, id⟩
  timer _ _ := ⟨⟨rfl, rfl⟩, id⟩
  dead _ := ⟨⟨rfl, rfl⟩, id⟩
  delivers _ _ := ⟨⟨rfl, rfl⟩, id⟩
  consumes _ := ⟨⟨rfl, rfl⟩, id⟩
  unregister _ := ⟨⟨rfl, rfl⟩, id⟩

theorem callback_tame (c : Conn) (k : Cb) (e : Ev) : Tame c (callback c k e) :=
  callback_frame Tame.frame (fun c d _ => sendInLoop_frame Tame.frame (fun _ => ⟨⟨rfl, rfl⟩, id⟩) c d false) c k e
    ⟨⟨rfl, rfl⟩, id⟩

theorem callback_st_down (c : Conn) (k : Cb) (e : Ev) (h : c.st = .kDisconnected) : (callback c k e).st = .kDisconnected :=
  (callback_tame c k e).2 h
theorem callback_alive (c : Conn) (k : Cb) (e : Ev) : (callback c k e).alive = c.alive := (callback_tame c k e).1.1
theorem callback_owner (c : Conn) (k : Cb) (e : Ev) : (callback c k e).owner = c.owner := (callback_tame c k e).1.2

theorem goDown_life (c : Conn) (hu : c.isUp) (hi : LifeInv c) :
    LifeInv (emit (disableAll { c with st := .kDisconnected }) .down) := by
  obtain ⟨_, ha, ho⟩ := hi.upFacts (isUp_ne hu)
  exact { hi with
    life := by
      simp only [emit, disableAll, setEvents, runLife_snoc, hi.life, Option.bind_some, hi.phaseUp hu]
      simp [lifeStep, phaseOf, ha]
    established := by simp [emit, disableAll, setEvents]
    ownerGone := fun _ => rfl
    quiet := fun _ => by
      simp only [emit, disableAll, setEvents]
      cases c.be <;> cases hs : c.ch.slot <;> simp [chanUpdate, Chan.none]
    reg := fun _ h => nomatch ho.symm.trans h
    gone := fun h => nomatch ha.symm.trans h }

theorem disown_life (c : Conn) (hd : c.st = .kDisconnected) (ha : c.alive = true) (hi : LifeInv c) :
    LifeInv { c with trace := c.trace ++ [.closeCb], owner := false, pending := c.pending ++ [.connectDestroyed] } :=
  { emit_life c .closeCb rfl hi with
    ownerGone := fun _ => hd
    reg := fun _ _ _ => by simp [Conn.queue]
    gone := fun h => nomatch ha.symm.trans h }

theorem handleClose_life (c : Conn) (hu : c.isUp) (hi : LifeInv c) : LifeInv (handleClose c) := by
  rw [handleClose_up c hu]
  exact disown_life _ (callback_st_down _ _ _ rfl) ((callback_alive _ _ _).trans (hi.upFacts (isUp_ne hu)).alive)
    (callback_life (disableAll { c with st := .kDisconnected }) .down .down (goDown_life c hu hi))

/-- the poller reports events only to a channel with some interest, and a connection that is down has none -/
theorem LifeInv.watchedUp {c : Conn} (hi : LifeInv c) (h : c.ch.none = false) : c.isUp := by
  refine (hi.upFacts fun hd => ?_).isUp
  obtain ⟨h1, h2⟩ := hi.quiet hd
  simp [Chan.none, h1, h2] at h

theorem msg_life (c : Conn) (hu : c.isUp) (n : Nat) (h : UInt64) (hi : LifeInv c) : LifeInv (emit c (.msg n h)) :=
  { hi with
    life := by
      simp only [emit, runLife_snoc, hi.life, Option.bind_some, hi.phaseUp hu]
      exact congrArg some (hi.phaseUp hu).symm }

theorem handleReadRes_life (c : Conn) (r : ReadRes) (hu : c.isUp) (hi : LifeInv c) : LifeInv (handleReadRes c r) := by
  unfold handleReadRes
  split
  · exact handleClose_life _ hu hi
  · rename_i n
    have hd : LifeInv (deliver c (n + 1)) := hi.frame
    exact (callback_life (deliver c (n + 1)) .msg _ (msg_life (deliver c (n + 1)) hu _ _ hd)).frame
  · exact hi

theorem handleRead_life (c : Conn) (hu : c.isUp) (hi : LifeInv c) : LifeInv (handleRead c) :=
  handleReadRes_life _ _ (by unfold Conn.isUp; rw [show (emit (popRead c) _).st = c.st from (popRead_same c).st]; exact hu)
    (emit_life _ _ rfl (hi.frame (popRead_same _)))

theorem handleWrite_life (c : Conn) (hu : c.isUp) (hi : LifeInv c) : LifeInv (handleWrite c) := by
  have hw := handleWrite_step c
  exact hi.ofUp (isUp_ne hu) (hw.trace.imp_right fun h => ⟨_, rfl, h⟩) hw.step.st hw.step.alive hw.step.dead
    hw.step.owner

theorem guarded_life (f : Conn → Conn) (rev : Prop) [Decidable rev] (sub : Bool → Bool → Bool → Prop)
    [∀ a b c, Decidable (sub a b c)] (c : Conn) (hi : LifeInv c)
    (hf : sub c.ch.none c.ch.evRead c.ch.evWrite → LifeInv (f c)) : LifeInv (guarded f rev sub c) := by
  unfold guarded; split
  · rename_i hg; exact hf hg.2.1
  · exact hi

theorem handleEvent_life (c : Conn) (r : Nat) (hi : LifeInv c) : LifeInv (handleEvent c r) := by
  unfold handleEvent
  split
  · exact hi
  · have h1 : LifeInv (guarded handleClose (dispClose r) dispCloseSub c) :=
      guarded_life _ _ _ _ hi (fun hg => handleClose_life _ (hi.watchedUp (by simpa [dispCloseSub] using hg)) hi)
    have h2 : LifeInv (guarded handleRead (dispRead r) dispReadSub (guarded handleClose (dispClose r) dispCloseSub c)) :=
      guarded_life _ _ _ _ h1 (fun hg => handleRead_life _ (h1.watchedUp (by simp [Chan.none, hg.1])) h1)
    exact guarded_life _ _ _ _ h2 (fun hg => handleWrite_life _ (h2.watchedUp (by simp [Chan.none, hg.1])) h2)

/-- no clause asks that a connection be registered -/
theorem LifeInv.unreg {c : Conn} (hi : LifeInv c) : LifeInv { c with registered := false } :=
  { hi with
    reg := fun _ _ h => nomatch h
    gone := fun h => ⟨rfl, (hi.gone h).2⟩ }

/-- `Channel::remove` on a connection that is down; nothing is assumed about `registered` -/
theorem removeChannel_down (c : Conn) (hd : c.st = .kDisconnected) (hi : LifeInv { c with registered := false }) :
    removeChannel c = { c with ch := chanRemove c.be c.ch, registered := false } :=
  removeChannel_quiet c (hi.quiet hd).1 (hi.quiet hd).2

theorem LifeInv.removed {c : Conn} (hi : LifeInv { c with registered := false }) :
    LifeInv { c with ch := chanRemove c.be c.ch, registered := false } :=
  { hi with quiet := fun h => hi.quiet h }

/-- `c'` is `c` after `connectDestroyed`: down, its channel removed, within the invariant -/
structure Destroyed (c c' : Conn) : Prop where
  life : LifeInv c'
  st : c'.st = .kDisconnected
  registered : c'.registered = false
  alive : c'.alive = c.alive

theorem connectDestroyed_life (c : Conn) (hi : LifeInv { c with registered := false }) :
    Destroyed c (connectDestroyed c) := by
  by_cases hu : c.isUp
  · have hst := callback_st_down (disableAll { c with st := .kDisconnected }) .down .down rfl
    have hdr := (callback_life (disableAll { c with st := .kDisconnected }) .down .down
      (goDown_life { c with registered := false } hu hi)).unreg
    rw [connectDestroyed_up c hu, removeChannel_down _ hst hdr]
    exact ⟨hdr.removed, hst, rfl, callback_alive _ _ _⟩
  · have hd : c.st = .kDisconnected := Decidable.of_not_not fun h => hu (hi.upFacts h).isUp
    rw [connectDestroyed_down c hd, removeChannel_down c hd hi]
    exact ⟨hi.removed, hd, rfl, rfl⟩

/-- no functor of the connection carries the raw `this` (from the generated hand-off table:
each holds a reference of its own or a weak one) -/
theorem no_raw (t : Task) : t.hold ≠ .raw := by
  cases t <;> simp only [Task.hold] <;> decide

theorem connectDestroyed_strong : Task.connectDestroyed.strong = true := by decide

theorem runTask_life (c : Conn) (t : Task) (rest : List Task) (hb : c.batch = t :: rest) (hi : LifeInv c) :
    LifeInv (runTask { c with batch := rest } t) := by
  have hq := queue_pop hb
  have hgone : ∀ h : c.alive = false, t.strong = false ∧ ({ c with batch := rest } : Conn).queue.any Task.strong = false :=
    fun h => by simpa [hq] using (hi.gone h).2.2
  -- the state after the pop, without the `reg` part
  have hpop : LifeInv ({ c with batch := rest, registered := false } : Conn) :=
    { hi with
      reg := fun _ _ h => nomatch h
      gone := fun h => ⟨rfl, (hi.gone h).2.1, (hgone h).2⟩ }
  have hpop' : t ≠ .connectDestroyed → LifeInv ({ c with batch := rest } : Conn) := fun hne =>
    { hi with
      reg := fun h1 h2 h3 => by
        rcases List.mem_cons.mp (hq ▸ hi.reg h1 h2 h3) with h | h
        · exact absurd h.symm hne
        · exact h
      gone := fun h => ⟨(hi.gone h).1, (hi.gone h).2.1, (hgone h).2⟩ }
  unfold runTask
  split
  · rename_i hg
    -- `t` is not strong, so not `connectDestroyed`; not raw either (`no_raw`), so weak: the `uaf` branch is empty
    have hns : t.strong = false := by simp at hg; exact hg.2
    have hne : t ≠ .connectDestroyed := by
      intro h; rw [h, connectDestroyed_strong] at hns; cases hns
    split
    · exact (hpop' hne).frame
    · split
      · exact hpop' hne
      · rename_i _ hw
        have hr := no_raw t
        cases ht : t.hold <;> simp_all [Task.strong]
  · cases t with
    | sendInLoop d => exact sendInLoop_life _ _ _ (hpop' (by simp))
    | shutdownInLoop => exact shutdownInLoop_life _ (hpop' (by simp))
    | drainShutdownInLoop => exact shutdownInLoop_life _ (hpop' (by simp))
    | forceCloseInLoop =>
      simp only; split
      · rename_i h; exact handleClose_life _ h (hpop' (by simp))
      · exact hpop' (by simp)
    | connectDestroyed => exact (connectDestroyed_life { c with batch := rest } hpop).life
    | writeComplete => exact callback_life _ _ _ (emit_life _ _ rfl (hpop' (by simp)))
    | highWater n => exact callback_life _ _ _ (emit_life _ _ rfl (hpop' (by simp)))
    | startReadInLoop => exact startReadInLoop_life _ (hpop' (by simp))
    | stopReadInLoop => exact stopReadInLoop_life _ (hpop' (by simp))
    | addDelayTimer d => exact (hpop' (by simp)).frame

theorem maybeDestroy_life (c : Conn) (hi : LifeInv c) : LifeInv (maybeDestroy c) := by
  -- a released connection is down; one whose `connectDestroyed` has run is unregistered: neither assertion fails
  have hd : c.unheld → c.st = .kDisconnected := fun hu => hi.ownerGone hu.2.1
  have hr : c.unheld → c.registered = false := fun ⟨ha, ho, hq⟩ => by
    cases hw : c.registered with
    | false => rfl
    | true =>
      have : c.queue.any Task.strong = true := List.any_eq_true.mpr ⟨_, hi.reg ha ho hw, rfl⟩
      rw [this] at hq; cases hq
  refine maybeDestroy_inv c (fun _ => hi) (fun _ hu h => ?_) fun hu => ?_
  · rcases h with h | h
    · exact absurd (hd hu) h
    · rw [hr hu] at h; cases h
  · exact { hi with
      life := by
        simp only [emit, List.append_assoc]
        rw [show c.trace ++ ([Ev.sysClose] ++ [Ev.destroyed]) = (c.trace ++ [Ev.sysClose]) ++ [Ev.destroyed] by simp]
        rw [runLife_snoc, runLife_snoc, hi.life]
        have : phaseOf c = .down := by unfold phaseOf; simp [hu.1, hd hu]
        rw [this]; simp [lifeStep, phaseOf]
      ownerGone := fun _ => hd hu
      reg := fun h => nomatch h
      gone := fun _ => ⟨hr hu, hu.2.1, hu.2.2⟩ }

theorem fireTimers_life (c : Conn) (hi : LifeInv c) : LifeInv (fireTimers c) := by
  have hn : ∀ (n : Nat) (c : Conn), LifeInv c → LifeInv (fireN c n) := by
    intro n
    induction n with
    | zero => exact fun _ h => h
    | succ n ih =>
      intro c h
      apply ih
      unfold fireDelay; split
      · exact act_life _ _ _ h
      · exact h
  exact hn _ _ (hi.frame)

theorem dispatch_life (c : Conn) (s : Src) (hi : LifeInv c) : LifeInv (dispatch c s) :=
  dispatch_inv c s hi (fun r => handleEvent_life c r hi) (fireTimers_life c hi)

theorem foldl_dispatch_life (l : List Src) (c : Conn) (hi : LifeInv c) : LifeInv (l.foldl dispatch c) :=
  foldl_inv l (fun c s _ => dispatch_life c s) c hi

theorem swap_life (c : Conn) (hi : LifeInv c) :
    LifeInv { c with pending := [], batch := c.batch ++ c.pending } :=
  { hi with
    reg := fun h1 h2 h3 => queue_swap c ▸ hi.reg h1 h2 h3
    gone := fun h => queue_swap c ▸ hi.gone h }

theorem iter_life (c : Conn) (a : List Src) (hi : LifeInv c) : LifeInv (iter c a) :=
  iter_inv dispatch_life swap_life (fun c t rest _ hb => runTask_life c t rest hb) maybeDestroy_life c a hi

/-- inputs other than a second hand-over -/
def Input.notEstablish : Input → Prop
  | .establish => False
  | _ => True

theorem step_life (c : Conn) (i : Input) (hne : i.notEstablish) (hi : LifeInv c) : LifeInv (step c i) := by
  cases i with
  | establish => exact hne.elim
  | act f a =>
    simp only [step]; split
    · exact hi
    · split <;> exact act_life _ _ _ hi
  | iter a => exact iter_life _ _ hi
  | ownerDestroy =>
    simp only [step]; split
    · exact hi
    · rename_i hg
      have ha : c.alive = true := by cases hw : c.alive <;> simp_all
      have hcd := connectDestroyed_life c hi.unreg
      exact maybeDestroy_life _ { hcd.life with
        ownerGone := fun _ => hcd.st
        reg := fun _ _ h => nomatch hcd.registered.symm.trans h
        gone := fun h => nomatch (hcd.alive.trans ha).symm.trans h }
  | _ => exact hi.frame

theorem run_append (c : Conn) (xs ys : List Input) : run c (xs ++ ys) = run (run c xs) ys := by
  simp [run, List.foldl_append]

theorem run_life (ins : List Input) (c : Conn) (hne : ∀ i ∈ ins, i.notEstablish) (hi : LifeInv c) :
    LifeInv (run c ins) :=
  foldl_inv ins (fun c i h => step_life c i (hne i h)) c hi

/-- the state in which the `up` callback runs -/
theorem established_life (c : Conn) (h : Fresh c) : LifeInv (emit (enableReading { c with st := .kConnected }) .up) := by
  constructor
  · simp only [emit, enableReading, setEvents, h.trace, phaseOf, h.alive]; rfl
  · exact h.dead
  · simp [emit, enableReading, setEvents]
  · intro h'; have : c.owner = false := h'; rw [h.owner] at this; cases this
  · intro h'; cases h'
  · intro _ h'; have : c.owner = false := h'; rw [h.owner] at this; cases this
  · intro h'; have : c.alive = false := h'; rw [h.alive] at this; cases this

theorem establish_life (c : Conn) (h : Fresh c) : LifeInv (step c .establish) := by
  simp only [step, connectEstablished]
  rw [if_neg (by simp [h.dead]), if_neg (by simp [h.st])]
  exact callback_life _ _ _ (established_life c h)

/-! ### Further facts about `SameCtl` and `SameAO`; no proof uses them -/

theorem SameCtl.rfl' (c : Conn) : SameCtl c c := ⟨rfl, rfl, rfl, rfl, rfl, rfl, rfl, rfl, rfl, rfl⟩
theorem SameCtl.trans {a b c : Conn} (h1 : SameCtl a b) (h2 : SameCtl b c) : SameCtl a c :=
  ⟨h2.trace.trans h1.trace, h2.st.trans h1.st, h2.alive.trans h1.alive, h2.dead.trans h1.dead,
   h2.owner.trans h1.owner, h2.evRead.trans h1.evRead, h2.evWrite.trans h1.evWrite,
   h2.registered.trans h1.registered, h2.batch.trans h1.batch, h2.pending.trans h1.pending⟩

theorem ao_if {p : Prop} [Decidable p] {c a b : Conn} (h1 : SameAO c a) (h2 : SameAO c b) :
    SameAO c (if p then a else b) := by split <;> assumption

end MuduoVerif.Conn
