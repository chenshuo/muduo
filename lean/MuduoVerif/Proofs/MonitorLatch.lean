import MuduoVerif.Proofs.MonitorBase
/-! Invariants of the CountDownLatch model (C14). -/
namespace MuduoVerif.Monitor
open MuduoVerif.Generated.Monitor

def LRole (prog : Nat → List LOp) (t : Nat) : Cond → Prop
  | .notEmpty => ∃ rest, prog t = .wait :: rest
  | .notFull => False

structure LInv (s : LState) : Prop where
  st : s.toMon.Struct (LRole s.prog)
  /-- once the count has reached zero nobody is left unsignalled -/
  released : s.count ≤ 0 → s.ne.W = []

namespace LState
@[simp] theorem fin_ne (s : LState) (t op rest) : (s.fin t op rest).ne = s.ne := rfl
@[simp] theorem fin_count (s : LState) (t op rest) : (s.fin t op rest).count = s.count := rfl
@[simp] theorem fin_prog (s : LState) (t op rest) : (s.fin t op rest).prog = upd s.prog t rest := rfl
theorem fin_toMon (s : LState) (t op rest) : (s.fin t op rest).toMon = s.toMon.unlock := rfl
end LState

theorem LRole.upd {prog : Nat → List LOp} {t : Nat} {rest : List LOp} (x : Nat) (c : Cond) (hx : x ≠ t)
    (h : LRole prog x c) : LRole (upd prog t rest) x c := by
  cases c
  · simpa [LRole, upd_other _ _ _ _ hx] using h
  · exact h

theorem LRole.unique {prog : Nat → List LOp} {t : Nat} {c c' : Cond} (h : LRole prog t c) (h' : LRole prog t c') :
    c' = c := by
  cases c <;> cases c'
  · rfl
  · exact h'.elim
  · exact h.elim
  · rfl

theorem exec_wait (s : LState) (t : Nat) (rest : List LOp) :
    s.execOp t .wait rest =
      if 0 < s.count then { s with toMon := (s.toMon.setWs .notEmpty (s.ne.wake t)).parkOn .notEmpty t }
      else ({ s with toMon := s.toMon.setWs .notEmpty (s.ne.wake t) } : LState).fin t .wait rest := by
  simp only [LState.execOp, latch_waitF, LState.enter, Mon.enter_eq]
  by_cases hg : 0 < s.count
  · simp [hg, latch_wait_guard]
  · simp [hg, latch_wait_guard]

theorem linv_fin {s : LState} {t : Nat} {op : LOp} {rest : List LOp} (h : LInv s) (ho : s.owner = some t)
    (hS : t ∉ s.ne.S) : LInv (s.fin t op rest) := by
  refine ⟨?_, h.released⟩
  rw [LState.fin_toMon, LState.fin_prog]
  refine h.st.unlock (R' := LRole (upd s.prog t rest)) (t := t) ho ?_ (fun x c' hx hr => LRole.upd x c' hx hr)
  intro c
  cases c
  · exact hS
  · exact (h.st.not_parked (c := .notFull) (by simp [LRole])).2

theorem linv_exec {s : LState} {t : Nat} {op : LOp} {rest : List LOp} (h : LInv s) (ho : s.owner = some t)
    (hp : s.prog t = op :: rest) : LInv (s.execOp t op rest) := by
  cases op with
  | wait =>
    rw [exec_wait]
    by_cases hg : 0 < s.count
    · simp only [hg, if_true]
      refine ⟨h.st.park (c := .notEmpty) ho ⟨rest, hp⟩, ?_⟩
      intro hc
      have : s.count ≤ 0 := hc
      omega
    · simp only [hg, if_false]
      exact linv_fin (s := { s with toMon := s.toMon.setWs .notEmpty (s.ne.wake t) }) ⟨h.st.go t .notEmpty, h.released⟩
        (by simpa using ho) (WS.wake_facts (h.st.nodup .notEmpty) t).1
  | countDown =>
    have hnp : t ∉ s.ne.S := (h.st.not_parked (c := .notEmpty) (by simp [LRole, hp])).2
    simp only [LState.execOp, latch_countDownF, latch_countDown_guard]
    split
    · rename_i h0
      obtain ⟨ho3, hoth, hall⟩ := Mon.notifs_all s.toMon .notEmpty
      refine linv_fin (s := ({ s with count := s.count - 1 } : LState).notifs [⟨true, .notEmpty⟩]) ⟨h.st.notifs _, ?_⟩
        (ho3.trans ho) ?_
      · intro _
        show ((s.toMon.notifs _).ws .notEmpty).W = []
        rw [hall]; rfl
      · show t ∉ ((s.toMon.notifs _).ws .notEmpty).S
        rw [hall]
        have hW : t ∉ s.ne.W := h.st.own t .notEmpty ho
        simp only [WS.all, List.mem_append, not_or]
        exact ⟨hnp, hW⟩
    · rename_i h0
      refine linv_fin (s := { s with count := s.count - 1 }) ⟨h.st, ?_⟩ ho hnp
      intro hc
      have : s.count - 1 ≤ 0 := hc
      exact h.released (by omega)
  | getCount =>
    exact linv_fin h ho (h.st.not_parked (c := .notEmpty) (by simp [LRole, hp])).2

theorem linv_step {s s' : LState} {a : Act} (h : LInv s) (hs : lstep s a = some s') : LInv s' := by
  cases a <;> simp only [lstep, Option.ite_none_right_eq_some, Option.some.injEq] at hs
  case acq t =>
    obtain ⟨hc, rfl⟩ := hs
    exact ⟨h.st.acq t fun c => by cases c; exact hc.2.2.1; exact hc.2.2.2, h.released⟩
  case body t =>
    obtain ⟨ho, hs⟩ := hs
    split at hs
    · rename_i hp
      cases hs
      refine ⟨h.st.unlock ho (fun c => (h.st.not_parked ?_).2) fun _ _ _ hr => hr, h.released⟩
      cases c <;> simp [LRole, hp]
    · rename_i op rest hp
      cases hs
      exact linv_exec h ho hp
  case spur t c =>
    obtain ⟨ht, rfl⟩ := hs
    refine ⟨h.st.spur c t ht, fun hc => ?_⟩
    cases c
    · show s.ne.W.erase t = []
      rw [h.released hc]; rfl
    · exact h.released hc

theorem linv_init (count : Int) (prog : Nat → List LOp) (sched : List Nat) : LInv (linit count prog sched) :=
  ⟨.init sched, fun _ => rfl⟩

theorem linv_reach {s0 s : LState} (h0 : LInv s0) (hr : LReach s0 s) : LInv s := by
  induction hr with
  | refl => exact h0
  | step a _ hs ih => exact linv_step ih hs

theorem l_blocked_owner {s : LState} (hb : LBlocked s) : s.owner = none := by
  cases ho : s.owner with
  | none => rfl
  | some u =>
    have := (hb u).2
    simp only [lstep, ho, if_true] at this
    split at this <;> cases this

def runL (s : LState) : List Act → Option LState
  | [] => some s
  | a :: as => (lstep s a).bind fun s' => runL s' as

theorem runL_reach {s0 s : LState} {as : List Act} (h : runL s0 as = some s) : LReach s0 s :=
  run_inv (fun _ => rfl) (fun _ _ _ => rfl) (fun _ a _ hr hs => .step a hr hs) .refl h

/-- two waiters, one `countDown` on a latch of 1 -/
def latchProg : Nat → List LOp
  | 1 => [.wait]
  | 2 => [.wait]
  | 3 => [.countDown]
  | _ => []

end MuduoVerif.Monitor
