import MuduoVerif.Model.Loop
/-!
# The `Loop` transition system, step by step

What a step can be, said once: the relations `TopStep`, `LoopStep fd bd`, `OtherStep` list the kinds of step with the
facts that select them, each new state written as an explicit update of the old one, so that a field a step does not
mention is unchanged by `rfl`; `runTop_step`, `stepLoopG_step`, `stepOther_step` say that the model's steps are among
them.  Every invariant is proved against these relations.
-/
namespace MuduoVerif.Loop
open MuduoVerif.Gen.Loop

@[simp] theorem touch_false (s : St) : touch s false = { s with uafUser := s.uafUser || !s.alive } := by
  cases s; simp only [touch]; split <;> simp_all

@[simp] theorem touch_true (s : St) : touch s true = { s with uafDtor := s.uafDtor || !s.alive } := by
  cases s; simp only [touch]; split <;> simp_all

theorem touch_eq (s : St) (d : Bool) : touch s d =
    { s with uafDtor := s.uafDtor || (d && !s.alive), uafUser := s.uafUser || (!d && !s.alive) } := by
  cases d <;> simp [touch_false, touch_true]

section touch
variable (s : St) (d : Bool)
@[simp] theorem touch_L : (touch s d).L = s.L := by rw [touch_eq]; rfl
@[simp] theorem touch_markOf : markOf (touch s d) = markOf s := by rw [touch_eq]; rfl
end touch

section setThr
variable (s : St) (k : Nat) (t : FThread)
@[simp] theorem setThr_pending : (setThr s k t).pending = s.pending := rfl
@[simp] theorem setThr_appendOrder : (setThr s k t).appendOrder = s.appendOrder := rfl
@[simp] theorem setThr_executed : (setThr s k t).executed = s.executed := rfl
@[simp] theorem setThr_batch : (setThr s k t).batch = s.batch := rfl
@[simp] theorem setThr_phase : (setThr s k t).phase = s.phase := rfl
@[simp] theorem setThr_ev : (setThr s k t).ev = s.ev := rfl
@[simp] theorem setThr_quit : (setThr s k t).quit = s.quit := rfl
@[simp] theorem setThr_qreq : (setThr s k t).qreq = s.qreq := rfl
@[simp] theorem setThr_selfQuit : (setThr s k t).selfQuit = s.selfQuit := rfl
@[simp] theorem setThr_quitMark : (setThr s k t).quitMark = s.quitMark := rfl
@[simp] theorem setThr_calling : (setThr s k t).calling = s.calling := rfl
@[simp] theorem setThr_looping : (setThr s k t).looping = s.looping := rfl
@[simp] theorem setThr_lpc : (setThr s k t).lpc = s.lpc := rfl
@[simp] theorem setThr_stack : (setThr s k t).stack = s.stack := rfl
@[simp] theorem setThr_elt : (setThr s k t).elt = s.elt := rfl
@[simp] theorem setThr_alive : (setThr s k t).alive = s.alive := rfl
@[simp] theorem setThr_loopPtr : (setThr s k t).loopPtr = s.loopPtr := rfl
@[simp] theorem setThr_mtx : (setThr s k t).mtx = s.mtx := rfl
@[simp] theorem setThr_waiting : (setThr s k t).waiting = s.waiting := rfl
@[simp] theorem setThr_finished : (setThr s k t).finished = s.finished := rfl
@[simp] theorem setThr_retMark : (setThr s k t).retMark = s.retMark := rfl
@[simp] theorem setThr_final : (setThr s k t).final = s.final := rfl
@[simp] theorem setThr_ioReady : (setThr s k t).ioReady = s.ioReady := rfl
@[simp] theorem setThr_active : (setThr s k t).active = s.active := rfl
@[simp] theorem setThr_corpses : (setThr s k t).corpses = s.corpses := rfl
@[simp] theorem setThr_burying : (setThr s k t).burying = s.burying := rfl
@[simp] theorem setThr_tbl : (setThr s k t).tbl = s.tbl := rfl
@[simp] theorem setThr_dtbl : (setThr s k t).dtbl = s.dtbl := rfl
@[simp] theorem setThr_uafDtor : (setThr s k t).uafDtor = s.uafDtor := rfl
theorem setThr_thr (j : Nat) : (setThr s k t).thr j = if j = k then t else s.thr j := rfl
theorem setThr_thr_ne {j : Nat} (h : j ≠ k) : (setThr s k t).thr j = s.thr j := if_neg h
end setThr

@[simp] theorem setThr_thr_fun (s : St) (k : Nat) (t : FThread) :
    (setThr s k t).thr = fun j => if j = k then t else s.thr j := rfl

/-! ## the T1 ties: what the proofs need from the generated definitions -/

theorem wakeGuard_foreign (c l : Bool) : wakeGuard false c l := by unfold wakeGuard; simp
theorem wakeGuard_calling (b l : Bool) : wakeGuard b true l := by unfold wakeGuard; simp
theorem wakeGuard_notLooping (b c : Bool) : wakeGuard b c false := by unfold wakeGuard; simp
theorem runInline_loop : runInline true := by unfold runInline; simp
theorem runInline_foreign : ¬ runInline false := by unfold runInline; simp
theorem drainSwaps_tie : drainSwaps = true := rfl
theorem finalDrain_tie : finalDrain = .untilEmpty := rfl
theorem callingResetAfterRun_tie : callingResetAfterRun = true := rfl
/-- the functor objects of a batch die while `callingPendingFunctors_` is still set (`functors.clear()` before the reset):
what `WakeInv.callingDrain` needs while destructor bodies run -/
theorem batchDestroyedBeforeReset_tie : batchDestroyedBeforeReset = true := rfl
/-- the parts of the code's shape that the model of the functor queue takes for granted (not parameters of `step`) -/
theorem shape_tie : drainEachIteration = true ∧ loopingBracket = true ∧ callingSetBeforeSwap = true ∧
    appendUnderLock = true := ⟨rfl, rfl, rfl, rfl⟩
/-- `wakeup()` makes the eventfd readable (`ev + 1` in the model), `handleRead()` drains it (`ev := 0`) -/
theorem eventfd_tie : wakeupWritesOne = true ∧ handleReadDrains = true := ⟨rfl, rfl⟩

theorem quitWakes_foreign : quitWakes false := by unfold quitWakes; simp
theorem quitWakes_loop : ¬ quitWakes true := by unfold quitWakes; simp
theorem quitResetAtEntry_tie : quitResetAtEntry = false := rfl
theorem quitResetAtExit_tie : quitResetAtExit = true := rfl
theorem dtorLocks_tie : dtorLocks = true := rfl
theorem dtorJoinsIfStarted_tie : dtorJoinsIfStarted = true := rfl
theorem publishNotifies_tie : publishNotifies = true := rfl
theorem clearLocks_tie : clearLocks = true := rfl
theorem startWaitsWhile_tie : startWaitsWhile = true := rfl
theorem finishSets_tie : finishSets = true := rfl
theorem finishNotifies_tie : finishNotifies = true := rfl
theorem startChecksFinished_tie : startChecksFinished = true := rfl
/-- the parts of the code's shape that the model of quit / EventLoopThread takes for granted -/
theorem shape_tie_quit : quitStoresFirst = true ∧ whileTestsQuit = true ∧ publishLocks = true := ⟨rfl, rfl, rfl⟩

/-! ## what a step can be

`TopStep s s'`: the loop thread goes on inside a task body (`runTop`).  `LoopStep fd bd s s'`: one step of the loop
thread, for every shape of the drain after the `while` (`fd`) and either order of "destroy the batch" / "reset the
flag" (`bd`); the code's own shape is the instance `finalDrain`, `batchDestroyedBeforeReset`.  `OtherStep s k s'`: one
step of another thread.  One constructor per kind of step, carrying the facts that select it.  (None of the three is
recursive; the proofs take a step apart with `induction`, the recursor as it stands, because `cases` solves the equation
for the new state again at every use.) -/

inductive TopStep (s : St) : St → Prop
  | wake : s.lpc = .appended → s.calling = true ∨ s.looping = false →
      TopStep s { s with ev := s.ev + 1, lpc := .idle, out := some .wakeup }
  | noWake : s.lpc = .appended → s.calling = false → s.looping = true → TopStep s { s with lpc := .idle, out := none }
  | quitDone : s.lpc = .quitStored → TopStep s { s with lpc := .idle, out := none }
  | nop : s.stack = [] → TopStep s { s with out := none }
  | pop rest : s.stack = [] :: rest →
      TopStep s { s with stack := rest, out := if rest.isEmpty && s.phase == .draining && !s.burying
                                              then some (.point "doPendingFunctors:functorDone") else none }
  | queue x r rest : s.stack = (.queue x :: r) :: rest →
      TopStep s { s with pending := s.pending ++ [x], appendOrder := s.appendOrder ++ [x], stack := r :: rest,
                         lpc := .appended, out := some (.point "queueInLoop:appended") }
  | run x r rest : s.stack = (.run x :: r) :: rest →
      TopStep s { s with stack := s.tbl x :: (.bury x :: r) :: rest, out := some (.exec x) }
  -- `lpc` is looked at first: a body goes on only when no wake-up test of an earlier call is pending
  | quit r rest : s.lpc ≠ .appended → s.stack = (.quit :: r) :: rest →
      TopStep s { s with quit := true, qreq := true, selfQuit := true, quitMark := markOf s, stack := r :: rest,
                         lpc := .quitStored, out := some (.point "quit:stored") }
  | post x r rest : s.stack = (.post x :: r) :: rest →
      TopStep s { s with ioReady := s.ioReady ++ [x], stack := r :: rest, out := some (.post x) }
  | dtor x r rest : s.stack = (.bury x :: r) :: rest →
      TopStep s { s with stack := s.dtbl x :: r :: rest, out := some (.dtor x) }
  | skip c r rest : s.stack = (c :: r) :: rest → TopStep s { s with stack := r :: rest, out := none }

theorem runTop_step (s : St) : TopStep s (runTop s) := by
  unfold runTop
  split
  · rename_i hl
    split <;> rename_i hg
    · exact .wake hl (by simpa [wakeGuard] using hg)
    · simp [wakeGuard] at hg; exact .noWake hl hg.1 hg.2
  · rename_i hl; rw [if_neg quitWakes_loop]; exact .quitDone hl
  · rename_i ha _
    split <;> rename_i hs
    · exact .nop hs
    · exact .pop _ hs
    · exact .queue _ _ _ hs
    · rw [if_pos runInline_loop]; exact .run _ _ _ hs
    · exact .quit _ _ (ha ·) hs
    · exact .post _ _ _ hs
    · split
      · exact .skip _ _ _ hs
      · exact .dtor _ _ _ hs
    · exact .skip _ _ _ hs

inductive LoopStep (fd : FinalDrain) (bd : Bool) (s : St) : St → Prop
  | nop : LoopStep fd bd s { s with out := none }
  | task : s.phase = .pre ∨ s.phase = .dispatch ∨ s.phase = .draining → busy s = true → TopStep s s' →
      LoopStep fd bd s s'
  | born : s.phase = .born → LoopStep fd bd s { s with alive := true, phase := .pre, out := none }
  | publish : s.phase = .pre → busy s = false → s.elt = true → s.mtx = false →
      LoopStep fd bd s { s with loopPtr := true, waiting := false, phase := .ready,
                                out := some (.point "threadFunc:published") }
  | enterPlain : s.phase = .pre → busy s = false → s.elt = false →
      LoopStep fd bd s { s with looping := true, phase := .entered, out := some (.point "loop:entry") }
  | enterThread : s.phase = .ready →
      LoopStep fd bd s { s with looping := true, phase := .entered, out := some (.point "loop:entry") }
  | quitAtEntry : s.phase = .entered → s.quit = true →
      LoopStep fd bd s { s with phase := .atExit, out := some (.point "loop:exit") }
  | quitAtTest : s.phase = .looptest → s.quit = true →
      LoopStep fd bd s { s with phase := .atExit, out := some (.point "loop:exit") }
  | pollAtEntry : s.phase = .entered → s.quit = false →
      LoopStep fd bd s { s with phase := .polling, out := some (.point "loop:beforePoll") }
  | pollAtTest : s.phase = .looptest → s.quit = false →
      LoopStep fd bd s { s with phase := .polling, out := some (.point "loop:beforePoll") }
  | pollReturns : s.phase = .polling → pollReady s = true →
      LoopStep fd bd s { s with phase := .dispatch, active := activeOf s, out := some (.point "loop:afterPoll") }
  | wakeRead r : s.phase = .dispatch → busy s = false → s.active = .wake :: r →
      LoopStep fd bd s { s with ev := 0, active := r, out := some .wakeread }
  | pipeRead t io r : s.phase = .dispatch → busy s = false → s.active = .pipe :: r → s.ioReady = t :: io →
      LoopStep fd bd s { s with ioReady := io, active := r, stack := [s.tbl t], out := some (.exec t) }
  | pipeEmpty r : s.phase = .dispatch → busy s = false → s.active = .pipe :: r → s.ioReady = [] →
      LoopStep fd bd s { s with active := r, out := none }
  | toDrain : s.phase = .dispatch → busy s = false → s.active = [] →
      LoopStep fd bd s { s with calling := true, final := false, phase := .preSwap,
                                out := some (.point "doPendingFunctors:beforeSwap") }
  | swap : s.phase = .preSwap →
      LoopStep fd bd s { s with batch := s.pending, pending := [], phase := .draining,
                                out := some (.point "doPendingFunctors:afterSwap") }
  | exec t r : s.phase = .draining → busy s = false → s.batch = t :: r →
      LoopStep fd bd s { s with batch := r, executed := s.executed ++ [t], stack := [s.tbl t],
                                corpses := if (s.dtbl t).isEmpty then s.corpses else s.corpses ++ [t],
                                out := some (.exec t) }
  -- `bd = false`: the flag is reset before the first functor object of the batch dies
  | bury c cr : s.phase = .draining → busy s = false → s.batch = [] → s.corpses = c :: cr →
      LoopStep fd bd s { s with corpses := cr, burying := true, stack := [s.dtbl c],
                                calling := if bd then s.calling else false, out := some (.dtor c) }
  | drainAgain : s.phase = .draining → busy s = false → s.batch = [] → s.corpses = [] → s.final = true →
      fd = .untilEmpty → s.pending ≠ [] →
      LoopStep fd bd s { s with burying := false, calling := true, phase := .preSwap,
                                out := some (.point "doPendingFunctors:beforeSwap") }
  | leave : s.phase = .draining → busy s = false → s.batch = [] → s.corpses = [] → s.final = true →
      (fd = .untilEmpty → s.pending = []) →
      LoopStep fd bd s { s with burying := false, calling := false, looping := false, quit := false, phase := .returned,
                                final := false, retMark := some s.appendOrder.length,
                                out := some (if s.elt then .point "threadFunc:loopReturned" else .returned) }
  | iterEnd : s.phase = .draining → busy s = false → s.batch = [] → s.corpses = [] → s.final = false →
      LoopStep fd bd s { s with burying := false, calling := false, phase := .looptest,
                                out := some (.point "loop:afterFunctors") }
  | noDrain : s.phase = .atExit → fd = .none →
      LoopStep fd bd s { s with looping := false, quit := false, phase := .returned, final := false,
                                retMark := some s.appendOrder.length,
                                out := some (if s.elt then .point "threadFunc:loopReturned" else .returned) }
  | exitDrain : s.phase = .atExit → fd ≠ .none →
      LoopStep fd bd s { s with calling := true, final := true, phase := .preSwap,
                                out := some (.point "doPendingFunctors:beforeSwap") }
  | die : s.phase = .returned → s.elt = true → s.mtx = false →
      LoopStep fd bd s { s with loopPtr := false, alive := false, phase := .dead, finished := true, waiting := false,
                                out := some .destroyed }
  | again seg rest : s.phase = .returned → s.elt = false → s.again = seg :: rest →
      LoopStep fd bd s (relaunch s seg rest)

theorem stepLoopG_step (fd : FinalDrain) (bd : Bool) (s : St) : LoopStep fd bd s (stepLoopG fd bd s) := by
  -- the branches of `stepLoopG` in the model's order; an `if` on a generated definition is decided by its tie
  unfold stepLoopG
  split <;> rename_i hp
  · exact .nop
  · exact .born hp
  · split <;> rename_i hb
    · exact .task (.inl hp) hb (runTop_step s)
    · split <;> rename_i he
      · split <;> rename_i hm
        · exact .nop
        · rw [if_pos publishNotifies_tie]; exact .publish hp (by simpa using hb) he (by simpa using hm)
      · exact .enterPlain hp (by simpa using hb) (by simpa using he)
  · exact .enterThread hp
  · rw [if_neg (by simp [quitResetAtEntry_tie])]
    unfold testQuit; split <;> rename_i hq
    · exact .quitAtEntry hp hq
    · exact .pollAtEntry hp (by simpa using hq)
  · unfold testQuit; split <;> rename_i hq
    · exact .quitAtTest hp hq
    · exact .pollAtTest hp (by simpa using hq)
  · split <;> rename_i hr
    · exact .pollReturns hp hr
    · exact .nop
  · split <;> rename_i hb
    · exact .task (.inr (.inl hp)) hb (runTop_step s)
    · have hb : busy s = false := by simpa using hb
      split <;> rename_i ha
      · exact .wakeRead _ hp hb ha
      · split <;> rename_i hi
        · exact .pipeRead _ _ _ hp hb ha hi
        · exact .pipeEmpty _ hp hb ha hi
      · exact .toDrain hp hb ha
  · rw [if_pos drainSwaps_tie]; exact .swap hp
  · split <;> rename_i hb
    · exact .task (.inr (.inr hp)) hb (runTop_step s)
    · have hb : busy s = false := by simpa using hb
      split <;> rename_i hba
      · exact .exec _ _ hp hb hba
      · split <;> rename_i hc
        · cases bd <;> exact .bury _ _ hp hb hba hc
        · simp only [callingResetAfterRun_tie, if_true]
          split <;> rename_i hf
          · split <;> rename_i hq
            · simp only [Bool.and_eq_true, decide_eq_true_eq, Bool.not_eq_true', List.isEmpty_eq_false_iff] at hq
              exact .drainAgain hp hb hba hc hf hq.1 hq.2
            · simp only [leaveLoop, quitResetAtExit_tie, if_true]
              exact .leave hp hb hba hc hf (fun h => by simpa [h] using hq)
          · exact .iterEnd hp hb hba hc (by simpa using hf)
  · split <;> rename_i hn
    · simp only [leaveLoop, quitResetAtExit_tie, if_true]; exact .noDrain hp hn
    · exact .exitDrain hp hn
  · split <;> rename_i he
    · split <;> rename_i hm
      · exact .nop
      · simp only [finishSets_tie, finishNotifies_tie, Bool.and_self, if_true]
        exact .die hp he (by simpa [clearLocks_tie] using hm)
    · split <;> rename_i ha
      · exact .again _ _ hp (by simpa using he) ha
      · exact .nop
  · exact .nop

inductive OtherStep (s : St) (k : Nat) : St → Prop
  | nop : OtherStep s k { s with out := none }
  | append x r : (s.thr k).pc = .idle → ((s.thr k).prog = .queue x :: r ∨ (s.thr k).prog = .run x :: r) →
      OtherStep s k { s with uafUser := s.uafUser || !s.alive, thr := fun j => if j = k then ⟨.appended, r⟩ else s.thr j,
                               pending := s.pending ++ [x], appendOrder := s.appendOrder ++ [x],
                               out := some (.point "queueInLoop:appended") }
  | quit r : (s.thr k).pc = .idle → (s.thr k).prog = .quit :: r →
      OtherStep s k { s with uafUser := s.uafUser || !s.alive, thr := fun j => if j = k then ⟨.quitStored, r⟩ else s.thr j,
                               quit := true, qreq := true, quitMark := markOf s, out := some (.point "quit:stored") }
  | post x r : (s.thr k).pc = .idle → (s.thr k).prog = .post x :: r →
      OtherStep s k { s with thr := fun j => if j = k then ⟨.idle, r⟩ else s.thr j, ioReady := s.ioReady ++ [x],
                               out := some (.post x) }
  | start r : (s.thr k).pc = .idle → (s.thr k).prog = .startLoop :: r → s.elt = true → s.phase = .unborn →
      OtherStep s k { s with thr := fun j => if j = k then ⟨.sCheck, r⟩ else s.thr j, phase := .born, out := none }
  | dtor r : (s.thr k).pc = .idle → (s.thr k).prog = .destroy :: r → s.elt = true →
      OtherStep s k { s with thr := fun j => if j = k then ⟨.dEntry, r⟩ else s.thr j, out := some (.point "dtor:entry") }
  | skip c r : (s.thr k).pc = .idle → (s.thr k).prog = c :: r →
      (c = .startLoop ∧ ¬ (s.elt = true ∧ s.phase = .unborn)) ∨ (c = .destroy ∧ s.elt = false) ∨ (∃ x, c = .bury x) →
      OtherStep s k { s with thr := fun j => if j = k then ⟨.idle, r⟩ else s.thr j, out := none }
  | wake : (s.thr k).pc = .appended ∨ (s.thr k).pc = .quitStored →
      OtherStep s k { s with uafUser := s.uafUser || !s.alive, thr := fun j => if j = k then ⟨.idle, (s.thr k).prog⟩ else s.thr j,
                               ev := s.ev + 1, out := some .wakeup }
  | started o : (s.thr k).pc = .sCheck → s.mtx = false →
      (s.loopPtr = true ∧ o = .started) ∨ (s.loopPtr = false ∧ s.finished = true ∧ o = .startedNull) →
      OtherStep s k { s with thr := fun j => if j = k then ⟨.idle, (s.thr k).prog⟩ else s.thr j, out := some o }
  | wait : (s.thr k).pc = .sCheck → s.mtx = false → s.loopPtr = false → s.finished = false →
      OtherStep s k { s with thr := fun j => if j = k then ⟨.sWaiting, (s.thr k).prog⟩ else s.thr j, waiting := true, out := none }
  | notified : (s.thr k).pc = .sWaiting → s.waiting = false → s.mtx = false →
      OtherStep s k { s with thr := fun j => if j = k then ⟨.sCheck, (s.thr k).prog⟩ else s.thr j, out := none }
  | dLock : (s.thr k).pc = .dEntry → s.mtx = false → s.loopPtr = true →
      OtherStep s k { s with thr := fun j => if j = k then ⟨.dBeforeQuit, (s.thr k).prog⟩ else s.thr j, mtx := true,
                               out := some (.point "dtor:beforeQuit") }
  | dSkip p : (s.thr k).pc = .dEntry → s.mtx = false → s.loopPtr = false →
      (s.phase ≠ .unborn ∧ p = .dJoin) ∨ (s.phase = .unborn ∧ p = .idle) →
      OtherStep s k { s with thr := fun j => if j = k then ⟨p, (s.thr k).prog⟩ else s.thr j, out := none }
  | dQuit : (s.thr k).pc = .dBeforeQuit →
      OtherStep s k { s with uafDtor := s.uafDtor || !s.alive, thr := fun j => if j = k then ⟨.dStored, (s.thr k).prog⟩ else s.thr j,
                               quit := true, qreq := true, quitMark := markOf s, out := some (.point "quit:stored") }
  | dWake : (s.thr k).pc = .dStored →
      OtherStep s k { s with uafDtor := s.uafDtor || !s.alive, thr := fun j => if j = k then ⟨.dJoin, (s.thr k).prog⟩ else s.thr j,
                               ev := s.ev + 1, mtx := false, out := some .wakeup }
  | joined : (s.thr k).pc = .dJoin → s.phase = .dead →
      OtherStep s k { s with thr := fun j => if j = k then ⟨.idle, (s.thr k).prog⟩ else s.thr j, out := some .joined }

theorem stepOther_step (s : St) (k : Nat) : OtherStep s k (stepOther s k) := by
  unfold stepOther
  split <;> rename_i hpc
  · unfold stepIdle
    split <;> rename_i hp
    · exact .nop
    · rw [doAppend, touch_false]; exact .append _ _ hpc (.inl hp)
    · rw [if_neg runInline_foreign, doAppend, touch_false]; exact .append _ _ hpc (.inr hp)
    · rw [doQuitStore, touch_false]; exact .quit _ hpc hp
    · exact .post _ _ hpc hp
    · split <;> rename_i h
      · simp only [Bool.and_eq_true, beq_iff_eq] at h; exact .start _ hpc hp h.1 h.2
      · simp only [Bool.and_eq_true, beq_iff_eq] at h; exact .skip _ _ hpc hp (.inl ⟨rfl, h⟩)
    · split <;> rename_i h
      · exact .dtor _ hpc hp h
      · exact .skip _ _ hpc hp (.inr (.inl ⟨rfl, by simpa using h⟩))
    · exact .skip _ _ hpc hp (.inr (.inr ⟨_, rfl⟩))
  · rw [stepAppended, if_pos (wakeGuard_foreign _ _), doWake, touch_false]; exact .wake (.inl hpc)
  · rw [stepQuitStored, if_pos quitWakes_foreign, doWake, touch_false]; exact .wake (.inr hpc)
  · unfold stepSCheck
    split <;> rename_i hm
    · exact .nop
    · split <;> rename_i hl
      · exact .started _ hpc (by simpa using hm) (.inl ⟨hl, rfl⟩)
      · split <;> rename_i hf
        · exact .started _ hpc (by simpa using hm) (.inr ⟨by simpa using hl, by simpa [startChecksFinished_tie] using hf, rfl⟩)
        · exact .wait hpc (by simpa using hm) (by simpa using hl) (by simpa [startChecksFinished_tie] using hf)
  · unfold stepSWaiting
    split <;> rename_i hw
    · exact .nop
    · rw [if_pos startWaitsWhile_tie]; simp only [Bool.or_eq_true, not_or, Bool.not_eq_true] at hw; exact .notified hpc hw.1 hw.2
  · unfold stepDEntry
    split <;> rename_i hm
    · exact .nop
    · simp only [dtorLocks_tie, Bool.true_and, Bool.not_eq_true] at hm
      split <;> rename_i hl
      · exact .dLock hpc hm hl
      · split <;> rename_i hu
        · exact .dSkip _ hpc hm (by simpa using hl) (.inl ⟨by simpa [dtorJoinsIfStarted_tie] using hu, rfl⟩)
        · exact .dSkip _ hpc hm (by simpa using hl) (.inr ⟨by simpa [dtorJoinsIfStarted_tie] using hu, rfl⟩)
  · rw [doQuitStore, touch_true]; exact .dQuit hpc
  · rw [stepDStored, if_pos quitWakes_foreign, doWake, touch_true]; exact .dWake hpc
  · unfold stepDJoin
    split <;> rename_i hd
    · exact .joined hpc (by simpa using hd)
    · exact .nop

structure LoopFrame (s s' : St) : Prop where
  thr : s'.thr = s.thr
  elt : s'.elt = s.elt
  wrongThread : s'.wrongThread = s.wrongThread

structure OtherFrame (s : St) (k : Nat) (s' : St) : Prop where
  thr : ∀ j, j ≠ k → s'.thr j = s.thr j
  elt : s'.elt = s.elt
  wrongThread : s'.wrongThread = s.wrongThread

section frame
variable {fd : FinalDrain} {bd : Bool} {s s' : St} {k : Nat}

theorem TopStep.frame (h : TopStep s s') : LoopFrame s s' := by
  induction h <;> exact ⟨rfl, rfl, rfl⟩

theorem TopStep.phase_eq (h : TopStep s s') : s'.phase = s.phase := by
  induction h <;> rfl

theorem LoopStep.frame (h : LoopStep fd bd s s') : LoopFrame s s' := by
  induction h
  case task h => exact h.frame
  all_goals exact ⟨rfl, rfl, rfl⟩

/-- (`wrongThread`: a foreign thread's `runInLoop` never starts the task itself, `runInline false` does not hold) -/
theorem OtherStep.frame (h : OtherStep s k s') : OtherFrame s k s' := by
  induction h
  case nop => exact ⟨fun _ _ => rfl, rfl, rfl⟩
  all_goals exact ⟨fun _ hj => if_neg hj, rfl, rfl⟩

end frame

theorem runBD_owner_only (bd : Bool) (s : St) (n : Nat) (he : s.elt = false) :
    (runBD bd s (List.replicate n 0)).thr = s.thr ∧ (runBD bd s (List.replicate n 0)).elt = false := by
  induction n generalizing s with
  | zero => exact ⟨rfl, he⟩
  | succ n ih =>
    have hL : s.L = 0 := by simp [St.L, he]
    have hs : stepBD bd s 0 = stepLoopG finalDrain bd s := by simp [stepBD, hL]
    have f := (stepLoopG_step finalDrain bd s).frame
    have := ih (stepLoopG finalDrain bd s) (f.elt.trans he)
    simp only [List.replicate_succ, runBD, List.foldl_cons, hs]
    simp only [runBD] at this
    exact ⟨this.1.trans f.thr, this.2⟩

theorem not_both {b : Bool} {α : Prop} (hf : b = false) (ht : b = true) : α := by rw [hf] at ht; cases ht

theorem step_other {s : St} {k : Nat} (hk : k ≠ s.L) : step s k = stepOther s k := if_neg hk

theorem step_rel (s : St) (k : Nat) : (k = s.L ∧ LoopStep finalDrain batchDestroyedBeforeReset s (step s k)) ∨
    (k ≠ s.L ∧ OtherStep s k (step s k)) := by
  unfold step; split
  · exact .inl ⟨‹_›, stepLoopG_step _ _ s⟩
  · exact .inr ⟨‹_›, stepOther_step s k⟩

theorem L_of_elt {s s' : St} (h : s'.elt = s.elt) : s'.L = s.L := by unfold St.L; rw [h]

def inflightF (thr : Nat → FThread) (L : Nat) (p : Pc) : Prop := ∃ j, j ≠ L ∧ (thr j).pc = p

theorem inflightF_new {thr : Nat → FThread} {k : Nat} {t : FThread} {L : Nat} {p : Pc}
    (hk : k ≠ L) (ht : t.pc = p) : inflightF (fun j => if j = k then t else thr j) L p :=
  ⟨k, hk, by simp [ht]⟩

theorem inflightF_keep {thr : Nat → FThread} {k : Nat} {t : FThread} {L : Nat} {p : Pc}
    (h : inflightF thr L p) (hk : (thr k).pc ≠ p) : inflightF (fun j => if j = k then t else thr j) L p := by
  obtain ⟨j, hj, hp⟩ := h
  refine ⟨j, hj, ?_⟩
  have : j ≠ k := by rintro rfl; exact hk hp
  simp [this, hp]

/-- phases in which a queued functor must be accompanied by a wake-up (`returned`: `loop()` may be entered again, and
what a foreign thread queued after the last test of the queue must then wake the first `poll`) -/
def needsWake : Phase → Bool
  | .unborn | .born | .pre | .ready | .entered | .looptest | .polling | .draining | .returned => true
  | _ => false

/-- the loop thread may be inside a task body: the segment before `loop()` (`pre`; `init` puts the thread-init callback on
the stack of an `EventLoopThread` that is still `unborn` / `born`), an I/O handler (`dispatch`), a functor or the
destructor of one (`draining`) -/
def taskPhase : Phase → Bool
  | .unborn | .born | .pre | .dispatch | .draining => true
  | _ => false

/-- outside `loop()`: before it is entered, or after it has returned (and before it is entered again) -/
def beforeLoop : Phase → Bool
  | .unborn | .born | .pre | .ready | .returned => true
  | _ => false

/-- `loop()` has returned -/
def exited : Phase → Bool
  | .returned | .dead => true
  | _ => false
/-- `loop_` of the `EventLoopThread` is published -/
def running : Phase → Bool
  | .ready | .entered | .looptest | .polling | .dispatch | .preSwap | .draining | .atExit | .returned => true
  | _ => false
/-- the `EventLoop` object exists -/
def hasLoop : Phase → Bool
  | .unborn | .born | .dead => false
  | _ => true
/-- the thread holds `EventLoopThread::mutex_` across a point -/
def inH : Pc → Bool
  | .dBeforeQuit | .dStored => true
  | _ => false
/-- inside an `EventLoopThread` member function -/
def inElt : Pc → Bool
  | .sCheck | .sWaiting | .dEntry | .dBeforeQuit | .dStored | .dJoin => true
  | _ => false

theorem run_append (s : St) (a b : List Nat) : run s (a ++ b) = run (run s a) b := by
  simp [run, List.foldl_append]

theorem run_invariant {P : St → Prop} (hstep : ∀ s k, P s → P (step s k)) {s : St} (h : P s) (sched : List Nat) :
    P (run s sched) := by
  induction sched generalizing s with
  | nil => exact h
  | cons k rest ih => exact ih (hstep s k h)

def Reachable (s : St) : Prop :=
  ∃ elt wl tbl dtbl pre again progs sched, s = run (init elt wl tbl dtbl pre again progs) sched

theorem reachable_init (elt wl : Bool) (tbl) (dtbl) (pre) (again) (progs) : Reachable (init elt wl tbl dtbl pre again progs) :=
  ⟨elt, wl, tbl, dtbl, pre, again, progs, [], rfl⟩

theorem reachable_run {s : St} (h : Reachable s) (sched : List Nat) : Reachable (run s sched) := by
  obtain ⟨elt, wl, tbl, dtbl, pre, again, progs, sc, rfl⟩ := h
  exact ⟨elt, wl, tbl, dtbl, pre, again, progs, sc ++ sched, (run_append _ _ _).symm⟩

theorem reachable_step {s : St} (h : Reachable s) (k : Nat) : Reachable (step s k) := reachable_run h [k]

theorem reachable_invariant {P : St → Prop} (hinit : ∀ elt wl tbl dtbl pre again progs, P (init elt wl tbl dtbl pre again progs))
    (hstep : ∀ s k, P s → P (step s k)) {s : St} (h : Reachable s) : P s := by
  obtain ⟨elt, wl, tbl, dtbl, pre, again, progs, sc, rfl⟩ := h
  exact run_invariant hstep (hinit elt wl tbl dtbl pre again progs) sc

/-! ### A field `touch` leaves alone, `run` on a non-empty schedule; no proof uses them -/

section
variable (s : St)
theorem touch_uafDtor_false : (touch s false).uafDtor = s.uafDtor := by rw [touch_false]
end

theorem run_cons (s : St) (k : Nat) (rest : List Nat) : run s (k :: rest) = run (step s k) rest := rfl

end MuduoVerif.Loop
