import MuduoVerif.Proofs.Loop
/-!
# `drain_on_exit` (C04): what was queued before the first `quit()` call has run when `loop()` returns
-/
namespace MuduoVerif.Loop
open MuduoVerif.Gen.Loop

/-- when `loop()` has returned, everything appended before its last test of the queue has run (`ret`), in particular
what was queued before the first `quit()` (`done`); the other fields carry the mark through the final drain -/
structure ExitInv (s : St) : Prop where
  markSome : s.quit = true → s.quitMark.isSome = true
  markLe : ∀ n, s.quitMark = some n → n ≤ s.appendOrder.length
  atExit : s.phase = .atExit → s.quitMark.isSome = true
  finalPhase : s.final = true → (s.phase = .preSwap ∨ s.phase = .draining) ∧ s.quitMark.isSome = true
  finalDrain : s.final = true → s.phase = .draining → ∀ n, s.quitMark = some n → n ≤ s.executed.length + s.batch.length
  done : exited s.phase = true → ∃ n, s.quitMark = some n ∧ n ≤ s.executed.length
  ret : exited s.phase = true → s.retMark = some s.executed.length

theorem markOf_some {s : St} {n : Nat} (h : s.quitMark = some n) : markOf s = some n := by
  simp [markOf, h]

theorem markOf_isSome (s : St) : (markOf s).isSome = true := by simp [markOf]

theorem markOf_le {s : St} {n : Nat} (hl : ∀ n, s.quitMark = some n → n ≤ s.appendOrder.length)
    (h : markOf s = some n) : n ≤ s.appendOrder.length := by
  unfold markOf at h
  cases hq : s.quitMark with
  | none => simp [hq] at h; omega
  | some m => simp [hq] at h; subst h; exact hl _ hq

theorem ExitInv.store {s s' : St} (h : ExitInv s) (hq : s'.quitMark = markOf s) (ea : s'.appendOrder = s.appendOrder)
    (ep : s'.phase = s.phase) (ef : s'.final = s.final) (ee : s'.executed = s.executed) (eb : s'.batch = s.batch)
    (er : s'.retMark = s.retMark) : ExitInv s' := by
  have some : ∀ n, s.quitMark = some n → s'.quitMark = some n := fun n hn => by rw [hq, markOf_some hn]
  exact {
    markSome := fun _ => by rw [hq]; exact markOf_isSome s
    markLe := fun n hn => by rw [ea]; rw [hq] at hn; exact markOf_le h.markLe hn
    atExit := fun _ => by rw [hq]; exact markOf_isSome s
    finalPhase := fun hf => ⟨by rw [ep]; exact (h.finalPhase (ef ▸ hf)).1, by rw [hq]; exact markOf_isSome s⟩
    finalDrain := fun hf hp n hn => by
      rw [ef] at hf; rw [ep] at hp
      obtain ⟨m, hm⟩ := Option.isSome_iff_exists.mp (h.finalPhase hf).2
      rw [some m hm] at hn; cases hn
      rw [ee, eb]; exact h.finalDrain hf hp _ hm
    done := fun hx => by rw [ep] at hx; obtain ⟨n, hn, hle⟩ := h.done hx; exact ⟨n, some n hn, ee ▸ hle⟩
    ret := fun hx => by rw [ep] at hx; rw [er, ee]; exact h.ret hx }

theorem ExitInv.grow {s : St} (h : ExitInv s) (x : TaskId) (n : Nat) (hn : s.quitMark = some n) :
    n ≤ (s.appendOrder ++ [x]).length := by
  have := h.markLe n hn; simp; omega

theorem ExitInv.notFinal {s : St} (h : ExitInv s) (h1 : s.phase ≠ .preSwap) (h2 : s.phase ≠ .draining) :
    s.final = false := by
  cases hf : s.final with
  | false => rfl
  | true => exact ((h.finalPhase hf).1.elim h1 h2).elim

section
variable {bd : Bool} {s s' : St} {k : Nat}

theorem TopStep.exitInv (hs : TopStep s s') (h : ExitInv s) : ExitInv s' := by
  induction hs
  case queue => exact { h with markLe := h.grow _ }
  case quit => exact h.store rfl rfl rfl rfl rfl rfl rfl
  all_goals exact { h with }

/-- needs the drain after the `while` repeated until the queue is empty: with `.once` or `.none` what the last batch
queued is left behind (`C04.drain_once_strands_witness`, `C04.drain_none_strands_witness`) -/
theorem LoopStep.exitInv (hs : LoopStep .untilEmpty bd s s') (hf : FifoInv s) (h : ExitInv s) : ExitInv s' := by
  have toExit (hp : s.phase = .entered ∨ s.phase = .looptest) (hq : s.quit = true) :
      ExitInv { s with phase := .atExit, out := some (.point "loop:exit") } := by
    have hnf := h.notFinal (by rcases hp with hp | hp <;> simp [hp]) (by rcases hp with hp | hp <;> simp [hp])
    exact { h with atExit := fun _ => h.markSome hq, finalPhase := not_both hnf, finalDrain := fun _ => (nomatch ·),
                   done := not_both rfl, ret := not_both rfl }
  induction hs
  case nop | bury | wakeRead | pipeRead | pipeEmpty => exact { h with }
  case task ht => exact ht.exitInv h
  case quitAtEntry hp hq => exact toExit (.inl hp) hq
  case quitAtTest hp hq => exact toExit (.inr hp) hq
  case noDrain hn => cases hn
  case exitDrain hp _ =>
    exact { h with atExit := (nomatch ·), finalPhase := fun _ => ⟨.inl rfl, h.atExit hp⟩,
                   finalDrain := fun _ => (nomatch ·), done := not_both rfl, ret := not_both rfl }
  case swap hp =>
    refine { h with atExit := (nomatch ·), finalPhase := fun hf' => ⟨.inr rfl, (h.finalPhase hf').2⟩,
                    finalDrain := fun _ _ n hn => ?_, done := not_both rfl, ret := not_both rfl }
    have := h.markLe n hn
    simpa [hf.order, hf.batchNil (by simp [hp])] using this
  case exec hp _ hb =>
    refine { h with atExit := fun hp' => by simp [hp] at hp', finalDrain := fun hf' _ n hn => ?_,
                    done := not_both (by simp [hp, exited]), ret := not_both (by simp [hp, exited]) }
    have := h.finalDrain hf' hp n hn
    simp [hb] at this ⊢; omega
  case drainAgain hf' _ _ =>
    exact { h with atExit := (nomatch ·), finalPhase := fun _ => ⟨.inl rfl, (h.finalPhase hf').2⟩,
                   finalDrain := fun _ => (nomatch ·), done := not_both rfl, ret := not_both rfl }
  case leave hp _ hb _ hf' hq =>
    obtain ⟨n, hn⟩ := Option.isSome_iff_exists.mp (h.finalPhase hf').2
    refine { markSome := (nomatch ·), markLe := h.markLe, atExit := (nomatch ·), finalPhase := (nomatch ·),
             finalDrain := (nomatch ·), done := fun _ => ⟨n, hn, by simpa [hb] using h.finalDrain hf' hp n hn⟩,
             ret := fun _ => ?_ }
    simp [hf.order, hb, hq rfl]
  case iterEnd hf' =>
    exact { h with atExit := (nomatch ·), finalPhase := not_both hf', finalDrain := fun _ => (nomatch ·),
                   done := not_both rfl, ret := not_both rfl }
  case die hp _ _ =>
    have hnf := h.notFinal (by simp [hp]) (by simp [hp])
    have hx : exited s.phase = true := by simp [hp, exited]
    exact { h with atExit := (nomatch ·), finalPhase := not_both hnf, finalDrain := fun _ => (nomatch ·),
                   done := fun _ => h.done hx, ret := fun _ => h.ret hx }
  case again =>
    refine { markSome := fun hq => ?_, markLe := fun n hn => ?_, atExit := (nomatch ·), finalPhase := (nomatch ·),
             finalDrain := (nomatch ·), done := not_both rfl, ret := not_both rfl }
    · have hq : s.quit = true := hq
      simp [relaunch, hq]
    · cases hq : s.quit <;> simp [relaunch, hq] at hn ⊢
      omega
  -- the other steps start outside the final drain and neither leave the `while` nor return
  all_goals
    have hnf := h.notFinal (by simp [*]) (by simp [*])
    exact { h with atExit := (nomatch ·), finalPhase := fun hf => by simp [hnf] at hf,
                   finalDrain := fun _ => (nomatch ·), done := not_both rfl, ret := not_both rfl }

theorem OtherStep.exitInv (hs : OtherStep s k s') (h : ExitInv s) : ExitInv s' := by
  induction hs
  case append => exact { h with markLe := h.grow _ }
  case quit | dQuit => exact h.store rfl rfl rfl rfl rfl rfl rfl
  case start hu =>
    have hnf := h.notFinal (by simp [hu]) (by simp [hu])
    exact { h with atExit := (nomatch ·), finalPhase := not_both hnf, finalDrain := fun _ => (nomatch ·),
                   done := not_both rfl, ret := not_both rfl }
  all_goals exact { h with }

end

theorem step_exit {s : St} (k : Nat) (h : FifoInv s ∧ ExitInv s) : FifoInv (step s k) ∧ ExitInv (step s k) := by
  refine ⟨step_fifo k h.1, ?_⟩
  rcases step_rel s k with ⟨_, hs⟩ | ⟨_, hs⟩
  · rw [finalDrain_tie] at hs
    exact hs.exitInv h.1 h.2
  · exact hs.exitInv h.2

theorem init_exit (elt wl : Bool) (tbl) (dtbl) (pre) (again) (progs) : ExitInv (init elt wl tbl dtbl pre again progs) := by
  cases elt <;> (refine ⟨?_, ?_, ?_, ?_, ?_, ?_, ?_⟩ <;> simp [init, exited])

theorem Reachable.exit {s : St} (h : Reachable s) : ExitInv s :=
  (reachable_invariant (P := fun s => FifoInv s ∧ ExitInv s)
    (fun a b c d e f g => ⟨init_fifo a b c d e f g, init_exit a b c d e f g⟩) (fun _ k h => step_exit k h) h).2

/-! ### `ExitInv` along a schedule; no proof uses it -/

theorem run_exit {s : St} (sched : List Nat) (hf : FifoInv s) (h : ExitInv s) : ExitInv (run s sched) :=
  (run_invariant (P := fun s => FifoInv s ∧ ExitInv s) (fun _ k h => step_exit k h) ⟨hf, h⟩ sched).2

end MuduoVerif.Loop
