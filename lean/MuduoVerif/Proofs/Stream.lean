import MuduoVerif.Model.Stream
/-!
Segmentation invariance of an incremental decoder, once and for all.

`StepOk I step`: on parser states satisfying `I`, an iteration that makes progress consumes
at least one and at most the available bytes and keeps `I`; and an iteration's verdict, unless
it asks for more bytes, does not change when more bytes are appended behind the ones it looked at.
From this alone: the loop terminates within `buf.length + 1` iterations, and feeding `a`
and then `b` leaves the decoder in the same state, having emitted the same events, as
feeding `a ++ b`; hence any segmentation of a stream gives the same result as one piece.
-/
namespace MuduoVerif.Stream

variable {σ ε : Type}

structure StepOk (I : σ → Prop) (step : σ → Bytes → Out σ ε) : Prop where
  adv_ok : ∀ {s buf s' evs k}, I s → step s buf = .adv s' evs k → 0 < k ∧ k ≤ buf.length ∧ I s'
  append : ∀ {s buf} (x : Bytes), I s → step s buf ≠ .need → step s (buf ++ x) = step s buf

@[simp] theorem Res.pre_nil (r : Res σ ε) : r.pre [] = r := by
  cases r; simp [Res.pre]

@[simp] theorem Res.pre_pre (a b : List ε) (r : Res σ ε) : (r.pre b).pre a = r.pre (a ++ b) := by
  simp [Res.pre, List.append_assoc]

@[simp] theorem Res.pre_s (a : List ε) (r : Res σ ε) : (r.pre a).s = r.s := rfl
@[simp] theorem Res.pre_rest (a : List ε) (r : Res σ ε) : (r.pre a).rest = r.rest := rfl
@[simp] theorem Res.pre_dead (a : List ε) (r : Res σ ε) : (r.pre a).dead = r.dead := rfl
@[simp] theorem Res.pre_stuck (a : List ε) (r : Res σ ε) : (r.pre a).stuck = r.stuck := rfl
@[simp] theorem Res.pre_evs (a : List ε) (r : Res σ ε) : (r.pre a).evs = a ++ r.evs := rfl

/-- a decoder at rest: either abandoned, or its loop has run until it needed more bytes -/
def Settled (I : σ → Prop) (step : σ → Bytes → Out σ ε) (d : Dec σ) : Prop :=
  I d.s ∧ (d.dead = true ∨ step d.s d.buf = .need)

variable {I : σ → Prop} {step : σ → Bytes → Out σ ε} (h : StepOk I step)
include h

theorem loop_fuel :
    ∀ (n m : Nat) (s : σ) (buf : Bytes), I s → buf.length < n → buf.length < m →
      loop step n s buf = loop step m s buf := by
  intro n
  induction n with
  | zero => intro m s buf _ h1; omega
  | succ n ih =>
    intro m s buf hI h1 h2
    cases m with
    | zero => omega
    | succ m =>
      cases hs : step s buf with
      | need => simp only [loop, hs]
      | fail e => simp only [loop, hs]
      | adv s' evs k =>
        obtain ⟨hk, hkl, hI'⟩ := h.adv_ok hI hs
        simp only [loop, hs]
        rw [ih m s' (buf.drop k) hI' (by simp only [List.length_drop]; omega)
          (by simp only [List.length_drop]; omega)]

theorem drain_unfold (s : σ) (buf : Bytes) (hI : I s) :
    drain step s buf =
      match step s buf with
      | .need => { s := s, rest := buf, dead := false, stuck := false, evs := [] }
      | .fail e => { s := s, rest := buf, dead := true, stuck := false, evs := [e] }
      | .adv s' evs k => (drain step s' (buf.drop k)).pre evs := by
  cases hs : step s buf with
  | need => simp only [drain, loop, hs]
  | fail e => simp only [drain, loop, hs]
  | adv s' evs k =>
    obtain ⟨hk, hkl, hI'⟩ := h.adv_ok hI hs
    have h1 : drain step s buf = (loop step buf.length s' (buf.drop k)).pre evs := by
      simp only [drain, loop, hs]
    rw [h1, loop_fuel h buf.length ((buf.drop k).length + 1) s' (buf.drop k) hI'
      (by simp only [List.length_drop]; omega) (by omega)]
    rfl

theorem drain_induction {P : σ → Bytes → Res σ ε → Prop}
    (need : ∀ {s buf}, I s → step s buf = .need →
      P s buf { s := s, rest := buf, dead := false, stuck := false, evs := [] })
    (fail : ∀ {s buf e}, I s → step s buf = .fail e →
      P s buf { s := s, rest := buf, dead := true, stuck := false, evs := [e] })
    (adv : ∀ {s buf s' evs k}, I s → step s buf = .adv s' evs k → k ≤ buf.length → I s' →
      P s' (buf.drop k) (drain step s' (buf.drop k)) → P s buf ((drain step s' (buf.drop k)).pre evs))
    (s : σ) (buf : Bytes) (hI : I s) : P s buf (drain step s buf) := by
  induction hn : buf.length using Nat.strongRecOn generalizing s buf with
  | _ n ih =>
    rw [drain_unfold h s buf hI]
    cases hs : step s buf with
    | need => exact need hI hs
    | fail e => exact fail hI hs
    | adv s' evs k =>
      obtain ⟨hk, hkl, hI'⟩ := h.adv_ok hI hs
      exact adv hI hs hkl hI' (ih _ (by simp only [← hn, List.length_drop]; omega) s' _ hI' rfl)

/-- termination: `buf.length + 1` iterations are enough, the loop is never cut short -/
theorem drain_not_stuck (s : σ) (buf : Bytes) (hI : I s) : (drain step s buf).stuck = false :=
  drain_induction h (P := fun _ _ r => r.stuck = false) (fun _ _ => rfl) (fun _ _ => rfl)
    (fun _ _ _ _ ih => ih) s buf hI

theorem drain_inv (s : σ) (buf : Bytes) (hI : I s) : I (drain step s buf).s :=
  drain_induction h (P := fun _ _ r => I r.s) (fun hI _ => hI) (fun hI _ => hI)
    (fun _ _ _ _ ih => ih) s buf hI

theorem drain_rest_suffix (s : σ) (buf : Bytes) (hI : I s) : ∃ k, k ≤ buf.length ∧ (drain step s buf).rest = buf.drop k := by
  refine drain_induction h (P := fun _ buf r => ∃ k, k ≤ buf.length ∧ r.rest = buf.drop k)
    (fun _ _ => ⟨0, Nat.zero_le _, rfl⟩) (fun _ _ => ⟨0, Nat.zero_le _, rfl⟩) ?_ s buf hI
  rintro _ buf _ _ k _ _ hkl _ ⟨j, hj, hr⟩
  rw [List.length_drop] at hj
  exact ⟨k + j, by omega, by rw [Res.pre_rest, hr, List.drop_drop]⟩

theorem drain_settled (s : σ) (buf : Bytes) (hI : I s) :
    (drain step s buf).dead = true ∨ step (drain step s buf).s (drain step s buf).rest = .need :=
  drain_induction h (P := fun _ _ r => r.dead = true ∨ step r.s r.rest = .need)
    (fun _ hs => Or.inr hs) (fun _ _ => Or.inl rfl) (fun _ _ _ _ ih => ih) s buf hI

/-- the key lemma: running the loop on `buf ++ b` is running it on `buf` and then - unless
an error stopped it - running it again on what was left followed by `b` -/
theorem drain_append (b : Bytes)
    (s : σ) (buf : Bytes) (hI : I s) :
    drain step s (buf ++ b) =
      if (drain step s buf).dead then
        { s := (drain step s buf).s, rest := (drain step s buf).rest ++ b, dead := true,
          stuck := false, evs := (drain step s buf).evs }
      else (drain step (drain step s buf).s ((drain step s buf).rest ++ b)).pre (drain step s buf).evs := by
  refine drain_induction h (P := fun s buf r => drain step s (buf ++ b) =
    if r.dead then { s := r.s, rest := r.rest ++ b, dead := true, stuck := false, evs := r.evs }
    else (drain step r.s (r.rest ++ b)).pre r.evs) (fun _ _ => by simp) ?_ ?_ s buf hI
  · intro s buf e hI hs
    rw [drain_unfold h s (buf ++ b) hI, h.append b hI (by rw [hs]; nofun), hs]; rfl
  · intro s buf s' evs k hI hs hkl _ ih
    rw [drain_unfold h s (buf ++ b) hI, h.append b hI (by rw [hs]; nofun), hs]
    simp only [List.drop_append_of_le_length hkl, ih]
    by_cases hd : (drain step s' (buf.drop k)).dead = true <;> simp [hd, Res.pre]

theorem feed_settled (d : Dec σ) (hI : I d.s) (c : Bytes) : Settled I step (feed step d c).1 := by
  unfold feed
  split
  · exact ⟨hI, Or.inl rfl⟩
  · exact ⟨drain_inv h d.s (d.buf ++ c) hI, drain_settled h d.s (d.buf ++ c) hI⟩

theorem feed_nil (d : Dec σ) (hs : Settled I step d) : feed step d [] = (d, []) := by
  obtain ⟨s, buf, dead⟩ := d
  cases dead with
  | true => simp [feed]
  | false =>
    have hn : step s buf = .need := hs.2.resolve_left (by simp)
    simp [feed, drain_unfold h s buf hs.1, hn]

theorem feed_feed (d : Dec σ) (hI : I d.s) (a b : Bytes) :
    ((feed step (feed step d a).1 b).1, (feed step d a).2 ++ (feed step (feed step d a).1 b).2)
      = feed step d (a ++ b) := by
  unfold feed
  by_cases hd : d.dead = true
  · simp [hd, List.append_assoc]
  · simp only [hd, if_false, Bool.false_eq_true]
    rw [← List.append_assoc, drain_append h b d.s (d.buf ++ a) hI]
    by_cases hd2 : (drain step d.s (d.buf ++ a)).dead = true
    · simp [hd2]
    · simp [hd2]

/-- **segmentation invariance**: delivering a stream in any chunks, to a decoder at rest,
gives the same final decoder (parser state, unconsumed bytes, error flag) and the same
events as delivering it in one piece -/
theorem feedAll_flatten :
    ∀ (chunks : List Bytes) (d : Dec σ), Settled I step d →
      feedAll step d chunks = feed step d chunks.flatten := by
  intro chunks
  induction chunks with
  | nil => intro d hs; simp only [feedAll, List.flatten_nil]; exact (feed_nil h d hs).symm
  | cons c cs ih =>
    intro d hs
    simp only [feedAll, List.flatten_cons]
    rw [ih _ (feed_settled h d hs.1 c), ← feed_feed h d hs.1 c cs.flatten]

theorem feed_buf_suffix (d : Dec σ) (hI : I d.s) (c : Bytes) :
    ∃ k, k ≤ d.buf.length + c.length ∧ (feed step d c).1.buf = (d.buf ++ c).drop k := by
  unfold feed
  split
  · exact ⟨0, by omega, rfl⟩
  · obtain ⟨k, hk, hr⟩ := drain_rest_suffix h d.s (d.buf ++ c) hI
    exact ⟨k, by simpa using hk, hr⟩

end MuduoVerif.Stream
