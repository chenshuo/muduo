import MuduoVerif.Proofs.PollerTrace
/-!
# One iteration, the two instances of the dispatch walk (`Does`)

Only (`iter_reported`): the callbacks it runs are those of channels in the active list, with the `revents` the poller
stored for them — nothing executed during the dispatch changes `revents_`.  All (`iter_calls`): an active channel `c` is
called with the interest and `revents_` it had when `poll` returned, as long as no operation scripted inside a callback of
this iteration is an operation on `c` — operations on other channels, incl. removals that move `c`'s slot, do not matter.
What is active: under poll every reported entry when `poll(2)` returned their number (`poll_active`), under epoll what the
kernel reports (`epoll_calls`).
-/
namespace MuduoVerif.Poller
open MuduoVerif.Gen.Poller

def CbIn (act : List Nat) (R : Nat → Nat) (l : List Ev) : Prop :=
  ∀ c k rev ev, Ev.cb c k rev ev ∈ l → c ∈ act ∧ rev = R c

/-- during the dispatch: `eventHandling_` is set, `revents_` are what the poller stored -/
def DispInv (R : Nat → Nat) (s : State) : Prop :=
  s.handling = true ∧ ∀ x, (s.chans x).revents = R x

theorem dispInv_applyOp {R : Nat → Nat} {s : State} (h : DispInv R s) (c : Nat) (k : OpKind) :
    DispInv R (applyOp s c k) := by
  rcases applyOp_cases s c k with ⟨_, h1⟩ | ⟨_, _, h1⟩ | ⟨_, hacc, h1⟩
  · rw [h1]; exact h
  · rw [h1]; exact h
  · refine ⟨h1.handling.trans h.1, fun x => (h1.rev x).trans ?_⟩
    cases k with
    | recreate => exact nomatch (And.right hacc).symm.trans h.1
    | _ => exact (ite_eq_right_iff.2 fun hx => hx ▸ rfl).trans (h.2 x)

theorem iter_reported (s : State) (hd : s.dead = false) (ready) (nret) :
    ∃ l, (iter s ready nret).out = (pollerPoll s ready nret).1.out ++ l ∧
      CbIn (pollerPoll s ready nret).2 (fun c => ((pollerPoll s ready nret).1.chans c).revents) l := by
  rw [iter_eq, if_neg (by simp [hd])]
  split
  · exact ⟨[], by simp, fun _ _ _ _ m => (List.not_mem_nil m).elim⟩
  · refine (does_dispatch (I := DispInv fun c => ((pollerPoll s ready nret).1.chans c).revents)
      (G := fun _ => True) (fun _ h _ i => dispInv_applyOp i h.c h.op) (fun _ _ _ _ => trivial)
      (fun _ _ _ _ i => i) (fun _ _ ⟨_, _, _, _, _, e⟩ i => e ▸ i) (pollerPoll s ready nret).2 ?_).elim
      fun l d => ⟨l, d.out, fun c k rev ev m =>
        let ⟨hc, u, hu, hr⟩ := d.only c k rev ev m; ⟨hc, hr.trans (hu.2 c)⟩⟩
    exact ⟨rfl, fun _ => rfl⟩

/-- channel `c` is as it was when `poll` returned, and no pending scripted operation is one on `c` -/
structure Keeps (c ev rev : Nat) (s : State) : Prop where
  nohook : ∀ h ∈ s.hooks, h.c ≠ c
  ev : (s.chans c).events = ev
  rev : (s.chans c).revents = rev

theorem keeps_applyOp {c ev rev : Nat} {s : State} (hk : Keeps c ev rev s) (d : Nat) (k : OpKind) (hdc : d ≠ c) :
    Keeps c ev rev (applyOp s d k) := by
  have hc' : ¬ c = d := fun e => hdc e.symm
  rcases applyOp_cases s d k with ⟨_, h⟩ | ⟨_, _, h⟩ | ⟨_, _, h⟩
  · rw [h]; exact hk
  · rw [h]; exact ⟨hk.nohook, hk.ev, hk.rev⟩
  · exact ⟨fun x hx => hk.nohook x (h.hooks ▸ hx), by rw [h.ev c, if_neg hc']; exact hk.ev,
      by rw [h.rev c, if_neg hc']; exact hk.rev⟩

theorem iter_calls {be : Backend} {c rev : Nat} {s : State} (hg : Alive be s) (ready) (nret) (henv : epEnvOk s (.iter ready nret))
    (hh : ∀ h ∈ s.hooks, h.c ≠ c) (hact : c ∈ (pollerPoll s ready nret).2)
    (hrev : ((pollerPoll s ready nret).1.chans c).revents = rev)
    {k : Kind} (hdisp : disp k rev) (hsub : subscribed k (s.chans c).events) :
    ∃ l, (iter s ready nret).out = s.out ++ l ∧ Ev.cb c k rev (s.chans c).events ∈ l := by
  obtain ⟨l0, o0, _⟩ := (frame_pollerPoll s ready nret).out
  have hp := alive_poll s ready nret hg henv
  generalize hev : (s.chans c).events = ev at hsub ⊢
  rw [iter_eq, if_neg (by simp [hg.dead]), if_neg (by simpa using hp.dead)]
  obtain ⟨l, d⟩ := does_dispatch (I := fun t => Alive be t ∧ Keeps c ev rev t) (G := fun h => h.c ≠ c)
    (fun t h n i => ⟨alive_applyOp t h.c h.op i.1, keeps_applyOp i.2 h.c h.op n⟩) (fun _ i => i.2.nohook)
    (fun t hs x m i => ⟨alive_loop t hs x _ _ _ i.1, fun h hh => i.2.nohook h (m h hh), i.2.ev, i.2.rev⟩)
    (fun t u q i => ⟨alive_cb t u q i.1, by obtain ⟨_, _, _, _, _, rfl⟩ := q; exact ⟨i.2.nohook, i.2.ev, i.2.rev⟩⟩)
    (pollerPoll s ready nret).2 ⟨alive_loop _ _ _ _ _ true hp, (sameBook_pollerPoll s ready nret).hooks ▸ hh,
      ((frame_pollerPoll s ready nret).ev c).trans hev, hrev⟩
  obtain ⟨u, ⟨ha, -, rfl, rfl⟩, m⟩ := d.all c k hact
  exact ⟨l0 ++ l, by rw [← List.append_assoc, ← o0]; exact d.out, List.mem_append_right _ (m ha.dead hdisp hsub)⟩

theorem disp_pos {k : Kind} {r : Nat} (h : disp k r) : 0 < r := by
  rcases Nat.eq_zero_or_pos r with rfl | hp
  · cases k <;> simp [disp, dispClose, dispError, dispRead, dispWrite] at h
  · exact hp

theorem poll_active {s : State} (hbe : s.be = .poll) (hs : PollStruct s) (ready) (nret)
    (henv : pollCount ready s.pollfds ≤ nret) {c : Nat} (hreg : (s.chans c).added = true)
    (hev : (s.chans c).events ≠ 0) (hrdy : 0 < lookupRev ready c) :
    c ∈ (pollerPoll s ready nret).2 := by
  obtain ⟨_, hcm, hget⟩ := hs.reg c hreg
  exact (pollerPoll_poll hbe hs ready nret).2.2 henv _ (List.mem_of_getElem? hget)
    (by rw [pollRev_entry, if_neg hev]; unfold pollActive; omega) c (by simpa [entryOf, hev] using hcm)

theorem epoll_calls {s : State} (hg : Alive .epoll s) (ready) (nret) (henv : epEnvOk s (.iter ready nret))
    (hnd : (ready.map (·.1)).Nodup) {c rev : Nat} {k : Kind} (hmem : (c, rev) ∈ ready)
    (hh : ∀ h ∈ s.hooks, h.c ≠ c) (hsub : subscribed k (s.chans c).events) (hrdy : disp k rev) :
    ∃ l, (iter s ready nret).out = s.out ++ l ∧ Ev.cb c k rev (s.chans c).events ∈ l := by
  obtain ⟨_, e1, e2⟩ := pollerPoll_epoll hg.good.be hg.good.struct ready nret henv
  have hcm : c ∈ ready.map (·.1) := List.mem_map.2 ⟨(c, rev), hmem, rfl⟩
  exact iter_calls hg ready nret henv hh (e1 ▸ hcm) ((e2 hnd c).trans ((if_pos hcm).trans (lookupRev_mem hnd hmem)))
    hrdy hsub

/-! ### for the examples -/

instance (s : State) (fd : Int) (mask : Nat) : Decidable (watched s fd mask) := by
  unfold watched; split <;> infer_instance

/-- a history with two user channels, an operation inside a callback that disables the *next* channel
of the same batch (the F6 situation), a removal and a re-registration -/
def sampleHistory : List In :=
  [.op 2 .enableR, .op 3 .enableR, .op 3 .enableW, .hook ⟨2, .read, 3, .disableAll⟩,
   .iter [(2, 1), (3, 5)] 2, .op 3 .remove, .iter [(2, 1)] 1, .op 3 .enableW, .iter [(2, 17), (3, 4)] 2]

/-! ### A further fact about `CbIn`; no proof uses it -/

theorem CbIn.append {act R l1 l2} (h1 : CbIn act R l1) (h2 : CbIn act R l2) : CbIn act R (l1 ++ l2) := by
  intro c k rev ev hm
  rcases List.mem_append.1 hm with h | h
  · exact h1 c k rev ev h
  · exact h2 c k rev ev h

end MuduoVerif.Poller
