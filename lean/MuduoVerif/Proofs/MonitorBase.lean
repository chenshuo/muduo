import MuduoVerif.Proofs.MonitorTie
import MuduoVerif.Proofs.Fold
/-! Lemmas about wait-sets and the mutex/condition layer `Mon` shared by the monitor models: what `notify` does to a
wait-set (`OneSpec`, `Woken`), "no wake-up is lost" (`Covers`), who may be parked where (`Mon.Struct`), and `enter` on a `while`
wait as an equation (`Mon.enter_eq`: coming back from `wait()` is `WS.wake`, signalled or not). -/
namespace MuduoVerif.Monitor

@[simp] theorem upd_same {α : Type} (f : Nat → α) (t : Nat) (v : α) : upd f t v t = v := by simp [upd]
theorem upd_other {α : Type} (f : Nat → α) (t x : Nat) (v : α) (h : x ≠ t) : upd f t v x = f x := by simp [upd, h]
theorem upd_ne_of {α : Type} {f : Nat → α} {t u : Nat} {v w : α} (h : upd f t v u = w) (hv : v ≠ w) : u ≠ t ∧ f u = w := by
  by_cases hut : u = t
  · subst hut; rw [upd_same] at h; exact absurd h hv
  · rw [upd_other _ _ _ _ hut] at h; exact ⟨hut, h⟩

/-- the effect of `notify()` on a wait-set -/
def OneSpec (w w' : WS) : Prop :=
  (w.W = [] ∧ w' = w) ∨ ∃ u, u ∈ w.W ∧ w' = ⟨w.W.erase u, w.S ++ [u]⟩

theorem WS.one_spec (w : WS) (k : Nat) : OneSpec w (w.one k) := by
  unfold WS.one OneSpec
  cases h : w.W[k % w.W.length]? with
  | none =>
    left
    simp only [and_true]
    rw [List.getElem?_eq_none_iff] at h
    cases hw : w.W with
    | nil => rfl
    | cons a l =>
      rw [hw] at h
      have : k % (a :: l).length < (a :: l).length := Nat.mod_lt _ (by simp)
      omega
  | some u =>
    right
    exact ⟨u, List.mem_of_getElem? h, rfl⟩

/-- everybody inside `wait()` on this condition -/
def WS.parked (w : WS) : List Nat := w.W ++ w.S

theorem Mon.mem_parked (w : WS) (x : Nat) : x ∈ w.parked ↔ x ∈ w.W ∨ x ∈ w.S := by simp [WS.parked]

theorem perm_move (W S : List Nat) (u : Nat) (h : u ∈ W) : (W.erase u ++ (S ++ [u])).Perm (W ++ S) := by
  have h1 : (W.erase u ++ (S ++ [u])).Perm (u :: (W.erase u ++ S)) := by
    rw [← List.append_assoc]
    exact List.perm_append_singleton _ _
  have h2 : (u :: (W.erase u ++ S)).Perm (W ++ S) := by
    have := (List.perm_cons_erase h).symm
    exact (List.Perm.append_right S this)
  exact h1.trans h2

/-- `w'` is `w` after some threads were signalled: moved from `W` to `S` -/
def WS.Woken (w w' : WS) : Prop := w'.parked.Perm w.parked ∧ ∀ x, x ∈ w'.W → x ∈ w.W

theorem WS.Woken.refl (w : WS) : w.Woken w := ⟨.refl _, fun _ h => h⟩

theorem WS.Woken.trans {w w' w'' : WS} (h : w.Woken w') (h' : w'.Woken w'') : w.Woken w'' :=
  ⟨h'.1.trans h.1, fun x hx => h.2 x (h'.2 x hx)⟩

theorem OneSpec.woken {w w' : WS} (h : OneSpec w w') : w.Woken w' := by
  rcases h with ⟨_, rfl⟩ | ⟨u, hu, rfl⟩
  · exact .refl _
  · exact ⟨perm_move _ _ _ hu, fun _ => List.mem_of_mem_erase⟩

theorem OneSpec.S_len {w w' : WS} (h : OneSpec w w') : w.W ≠ [] → w'.S.length = w.S.length + 1 := by
  rcases h with ⟨h0, rfl⟩ | ⟨u, hu, rfl⟩
  · intro h; exact absurd h0 h
  · intro _; simp

theorem OneSpec.S_le {w w' : WS} (h : OneSpec w w') : w.S.length ≤ w'.S.length := by
  rcases h with ⟨h0, rfl⟩ | ⟨u, hu, rfl⟩
  · exact Nat.le_refl _
  · simp

theorem OneSpec.nil {w w' : WS} (h : OneSpec w w') (h0 : w.W = []) : w' = w := by
  rcases h with ⟨_, rfl⟩ | ⟨u, hu, rfl⟩
  · rfl
  · rw [h0] at hu; cases hu

/-- no wake-up is lost: while somebody waits unsignalled, at least `n` signalled threads are on their way -/
def WS.Covers (w : WS) (n : Nat) : Prop := w.W ≠ [] → n ≤ w.S.length

theorem WS.Covers.of_le {w w' : WS} {n m : Nat} (hc : w.Covers n) (hW : w'.W ≠ [] → w.W ≠ [])
    (hle : w.W ≠ [] → m + w.S.length ≤ n + w'.S.length) : w'.Covers m := fun h =>
  Nat.le_of_add_le_add_right (Nat.le_trans (hle (hW h)) (Nat.add_comm w.S.length _ ▸ Nat.add_le_add_right (hc (hW h)) _))

theorem OneSpec.covers {w w' : WS} {n : Nat} (h : OneSpec w w') (hc : w.Covers n) : w'.Covers (n + 1) :=
  hc.of_le (fun hW h0 => hW (by rw [h.nil h0]; exact h0)) fun hW =>
    Nat.le_of_eq (by rw [h.S_len hW, Nat.add_assoc, Nat.add_comm 1])

theorem WS.Covers.spur {w : WS} {n : Nat} (hc : w.Covers n) (t : Nat) : (w.spur t).Covers n :=
  hc.of_le (fun hW h0 => hW (by simp [WS.spur, h0])) fun _ => by simp [WS.spur]

theorem WS.all_woken (w : WS) : w.Woken w.all :=
  ⟨by simp only [WS.all, WS.parked, List.nil_append]; exact List.perm_append_comm, nofun⟩

theorem WS.spur_woken (w : WS) (t : Nat) (h : t ∈ w.W) : w.Woken (w.spur t) :=
  ⟨perm_move _ _ _ h, fun _ => List.mem_of_mem_erase⟩

theorem WS.wake_eq (w : WS) {t : Nat} (h : t ∉ w.S) : w.wake t = w := by
  cases w; simp only [WS.wake, List.erase_of_not_mem h]

theorem WS.wake_facts {w : WS} (hn : (w.W ++ w.S).Nodup) (t : Nat) :
    t ∉ (w.wake t).S ∧ (∀ x, x ∈ (w.wake t).S → x ∈ w.S) ∧ w.S.length ≤ (w.wake t).S.length + 1 ∧
      (w.W ++ (w.wake t).S).Nodup := by
  have hS : w.S.Nodup := (List.nodup_append.mp hn).2.1
  refine ⟨fun hx => (hS.mem_erase_iff.mp hx).1 rfl, fun _ => List.mem_of_mem_erase, ?_,
    hn.sublist (List.Sublist.append_left List.erase_sublist _)⟩
  show w.S.length ≤ (w.S.erase t).length + 1
  rw [List.length_erase]; split <;> omega

namespace Mon

@[simp] theorem ws_setWs_same (m : Mon) (c : Cond) (w : WS) : (m.setWs c w).ws c = w := by cases c <;> rfl
theorem ws_setWs_other (m : Mon) (c c' : Cond) (w : WS) (h : c' ≠ c) : (m.setWs c w).ws c' = m.ws c' := by
  cases c <;> cases c' <;> first | rfl | exact absurd rfl h
@[simp] theorem owner_setWs (m : Mon) (c : Cond) (w : WS) : (m.setWs c w).owner = m.owner := by cases c <;> rfl
@[simp] theorem sched_setWs (m : Mon) (c : Cond) (w : WS) : (m.setWs c w).sched = m.sched := by cases c <;> rfl
@[simp] theorem ne_eq_ws (m : Mon) : m.ws .notEmpty = m.ne := rfl
@[simp] theorem nf_eq_ws (m : Mon) : m.ws .notFull = m.nf := rfl

theorem notify_spec (m : Mon) (f : NotF) :
    (m.notify f).owner = m.owner ∧ (∀ c, c ≠ f.cond → (m.notify f).ws c = m.ws c) ∧
    (if f.all then (m.notify f).ws f.cond = (m.ws f.cond).all else OneSpec (m.ws f.cond) ((m.notify f).ws f.cond)) := by
  unfold notify
  cases hf : f.all
  · simp only [Bool.false_eq_true, if_false]
    split
    · refine ⟨by simp, ?_, ?_⟩
      · intro c hc
        show (m.setWs f.cond _).ws c = _
        exact ws_setWs_other _ _ _ _ hc
      · show OneSpec _ ((m.setWs f.cond _).ws f.cond)
        rw [ws_setWs_same]; exact WS.one_spec _ _
    · refine ⟨by simp, fun c hc => ws_setWs_other _ _ _ _ hc, ?_⟩
      rw [ws_setWs_same]; exact WS.one_spec _ _
  · simp only [if_true]
    exact ⟨by simp, fun c hc => ws_setWs_other _ _ _ _ hc, by simp⟩

theorem notify_owner (m : Mon) (f : NotF) : (m.notify f).owner = m.owner := (notify_spec m f).1

theorem notifs_owner (m : Mon) (fs : List NotF) : (m.notifs fs).owner = m.owner :=
  foldl_inv (P := fun m' => m'.owner = m.owner) fs (fun a f _ h => (notify_owner a f).trans h) m rfl

theorem notifs_one (m : Mon) (c : Cond) :
    (m.notifs [⟨false, c⟩]).owner = m.owner ∧ (∀ c', c' ≠ c → (m.notifs [⟨false, c⟩]).ws c' = m.ws c') ∧
      OneSpec (m.ws c) ((m.notifs [⟨false, c⟩]).ws c) :=
  notify_spec m ⟨false, c⟩

theorem notifs_all (m : Mon) (c : Cond) :
    (m.notifs [⟨true, c⟩]).owner = m.owner ∧ (∀ c', c' ≠ c → (m.notifs [⟨true, c⟩]).ws c' = m.ws c') ∧
      (m.notifs [⟨true, c⟩]).ws c = (m.ws c).all :=
  notify_spec m ⟨true, c⟩

theorem notifs_all2 (m : Mon) :
    (m.notifs [⟨true, .notEmpty⟩, ⟨true, .notFull⟩]).owner = m.owner ∧
    (m.notifs [⟨true, .notEmpty⟩, ⟨true, .notFull⟩]).ne.W = [] ∧ (m.notifs [⟨true, .notEmpty⟩, ⟨true, .notFull⟩]).nf.W = [] := by
  refine ⟨notifs_owner _ _, ?_, ?_⟩
  · have h1 := notify_spec m ⟨true, .notEmpty⟩
    have h2 := notify_spec (m.notify ⟨true, .notEmpty⟩) ⟨true, .notFull⟩
    simp only [if_true] at h1 h2
    show (((m.notify ⟨true, .notEmpty⟩).notify ⟨true, .notFull⟩).ws .notEmpty).W = []
    rw [h2.2.1 .notEmpty (by decide), h1.2.2]; rfl
  · have h2 := notify_spec (m.notify ⟨true, .notEmpty⟩) ⟨true, .notFull⟩
    simp only [if_true] at h2
    show (((m.notify ⟨true, .notEmpty⟩).notify ⟨true, .notFull⟩).ws .notFull).W = []
    rw [h2.2.2]; rfl

theorem notify_woken (m : Mon) (f : NotF) (c : Cond) : (m.ws c).Woken ((m.notify f).ws c) := by
  have h := notify_spec m f
  by_cases hc : c = f.cond
  · subst hc
    cases hf : f.all
    · have := h.2.2; simp only [hf, Bool.false_eq_true, if_false] at this; exact this.woken
    · have := h.2.2; simp only [hf, if_true] at this; rw [this]; exact WS.all_woken _
  · rw [h.2.1 c hc]; exact .refl _

theorem notifs_woken (m : Mon) (fs : List NotF) (c : Cond) : (m.ws c).Woken ((m.notifs fs).ws c) :=
  foldl_inv (P := fun m' => (m.ws c).Woken (m'.ws c)) fs (fun a f _ h => h.trans (notify_woken a f c)) m (.refl _)

end Mon

def Mon.unlock (m : Mon) : Mon := { m with owner := none }
@[simp] theorem Mon.unlock_owner (m : Mon) : m.unlock.owner = none := rfl
@[simp] theorem Mon.unlock_ws (m : Mon) (c : Cond) : m.unlock.ws c = m.ws c := by cases c <;> rfl
@[simp] theorem Mon.unlock_ne (m : Mon) : m.unlock.ne = m.ne := rfl
@[simp] theorem Mon.unlock_nf (m : Mon) : m.unlock.nf = m.nf := rfl

namespace Mon

/-- structural invariant: nobody is in a wait-set twice, the owner is not waiting, and everybody inside
`wait()` on `c` is in an operation that waits on `c` (`R`, supplied by the instance) -/
structure Struct (m : Mon) (R : Nat → Cond → Prop) : Prop where
  nodup : ∀ c, ((m.ws c).W ++ (m.ws c).S).Nodup
  own : ∀ u c, m.owner = some u → u ∉ (m.ws c).W
  role : ∀ c t, t ∈ (m.ws c).W ∨ t ∈ (m.ws c).S → R t c

variable {R : Nat → Cond → Prop}

theorem Struct.acq {m : Mon} (h : m.Struct R) (t : Nat) (ht : ∀ c, t ∉ (m.ws c).W) :
    ({ m with owner := some t } : Mon).Struct R where
  nodup c := by cases c; exact h.nodup .notEmpty; exact h.nodup .notFull
  own u c hu := by
    cases hu; cases c; exact ht .notEmpty; exact ht .notFull
  role c x hx := by cases c; exact h.role .notEmpty x hx; exact h.role .notFull x hx

theorem Struct.mono {m : Mon} {R' : Nat → Cond → Prop} (h : m.Struct R)
    (hr : ∀ c t, (t ∈ (m.ws c).W ∨ t ∈ (m.ws c).S) → R t c → R' t c) : m.Struct R' where
  nodup := h.nodup
  own := h.own
  role c t ht := hr c t ht (h.role c t ht)

theorem Struct.init (sched : List Nat) : (Mon.init sched).Struct R where
  nodup c := by cases c <;> exact List.nodup_nil
  own _ _ hu := nomatch hu
  role c t ht := by cases c <;> simp [Mon.init, Mon.ws] at ht

theorem Struct.S_not_W {m : Mon} (h : m.Struct R) (hR : ∀ t c c', R t c → R t c' → c' = c) {u : Nat} {c : Cond}
    (hu : u ∈ (m.ws c).S) (c' : Cond) : u ∉ (m.ws c').W := fun hx => by
  cases hR u c c' (h.role c u (.inr hu)) (h.role c' u (.inl hx))
  exact (List.nodup_append.mp (h.nodup c)).2.2 u hx u hu rfl

theorem Struct.of_woken {m m' : Mon} (h : m.Struct R) (ho : m'.owner = m.owner)
    (hw : ∀ c, (m.ws c).Woken (m'.ws c)) : m'.Struct R where
  nodup c := (hw c).1.nodup_iff.mpr (h.nodup c)
  own u c hu hx := h.own u c (by rw [← ho]; exact hu) ((hw c).2 u hx)
  role c t ht := h.role c t (by
    have := (hw c).1.mem_iff (a := t)
    rw [mem_parked, mem_parked] at this
    exact this.mp ht)

theorem Struct.notifs {m : Mon} (h : m.Struct R) (fs : List NotF) : (m.notifs fs).Struct R :=
  h.of_woken (notifs_owner m fs) (notifs_woken m fs)

theorem Struct.spur {m : Mon} (h : m.Struct R) (c : Cond) (t : Nat) (ht : t ∈ (m.ws c).W) :
    (m.setWs c ((m.ws c).spur t)).Struct R := by
  refine h.of_woken (by simp) fun c' => ?_
  by_cases hc : c' = c
  · subst hc; rw [ws_setWs_same]; exact WS.spur_woken _ _ ht
  · rw [ws_setWs_other _ _ _ _ hc]; exact .refl _

theorem Struct.set {m : Mon} (h : m.Struct R) {c : Cond} {w : WS} {o : Option Nat} (ho : o = m.owner ∨ o = none)
    (hn : (w.W ++ w.S).Nodup) (hown : ∀ u, o = some u → u ∉ w.W) (hr : ∀ x, x ∈ w.W ∨ x ∈ w.S → R x c) :
    ({ m.setWs c w with owner := o } : Mon).Struct R := by
  have key : ∀ c', ({ m.setWs c w with owner := o } : Mon).ws c' = (m.setWs c w).ws c' := fun c' => by cases c' <;> rfl
  refine ⟨fun c' => ?_, fun u c' hu => ?_, fun c' x => ?_⟩ <;> rw [key] <;> by_cases hc : c' = c
  · subst hc; rw [ws_setWs_same]; exact hn
  · rw [ws_setWs_other _ _ _ _ hc]; exact h.nodup c'
  · subst hc; rw [ws_setWs_same]; exact hown u hu
  · rw [ws_setWs_other _ _ _ _ hc]
    rcases ho with rfl | rfl
    · exact h.own u c' hu
    · cases hu
  · subst hc; rw [ws_setWs_same]; exact hr x
  · rw [ws_setWs_other _ _ _ _ hc]; exact h.role c' x

theorem setWs_ws (m : Mon) (c : Cond) : m.setWs c (m.ws c) = m := by cases c <;> rfl

theorem enter_eq (m : Mon) (t : Nat) (c : Cond) (g : Bool) :
    m.enter t (some ⟨true, c⟩) g =
      if g = true then (false, (m.setWs c ((m.ws c).wake t)).parkOn c t) else (true, m.setWs c ((m.ws c).wake t)) := by
  simp only [enter, true_and]
  by_cases h : t ∈ (m.ws c).S
  · simp only [h, if_true]
  · rw [WS.wake_eq _ h, setWs_ws]; simp only [h, if_false]

theorem Struct.go {m : Mon} (h : m.Struct R) (t : Nat) (c : Cond) : (m.setWs c ((m.ws c).wake t)).Struct R := by
  obtain ⟨_, h2, _, h4⟩ := WS.wake_facts (h.nodup c) t
  exact h.set (.inl (owner_setWs _ _ _)) h4 (fun u hu => h.own u c ((owner_setWs _ _ _).symm.trans hu)) fun x hx =>
    h.role c x (hx.imp_right (h2 x))

theorem Struct.park {m : Mon} (h : m.Struct R) {t : Nat} {c : Cond} (ho : m.owner = some t) (hR : R t c) :
    ((m.setWs c ((m.ws c).wake t)).parkOn c t).Struct R := by
  obtain ⟨h1, h2, _, h4⟩ := WS.wake_facts (h.nodup c) t
  have e : (m.setWs c ((m.ws c).wake t)).parkOn c t =
      { m.setWs c ⟨(m.ws c).W ++ [t], ((m.ws c).wake t).S⟩ with owner := none } := by cases c <;> rfl
  rw [e]
  refine h.set (.inr rfl) ?_ nofun fun x hx => ?_
  · show ((m.ws c).W ++ [t] ++ _).Nodup
    rw [List.append_assoc, List.singleton_append, List.perm_middle.nodup_iff, List.nodup_cons]
    exact ⟨by simp only [List.mem_append, not_or]; exact ⟨h.own t c ho, h1⟩, h4⟩
  · simp only [List.mem_append, List.mem_singleton] at hx
    rcases hx with (hx | rfl) | hx
    · exact h.role c x (.inl hx)
    · exact hR
    · exact h.role c x (.inr (h2 x hx))

theorem Struct.keep {m : Mon} {R' : Nat → Cond → Prop} (h : m.Struct R) {t : Nat} (ho : m.owner = some t)
    (ht : ∀ c, t ∉ (m.ws c).S) (hR : ∀ x c, x ≠ t → R x c → R' x c) : m.Struct R' where
  nodup := h.nodup
  own := h.own
  role c' x hx := hR x c' (by rintro rfl; exact hx.elim (h.own x c' ho) (ht c')) (h.role c' x hx)

theorem Struct.release {m : Mon} {R' : Nat → Cond → Prop} (h : m.Struct R) {t : Nat} (ho : m.owner = some t)
    (ht : ∀ c, t ∉ (m.ws c).S) (hR : ∀ x c, x ≠ t → R x c → R' x c) :
    ({ m with owner := none } : Mon).Struct R' :=
  have k := h.keep ho ht hR
  { nodup := fun c => by cases c; exact k.nodup .notEmpty; exact k.nodup .notFull
    own := fun _ _ hu => nomatch hu
    role := fun c => by cases c; exact k.role .notEmpty; exact k.role .notFull }

end Mon

theorem Mon.Struct.unlock {m : Mon} {R R' : Nat → Cond → Prop} (h : m.Struct R) {t : Nat} (ho : m.owner = some t)
    (ht : ∀ c, t ∉ (m.ws c).S) (hR : ∀ x c, x ≠ t → R x c → R' x c) : m.unlock.Struct R' :=
  h.release ho ht hR

theorem Mon.Struct.not_parked {m : Mon} {R : Nat → Cond → Prop} (h : m.Struct R) {t : Nat} {c : Cond} (hr : ¬ R t c) :
    t ∉ (m.ws c).W ∧ t ∉ (m.ws c).S :=
  ⟨fun hx => hr (h.role c t (Or.inl hx)), fun hx => hr (h.role c t (Or.inr hx))⟩

/-- what every step keeps, a run keeps (`run` is `runQ`, `runL`, `runP`) -/
theorem run_inv {σ : Type} {step : σ → Act → Option σ} {run : σ → List Act → Option σ} (hnil : ∀ s, run s [] = some s)
    (hcons : ∀ s a as, run s (a :: as) = (step s a).bind fun s' => run s' as) {P : σ → Prop}
    (hP : ∀ s a s', P s → step s a = some s' → P s') {s s' : σ} {as : List Act} (h0 : P s) (h : run s as = some s') : P s' := by
  induction as generalizing s with
  | nil => rw [hnil] at h; cases h; exact h0
  | cons a as ih =>
    rw [hcons] at h
    cases hs : step s a with
    | none => rw [hs] at h; cases h
    | some s1 => rw [hs] at h; exact ih (hP s a s1 h0 hs) h

/-! ### A second structural invariant, `Mon.Struct` without `role`; no proof uses it -/

namespace Mon

structure WF (m : Mon) : Prop where
  nodup : ∀ c, (m.ws c).parked.Nodup
  own : ∀ u, m.owner = some u → ∀ c, u ∉ (m.ws c).W

theorem WF.notifs {m : Mon} (h : m.WF) (fs : List NotF) : (m.notifs fs).WF where
  nodup c := (notifs_woken m fs c).1.nodup_iff.mpr (h.nodup c)
  own u hu c hx := h.own u (by rw [← hu, notifs_owner]) c ((notifs_woken m fs c).2 _ hx)

end Mon

end MuduoVerif.Monitor
