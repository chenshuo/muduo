import MuduoVerif.Proofs.ClientInv
/-!
What a legal trace (`scan tr = some s`) says in plain terms: counts of the socket events,
the per-cycle counters, silence after `stop()` / destruction.  Nothing here mentions the model.
-/
namespace MuduoVerif.Client

def Phase.wasHanded : Phase → Bool
  | .handed | .up | .down | .connClosed => true
  | _ => false
def Phase.wasUp : Phase → Bool
  | .up | .down | .connClosed => true
  | _ => false
def Phase.wasDown : Phase → Bool
  | .down | .connClosed => true
  | _ => false

def Spec.has (s : Spec) (k : Nat) (p : Phase → Bool) : Bool :=
  match s.phases[k]? with
  | some q => p q
  | none => false

def b2n (b : Bool) : Nat := if b then 1 else 0

theorem scan_induct {P : Spec → List Ev → Prop} (h0 : P {} [])
    (hstep : ∀ {s s' : Spec} {tr : List Ev} {e : Ev}, P s tr → specStep s e = some s' → P s' (tr ++ [e]))
    {tr : List Ev} {s : Spec} (h : scan tr = some s) : P s tr := by
  have key : ∀ (d : List Ev) (s s' : Spec) (tr : List Ev), P s tr → scanFrom s d = some s' → P s' (tr ++ d) := by
    intro d
    induction d with
    | nil => intro s s' tr h hs; simp [scanFrom] at hs; subst hs; simpa using h
    | cons e d ih =>
      intro s s' tr h hs
      rw [scanFrom_cons] at hs
      cases he : specStep s e with
      | none => rw [he] at hs; cases hs
      | some s1 =>
        rw [he] at hs
        simpa using ih s1 s' (tr ++ [e]) (hstep h he) hs
  simpa using key tr {} s [] h0 h

/-- the summary counts the events -/
structure Cnt (s : Spec) (tr : List Ev) : Prop where
  created : ∀ k, tr.count (.sockCreated k) = b2n (decide (k < s.phases.length))
  closed : ∀ k, tr.count (.sockClosed k) = b2n (s.has k (· == .closed))
  handed : ∀ k, tr.count (.handedOver k) = b2n (s.has k Phase.wasHanded)
  up : ∀ k, tr.count (.up k) = b2n (s.has k Phase.wasUp)
  down : ∀ k, tr.count (.down k) = b2n (s.has k Phase.wasDown)
  connClosed : ∀ k, tr.count (.connClosed k) = b2n (s.has k (· == .connClosed))
  noAbort : ∀ w, Ev.abort w ∉ tr
  noUaf : ∀ w, Ev.uaf w ∉ tr

/-- the five socket events that move a socket from one phase to the next -/
inductive Kind | closed | handed | up | down | connClosed
deriving DecidableEq

/-! The event of a kind, and the test on the phase that says whether it has happened. -/
def kindE : Kind → Nat → Ev
  | .closed => .sockClosed | .handed => .handedOver | .up => .up | .down => .down | .connClosed => .connClosed
def kindP : Kind → Phase → Bool
  | .closed => (· == .closed) | .handed => Phase.wasHanded | .up => Phase.wasUp | .down => Phase.wasDown
  | .connClosed => (· == .connClosed)

/-- the events `Cnt` does not count (none of them is an abort or a use after free) -/
def Ev.quiet : Ev → Bool
  | .attempt .. | .shutdownWr _ | .query .. | .retryScheduled .. | .ghost _ => true
  | _ => false

theorem Cnt.kind {s : Spec} {tr : List Ev} (h : Cnt s tr) : ∀ i k, tr.count (kindE i k) = b2n (s.has k (kindP i))
  | .closed, k => h.closed k | .handed, k => h.handed k | .up, k => h.up k | .down, k => h.down k
  | .connClosed, k => h.connClosed k

theorem Cnt.of {s : Spec} {tr : List Ev} (hc : ∀ k, tr.count (.sockCreated k) = b2n (decide (k < s.phases.length)))
    (hk : ∀ i k, tr.count (kindE i k) = b2n (s.has k (kindP i))) (ha : ∀ w, Ev.abort w ∉ tr) (hu : ∀ w, Ev.uaf w ∉ tr) :
    Cnt s tr :=
  ⟨hc, hk .closed, hk .handed, hk .up, hk .down, hk .connClosed, ha, hu⟩

theorem count_snoc (tr : List Ev) (e x : Ev) : (tr ++ [e]).count x = tr.count x + if e = x then 1 else 0 := by
  rw [List.count_append, List.count_singleton]; simp only [beq_iff_eq]

theorem kindE_inj {i j : Kind} {k l : Nat} (h : kindE i k = kindE j l) : i = j ∧ k = l := by
  cases i <;> cases j <;> cases h <;> exact ⟨rfl, rfl⟩

theorem Cnt.quiet {s s' : Spec} {tr : List Ev} (h : Cnt s tr) {e : Ev} (hp : s'.phases = s.phases) (he : e.quiet = true) :
    Cnt s' (tr ++ [e]) := by
  have hh : ∀ k p, s'.has k p = s.has k p := fun k p => by unfold Spec.has; rw [hp]
  have hne : ∀ x : Ev, x.quiet = false → (tr ++ [e]).count x = tr.count x := fun x hx => by
    rw [count_snoc, if_neg (fun e' => by rw [e', hx] at he; cases he)]; rfl
  refine Cnt.of (fun k => by rw [hne _ rfl, hp]; exact h.created k) (fun i k => ?_)
    (fun w m => (List.mem_append.mp m).elim (h.noAbort w) fun m => by rw [← List.mem_singleton.mp m] at he; cases he)
    (fun w m => (List.mem_append.mp m).elim (h.noUaf w) fun m => by rw [← List.mem_singleton.mp m] at he; cases he)
  rw [hne (kindE i k) (by cases i <;> rfl), hh]; exact h.kind i k

theorem Cnt.create {s s' : Spec} {tr : List Ev} (h : Cnt s tr) (hp : s'.phases = s.phases ++ [.opened]) :
    Cnt s' (tr ++ [.sockCreated s.phases.length]) := by
  have hne : ∀ x : Ev, (∀ k, x ≠ .sockCreated k) → (tr ++ [Ev.sockCreated s.phases.length]).count x = tr.count x :=
    fun x hx => by rw [count_snoc, if_neg (fun e' => hx _ e'.symm)]; rfl
  refine Cnt.of (fun k => ?_) (fun i k => ?_)
    (fun w m => (List.mem_append.mp m).elim (h.noAbort w) fun m => by cases List.mem_singleton.mp m)
    (fun w m => (List.mem_append.mp m).elim (h.noUaf w) fun m => by cases List.mem_singleton.mp m)
  · rw [count_snoc, h.created k, hp, List.length_append, List.length_singleton]
    by_cases e : s.phases.length = k
    · subst e; simp [b2n]
    · have : ¬ Ev.sockCreated s.phases.length = Ev.sockCreated k := fun e' => e (by cases e'; rfl)
      rw [if_neg this]; unfold b2n
      by_cases hl : k < s.phases.length
      · simp [hl, Nat.lt_succ_of_lt hl]
      · simp [hl]; omega
  · rw [hne (kindE i k) (by cases i <;> exact fun _ e' => by cases e'), h.kind i k]
    -- the new socket is `opened`, which none of the five tests accepts
    unfold Spec.has; rw [hp]
    by_cases hl : k < s.phases.length
    · rw [List.getElem?_append_left hl]
    · rw [List.getElem?_append_right (Nat.le_of_not_lt hl), List.getElem?_eq_none (Nat.le_of_not_lt hl)]
      cases k - s.phases.length with
      | zero => cases i <;> rfl
      | succ n => rfl

theorem Spec.move_eq_some {s s' : Spec} {k : Nat} {frm to : Phase} (h : s.move k frm to = some s') :
    s.phases[k]? = some frm ∧ s' = { s with phases := s.phases.set k to } := by
  unfold Spec.move at h
  split at h
  · rename_i hk; cases h; exact ⟨hk, rfl⟩
  · cases h

/-- event `i` moves socket `k` from phase `frm` to phase `to`: test `i` becomes true, the other four keep their value
(for each of the five events a table of five rows, checked by evaluation) -/
theorem Cnt.move {s s0 s' : Spec} {tr : List Ev} (h : Cnt s tr) {k : Nat} {frm to : Phase} (hm : s0.move k frm to = some s')
    (h0 : s0.phases = s.phases) (i : Kind)
    (ht : ∀ j, b2n (kindP j to) = b2n (kindP j frm) + if i = j then 1 else 0) : Cnt s' (tr ++ [kindE i k]) := by
  obtain ⟨hk, rfl⟩ := Spec.move_eq_some hm
  rw [h0] at hk
  have hp : ({ s0 with phases := s0.phases.set k to } : Spec).phases = s.phases.set k to := by rw [← h0]
  have hlt := (List.getElem?_eq_some_iff.mp hk).1
  refine Cnt.of (fun l => ?_) (fun j l => ?_)
    (fun w m => (List.mem_append.mp m).elim (h.noAbort w) fun m => ?_)
    (fun w m => (List.mem_append.mp m).elim (h.noUaf w) fun m => ?_)
  · rw [count_snoc, if_neg (by cases i <;> exact fun e => by cases e), hp,
      List.length_set]
    exact h.created l
  · rw [count_snoc, h.kind j l]
    unfold Spec.has; rw [hp, List.getElem?_set]
    by_cases e : k = l
    · subst e
      rw [if_pos rfl, if_pos hlt, hk]
      have := ht j
      by_cases e' : i = j
      · subst e'; rw [if_pos rfl]; rw [if_pos rfl] at this; exact this.symm
      · rw [if_neg (fun e'' => e' (kindE_inj e'').1)]; rw [if_neg e'] at this; exact this.symm
    · rw [if_neg e, if_neg (fun e'' => e (kindE_inj e'').2)]; rfl
  all_goals
    have := List.mem_singleton.mp m
    cases i <;> cases this

theorem cnt_step {s s' : Spec} {tr : List Ev} {e : Ev} (h : Cnt s tr) (hs : specStep s e = some s') : Cnt s' (tr ++ [e]) := by
  cases e with
  | sockCreated k =>
    simp only [specStep] at hs
    split at hs
    · rename_i hk; cases hs; subst hk; exact h.create rfl
    · cases hs
  | sockClosed k => exact h.move hs rfl .closed fun j => by cases j <;> rfl
  | handedOver k => exact h.move hs rfl .handed fun j => by cases j <;> rfl
  | up k =>
    simp only [specStep] at hs
    split at hs
    · exact h.move hs rfl .up fun j => by cases j <;> rfl
    · cases hs
  | down k => exact h.move hs rfl .down fun j => by cases j <;> rfl
  | connClosed k => exact h.move hs rfl .connClosed fun j => by cases j <;> rfl
  | abort w => simp [specStep] at hs
  | uaf w => simp [specStep] at hs
  | attempt k t | shutdownWr k | query k seen | retryScheduled i ms t =>
    simp only [specStep] at hs
    split at hs
    · cases hs; exact h.quiet rfl rfl
    · cases hs
  | ghost g =>
    cases g <;> simp only [specStep] at hs
    · cases hs; exact h.quiet rfl rfl
    all_goals
      split at hs
      · cases hs
      · cases hs; exact h.quiet rfl rfl

theorem cnt_scan {tr : List Ev} {s : Spec} (h : scan tr = some s) : Cnt s tr :=
  scan_induct (by constructor <;> intro j <;> simp [Spec.has, b2n]) cnt_step h

/-- (UP callbacks, retries scheduled) since the last start of a cycle -/
def cycStep (a : Nat × Nat) : Ev → Nat × Nat
  | .ghost .cycle => (0, 0)
  | .up _ => (a.1 + 1, a.2)
  | .retryScheduled _ _ _ => (a.1, a.2 + 1)
  | _ => a
def cyc (tr : List Ev) : Nat × Nat := tr.foldl cycStep (0, 0)

/-- `stop()` was the user's last word (no `connect()` after it) -/
def stoppedStep (b : Bool) : Ev → Bool
  | .ghost .stop => true
  | .ghost .connect => false
  | _ => b
def stoppedAfter (tr : List Ev) : Bool := tr.foldl stoppedStep false

def goneStep (b : Bool) : Ev → Bool
  | .ghost .destroy => true
  | _ => b
def goneAfter (tr : List Ev) : Bool := tr.foldl goneStep false

theorem cyc_snoc (tr : List Ev) (e : Ev) : cyc (tr ++ [e]) = cycStep (cyc tr) e := by simp [cyc, List.foldl_append]
theorem stoppedAfter_snoc (tr : List Ev) (e : Ev) : stoppedAfter (tr ++ [e]) = stoppedStep (stoppedAfter tr) e := by
  simp [stoppedAfter, List.foldl_append]
theorem goneAfter_snoc (tr : List Ev) (e : Ev) : goneAfter (tr ++ [e]) = goneStep (goneAfter tr) e := by
  simp [goneAfter, List.foldl_append]

/-- the summary agrees with the plain folds over the trace -/
structure Sum (s : Spec) (tr : List Ev) : Prop where
  ups : s.ups = (cyc tr).1
  nretry : s.nretry = (cyc tr).2
  stopped : s.stopped = stoppedAfter tr
  gone : s.gone = goneAfter tr

theorem specStep_counters {s s' : Spec} {e : Ev} (hs : specStep s e = some s') :
    (s'.ups, s'.nretry) = cycStep (s.ups, s.nretry) e ∧ s'.stopped = stoppedStep s.stopped e ∧ s'.gone = goneStep s.gone e := by
  cases e with
  | ghost g =>
    cases g <;> simp only [specStep] at hs
    · cases hs; exact ⟨rfl, rfl, rfl⟩
    all_goals
      split at hs
      · cases hs
      · cases hs; exact ⟨rfl, rfl, rfl⟩
  | up k =>
    simp only [specStep] at hs
    split at hs
    · rename_i hc
      obtain ⟨_, rfl⟩ := Spec.move_eq_some hs
      exact ⟨by rw [cycStep, hc.2.2], rfl, rfl⟩
    · cases hs
  | abort w => simp [specStep] at hs
  | uaf w => simp [specStep] at hs
  | sockCreated k | attempt k t | sockClosed k | handedOver k | connClosed k | down k | shutdownWr k | query k seen
  | retryScheduled i ms t =>
    simp only [specStep, Spec.move] at hs
    split at hs
    · cases hs; exact ⟨rfl, rfl, rfl⟩
    · cases hs

theorem sum_step {s s' : Spec} {tr : List Ev} {e : Ev} (h : Sum s tr) (hs : specStep s e = some s') : Sum s' (tr ++ [e]) := by
  obtain ⟨k1, k2, k3⟩ := specStep_counters hs
  rw [h.ups, h.nretry] at k1
  exact ⟨by rw [cyc_snoc, ← k1], by rw [cyc_snoc, ← k1], by rw [stoppedAfter_snoc, ← h.stopped, k2],
    by rw [goneAfter_snoc, ← h.gone, k3]⟩
theorem sum_scan {tr : List Ev} {s : Spec} (h : scan tr = some s) : Sum s tr :=
  scan_induct ⟨rfl, rfl, rfl, rfl⟩ sum_step h

theorem scan_split {pre post : List Ev} {e : Ev} {s : Spec} (h : scan (pre ++ e :: post) = some s) :
    ∃ s1 s2, scan pre = some s1 ∧ specStep s1 e = some s2 := by
  rw [scan_append] at h
  cases h1 : scan pre with
  | none => rw [h1] at h; cases h
  | some s1 =>
    rw [h1, Option.bind_some, scanFrom_cons] at h
    cases h2 : specStep s1 e with
    | none => rw [h2] at h; cases h
    | some s2 => exact ⟨s1, s2, rfl, h2⟩

theorem scan_at {pre post : List Ev} {e : Ev} {s : Spec} (h : scan (pre ++ e :: post) = some s) :
    ∃ s1 s2, specStep s1 e = some s2 ∧ Cnt s1 pre ∧ Sum s1 pre := by
  obtain ⟨s1, s2, h1, h2⟩ := scan_split h
  exact ⟨s1, s2, h2, cnt_scan h1, sum_scan h1⟩

theorem Spec.has_eq {s : Spec} {k : Nat} {q : Phase} (h : s.phases[k]? = some q) (p : Phase → Bool) : s.has k p = p q := by
  unfold Spec.has; rw [h]

theorem Cnt.mem {s : Spec} {tr : List Ev} (h : Cnt s tr) (i : Kind) (k : Nat) : kindE i k ∈ tr ↔ s.has k (kindP i) = true := by
  rw [← List.count_pos_iff, h.kind i k]; unfold b2n; split <;> simp [*]

/-- events that start something on behalf of the user: an attempt, the UP callback, a retry timer -/
def Ev.starts : Ev → Bool
  | .attempt _ _ | .up _ | .retryScheduled _ _ _ => true
  | _ => false

theorem specStep_starts {s s' : Spec} {e : Ev} (he : e.starts = true) (h : specStep s e = some s') :
    s.stopped = false ∧ s.gone = false := by
  cases e <;> first | cases he | skip
  all_goals
    simp only [specStep] at h
    split at h
    · rename_i hc; first | exact ⟨hc.2.2.1, hc.2.2.2⟩ | exact ⟨hc.1, hc.2.1⟩
    · cases h

section
variable {pre post : List Ev} {s : Spec}

theorem legal_order {tr : List Ev} (h : scan tr = some s) (k : Nat) :
    tr.count (.connClosed k) ≤ tr.count (.down k) ∧ tr.count (.down k) ≤ tr.count (.up k) ∧
    tr.count (.up k) ≤ tr.count (.handedOver k) ∧ tr.count (.handedOver k) ≤ 1 := by
  have h := cnt_scan h
  rw [h.connClosed k, h.down k, h.up k, h.handed k]
  unfold Spec.has
  cases s.phases[k]? with
  | none => decide
  | some q => cases q <;> decide

theorem legal_backoff {i ms t : Nat} (h : scan (pre ++ .retryScheduled i ms t :: post) = some s) :
    i = (cyc pre).2 ∧ ms = specDelay i := by
  obtain ⟨s1, s2, h2, _, hsum⟩ := scan_at h
  simp only [specStep] at h2
  split at h2
  · rename_i hc; exact ⟨by rw [hc.1, hsum.nretry], hc.2.1⟩
  · cases h2

theorem legal_one_up {k : Nat} (h : scan (pre ++ .up k :: post) = some s) :
    (cyc pre).1 = 0 ∧ Ev.handedOver k ∈ pre ∧ Ev.up k ∉ pre ∧ Ev.sockClosed k ∉ pre := by
  obtain ⟨s1, s2, h2, hcnt, hsum⟩ := scan_at h
  simp only [specStep] at h2
  split at h2
  · rename_i hc
    have hp : s1.phases[k]? = some .handed := (Spec.move_eq_some h2).1
    exact ⟨by rw [← hsum.ups]; exact hc.2.2, (hcnt.mem .handed k).mpr (by rw [Spec.has_eq hp]; rfl),
      (fun m => by have := (hcnt.mem .up k).mp m; rw [Spec.has_eq hp] at this; cases this),
      (fun m => by have := (hcnt.mem .closed k).mp m; rw [Spec.has_eq hp] at this; cases this)⟩
  · cases h2

theorem legal_silence {e : Ev} (h : scan (pre ++ e :: post) = some s)
    (hq : stoppedAfter pre = true ∨ goneAfter pre = true) : e.starts = false := by
  obtain ⟨s1, s2, h2, _, hsum⟩ := scan_at h
  cases he : e.starts
  · rfl
  · obtain ⟨h3, h4⟩ := specStep_starts he h2
    rw [hsum.stopped] at h3; rw [hsum.gone] at h4
    rcases hq with h | h
    · rw [h] at h3; cases h3
    · rw [h] at h4; cases h4

theorem legal_query {k : Nat} {seen : Option Nat} (h : scan (pre ++ .query k seen :: post) = some s) :
    seen = some k ∧ Ev.up k ∈ pre := by
  obtain ⟨s1, s2, h2, hcnt, _⟩ := scan_at h
  simp only [specStep] at h2
  split at h2
  · rename_i hc
    exact ⟨hc.1, (hcnt.mem .up k).mpr (by rcases hc.2 with hp | hp <;> rw [Spec.has_eq hp] <;> rfl)⟩
  · cases h2

end

end MuduoVerif.Client
