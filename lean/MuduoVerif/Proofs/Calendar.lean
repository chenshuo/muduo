import MuduoVerif.Model.Calendar
import MuduoVerif.Proofs.CalendarSucc
import Mathlib.Tactic.Ring
/-!
Ties between the **generated** calendar functions (C semantics: `Int.tdiv`/`Int.tmod`,
translated from /repo on every run) and the floor-division algorithms of
`Proofs/CalendarE.lean`, and the consequences for the generated functions.

The ties are semantic: they are closed by `simp` (turning truncating into floor division
where the dividend is provably non-negative), `ring_nf` and `omega`, so a harmless
rewrite of the C++ (reordered operands, renamed variables) still passes while a changed
constant or operator does not.
-/
-- the tie proofs try `omega` (or nothing, where `simp` leaves nothing), then `ring_nf; omega`: the second is for other spellings of the same C++ expression, and the
-- linters would flag it as long as the current source does not need it
set_option linter.unusedTactic false
set_option linter.unreachableTactic false
set_option linter.unnecessarySeqFocus false

namespace MuduoVerif.Calendar
open MuduoVerif.Gen.Calendar MuduoVerif.CalendarE

def toCivil (x : YearMonthDay) : Civil := ⟨x.year, x.month, x.day⟩

@[simp] theorem toCivil_year (x : YearMonthDay) : (toCivil x).year = x.year := rfl
@[simp] theorem toCivil_month (x : YearMonthDay) : (toCivil x).month = x.month := rfl
@[simp] theorem toCivil_day (x : YearMonthDay) : (toCivil x).day = x.day := rfl

theorem toCivil_inj (x y : YearMonthDay) (h : toCivil x = toCivil y) : x = y := by
  cases x; cases y; simp only [toCivil, Civil.mk.injEq] at h; simp only [YearMonthDay.mk.injEq]; exact h

/-- civil dates from -4800-03-01 on: where C's truncating division agrees with floor division
inside `getJulianDayNumber` -/
def inRange (y m : Int) : Prop := -4800 < y ∨ (y = -4800 ∧ 3 ≤ m)
instance (y m : Int) : Decidable (inRange y m) := inferInstanceAs (Decidable (_ ∨ _))

/-- day number of -4800-03-01, the first day of the supported range -/
def jdnMin : Int := -32044

theorem gen_jdn_eq (y m d : Int) (hm1 : 1 ≤ m) (hm2 : m ≤ 12) (hy : inRange y m) :
    getJulianDayNumber y m d = jdnE y m d := by
  unfold inRange at hy
  simp (disch := omega) only [getJulianDayNumber, jdnE, Int.tdiv_eq_ediv_of_nonneg]
  first
    | omega
    | (ring_nf; omega)

theorem gen_ymd_eq (j : Int) (hj : jdnMin ≤ j) : toCivil (getYearMonthDay j) = ymdE j := by
  unfold jdnMin at hj
  simp (disch := omega) only [getYearMonthDay, ymdE, marchDate, monthStart, toCivil, Int.tdiv_eq_ediv_of_nonneg]
  -- `ymdE` spells its operands as the C++ does, so nothing is left; the second alternative is reached only after a
  -- harmless rewrite of the C++'s operand order
  first
    | done
    | (simp only [Civil.mk.injEq]; (ring_nf) <;> (try simp only [and_self]) <;> (try omega))

theorem kJulian_eq : kJulianDayOf1970_01_01 = 2440588 := by decide
theorem kSecondsPerDay_eq : kSecondsPerDay = 86400 := by decide
theorem kDaysPerWeek_eq : kDaysPerWeek = 7 := by decide
theorem kMicro_eq : kMicroSecondsPerSecond = 1000000 := by decide

theorem tdiv_pos (a b : Int) (hb : 0 < b) :
    Int.tdiv a b = if 0 ≤ a ∨ b ∣ a then a / b else a / b + 1 := by
  rw [Int.tdiv_eq_ediv]
  split
  · omega
  · rw [Int.sign_eq_one_of_pos hb]

theorem tmod_pos (a b : Int) (hb : 0 < b) :
    Int.tmod a b = if 0 ≤ a ∨ b ∣ a then a % b else a % b - b := by
  rw [Int.tmod_eq_emod]
  split
  · simp
  · simp only [Int.natCast_natAbs]
    rw [abs_of_pos hb]

theorem jdnE_ge (y m d : Int) (hv : validDate y m d) (hy : inRange y m) : jdnMin ≤ jdnE y m d := by
  unfold inRange at hy
  unfold jdnMin
  simp only [validDate] at hv
  simp only [jdnE]
  omega

theorem ymdE_inRange (j : Int) (hj : jdnMin ≤ j) : inRange (ymdE j).year (ymdE j).month := by
  unfold jdnMin at hj
  unfold inRange
  simp only [ymdE, marchDate]
  omega

theorem gen_weekDay (j : Int) (hj : -1 ≤ j) : Date_weekDay j = (j + 1) % 7 := by
  simp only [Date_weekDay, kDaysPerWeek_eq]
  rw [Int.tmod_eq_emod_of_nonneg (by omega)]

/-- seconds since the epoch → civil fields, by floor division (the specification) -/
def breakE (t : Int) : DateTime :=
  let x := ymdE (t / 86400 + 2440588)
  let s := t % 86400
  { year := x.year, month := x.month, day := x.day, hour := s / 3600, minute := s % 3600 / 60, second := s % 60 }

/-- first instant of the supported range: -4800-03-01 00:00:00 UTC -/
def tMin : Int := (jdnMin - 2440588) * 86400

theorem fillHMS_eq (s : Int) (dt : DateTime) (h : 0 ≤ s) :
    fillHMS s dt = { dt with hour := s / 3600, minute := s % 3600 / 60, second := s % 60 } := by
  simp (disch := omega) only [fillHMS, Int.tdiv_eq_ediv_of_nonneg, Int.tmod_eq_emod_of_nonneg]
  cases dt
  simp only [DateTime.mk.injEq, true_and]
  repeat' constructor
  all_goals first | trivial | omega

theorem gen_BreakTime_eq (t : Int) (ht : tMin ≤ t) : BreakTime t = breakE t := by
  unfold tMin jdnMin at ht
  have hd : jdnMin ≤ t / 86400 + 2440588 := by unfold jdnMin; omega
  have e := gen_ymd_eq _ hd
  simp only [BreakTime, kSecondsPerDay_eq, kJulian_eq, Date_ofJdn, Date_yearMonthDay,
    tdiv_pos t 86400 (by decide), tmod_pos t 86400 (by decide)]
  by_cases hc : 0 ≤ t ∨ (86400 : Int) ∣ t
  · simp only [hc, if_true]
    have hs : ¬ (t % 86400 < 0) := by omega
    simp only [hs, if_false]
    rw [fillHMS_eq _ _ (by omega)]
    simp only [breakE, ← e, toCivil]
  · simp only [hc, if_false]
    have hs : t % 86400 - 86400 < 0 := by omega
    simp only [hs, if_true]
    rw [fillHMS_eq _ _ (by omega)]
    have h1 : t / 86400 + 1 - 1 = t / 86400 := by omega
    have h2 : t % 86400 - 86400 + 86400 = t % 86400 := by omega
    simp only [breakE, ← e, toCivil, h1, h2]

theorem breakTime_fields (t : Int) (ht : tMin ≤ t) :
    1 ≤ (BreakTime t).month ∧ (BreakTime t).month ≤ 12 ∧ 1 ≤ (BreakTime t).day ∧ (BreakTime t).day ≤ 31 ∧
    0 ≤ (BreakTime t).hour ∧ (BreakTime t).hour < 24 ∧ 0 ≤ (BreakTime t).minute ∧ (BreakTime t).minute < 60 ∧
    0 ≤ (BreakTime t).second ∧ (BreakTime t).second < 60 := by
  rw [gen_BreakTime_eq t ht]
  obtain ⟨hv, _⟩ := jdn_ymd_all (t / 86400 + 2440588)
  simp only [Civil.valid, validDate] at hv
  have hd : (ymdE (t / 86400 + 2440588)).day ≤ 31 := by
    have := hv.2.2.2
    unfold daysInMonth at this
    repeat' split at this
    all_goals omega
  simp only [breakE]
  refine ⟨hv.1, hv.2.1, hv.2.2.1, hd, ?_, ?_, ?_, ?_, ?_, ?_⟩ <;> omega

theorem gen_fromUtcTime_eq (dt : DateTime) (hm1 : 1 ≤ dt.month) (hm2 : dt.month ≤ 12)
    (hy : inRange dt.year dt.month) :
    fromUtcTime dt = (jdnE dt.year dt.month dt.day - 2440588) * 86400
      + (dt.hour * 3600 + dt.minute * 60 + dt.second) := by
  simp only [fromUtcTime, Date_ofYmd, Date_julianDayNumber, kSecondsPerDay_eq, kJulian_eq,
    gen_jdn_eq _ _ _ hm1 hm2 hy] <;>
  first
    | rfl
    | omega
    | (ring_nf; omega)

theorem gen_fromUtc_break (t : Int) (ht : tMin ≤ t) : fromUtcTime (BreakTime t) = t := by
  have hd : jdnMin ≤ t / 86400 + 2440588 := by unfold tMin jdnMin at *; omega
  have hf := breakTime_fields t ht
  have hj := (jdn_ymd_all (t / 86400 + 2440588)).2
  rw [gen_BreakTime_eq t ht] at hf ⊢
  rw [gen_fromUtcTime_eq _ hf.1 hf.2.1 (ymdE_inRange _ hd)]
  simp only [Civil.jdn] at hj
  simp only [breakE, hj]
  omega

end MuduoVerif.Calendar
