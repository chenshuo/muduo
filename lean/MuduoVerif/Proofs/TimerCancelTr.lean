import MuduoVerif.Model.Timer
/-! Trace vocabulary of C07 `cancel_final`: which runs / restarts of the timer `q` come after a processed `cancel(a, q)`.
Everything is computable (`Bool`/`Nat`), so concrete histories can be checked by `decide`. -/
namespace MuduoVerif.Timer
open MuduoVerif.Gen.Timer

def isReg (a : Addr) (q : Nat) : Ev → Bool
  | .registered a' q' _ => decide (a' = a ∧ q' = q)
  | _ => false
def isCancel (a : Addr) (q : Nat) : Ev → Bool
  | .cancel a' q' _ _ => decide (a' = a ∧ q' = q)
  | _ => false
/-- the cancel found the timer in `activeTimers_` (it was pending, not in the batch being run) -/
def isCancelFound (a : Addr) (q : Nat) : Ev → Bool
  | .cancel a' q' _ f => decide (a' = a ∧ q' = q) && f
  | _ => false
/-- the cancel was processed outside an expiry batch -/
def isCancelIdle (a : Addr) (q : Nat) : Ev → Bool
  | .cancel a' q' ib _ => decide (a' = a ∧ q' = q) && !ib
  | _ => false
def isRunOf (q : Nat) : Ev → Bool
  | .run _ q' _ _ _ _ _ _ _ _ => decide (q' = q)
  | _ => false
def isRestartOf (q : Nat) : Ev → Bool
  | .restarted _ q' _ => decide (q' = q)
  | _ => false

/-- `addTimerInLoop` has registered the timer (a, q) -/
def regB (a : Addr) (q : Nat) (t : List Ev) : Bool := t.any (isReg a q)

/-- does a cancel count: always (`needReg = false`), or only when the timer was registered when it was processed.  Apart from
the monotonicity lemmas every lemma here takes `true`; `false` is there to state `C07.cancel_final_full`, which a fixed witness refutes -/
def qual (needReg : Bool) (a : Addr) (q : Nat) (older : List Ev) : Bool := !needReg || regB a q older

/-- some (qualifying) `cancel(a, q)` has been processed (trace newest first) -/
def markAll (nr : Bool) (a : Addr) (q : Nat) : List Ev → Bool
  | [] => false
  | ev :: r => markAll nr a q r || (isCancel a q ev && qual nr a q r)

/-- ... one that found the timer pending, or was processed outside a batch -/
def markOut (nr : Bool) (a : Addr) (q : Nat) : List Ev → Bool
  | [] => false
  | ev :: r => markOut nr a q r || isCancelFound a q ev || (isCancelIdle a q ev && qual nr a q r)

/-- number of events satisfying `p` that come after the oldest point at which `m` holds -/
def after (m : List Ev → Bool) (p : Ev → Bool) : List Ev → Nat
  | [] => 0
  | ev :: r => if m r then after m p r + (if p ev then 1 else 0) else 0

def Mono (m : List Ev → Bool) : Prop := ∀ ev r, m r = true → m (ev :: r) = true

variable {a : Addr} {q : Nat} {ev : Ev} {t r : List Ev} {m : List Ev → Bool}

theorem markAll_mono (nr : Bool) (a : Addr) (q : Nat) : Mono (markAll nr a q) := by
  intro ev r h; simp [markAll, h]
theorem markOut_mono (nr : Bool) (a : Addr) (q : Nat) : Mono (markOut nr a q) := by
  intro ev r h; simp [markOut, h]

theorem after_zero_of_not (hm : Mono m) (p : Ev → Bool) (h : m t = false) :
    after m p t = 0 := by
  cases t with
  | nil => rfl
  | cons ev r =>
    have : m r = false := by
      cases hr : m r with
      | false => rfl
      | true => rw [hm ev r hr] at h; cases h
    simp [after, this]

theorem after_cons_of_not (p : Ev → Bool) (h : m r = false) :
    after m p (ev :: r) = 0 := by simp [after, h]

theorem after_cons_of_mark (p : Ev → Bool) (h : m r = true) :
    after m p (ev :: r) = after m p r + (if p ev then 1 else 0) := by simp [after, h]

theorem after_cons_unmarked (hm : Mono m) (p : Ev → Bool) (h : m r = false) :
    after m p (ev :: r) = after m p r := by rw [after_cons_of_not p h, after_zero_of_not hm p h]

theorem after_cons_skip (hm : Mono m) {p : Ev → Bool} (r : List Ev) (h : p ev = false) :
    after m p (ev :: r) = after m p r := by
  cases hr : m r with
  | true => rw [after_cons_of_mark p hr, h]; rfl
  | false => exact after_cons_unmarked hm p hr

theorem markAll_imp_reg (h : markAll true a q t = true) : regB a q t = true := by
  induction t with
  | nil => cases h
  | cons ev r ih =>
    simp only [markAll, qual, Bool.not_true, Bool.false_or, Bool.or_eq_true, Bool.and_eq_true] at h
    unfold regB; rw [List.any_cons]
    rcases h with h | ⟨_, h⟩
    · have := ih h; unfold regB at this; rw [this]; simp
    · unfold regB at h; rw [h]; simp

theorem regB_cons (a : Addr) (q : Nat) (ev : Ev) (r : List Ev) : regB a q (ev :: r) = (isReg a q ev || regB a q r) := by
  unfold regB; rw [List.any_cons]

/-- an event that is not a cancel / run / restart of (a, q): the marks and counters do not see it -/
def Silent' (a : Addr) (q : Nat) (ev : Ev) : Prop :=
  isCancel a q ev = false ∧ isRunOf q ev = false ∧ isRestartOf q ev = false

/-- ... nor a registration: the event says nothing about the timer (a, q) -/
def Silent (a : Addr) (q : Nat) (ev : Ev) : Prop := isReg a q ev = false ∧ Silent' a q ev

theorem isCancelFound_of (a : Addr) (q : Nat) {ev : Ev} (h : isCancel a q ev = false) : isCancelFound a q ev = false := by
  cases ev with
  | cancel a' q' ib f => exact (congrArg (· && f) h).trans (Bool.false_and f)
  | _ => rfl
theorem isCancelIdle_of (a : Addr) (q : Nat) {ev : Ev} (h : isCancel a q ev = false) : isCancelIdle a q ev = false := by
  cases ev with
  | cancel a' q' ib f => exact (congrArg (· && !ib) h).trans (Bool.false_and _)
  | _ => rfl

theorem marks_cons (h : isCancel a q ev = false) (t : List Ev) :
    markAll true a q (ev :: t) = markAll true a q t ∧ markOut true a q (ev :: t) = markOut true a q t :=
  ⟨by simp [markAll, h], by simp [markOut, isCancelFound_of a q h, isCancelIdle_of a q h]⟩

/-- the trace functions of (a, q) agree on two traces -/
structure TrSame (a : Addr) (q : Nat) (t t' : List Ev) : Prop where
  mall : markAll true a q t' = markAll true a q t
  mout : markOut true a q t' = markOut true a q t
  a_run : after (markAll true a q) (isRunOf q) t' = after (markAll true a q) (isRunOf q) t
  a_rst : after (markAll true a q) (isRestartOf q) t' = after (markAll true a q) (isRestartOf q) t
  o_run : after (markOut true a q) (isRunOf q) t' = after (markOut true a q) (isRunOf q) t
  o_rst : after (markOut true a q) (isRestartOf q) t' = after (markOut true a q) (isRestartOf q) t

theorem TrSame.refl (a : Addr) (q : Nat) (t : List Ev) : TrSame a q t t := ⟨rfl, rfl, rfl, rfl, rfl, rfl⟩

theorem Silent.weak (h : Silent a q ev) : Silent' a q ev := h.2

theorem regB_silent (h : Silent a q ev) (t : List Ev) : regB a q (ev :: t) = regB a q t := by
  rw [regB_cons, h.1]; rfl

theorem TrSame.silent {a : Addr} {q : Nat} {ev : Ev} (h : Silent' a q ev) (t : List Ev) : TrSame a q t (ev :: t) := by
  obtain ⟨h2, h3, h4⟩ := h
  refine ⟨(marks_cons h2 t).1, (marks_cons h2 t).2,
    after_cons_skip (markAll_mono _ _ _) t h3, after_cons_skip (markAll_mono _ _ _) t h4,
    after_cons_skip (markOut_mono _ _ _) t h3, after_cons_skip (markOut_mono _ _ _) t h4⟩

theorem TrSame.unmarked (hma : markAll true a q t = false)
    (hmo : markOut true a q t = false) (hc : isCancel a q ev = false) : TrSame a q t (ev :: t) :=
  ⟨(marks_cons hc t).1, (marks_cons hc t).2, after_cons_unmarked (markAll_mono _ _ _) _ hma,
    after_cons_unmarked (markAll_mono _ _ _) _ hma, after_cons_unmarked (markOut_mono _ _ _) _ hmo,
    after_cons_unmarked (markOut_mono _ _ _) _ hmo⟩

theorem silent_arm (a : Addr) (q : Nat) (ns : Int) (now : Time) : Silent a q (.arm ns now) := ⟨rfl, rfl, rfl, rfl⟩
theorem silent_added (a : Addr) (q : Nat) (n : Nat) (x : Addr) (y : Nat) : Silent a q (.added n x y) := ⟨rfl, rfl, rfl, rfl⟩
theorem silent_processed (a : Addr) (q : Nat) (k : Nat) : Silent a q (.processed k) := ⟨rfl, rfl, rfl, rfl⟩

theorem mark_append (hm : Mono m) (post : List Ev) (h : m r = true) :
    m (post ++ r) = true := by
  induction post with
  | nil => exact h
  | cons ev p ih => exact hm ev _ ih

theorem countP_le_after (hm : Mono m) (p : Ev → Bool) (post : List Ev)
    (h : m r = true) : post.countP p ≤ after m p (post ++ r) := by
  induction post with
  | nil => simp
  | cons ev po ih =>
    rw [List.cons_append, after_cons_of_mark p (mark_append hm po h), List.countP_cons]
    split <;> omega

/-! ### A further fact about `TrSame`; no proof uses it -/

theorem TrSame.trans {a : Addr} {q : Nat} {t t' t'' : List Ev} (h : TrSame a q t t') (h' : TrSame a q t' t'') :
    TrSame a q t t'' :=
  ⟨h'.mall.trans h.mall, h'.mout.trans h.mout, h'.a_run.trans h.a_run, h'.a_rst.trans h.a_rst,
   h'.o_run.trans h.o_run, h'.o_rst.trans h.o_rst⟩

end MuduoVerif.Timer
