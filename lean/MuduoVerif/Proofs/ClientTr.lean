import MuduoVerif.Proofs.ClientInv
/-! How each event of the model moves the specification automaton (`scan`) and keeps it
related (`Rel`) to the model's state. -/
namespace MuduoVerif.Client
open MuduoVerif.Gen.Client

theorem Mid.tr {c : C} {r : List Task} {ph : Bool} (h : Mid c r ph) :
    Tr c.trace c.nsock c.sockSt c.conns c.ups c.nretry c.stopReq c.clientAlive := h.t1

theorem phaseAt_congr {ss ss' : List SockSt} {cs cs' : List ConnRec} {j : Nat}
    (h1 : ss'[j]? = ss[j]?) (h2 : findIn cs' j = findIn cs j) : phaseAt ss' cs' j = phaseAt ss cs j := by
  unfold phaseAt; rw [h1, h2]

theorem phaseAt_opened {ss : List SockSt} {cs : List ConnRec} {k : Nat} (h : ss[k]? = some .opened) :
    phaseAt ss cs k = some .opened := by unfold phaseAt; rw [h]

theorem phaseAt_closed {ss : List SockSt} {cs : List ConnRec} {k : Nat} (h : ss[k]? = some .closed) :
    phaseAt ss cs k = some .closed := by unfold phaseAt; rw [h]

theorem Rel.lt {s : Spec} {n ss cs u nr sp al} (h : Rel s n ss cs u nr sp al) {k : Nat} {p : Phase}
    (hk : phaseAt ss cs k = some p) : k < s.phases.length := by
  have := h.ph k
  rw [hk] at this
  exact (List.getElem?_eq_some_iff.mp this).1

theorem Rel.change {s : Spec} {n ss cs u nr sp al} (h : Rel s n ss cs u nr sp al) {ss' cs'} (k : Nat) (p : Phase)
    (hlt : k < s.phases.length)
    (hk : phaseAt ss' cs' k = some p) (ho : ∀ j, j ≠ k → phaseAt ss' cs' j = phaseAt ss cs j) :
    Rel { s with phases := s.phases.set k p } n ss' cs' u nr sp al := by
  refine ⟨by simpa using h.len, ?_, h.ups, h.nretry, h.stopped, h.gone⟩
  intro j
  by_cases hj : j = k
  · subst hj; simp [hlt, hk]
  · rw [ho j hj, ← h.ph j]
    simp [Ne.symm hj]

theorem Rel.same {s : Spec} {n ss cs u nr sp al} (h : Rel s n ss cs u nr sp al) {ss' cs'}
    (ho : ∀ j, phaseAt ss' cs' j = phaseAt ss cs j) : Rel s n ss' cs' u nr sp al :=
  ⟨h.len, fun j => by rw [ho j, h.ph j], h.ups, h.nretry, h.stopped, h.gone⟩

theorem Tr.same {tr n ss cs u nr sp al} (h : Tr tr n ss cs u nr sp al) {ss' cs'}
    (ho : ∀ j, phaseAt ss' cs' j = phaseAt ss cs j) : Tr tr n ss' cs' u nr sp al := by
  obtain ⟨s, hs, hr⟩ := h
  exact ⟨s, hs, hr.same ho⟩

theorem set_self {ss : List SockSt} {k : Nat} {v w : SockSt} (h : ss[k]? = some w) : (ss.set k v)[k]? = some v := by
  have := (List.getElem?_eq_some_iff.mp h).1
  simp [this]

theorem phaseAt_conn {ss : List SockSt} {cs : List ConnRec} {k : Nat} {x : ConnRec} (hk : ss[k]? = some .handedOver)
    (hx : findIn cs k = some x) :
    phaseAt ss cs k = some (if x.destroyed then .connClosed else if x.st = .disconnected then .down else .up) := by
  unfold phaseAt; rw [hk]; simp only; rw [hx]

theorem phaseAt_handed {ss : List SockSt} {cs : List ConnRec} {k : Nat} (hk : ss[k]? = some .handedOver)
    (hn : findIn cs k = none) : phaseAt ss cs k = some .handed := by
  unfold phaseAt; rw [hk]; simp only; rw [hn]

theorem Tr.step {tr n ss cs u nr sp al} (h : Tr tr n ss cs u nr sp al) {e : Ev} {n' ss' cs' u' nr' sp' al'}
    (hs : ∀ s, Rel s n ss cs u nr sp al → ∃ s', specStep s e = some s' ∧ Rel s' n' ss' cs' u' nr' sp' al') :
    Tr (tr ++ [e]) n' ss' cs' u' nr' sp' al' := by
  obtain ⟨s, hsc, hr⟩ := h
  obtain ⟨s', he, hr'⟩ := hs s hr
  exact ⟨s', by rw [scan_snoc, hsc]; exact he, hr'⟩

theorem Tr.move {tr n ss cs u nr sp al} (h : Tr tr n ss cs u nr sp al) {e : Ev} {k : Nat} {frm to : Phase} {ss' cs'}
    (he : ∀ s, specStep s e = s.move k frm to) (hfrm : phaseAt ss cs k = some frm) (hto : phaseAt ss' cs' k = some to)
    (ho : ∀ j, j ≠ k → phaseAt ss' cs' j = phaseAt ss cs j) : Tr (tr ++ [e]) n ss' cs' u nr sp al :=
  h.step fun s hr => ⟨_, by rw [he, Spec.move, if_pos (by rw [hr.ph k, hfrm])], hr.change k to (hr.lt hfrm) hto ho⟩

theorem Tr.stay {tr n ss cs u nr sp al} (h : Tr tr n ss cs u nr sp al) {e : Ev} {g : Spec → Prop} [DecidablePred g]
    (he : ∀ s, specStep s e = if g s then some s else none) (hg : ∀ s, Rel s n ss cs u nr sp al → g s) :
    Tr (tr ++ [e]) n ss cs u nr sp al :=
  h.step fun s hr => ⟨s, by rw [he, if_pos (hg s hr)], hr⟩

theorem Tr.closeSock {tr n ss cs u nr sp al} (h : Tr tr n ss cs u nr sp al) {k : Nat} (hk : ss[k]? = some .opened) :
    Tr (tr ++ [.sockClosed k]) n (ss.set k .closed) cs u nr sp al :=
  h.move (fun _ => rfl) (phaseAt_opened hk) (phaseAt_closed (set_self hk))
    fun j hj => phaseAt_congr (List.getElem?_set_ne hj.symm) rfl

theorem Tr.create {tr n ss cs u nr sp al} (h : Tr tr n ss cs u nr sp al) (hl : ss.length = n) :
    Tr (tr ++ [.sockCreated n]) (n + 1) (ss ++ [.opened]) cs u nr sp al := by
  refine h.step fun s hr => ⟨{ s with phases := s.phases ++ [.opened] }, by simp [specStep, hr.len], ?_⟩
  refine ⟨by simp [hr.len], ?_, hr.ups, hr.nretry, hr.stopped, hr.gone⟩
  intro j
  show (s.phases ++ [Phase.opened])[j]? = phaseAt (ss ++ [.opened]) cs j
  have hlen := hr.len
  rcases Nat.lt_trichotomy j n with hj | hj | hj
  · have e1 : (s.phases ++ [Phase.opened])[j]? = s.phases[j]? := List.getElem?_append_left (by omega)
    have e2 : (ss ++ [SockSt.opened])[j]? = ss[j]? := List.getElem?_append_left (by omega)
    rw [e1, hr.ph j]; exact (phaseAt_congr e2 rfl).symm
  · subst hj
    have e2 : (ss ++ [SockSt.opened])[j]? = some .opened := by rw [← hl]; simp
    rw [phaseAt_opened e2, ← hlen]; simp
  · have e1 : (s.phases ++ [Phase.opened])[j]? = none := by
      apply List.getElem?_eq_none; simp; omega
    have e2 : (ss ++ [SockSt.opened])[j]? = none := by
      apply List.getElem?_eq_none; simp; omega
    rw [e1]; unfold phaseAt; rw [e2]

theorem Tr.attempt {tr n ss cs u nr sp al} (h : Tr tr n ss cs u nr sp al) {k t : Nat} (hk : ss[k]? = some .opened)
    (hn : k + 1 = n) (hsp : sp = false) (hal : al = true) : Tr (tr ++ [.attempt k t]) n ss cs u nr sp al :=
  h.stay (fun _ => rfl) fun s hr =>
    ⟨by rw [hr.ph k, phaseAt_opened hk], by rw [hr.len, hn], by rw [hr.stopped, hsp], by rw [hr.gone, hal]; rfl⟩

theorem Tr.retrySched {tr n ss cs u nr sp al} (h : Tr tr n ss cs u nr sp al) {t : Nat}
    (hsp : sp = false) (hal : al = true) :
    Tr (tr ++ [.retryScheduled nr (specDelay nr) t]) n ss cs u (nr + 1) sp al :=
  h.step fun s hr => ⟨{ s with nretry := s.nretry + 1 }, by simp [specStep, hr.nretry, hr.stopped, hr.gone, hsp, hal],
    hr.len, hr.ph, hr.ups, by simp [hr.nretry], hr.stopped, hr.gone⟩

theorem Tr.cycle {tr n ss cs u nr sp al} (h : Tr tr n ss cs u nr sp al) :
    Tr (tr ++ [.ghost .cycle]) n ss cs 0 0 sp al :=
  h.step fun s hr => ⟨{ s with ups := 0, nretry := 0 }, rfl, hr.len, hr.ph, rfl, rfl, hr.stopped, hr.gone⟩

theorem Tr.gConnect {tr n ss cs u nr sp al} (h : Tr tr n ss cs u nr sp al) (hal : al = true) :
    Tr (tr ++ [.ghost .connect]) n ss cs u nr false al :=
  h.step fun s hr => ⟨{ s with stopped := false }, by simp [specStep, hr.gone, hal], hr.len, hr.ph, hr.ups, hr.nretry, rfl, hr.gone⟩

theorem Tr.gStop {tr n ss cs u nr sp al} (h : Tr tr n ss cs u nr sp al) (hal : al = true) :
    Tr (tr ++ [.ghost .stop]) n ss cs u nr true al :=
  h.step fun s hr => ⟨{ s with stopped := true }, by simp [specStep, hr.gone, hal], hr.len, hr.ph, hr.ups, hr.nretry, rfl, hr.gone⟩

theorem Tr.gDestroy {tr n ss cs u nr sp al} (h : Tr tr n ss cs u nr sp al) (hal : al = true) :
    Tr (tr ++ [.ghost .destroy]) n ss cs u nr sp false :=
  h.step fun s hr => ⟨{ s with gone := true }, by simp [specStep, hr.gone, hal], hr.len, hr.ph, hr.ups, hr.nretry, hr.stopped, rfl⟩

/-- `newConnection`: the descriptor goes to a fresh `TcpConnection`, UP is reported -/
theorem Tr.handUp {tr n ss cs nr sp al} (h : Tr tr n ss cs 0 nr sp al) {k : Nat} (hk : ss[k]? = some .opened)
    (hnone : findIn cs k = none) (hsp : sp = false) (hal : al = true) :
    Tr (tr ++ [.handedOver k, .up k]) n (ss.set k .handedOver) (cs ++ [{ sock := k }]) 1 nr sp al := by
  -- first the hand-over alone (a socket taken by no connection yet), then UP with the connection's record
  have hk' := set_self (v := .handedOver) hk
  have hh := phaseAt_handed hk' hnone
  have h1 : Tr (tr ++ [.handedOver k]) n (ss.set k .handedOver) cs 0 nr sp al :=
    h.move (fun _ => rfl) (phaseAt_opened hk) hh fun j hj => phaseAt_congr (List.getElem?_set_ne hj.symm) rfl
  have h2 := h1.step (e := .up k) (n' := n) (ss' := ss.set k .handedOver) (cs' := cs ++ [{ sock := k }]) (u' := 1) (nr' := nr)
    (sp' := sp) (al' := al) fun s hr => by
      have hp : s.phases[k]? = some .handed := (hr.ph k).trans hh
      have hr' := hr.change (cs' := cs ++ [{ sock := k }]) k .up (hr.lt hh)
        (by rw [phaseAt_conn (x := { sock := k }) hk' (by rw [findIn_append_new _ rfl, hnone]; simp)]; simp)
        (fun j hj => phaseAt_congr rfl (by rw [findIn_append_new _ rfl]; simp [hj]))
      exact ⟨{ s with phases := s.phases.set k .up, ups := 1 },
        by simp [specStep, Spec.move, hp, hr.stopped, hr.gone, hr.ups, hsp, hal], hr'.len, hr'.ph, rfl, hr'.nretry, hr'.stopped, hr'.gone⟩
  simpa using h2

theorem Tr.down {tr n ss cs u nr sp al} (h : Tr tr n ss cs u nr sp al) {k : Nat} {x x' : ConnRec} {cs' : List ConnRec}
    (hk : ss[k]? = some .handedOver) (hx : findIn cs k = some x) (hd : x.destroyed = false) (hst : x.st ≠ .disconnected)
    (hx' : findIn cs' k = some x') (hd' : x'.destroyed = false) (hst' : x'.st = .disconnected)
    (ho : ∀ j, j ≠ k → findIn cs' j = findIn cs j) :
    Tr (tr ++ [.down k]) n ss cs' u nr sp al :=
  h.move (fun _ => rfl) (by rw [phaseAt_conn hk hx]; simp [hd, hst]) (by rw [phaseAt_conn hk hx']; simp [hd', hst'])
    fun j hj => phaseAt_congr rfl (ho j hj)

theorem Rel.live {s : Spec} {n ss cs u nr sp al} (hr : Rel s n ss cs u nr sp al) {k : Nat} {x : ConnRec}
    (hk : ss[k]? = some .handedOver) (hx : findIn cs k = some x) (hd : x.destroyed = false) :
    s.phases[k]? = some .up ∨ s.phases[k]? = some .down := by
  rw [hr.ph k, phaseAt_conn hk hx]; simp [hd]
  by_cases h : x.st = .disconnected <;> simp [h]

theorem Tr.shutdownWr {tr n ss cs u nr sp al} (h : Tr tr n ss cs u nr sp al) {k : Nat} {x : ConnRec}
    (hk : ss[k]? = some .handedOver) (hx : findIn cs k = some x) (hd : x.destroyed = false) :
    Tr (tr ++ [.shutdownWr k]) n ss cs u nr sp al :=
  h.stay (fun _ => rfl) fun _ hr => hr.live hk hx hd

theorem Tr.query {tr n ss cs u nr sp al} (h : Tr tr n ss cs u nr sp al) {k : Nat} {x : ConnRec}
    (hk : ss[k]? = some .handedOver) (hx : findIn cs k = some x) (hd : x.destroyed = false) :
    Tr (tr ++ [.query k (some k)]) n ss cs u nr sp al :=
  h.stay (fun _ => rfl) fun _ hr => ⟨rfl, hr.live hk hx hd⟩

theorem Tr.connClosed {tr n ss cs u nr sp al} (h : Tr tr n ss cs u nr sp al) {k : Nat} {x x' : ConnRec} {cs' : List ConnRec}
    (hk : ss[k]? = some .handedOver) (hx : findIn cs k = some x) (hd : x.destroyed = false) (hst : x.st = .disconnected)
    (hx' : findIn cs' k = some x') (hd' : x'.destroyed = true)
    (ho : ∀ j, j ≠ k → findIn cs' j = findIn cs j) :
    Tr (tr ++ [.connClosed k]) n ss cs' u nr sp al :=
  h.move (fun _ => rfl) (by rw [phaseAt_conn hk hx]; simp [hd, hst]) (by rw [phaseAt_conn hk hx']; simp [hd'])
    fun j hj => phaseAt_congr rfl (ho j hj)

theorem phaseAt_congr' {ss : List SockSt} {cs cs' : List ConnRec} {j : Nat}
    (h2 : (findIn cs' j).map (fun r => (r.destroyed, decide (r.st = .disconnected))) =
          (findIn cs j).map (fun r => (r.destroyed, decide (r.st = .disconnected)))) :
    phaseAt ss cs' j = phaseAt ss cs j := by
  unfold phaseAt
  cases h : ss[j]? with
  | none => rfl
  | some v =>
    cases v with
    | opened => rfl
    | closed => rfl
    | handedOver =>
      simp only
      cases ha : findIn cs' j with
      | none =>
        cases hb : findIn cs j with
        | none => rfl
        | some b => rw [ha, hb] at h2; simp at h2
      | some a =>
        cases hb : findIn cs j with
        | none => rw [ha, hb] at h2; simp at h2
        | some b =>
          rw [ha, hb] at h2; simp at h2
          obtain ⟨h3, h4⟩ := h2
          simp only [h3]
          by_cases hd : b.st = .disconnected
          · simp [hd, h4.mpr hd]
          · simp [hd, mt h4.mp hd]

theorem Tr.mapg_same {tr n ss cs u nr sp al} (h : Tr tr n ss cs u nr sp al) (g : ConnRec → ConnRec)
    (hg : ∀ r, (g r).sock = r.sock ∧ (g r).destroyed = r.destroyed ∧ (g r).st = r.st) :
    Tr tr n ss (cs.map g) u nr sp al := by
  apply h.same
  intro j
  apply phaseAt_congr'
  rw [findIn_mapg j g (fun r => (hg r).1)]
  cases hj : findIn cs j with
  | none => rfl
  | some y => simp [(hg y).2.1, (hg y).2.2]

end MuduoVerif.Client
