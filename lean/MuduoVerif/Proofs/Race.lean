import MuduoVerif.Model.Race
/-! Lemmas of the race model: happens-before basics, the lock lemma, soundness of the
discipline, the model of the owner-thread assertion, and the step from a table row that passes `selfOk`
to the trace-level discipline of its event (`Policy.disc`, `kindMatches`, `selfOk_discOk`); and strings as numerals
(`key`, `beq_key`), through which `Props/C08.lean` evaluates the table checks. -/
namespace MuduoVerif.Race

theorem HB.bounds {tr : Trace} {i j : Nat} (h : HB tr i j) : i < j ∧ j < tr.length := by
  induction h with
  | trans _ _ ih₁ ih₂ => exact ⟨Nat.lt_trans ih₁.1 ih₂.1, ih₂.2⟩
  | _ h _ hj => exact ⟨h, (List.getElem_of_getElem? hj).1⟩

theorem HB.lt {tr : Trace} {i j : Nat} (h : HB tr i j) : i < j := (HB.bounds h).1

theorem HB.inBounds {tr : Trace} {i j : Nat} (h : HB tr i j) : j < tr.length := (HB.bounds h).2

/-- the heart of the lockset argument: if thread `t` holds `m` at its event `i` and thread `u ≠ t`
holds `m` at the later position `j`, then `t` released `m` at `i` or after it and `u` acquired it after that
release: `i` happens-before `j`. -/
theorem lock_orders {tr : Trace} (wf : WellFormed tr) {i j : Nat} {t u : Tid} {m : Mtx} {e e' : Ev}
    (hij : i < j) (hi : tr[i]? = some ⟨t, e⟩) (hj : tr[j]? = some ⟨u, e'⟩) (hne : t ≠ u)
    (ht : Holds tr t m i) (hu : Holds tr u m j) : HB tr i j := by
  obtain ⟨a, hai, haq, hanr⟩ := ht
  obtain ⟨b, hbj, hbq, hbnr⟩ := hu
  have hab : a ≠ b := fun h => hne (by cases h; cases haq.symm.trans hbq; rfl)
  rcases Nat.lt_or_gt_of_ne hab with hlt | hgt
  · -- `t` acquired first: at `b` nobody holds `m`, so `t` released in between, necessarily not before `i`
    obtain ⟨r, hrb, har, hr⟩ : ∃ r, r < b ∧ a < r ∧ tr[r]? = some ⟨t, .rel m⟩ :=
      Classical.byContradiction fun hno =>
        wf b u m hbq t ⟨a, hlt, haq, fun k hkb hak hk => hno ⟨k, hkb, hak, hk⟩⟩
    have hrj : HB tr r j := .trans (.sw hrb hr hbq) (.po hbj hbq hj)
    rcases Nat.lt_trichotomy r i with h | h | h
    · exact absurd hr (hanr r h har)
    · exact h ▸ hrj
    · exact .trans (.po h hi hr) hrj
  · -- `u` acquired first and still holds `m` at `a`, where `t` acquires it: excluded
    exact (wf a t m haq u ⟨b, hgt, hbq, fun k hka hbk => hbnr k (by omega) hbk⟩).elim

theorem respects_raceFree {tr : Trace} {pol : Loc → Disc} (wf : WellFormed tr)
    (hr : Respects tr pol) : RaceFree tr := by
  intro i j t u e e' x hi hj hne hc
  rcases hr i t e x hi with hinit | hok
  · exact Or.inl (hinit j u e' hj (Ne.symm hne))
  rcases hr j u e' x hj with hinit | hok'
  · exact Or.inr (hinit i t e hi hne)
  -- both accesses obey the discipline of `x`
  generalize pol x = d at hok hok'
  cases d with
  | immutable =>
    rcases hc.1 with h | h
    · cases hok.symm.trans h
    · cases hok'.symm.trans h
  | atomic => exact absurd ⟨hok, hok'⟩ hc.2
  | guarded m =>
    have hijne : i ≠ j := fun h => hne (by cases h; cases hi.1.symm.trans hj.1; rfl)
    rcases Nat.lt_or_gt_of_ne hijne with hlt | hgt
    · exact Or.inl (lock_orders wf hlt hi.1 hj.1 hne hok hok')
    · exact Or.inr (lock_orders wf hgt hj.1 hi.1 (Ne.symm hne) hok' hok)
  | confined o => exact absurd (hok.trans hok'.symm) hne
  | unused => exact hok.elim

theorem runOp_access_prefix (o t : Tid) (pre : List Ev) (rest : List Act) :
    runOp o t (pre.map Act.access ++ rest) = pre.map (fun e => ⟨t, e⟩) ++ runOp o t rest := by
  induction pre with
  | nil => rfl
  | cons e pre ih => simp [runOp, ih]

theorem runOp_foreign (o t : Tid) (pre : List Ev) (body : List Act) (h : t ≠ o) :
    runOp o t (pre.map Act.access ++ Act.assertOwner :: body)
      = pre.map (fun e => ⟨t, e⟩) ++ [⟨t, .abort⟩] := by
  rw [runOp_access_prefix]
  simp [runOp, h]

theorem runOp_owner (o : Tid) (pre : List Ev) (body : List Act) :
    runOp o o (pre.map Act.access ++ Act.assertOwner :: body)
      = pre.map (fun e => ⟨o, e⟩) ++ runOp o o body := by
  rw [runOp_access_prefix]
  simp [runOp]

/-- the trace-level discipline that a table-level policy stands for, given the instance data of
one object: which mutex id its member `m` is, and which thread owns its loop / the object -/
def Policy.disc (mtx : String → Mtx) (owner : Tid) : Policy → Disc
  | .immutable => .immutable
  | .atomic => .atomic
  | .guarded m => .guarded (mtx m)
  | .confined => .confined owner
  | .owner => .confined owner
  | .sync => .unused
  | .ctorOnly => .unused

/-- the event a row of kind `k` stands for -/
def kindMatches : AKind → Ev → Prop
  | .rd, e => ∃ x, e = .rd x
  | .call, e => ∃ x, e = .rd x          -- the pointer is read; the callee is another function's business
  | .wr, e => ∃ x, e = .wr x ∨ e = .rd x -- "may write" (conservative classification)
  | .ard, e => ∃ x, e = .ard x
  | .awr, e => ∃ x, e = .awr x ∨ e = .ard x

/-- `hlocks` … `har` say that the row's context is truthful for the event (in muduo's terms at
`C08.row_event_discipline`).  Rows on synchronisation members are left out (`hsync`): they are not accesses in
the trace model, their operations are the `acq/rel/fork/join` events. -/
theorem selfOk_discOk {tr : Trace} {i : Nat} {t : Tid} {e : Ev} {p : Policy} {k : AKind}
    {locks : List String} {cctx own ar : Bool} (mtx : String → Mtx) (owner : Tid)
    (hk : kindMatches k e) (hsync : p ≠ .sync)
    (hlocks : ∀ m, locks.contains m = true → Holds tr t (mtx m) i)
    (hctx : cctx = true → t = owner) (hown : own = true → t = owner) (har : ar = true → t = owner)
    (hok : selfOk p k locks cctx own ar = true) : DiscOk tr (p.disc mtx owner) i t e := by
  cases p with
  | immutable =>
    simp only [selfOk, Bool.or_eq_true, beq_iff_eq] at hok
    simp only [Policy.disc, DiscOk]
    rcases hok with h | h <;> subst h <;> obtain ⟨x, rfl⟩ := hk <;> rfl
  | atomic =>
    simp only [selfOk, Bool.or_eq_true, beq_iff_eq] at hok
    simp only [Policy.disc, DiscOk]
    rcases hok with h | h <;> subst h
    · obtain ⟨x, rfl⟩ := hk; rfl
    · obtain ⟨x, rfl | rfl⟩ := hk <;> rfl
  | guarded m =>
    simp only [selfOk] at hok
    exact hlocks m hok
  | confined =>
    simp only [selfOk, Bool.or_eq_true] at hok
    simp only [Policy.disc, DiscOk]
    rcases hok with h | h
    · exact hctx h
    · exact har h
  | owner =>
    simp only [selfOk] at hok
    exact hown hok
  | sync => exact absurd rfl hsync
  | ctorOnly => simp [selfOk] at hok

def keyL : List UInt8 → Nat
  | [] => 0
  | b :: l => keyL l * 257 + (b.toNat + 1)

theorem keyL_inj : ∀ {l m : List UInt8}, keyL l = keyL m → l = m
  | [], [], _ => rfl
  | [], _ :: _, h => by simp only [keyL] at h; omega
  | _ :: _, [], h => by simp only [keyL] at h; omega
  | a :: l, b :: m, h => by
    simp only [keyL] at h
    have ha := a.toNat_lt
    have hb := b.toNat_lt
    have h1 : l = m := keyL_inj (by omega)
    have h2 : a = b := UInt8.toNat_inj.mp (by omega)
    rw [h1, h2]

/-- the UTF-8 bytes of a string read as one numeral: digits 1..256 in base 257, hence injective -/
def key (s : String) : Nat := keyL s.toByteArray.data.toList

theorem key_inj {a b : String} (h : key a = key b) : a = b :=
  String.toByteArray_inj.mp (ByteArray.ext (Array.ext' (keyL_inj h)))

theorem beq_key (a b : String) : (a == b) = (key a == key b) := by
  by_cases h : a = b
  · subst h; rw [beq_self_eq_true, beq_self_eq_true]
  · rw [beq_eq_false_iff_ne.mpr h, beq_eq_false_iff_ne.mpr (fun hk => h (key_inj hk))]

theorem lookup_find (k : String) (l : List (String × Policy)) :
    lookup k l = (l.find? (fun e => e.1 == k)).map (·.2) := by
  induction l with
  | nil => rfl
  | cons e l ih =>
    obtain ⟨a, p⟩ := e
    rw [lookup, List.find?_cons]
    cases h : a == k
    · simpa using ih
    · simp

end MuduoVerif.Race
