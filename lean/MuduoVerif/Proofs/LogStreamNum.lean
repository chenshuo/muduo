import MuduoVerif.Proofs.LogStream
import Mathlib.Tactic.Ring
/-! Exact arithmetic of `formatSI` / `formatIEC` (C17): round-to-nearest-even, int64→double, the correctly rounded quotient, `%.kf`; width certificates checked by `decide`. -/
namespace MuduoVerif.LogStream
open MuduoVerif.Gen.LogStream

theorem rne_near (a b : Nat) (hb : 0 < b) : 2 * rne a b * b ≤ 2 * a + b ∧ 2 * a ≤ 2 * rne a b * b + b := by
  have hdm := Nat.div_add_mod a b
  have hml := Nat.mod_lt a hb
  have e : ∀ q, 2 * q * b = 2 * (b * q) := fun q => by ring
  unfold rne; simp only
  split_ifs <;> simp only [e, Nat.mul_add b] <;> omega

theorem rne_le_of_lt_half (a b z : Nat) (h : 2 * a < (2 * z + 1) * b) : rne a b ≤ z := by
  have hb : 0 < b := Nat.pos_of_ne_zero (by rintro rfl; simp at h)
  have h1 : 2 * rne a b * b < (2 * z + 1 + 1) * b := by
    have := (rne_near a b hb).1; rw [Nat.add_mul _ 1 b]; omega
  have := Nat.lt_of_mul_lt_mul_right h1; omega

theorem rne_le (a b z : Nat) (hb : 0 < b) (h : a ≤ z * b) : rne a b ≤ z :=
  rne_le_of_lt_half a b z (by rw [Nat.add_mul, Nat.mul_assoc]; omega)

theorem log2_lt_iff (n k : Nat) (hk : 0 < k) : n.log2 < k ↔ n < 2 ^ k := by
  rcases Nat.eq_zero_or_pos n with h | h
  · subst h; simp [Nat.log2_zero, hk]
  · exact Nat.log2_lt (by omega)

theorem log2_mono {a b : Nat} (h : a ≤ b) : a.log2 ≤ b.log2 := by
  rcases Nat.eq_zero_or_pos a with h0 | h0
  · subst h0; simp [Nat.log2_zero]
  · rcases Nat.lt_or_ge b.log2 a.log2 with h1 | h1
    · exfalso
      have hb : b ≠ 0 := by omega
      have := (Nat.log2_lt hb).1 h1
      have := Nat.log2_self_le (n := a) (by omega)
      omega
    · exact h1

theorem rne_one (s : Nat) : rne s 1 = s := by
  have := rne_near s 1 (by omega); omega

/-- one formula for both cases of `rnInt` -/
theorem rnInt_eq (s : Nat) : rnInt s = rne s (2 ^ (s.log2 - 52)) * 2 ^ (s.log2 - 52) := by
  unfold rnInt
  split
  · rename_i h
    have : s.log2 < 53 := (log2_lt_iff s 53 (by omega)).2 h
    have e : s.log2 - 52 = 0 := by omega
    rw [e]; simp [rne_one]
  · rfl

theorem rnInt_small (s : Nat) (h : s < 2 ^ 53) : rnInt s = s := by unfold rnInt; rw [if_pos h]

theorem rnInt_dvd (s : Nat) : 2 ^ (s.log2 - 52) ∣ rnInt s := by
  rw [rnInt_eq]; exact Nat.dvd_mul_left _ _

/-- a representable integer: a multiple of the unit in the last place of its binade -/
def Rep (A : Nat) : Prop := A % 2 ^ (A.log2 - 52) = 0
instance (A : Nat) : Decidable (Rep A) := by unfold Rep; infer_instance

theorem rnInt_le (s A : Nat) (h : s ≤ A) (hr : Rep A) : rnInt s ≤ A := by
  have hu : s.log2 - 52 ≤ A.log2 - 52 := by have := log2_mono h; omega
  have hd : 2 ^ (s.log2 - 52) ∣ A := Nat.dvd_trans (Nat.pow_dvd_pow 2 hu) (Nat.dvd_of_mod_eq_zero hr)
  obtain ⟨z, hz⟩ := hd
  rw [rnInt_eq]
  have := rne_le s (2 ^ (s.log2 - 52)) z (Nat.two_pow_pos _) (by rw [Nat.mul_comm]; omega)
  calc rne s (2 ^ (s.log2 - 52)) * 2 ^ (s.log2 - 52) ≤ z * 2 ^ (s.log2 - 52) := Nat.mul_le_mul_right _ this
    _ = A := by rw [hz, Nat.mul_comm]

theorem rep_two_pow (k : Nat) : Rep (2 ^ k) := by
  unfold Rep
  rw [Nat.log2_two_pow]
  exact Nat.mod_eq_zero_of_dvd (Nat.pow_dvd_pow 2 (by omega))

theorem rnInt_le_pow (s : Nat) : rnInt s ≤ 2 ^ (s.log2 + 1) :=
  rnInt_le s _ (Nat.le_of_lt Nat.lt_log2_self) (rep_two_pow _)

/-- a converted value below a representable `T` is at most the double before `T` -/
theorem rnInt_lt_rep (s T t : Nat) (hd : 2 ^ t ∣ T) (hbig : 2 ^ (52 + t) + 2 ^ t ≤ T) (h : rnInt s < T) :
    rnInt s + 2 ^ t ≤ T := by
  rcases Nat.lt_or_ge (s.log2 - 52) t with hu | hu
  · have h1 := rnInt_le_pow s
    have : 2 ^ (s.log2 + 1) ≤ 2 ^ (52 + t) := Nat.pow_le_pow_right (by omega) (by omega)
    omega
  · have hd2 : 2 ^ t ∣ rnInt s := Nat.dvd_trans (Nat.pow_dvd_pow 2 hu) (rnInt_dvd s)
    obtain ⟨x, hx⟩ := hd2
    obtain ⟨y, hy⟩ := hd
    rw [hx, hy] at h ⊢
    have : x < y := Nat.lt_of_mul_lt_mul_left h
    calc 2 ^ t * x + 2 ^ t = 2 ^ t * (x + 1) := by ring
      _ ≤ 2 ^ t * y := Nat.mul_le_mul_left _ this

/-- the largest double below a double `T` (for any other `T` just `T - 1`) -/
def below (T : Nat) : Nat :=
  if 2 ^ ((T - 1).log2 - 52) ∣ T ∧ 2 ^ (52 + ((T - 1).log2 - 52)) + 2 ^ ((T - 1).log2 - 52) ≤ T
  then T - 2 ^ ((T - 1).log2 - 52) else T - 1

theorem rnInt_le_below (s T : Nat) (h : rnInt s < T) : rnInt s ≤ below T := by
  unfold below
  split
  · rename_i hc
    have := rnInt_lt_rep s T _ hc.1 hc.2 h
    omega
  · omega

theorem rnInt_lt_small (s T : Nat) (hT : T ≤ 2 ^ 52) (h : rnInt s < T) : s < T := by
  rcases Nat.lt_or_ge s (2 ^ 53) with h1 | h1
  · rwa [rnInt_small s h1] at h
  · exfalso
    have hl : 53 ≤ s.log2 := by
      rcases Nat.lt_or_ge s.log2 53 with h2 | h2
      · have := (log2_lt_iff s 53 (by omega)).1 h2; omega
      · exact h2
    have h2 : 2 ^ s.log2 ≤ s := Nat.log2_self_le (by omega)
    have e : 2 ^ s.log2 = 2 ^ 52 * 2 ^ (s.log2 - 52) := by rw [← Nat.pow_add]; congr 1; omega
    have h3 : 2 ^ 53 * 2 ^ (s.log2 - 52) ≤ (2 * rne s (2 ^ (s.log2 - 52)) + 1) * 2 ^ (s.log2 - 52) := by
      have := (rne_near s _ (Nat.two_pow_pos (s.log2 - 52))).2; rw [Nat.add_mul]; omega
    have h4 := Nat.le_of_mul_le_mul_right h3 (Nat.two_pow_pos _)
    have h5 : 2 ^ 52 * 1 ≤ rne s (2 ^ (s.log2 - 52)) * 2 ^ (s.log2 - 52) :=
      Nat.mul_le_mul (by omega) (Nat.two_pow_pos _)
    rw [rnInt_eq] at h
    omega

/-- cross-multiplication: `a/c ≤ b/P` and `b/P < e/d` give `a/c < e/d` -/
theorem cross_lt {a b c d e P : Nat} (h1 : a * P ≤ b * c) (h2 : b * d < e * P) (hc : 0 < c) : a * d < e * c := by
  have h3 : a * d * P < e * c * P := by
    calc a * d * P = a * P * d := by ring
      _ ≤ b * c * d := Nat.mul_le_mul_right _ h1
      _ = b * d * c := by ring
      _ < e * P * c := Nat.mul_lt_mul_of_pos_right h2 hc
      _ = e * c * P := by ring
  exact Nat.lt_of_mul_lt_mul_right h3

-- 116 = 64 + 52: `rnDiv` scales `a * 2^64 / b` (binary exponent `j`) by `2^(116 - j)` so that the quotient has 53
-- significant bits; 117 = 116 + 1 bounds `j` strictly
theorem pow_split (p : Nat) (hp : p ≤ 116) : (2:Nat) ^ (117 - p) * 2 ^ p = 2 ^ 53 * 2 ^ 64 := by
  rw [← Nat.pow_add, ← Nat.pow_add]; congr 1; omega

theorem rnDiv_exp (a D m p : Nat) (hD : 0 < D) (hm : m < 2 ^ 53) (hp : p ≤ 116) (h : a * 2 ^ p ≤ m * D) :
    (a * 2 ^ 64 / D).log2 ≤ 116 - p := by
  have hlt : a * 2 ^ 64 / D < 2 ^ (117 - p) := by
    rw [Nat.div_lt_iff_lt_mul hD]
    exact cross_lt h (by rw [pow_split p hp]; exact Nat.mul_lt_mul_of_pos_right hm (Nat.two_pow_pos 64)) hD
  have := (log2_lt_iff _ (117 - p) (by omega)).2 hlt
  omega

theorem rne_scaled_le (a D m j p : Nat) (hD : 0 < D) (hjp : p ≤ 116 - j) (h : a * 2 ^ p ≤ m * D) :
    rne (a * 2 ^ (116 - j)) D * 2 ^ p ≤ m * 2 ^ (116 - j) := by
  have e : (2:Nat) ^ (116 - j) = 2 ^ (116 - j - p) * 2 ^ p := by rw [← Nat.pow_add]; congr 1; omega
  generalize (2:Nat) ^ (116 - j) = S at *
  generalize (2:Nat) ^ (116 - j - p) = R at *
  generalize (2:Nat) ^ p = P at *
  subst e
  have hz : rne (a * (R * P)) D ≤ m * R := by
    apply rne_le _ _ _ hD
    calc a * (R * P) = a * P * R := by ring
      _ ≤ m * D * R := Nat.mul_le_mul_right _ h
      _ = m * R * D := by ring
  calc rne (a * (R * P)) D * P ≤ m * R * P := Nat.mul_le_mul_right _ hz
    _ = m * (R * P) := by ring

theorem rnDiv_small (a b : Nat) (h : (a * 2 ^ 64 / b).log2 ≤ 116) :
    rnDiv a b = (rne (a * 2 ^ (116 - (a * 2 ^ 64 / b).log2)) b, 2 ^ (116 - (a * 2 ^ 64 / b).log2)) := by
  show (if (a * 2 ^ 64 / b).log2 ≤ 116 then _ else _) = _
  rw [if_pos h]

/-- the quotient does not cross a double `m / 2^p` (`m < 2^53`) -/
theorem rnDiv_le (a D m p : Nat) (hD : 0 < D) (hm : m < 2 ^ 53) (hp : p ≤ 116) (h : a * 2 ^ p ≤ m * D) :
    (rnDiv a D).1 * 2 ^ p ≤ m * (rnDiv a D).2 ∧ 0 < (rnDiv a D).2 := by
  have hj := rnDiv_exp a D m p hD hm hp h
  rw [rnDiv_small a D (Nat.le_trans hj (Nat.sub_le _ _))]
  exact ⟨rne_scaled_le a D m _ p hD (by omega) h, Nat.two_pow_pos _⟩

/-- `%.kf` of a value below `(L / 2) / 10^k` with `L = 2 z + 1` prints at most `z` (in units of the last digit) -/
theorem fixedR_le (k : Nat) (q : Nat × Nat) (m p z : Nat) (hq : q.1 * 2 ^ p ≤ m * q.2) (hq2 : 0 < q.2)
    (hm : 2 * m * 10 ^ k < (2 * z + 1) * 2 ^ p) : fixedR k q ≤ z := by
  unfold fixedR
  apply rne_le_of_lt_half
  have := cross_lt (d := 2 * 10 ^ k) hq (by rwa [← Nat.mul_assoc, Nat.mul_comm m 2]) hq2
  rwa [Nat.mul_left_comm] at this

theorem renderFixed_length (w k r d : Nat) (unit : Bytes) (hd : k + 1 ≤ d) (hr : r ≤ 10 ^ d - 1)
    (hw : d + (if k = 0 then 0 else 1) + unit.length ≤ w) : (renderFixed k r ++ unit).length ≤ w := by
  have hpos : 0 < 10 ^ d := Nat.pow_pos (by omega)
  have hl : (decimalNat r).length ≤ d := by
    obtain ⟨d', rfl⟩ : ∃ d', d = d' + 1 := ⟨d - 1, by omega⟩
    exact decimalNat_length_le d' r (by omega)
  unfold renderFixed
  simp only
  split
  · simp only [List.length_append, List.length_replicate]; omega
  · simp only [List.length_append, List.length_replicate, List.length_take, List.length_drop, List.length_singleton]
    rw [if_neg ‹_›] at hw; omega

/-- `siFormat` as a function of the converted value `n = (double) s` -/
def siFmtN (n k e : Nat) (unit : Bytes) : Bytes := renderFixed k (fixedR k (rnDiv n (10 ^ e))) ++ unit

theorem siFormat_eq (s k e : Nat) (unit : Bytes) : siFormat s k e unit = siFmtN (rnInt s) k e unit := rfl

/-- digits the number may have (in units of its last digit) so that the text has at most `w` characters -/
def digitsFor (w k : Nat) (unit : Bytes) : Nat := w - unit.length - (if k = 0 then 0 else 1)

/-- the largest double below `(10^d − 1/2) / 10^k` — the first value `%.kf` would print with more than `d` digits — as `m / 2^p` -/
def yBelow (d k : Nat) : Nat × Nat :=
  let L := 2 * 10 ^ d - 1
  let p := 52 - (L / (2 * 10 ^ k)).log2
  ((L * 2 ^ p - 1) / (2 * 10 ^ k), p)

/-- certificate: every converted value `n ≤ A` is printed by `"%.<k>f<unit>"` of `n / 10^e` in at most `w` characters,
because `A / 10^e` is not above a double that still prints `d` digits -/
def boundOK (w A k e : Nat) (unit : Bytes) : Bool :=
  let d := digitsFor w k unit
  let y := yBelow d k
  decide (k + 1 ≤ d ∧ y.1 < 2 ^ 53 ∧ y.2 ≤ 116 ∧ A * 2 ^ y.2 ≤ y.1 * 10 ^ e ∧
    2 * y.1 * 10 ^ k < (2 * (10 ^ d - 1) + 1) * 2 ^ y.2 ∧ d + (if k = 0 then 0 else 1) + unit.length ≤ w)

theorem boundOK_sound (w A k e : Nat) (unit : Bytes) (h : boundOK w A k e unit = true) (n : Nat) (hn : n ≤ A) :
    (siFmtN n k e unit).length ≤ w := by
  unfold boundOK at h
  simp only [decide_eq_true_eq] at h
  obtain ⟨h1, h2, h3, h4, h5, h6⟩ := h
  generalize digitsFor w k unit = d at *
  generalize yBelow d k = y at *
  have hq := rnDiv_le n (10 ^ e) y.1 y.2 (Nat.pow_pos (by omega)) h2 h3
    (Nat.le_trans (Nat.mul_le_mul_right _ hn) h4)
  have hr := fixedR_le k (rnDiv n (10 ^ e)) y.1 y.2 (10 ^ d - 1) hq.1 hq.2 h5
  exact renderFixed_length w k _ d unit h1 hr h6

/-- certificate for all converted values up to the double `A`: `A` itself is evaluated (`A / 10^e` may be exactly a rounding
boundary of `%.kf`), the doubles below `A` are covered as above -/
def rowOK (w A k e : Nat) (unit : Bytes) : Bool :=
  decide ((siFmtN A k e unit).length ≤ w) && boundOK w (below A) k e unit

theorem rowOK_sound (w A k e : Nat) (unit : Bytes) (h : rowOK w A k e unit = true) (s : Nat) (hs : rnInt s ≤ A) :
    (siFormat s k e unit).length ≤ w := by
  rw [siFormat_eq]
  unfold rowOK at h
  rw [Bool.and_eq_true, decide_eq_true_eq] at h
  rcases Nat.lt_or_ge (rnInt s) A with hlt | hge
  · exact boundOK_sound w _ k e unit h.2 _ (rnInt_le_below s A hlt)
  · have : rnInt s = A := by omega
    rw [this]; exact h.1

/-- the smallest double that is not below `x` -/
def repUp (x : Nat) : Nat := (x + 2 ^ (x.log2 - 52) - 1) / 2 ^ (x.log2 - 52) * 2 ^ (x.log2 - 52)

def siRowCheck (row : Bool × Nat × Nat × Nat × Bytes) : Bool :=
  if row.1 then
    -- the branch is taken when the *converted* value is below the bound
    rowOK 5 (below row.2.1) row.2.2.1 row.2.2.2.1 row.2.2.2.2
  else
    -- the branch is taken when the integer itself is below the bound: its conversion may round up
    decide (Rep (repUp (row.2.1 - 1)) ∧ row.2.1 ≤ repUp (row.2.1 - 1) + 1) &&
      rowOK 5 (repUp (row.2.1 - 1)) row.2.2.1 row.2.2.2.1 row.2.2.2.2

theorem siRowCheck_sound (row : Bool × Nat × Nat × Nat × Bytes) (h : siRowCheck row = true) (s : Nat)
    (hc : (if row.1 then rnInt s else s) < row.2.1) :
    (siFormat s row.2.2.1 row.2.2.2.1 row.2.2.2.2).length ≤ 5 := by
  unfold siRowCheck at h
  split at h
  · rename_i hd
    rw [if_pos hd] at hc
    exact rowOK_sound 5 _ _ _ _ h s (rnInt_le_below s _ hc)
  · rename_i hd
    rw [if_neg hd] at hc
    rw [Bool.and_eq_true, decide_eq_true_eq] at h
    obtain ⟨⟨h1, h2⟩, h3⟩ := h
    exact rowOK_sound 5 _ _ _ _ h3 s (rnInt_le s _ (by omega) h1)

/-- the whole cascade, for arguments below `2^63` -/
def siTableCheck : List (Bool × Nat × Nat × Nat × Bytes) → Bool
  | [] => rowOK 5 (2 ^ 63) siLast.1 siLast.2.1 siLast.2.2
  | row :: rest => siRowCheck row && siTableCheck rest

theorem siGo_length (rows : List (Bool × Nat × Nat × Nat × Bytes)) (h : siTableCheck rows = true) (s : Nat)
    (hs : s < 2 ^ 63) : (siGo s rows).length ≤ 5 := by
  induction rows with
  | nil =>
    exact rowOK_sound 5 _ _ _ _ h s (rnInt_le s _ (by omega) (rep_two_pow 63))
  | cons row rest ih =>
    obtain ⟨onD, thr, k, e, u⟩ := row
    simp only [siTableCheck, Bool.and_eq_true] at h
    simp only [siGo]
    by_cases hc : (if onD = true then rnInt s else s) < thr
    · rw [if_pos hc]
      exact siRowCheck_sound (onD, thr, k, e, u) h.1 s hc
    · rw [if_neg hc]; exact ih h.2

def iecBoundOK (w A k j : Nat) (unit : Bytes) : Bool :=
  let d := digitsFor w k unit
  decide (k + 1 ≤ d ∧ 2 * (A * 10 ^ k) < (2 * (10 ^ d - 1) + 1) * 2 ^ j ∧ d + (if k = 0 then 0 else 1) + unit.length ≤ w)

theorem iecBoundOK_sound (w A k j : Nat) (unit : Bytes) (h : iecBoundOK w A k j unit = true) (n : Nat) (hn : n ≤ A) :
    (iecFormat n k j unit).length ≤ w := by
  unfold iecBoundOK at h
  simp only [decide_eq_true_eq] at h
  obtain ⟨h1, h2, h3⟩ := h
  generalize digitsFor w k unit = d at *
  have hr : fixedR k (n, 2 ^ j) ≤ 10 ^ d - 1 := by
    unfold fixedR
    apply rne_le_of_lt_half
    have : 2 * (n * 10 ^ k) ≤ 2 * (A * 10 ^ k) := Nat.mul_le_mul_left _ (Nat.mul_le_mul_right _ hn)
    show 2 * (n * 10 ^ k) < (2 * (10 ^ d - 1) + 1) * 2 ^ j
    omega
  exact renderFixed_length w k _ d unit h1 hr h3

/-! ### `formatIEC`: the compared value is a `double` -/

/-- the largest value of `n = (double) s` that satisfies `n < num/den`: for an integer bound that is itself a
`double`, the `double` in front of it (`below`); otherwise the largest integer below the bound -/
def iecRowBound (num den : Nat) : Nat := if den = 1 then below num else (num - 1) / den

theorem iecRowBound_sound (num den s : Nat) (hden : 0 < den) (h : rnInt s * den < num) : rnInt s ≤ iecRowBound num den := by
  unfold iecRowBound
  split
  · rename_i hc
    subst hc
    exact rnInt_le_below s num (by simpa using h)
  · rw [Nat.le_div_iff_mul_le hden]; omega

def iecTableCheckD : List (Nat × Nat × Nat × Nat × Bytes) → Bool
  | [] => iecBoundOK 6 (2 ^ 63) iecLast.1 iecLast.2.1 iecLast.2.2
  | row :: rest =>
    decide (0 < row.2.1) && iecBoundOK 6 (iecRowBound row.1 row.2.1) row.2.2.1 row.2.2.2.1 row.2.2.2.2 && iecTableCheckD rest

theorem iecGo_length_double (rows : List (Nat × Nat × Nat × Nat × Bytes)) (h : iecTableCheckD rows = true) (s : Nat)
    (hn : rnInt s ≤ 2 ^ 63) : (iecGo (rnInt s) rows).length ≤ 6 := by
  induction rows with
  | nil => exact iecBoundOK_sound 6 _ _ _ _ h _ hn
  | cons row rest ih =>
    obtain ⟨num, den, k, j, u⟩ := row
    simp only [iecTableCheckD, Bool.and_eq_true, decide_eq_true_eq] at h
    simp only [iecGo]
    split
    · rename_i hc
      exact iecBoundOK_sound 6 _ _ _ _ h.1.2 _ (iecRowBound_sound num den s h.1.1 hc)
    · exact ih h.2

theorem siTable_ok : siTableCheck siTable = true := by decide +kernel
theorem iecTable_ok : iecTableCheckD iecTable = true := by decide +kernel

/-! ### The compared value an integer: the twin of `iecTableCheckD` / `iecGo_length_double`; no proof uses it -/

def iecTableCheck : List (Nat × Nat × Nat × Nat × Bytes) → Bool
  | [] => iecBoundOK 6 (2 ^ 63) iecLast.1 iecLast.2.1 iecLast.2.2
  | row :: rest =>
    decide (0 < row.2.1) && iecBoundOK 6 ((row.1 - 1) / row.2.1) row.2.2.1 row.2.2.2.1 row.2.2.2.2 && iecTableCheck rest

theorem iecGo_length (rows : List (Nat × Nat × Nat × Nat × Bytes)) (h : iecTableCheck rows = true) (n : Nat)
    (hn : n ≤ 2 ^ 63) : (iecGo n rows).length ≤ 6 := by
  induction rows with
  | nil => exact iecBoundOK_sound 6 _ _ _ _ h n hn
  | cons row rest ih =>
    obtain ⟨num, den, k, j, u⟩ := row
    simp only [iecTableCheck, Bool.and_eq_true, decide_eq_true_eq] at h
    simp only [iecGo]
    split
    · rename_i hc
      have : n ≤ (num - 1) / den := by
        rw [Nat.le_div_iff_mul_le h.1.1]; omega
      exact iecBoundOK_sound 6 _ _ _ _ h.1.2 n this
    · exact ih h.2

end MuduoVerif.LogStream
