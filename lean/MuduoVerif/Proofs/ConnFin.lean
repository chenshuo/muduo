import MuduoVerif.Proofs.ConnMono
import MuduoVerif.Proofs.ConnFlow
/-!
Progress of the half-close (C03): `shutdown()` accepted, nothing left in the output buffer, and a half-close functor in
front of every queued `sendInLoop` (`finNext`): ONE iteration sends the FIN, with any poll result and any callbacks, since
until that functor runs nothing turns write interest back on (`NoWr`).  `c` is ANY state satisfying `LifeInv` / `FlowInv`.
-/
namespace MuduoVerif.Conn
open MuduoVerif.Gen.Conn

/-- a half-close is queued in front of every queued `sendInLoop` -/
def finNext : List Task → Bool
  | [] => false
  | t :: r => t.isShut || (!t.isSend && finNext r)

theorem finNext_append (l s : List Task) (h : finNext l = true) : finNext (l ++ s) = true := by
  induction l with
  | nil => cases h
  | cons t r ih =>
    simp only [List.cons_append, finNext, Bool.or_eq_true, Bool.and_eq_true] at h ⊢
    exact h.imp_right (And.imp_right ih)

theorem finNext_of_all (l : List Task) (h1 : l.all (fun t => !t.isSend) = true) (h2 : ∃ t ∈ l, t.isShut = true) :
    finNext l = true := by
  induction l with
  | nil => obtain ⟨t, ht, _⟩ := h2; cases ht
  | cons a r ih =>
    simp only [List.all_cons, Bool.and_eq_true] at h1
    simp only [finNext, Bool.or_eq_true, Bool.and_eq_true]
    obtain ⟨t, ht, hs⟩ := h2
    rcases List.mem_cons.mp ht with e | e
    · subst e; exact Or.inl hs
    · exact Or.inr ⟨h1.1, ih h1.2 ⟨t, e, hs⟩⟩

/-- no write interest, and the state no longer accepts `send()` -/
def NoWr (c : Conn) : Prop := c.ch.evWrite = false ∧ c.st ≠ .kConnected

theorem NoWr.same {c c' : Conn} (h1 : c'.ch.evWrite = c.ch.evWrite) (h2 : c'.st = c.st) (h : NoWr c) : NoWr c' :=
  ⟨h1.trans h.1, h2 ▸ h.2⟩

/-- only `sendInLoop` turns write interest on, and nothing leads back to `kConnected` -/
theorem nowr_frame : Frame (fun c c' => NoWr c → NoWr c') where
  refl _ h := h
  trans f g h := g (f h)
  data _ _ h := .same (congrArg (·.ch.evWrite) h :) (congrArg Conn.st h :)
  emits _ _ _ := .same rfl rfl
  enqueues _ _ _ := .same rfl rfl
  updates c r w hw h := ⟨(chanUpdate_evWrite _ _).trans (by cases w; rfl; rw [h.1] at hw; exact absurd (hw rfl) (by simp)), h.2⟩
  closing _ _ h := ⟨h.1, nofun⟩
  shut _ := .same rfl rfl
  timer _ _ := .same rfl rfl
  dead _ := .same rfl rfl
  delivers _ _ := .same rfl rfl
  consumes _ := .same rfl rfl
  unregister _ := .same rfl rfl

theorem nowr_send (c : Conn) (d : Bytes) (hc : c.st = .kConnected) (h : NoWr c) : NoWr (sendInLoop c d false) :=
  absurd hc h.2

theorem handleClose_nowr (c : Conn) : NoWr c → NoWr (handleClose c) :=
  handleClose_frame nowr_frame nowr_send (fun _ h => ⟨h.1, nofun⟩) (fun _ => .same rfl rfl) c

theorem foldl_dispatch_nowr (l : List Src) (c : Conn) : NoWr c → NoWr (l.foldl dispatch c) :=
  foldl_dispatch_frame nowr_frame nowr_send handleClose_nowr (fun _ _ => .same rfl rfl) l c

theorem runTask_nowr (c : Conn) (t : Task) (ht : t.isSend = false) (h : NoWr c) : NoWr (runTask c t) :=
  runTask_frame nowr_frame nowr_send c t handleClose_nowr (fun _ e => by subst e; cases ht)
    (fun _ => connectDestroyed_frame nowr_frame nowr_send (fun _ h => ⟨h.1, nofun⟩) c)
    (fun _ _ => .same rfl rfl) (fun _ _ _ => .same rfl rfl) h

theorem runTask_shut (c : Conn) (t : Task) (ha : c.alive = true) (ht : t.isShut = true) (hp : NoWr c) :
    (runTask c t).shutWr = true := by
  have key : (shutdownInLoop c).shutWr = true := by
    rw [shutdownInLoop_eq, if_pos hp.1]
  unfold runTask
  rw [if_neg (by simp [ha])]
  cases t with
  | shutdownInLoop => exact key
  | drainShutdownInLoop => exact key
  | _ => cases ht

/-- **C03 progress.** The connection exists, is no longer `kConnected` (`shutdown()` was called),
nothing is left in the output buffer, and a half-close functor (`shutdownInLoop` queued by `shutdown()`,
or the one queued by the drain path of `handleWrite`) stands in the queue in front of every queued
`sendInLoop`: then after ONE iteration — with any poll result, whatever the callbacks do — the write side
has been shut down (the FIN is sent). -/
theorem fin_progress (c : Conn) (a : List Src) (hl : LifeInv c) (hf : FlowInv c) (hst : c.st ≠ .kConnected)
    (ha : c.alive = true) (ho : c.outBuf = []) (hq : finNext c.queue = true) : (iter c a).shutWr = true := by
  have hw : c.ch.evWrite = false := by
    by_cases hd : c.st = .kDisconnected
    · exact (hl.quiet hd).2
    · exact Bool.eq_false_iff.mpr fun he => (hf.wi hd).mp he ho
  have hm := foldl_dispatch_mono a c
  rw [iter_proj Conn.shutWr (fun _ _ _ _ => rfl) hl.notDead a]
  -- the half-close is done, or the functors still in front of it are not sends and leave write interest off
  obtain ⟨h, hb⟩ := drainPending_runs
    (P := fun c => c.shutWr = true ∨ (c.alive = true ∧ NoWr c ∧ finNext c.batch = true))
    (fun c t rest hb _ h => by
      have hg := (runTask_grow { c with batch := rest } t).mono
      rcases h with h | ⟨ha, hn, hf⟩
      · exact Or.inl (hg.shut h)
      · rw [hb] at hf
        simp only [finNext, Bool.or_eq_true, Bool.and_eq_true, Bool.not_eq_true'] at hf
        rcases hf with hs | ⟨h1, h2⟩
        · exact Or.inl (runTask_shut _ t ha hs hn)
        · exact Or.inr ⟨hg.alive.trans ha, runTask_nowr _ t h1 hn, hg.batch ▸ h2⟩)
    _ (foldl_dispatch_life a c hl) (Or.inr ⟨hm.alive.trans ha, foldl_dispatch_nowr a c ⟨hw, hst⟩, by
      obtain ⟨s, e⟩ := hm.queue
      show finNext (a.foldl dispatch c).queue = true
      rw [e]; exact finNext_append _ _ hq⟩)
  rcases h with h | ⟨_, _, hf⟩
  · exact h
  · rw [hb] at hf; cases hf

theorem fin_progress_of_queued_shut (c : Conn) (a : List Src) (hl : LifeInv c) (hf : FlowInv c)
    (hst : c.st = .kDisconnecting) (ho : c.outBuf = []) (hq : c.queue.all (fun t => !t.isSend) = true)
    (hs : ∃ t ∈ c.queue, t.isShut = true) :
    (iter c a).shutWr = true :=
  fin_progress c a hl hf (by rw [hst]; simp) (hl.upFacts (by rw [hst]; simp)).alive ho (finNext_of_all _ hq hs)

theorem shutdown_sends_fin (c : Conn) (f : Bool) (a : List Src) (hl : LifeInv c) (hf : FlowInv c)
    (hst : c.st = .kConnected) (ho : c.outBuf = []) (hq : c.queue.all (fun t => !t.isSend) = true) :
    (iter (act c f .shutdown) a).shutWr = true := by
  have hal := (hl.upFacts (by rw [hst]; simp)).alive
  have he : act c f .shutdown = enqueue { c with st := .kDisconnecting } .shutdownInLoop := by
    rw [act_shutdown, if_pos hst]
  have hl' := act_life c f .shutdown hl
  have hf' := act_flow c f .shutdown hf
  rw [he] at hl' hf' ⊢
  apply fin_progress_of_queued_shut _ a hl' hf' rfl ho
  · rw [queue_enqueue]; exact all_snoc _ _ _ hq rfl
  · exact ⟨.shutdownInLoop, by rw [queue_enqueue]; simp, rfl⟩

/-- `fin_progress`: `shutdown()` on the loop thread with nothing to write -/
def demoShut : Conn := run (step {} .establish) [.act false .shutdown]

example :
    demoShut.st = .kDisconnecting ∧ demoShut.outBuf = [] ∧ demoShut.queue = [.shutdownInLoop] ∧
    finNext demoShut.queue = true ∧ demoShut.shutWr = false ∧
    (iter demoShut []).shutWr = true ∧ (iter demoShut []).st = .kDisconnecting ∧
    (iter demoShut [.conn 1]).shutWr = true := by decide

end MuduoVerif.Conn
