import MuduoVerif.Generated.TimerSkel
/-!
# T1 tie for the statement order of the timer engine (C06, C07)

`Gen.TimerSkel.<fn>` is the statement skeleton `vlib/gen/timerskel.py` extracts from /repo's current `TimerQueue.cc` /
`Timer.cc` on every run; `Decl.<fn>` (`Model/TimerSkelDecl.lean`) is the skeleton the corresponding definition of
`Model/Timer.lean` implements.  Each conjunct of `skeletons_agree` is closed by `rfl`: it holds exactly as long as the source
performs the same significant actions, in the same order, under the same nesting of the same (generated) guards and
loops as the model.  The guards themselves are tied by `Generated/Timer.lean`.  `Props/C06` and `Props/C07` re-export
`skeletons_agree`, so a change of statement order in one of these functions breaks those property modules.
-/
namespace MuduoVerif.TimerSkel

theorem skeletons_agree :
    Gen.TimerSkel.howMuchTimeFromNow = Decl.howMuchTimeFromNow ∧
    Gen.TimerSkel.readTimerfd = Decl.readTimerfd ∧
    Gen.TimerSkel.resetTimerfd = Decl.resetTimerfd ∧
    Gen.TimerSkel.addTimer = Decl.addTimer ∧
    Gen.TimerSkel.cancel = Decl.cancel ∧
    Gen.TimerSkel.addTimerInLoop = Decl.addTimerInLoop ∧
    Gen.TimerSkel.cancelInLoop = Decl.cancelInLoop ∧
    Gen.TimerSkel.handleRead = Decl.handleRead ∧
    Gen.TimerSkel.getExpired = Decl.getExpired ∧
    Gen.TimerSkel.reset = Decl.reset ∧
    Gen.TimerSkel.insert = Decl.insert ∧
    Gen.TimerSkel.restart = Decl.restart :=
  by and_intros <;> rfl

end MuduoVerif.TimerSkel
