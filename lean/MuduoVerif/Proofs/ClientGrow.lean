import MuduoVerif.Proofs.ClientEq
/-!
Monotonicity inside one loop iteration: every function the loop runs only appends to the trace
and to the functor queue, never un-destroys or revives a connection, never takes a new reference
to a connection that is already down; and the operations registered for the UP callback are consumed front to
back, one per UP report.  `Own ⊂ Quiet ⊂ Grow`: a step of the connector changes only the connector's fields (`Own`); a
step in which the user's UP callback does not run reports no UP and keeps its operations (`Quiet`); `Grow` is what holds
of every step, the UP report in `newConnection` included.  Function by function, without the invariant.
-/
namespace MuduoVerif.Client
open MuduoVerif.Gen.Client

structure Grow (c c' : C) : Prop where
  tr : c.trace <+: c'.trace
  pend : c.pending <+: c'.pending
  conn : ∀ k x, findIn c.conns k = some x → ∃ x', findIn c'.conns k = some x' ∧
           x'.destroyed = x.destroyed ∧ (x.st = .disconnected → x'.st = .disconnected) ∧
           x'.userRef = x.userRef ∧ x'.closeCb = x.closeCb
  alive : c'.clientAlive = c.clientAlive
  hold : ∀ k x, findIn c.conns k = some x → x.st = .disconnected → ∀ t ∈ c'.pending, t.holds k = true → t ∈ c.pending
  /-- nobody stops the connector on behalf of a client that is gone -/
  nostop : c.clientAlive = false → .stopInLoop ∈ c'.pending → .stopInLoop ∈ c.pending
  hsuf : c'.hooksUp <:+ c.hooksUp
  /-- if `disconnect()` was the next operation of the UP callback and the callback ran, then the connection it
  reported has its half-close queued (and exists) -/
  hup : ∀ rest, c.hooksUp = HookOp.disconnect :: rest → c'.hooksUp ≠ c.hooksUp →
          ∃ k, Ev.up k ∈ c'.trace ∧ Ev.up k ∉ c.trace ∧ Task.shutdownInLoop k ∈ c'.pending ∧
            ∃ x, findIn c'.conns k = some x ∧ x.destroyed = false
  /-- an UP report runs the callback: it consumes the next registered operation (if there is one) -/
  upq : ∀ k, Ev.up k ∈ c'.trace → Ev.up k ∉ c.trace → c.hooksUp = [] ∨ c'.hooksUp ≠ c.hooksUp

structure Quiet (c c' : C) : Prop where
  grow : Grow c c'
  hooks : c'.hooksUp = c.hooksUp
  noUp : ∀ k, Ev.up k ∈ c'.trace → Ev.up k ∈ c.trace

theorem Quiet.of {c c' : C} (tr : c.trace <+: c'.trace) (pend : c.pending <+: c'.pending)
    (conn : ∀ k x, findIn c.conns k = some x → ∃ x', findIn c'.conns k = some x' ∧
           x'.destroyed = x.destroyed ∧ (x.st = .disconnected → x'.st = .disconnected) ∧
           x'.userRef = x.userRef ∧ x'.closeCb = x.closeCb)
    (alive : c'.clientAlive = c.clientAlive)
    (hold : ∀ k x, findIn c.conns k = some x → x.st = .disconnected → ∀ t ∈ c'.pending, t.holds k = true → t ∈ c.pending)
    (nostop : c.clientAlive = false → .stopInLoop ∈ c'.pending → .stopInLoop ∈ c.pending)
    (hq : c'.hooksUp = c.hooksUp) (hnu : ∀ k, Ev.up k ∈ c'.trace → Ev.up k ∈ c.trace) : Quiet c c' :=
  ⟨⟨tr, pend, conn, alive, hold, nostop, by rw [hq]; exact List.suffix_refl _, fun _ _ h => absurd hq h,
    fun k h1 h2 => absurd (hnu k h1) h2⟩, hq, hnu⟩

theorem Grow.trans {a b c : C} (h1 : Grow a b) (h2 : Grow b c) : Grow a c := by
  refine ⟨h1.tr.trans h2.tr, h1.pend.trans h2.pend, ?_, h2.alive.trans h1.alive, ?_,
    fun ha h => h1.nostop ha (h2.nostop (h1.alive.trans ha) h), h2.hsuf.trans h1.hsuf, ?_, ?_⟩
  · intro k x hx
    obtain ⟨x1, hx1, e1, e2, e3, e4⟩ := h1.conn k x hx
    obtain ⟨x2, hx2, f1, f2, f3, f4⟩ := h2.conn k x1 hx1
    exact ⟨x2, hx2, f1.trans e1, fun h => f2 (e2 h), f3.trans e3, f4.trans e4⟩
  · intro k x hx hst t ht hh
    obtain ⟨x1, hx1, _, e2, _, _⟩ := h1.conn k x hx
    exact h1.hold k x hx hst t (h2.hold k x1 hx1 (e2 hst) t ht hh) hh
  · intro rest hh hne
    by_cases hb : b.hooksUp = a.hooksUp
    · obtain ⟨k, u1, u2, u3, x, u4, u5⟩ := h2.hup rest (hb.trans hh) (by rw [hb]; exact hne)
      exact ⟨k, u1, fun h => u2 (h1.tr.subset h), u3, x, u4, u5⟩
    · obtain ⟨k, u1, u2, u3, x, u4, u5⟩ := h1.hup rest hh hb
      obtain ⟨x', v1, v2, _⟩ := h2.conn k x u4
      exact ⟨k, h2.tr.subset u1, u2, h2.pend.subset u3, x', v1, v2.trans u5⟩
  · intro k hk hnk
    by_cases hb : b.hooksUp = a.hooksUp
    · by_cases hkb : Ev.up k ∈ b.trace
      · rcases h1.upq k hkb hnk with h | h
        · exact .inl h
        · exact absurd hb h
      · rcases h2.upq k hk hkb with h | h
        · exact .inl (hb ▸ h)
        · exact .inr (by rw [← hb]; exact h)
    · right
      intro e
      -- `c.hooksUp` is a suffix of `b.hooksUp`, a proper suffix of `a.hooksUp`
      have l1 := h2.hsuf.length_le
      have l2 := h1.hsuf.length_le
      have : b.hooksUp.length = a.hooksUp.length := by rw [e] at l1; omega
      exact hb (h1.hsuf.eq_of_length this)

theorem Quiet.trans {a b c : C} (h1 : Quiet a b) (h2 : Quiet b c) : Quiet a c :=
  ⟨h1.grow.trans h2.grow, h2.hooks.trans h1.hooks, fun k m => h1.noUp k (h2.noUp k m)⟩

theorem Quiet.frame {c c' : C} (ht : ∃ d, c'.trace = c.trace ++ d ∧ ∀ k, Ev.up k ∉ d) (hc : c'.conns = c.conns)
    (ha : c'.clientAlive = c.clientAlive)
    (hp : ∃ d, c'.pending = c.pending ++ d ∧ ∀ t ∈ d, (c.clientAlive = true ∨ t ≠ .stopInLoop) ∧ ∀ k, t.holds k = false)
    (hq : c'.hooksUp = c.hooksUp) : Quiet c c' := by
  obtain ⟨e, he, hnu⟩ := ht
  obtain ⟨d, hd, hnh⟩ := hp
  refine Quiet.of ⟨e, he.symm⟩ ⟨d, hd.symm⟩ ?_ ha ?_ ?_ hq
    (by rw [he]; exact fun k m => (List.mem_append.mp m).elim id fun m => absurd m (hnu k))
  · intro k x hx; rw [hc]; exact ⟨x, hx, rfl, id, rfl, rfl⟩
  · intro k x _ _ t ht hh
    rw [hd] at ht
    rcases List.mem_append.mp ht with h | h
    · exact h
    · rw [(hnh t h).2 k] at hh; cases hh
  · intro hal h; rw [hd] at h
    rcases List.mem_append.mp h with h | h
    · exact h
    · rcases (hnh _ h).1 with h' | h'
      · rw [hal] at h'; cases h'
      · exact absurd rfl h'

/-- what `Grow` reads besides the trace and the queue -/
def C.kept (c : C) := (c.conns, c.clientAlive, c.hooksUp)

theorem Quiet.step {c c' : C} (d : List Ev) (q : List Task) (ht : c'.trace = c.trace ++ d) (hp : c'.pending = c.pending ++ q)
    (hk : c'.kept = c.kept) (hd : ∀ k, Ev.up k ∉ d := by simp)
    (hq : ∀ t ∈ q, (c.clientAlive = true ∨ t ≠ .stopInLoop) ∧ ∀ k, t.holds k = false := by simp [Task.holds]) : Quiet c c' := by
  simp only [C.kept, Prod.mk.injEq] at hk
  exact Quiet.frame ⟨d, ht, hd⟩ hk.1 hk.2.1 ⟨q, hp, hq⟩ hk.2.2

theorem Quiet.same {c c' : C} (ht : c'.trace = c.trace) (hp : c'.pending = c.pending) (hk : c'.kept = c.kept) : Quiet c c' :=
  Quiet.step [] [] (by rw [ht, List.append_nil]) (by rw [hp, List.append_nil]) hk

theorem Quiet.refl (c : C) : Quiet c c := Quiet.same rfl rfl rfl

theorem Grow.refl (c : C) : Grow c c := (Quiet.refl c).grow

theorem Quiet.die {c c1 : C} (h : Quiet c c1) (e : Ev) (he : ∀ k, Ev.up k ∉ [e] := by simp) : Quiet c (die c1 e) :=
  h.trans (Quiet.step [e] [] rfl (List.append_nil _).symm rfl he)

theorem Own.quiet {c c' : C} (h : Own c c') : Quiet c c' :=
  Quiet.frame h.ev h.conns h.alive ⟨[], by rw [h.pending, List.append_nil], nofun⟩ h.hooksUp

theorem closeSock_grow (c : C) (k : Nat) : Grow c (closeSock c k) := (closeSock_own c k).quiet.grow

theorem retry_grow (c : C) (k : Nat) : Grow c (retry c k) := (retry_own c k).quiet.grow

theorem connecting_grow (c : C) (k : Nat) : Grow c (connecting c k) := (connecting_own c k).quiet.grow

theorem startCycle_grow (c : C) : Grow c (startCycle c) := (startCycle_own c).quiet.grow

theorem env_grow (c : C) (e1 : List Nat) (e2 : List Nat) (e3 : List Bool) (e4 : List (Option Nat)) (b : Bool) :
    Grow c { c with envConnect := e1, envSoErr := e2, envSelf := e3, envRead := e4, starved := b } :=
  Quiet.grow (Quiet.same rfl rfl rfl)

theorem reapConnector_grow (c : C) : Grow c (reapConnector c) := (reapConnector_own c).quiet.grow

theorem Quiet.upd (c : C) (j : Nat) (f : ConnRec → ConnRec) (hs : ∀ r, (f r).sock = r.sock)
    (hf : ∀ x, findIn c.conns j = some x → (f x).destroyed = x.destroyed ∧ (x.st = .disconnected → (f x).st = .disconnected) ∧
      (f x).userRef = x.userRef ∧ (f x).closeCb = x.closeCb) : Quiet c { c with conns := c.conns.map (updRec j f) } := by
  refine Quiet.of (List.prefix_refl _) (List.prefix_refl _) (fun k x hx => ?_) rfl (fun _ _ _ _ _ ht _ => ht) (fun _ => id) rfl
    (fun _ => id)
  refine ⟨updRec j f x, by rw [show ({ c with conns := c.conns.map (updRec j f) } : C).conns = _ from rfl, findIn_upd j k f hs, hx]; rfl, ?_⟩
  by_cases h : x.sock = j
  · rw [updRec_self h]; exact hf x (by rw [← h, (findIn_some hx).2]; exact hx)
  · rw [updRec_ne h]; exact ⟨rfl, id, rfl, rfl⟩

theorem userDisconnect_quiet (c : C) : Quiet c (userDisconnect c) := by
  unfold userDisconnect
  simp only
  split
  · rename_i j _
    unfold connShutdown
    split
    · rename_i hcs
      refine (Quiet.upd c j toDisconnecting (fun _ => rfl) fun x hx => ⟨rfl, fun hd => ?_, rfl, rfl⟩).trans
        (Quiet.step [] [.shutdownInLoop j] (List.append_nil _).symm rfl rfl (by simp) (by simp [holds_shutdown]))
      have : connSt { c with tConnect := false } j = x.st := connSt_eq hx
      rw [this, hd] at hcs; cases hcs
    · exact Quiet.same rfl rfl rfl
  · exact Quiet.same rfl rfl rfl

theorem hookOp_quiet (c : C) (j : Nat) (op : HookOp) (hal : c.clientAlive = true) : Quiet c (hookOp c j op) := by
  cases op with
  | disconnect => exact userDisconnect_quiet c
  | stop =>
    show Quiet c (userStop c .loop)
    rw [userStop_eq]
    exact Quiet.step [.ghost .stop] [.stopInLoop] rfl rfl rfl (by simp) (by simp [Task.holds, hal])
  | connect =>
    show Quiet c (userConnect c .loop)
    rw [userConnect_loop]
    refine Quiet.trans ?_ (startCycle_own _).quiet
    exact Quiet.step [.ghost .connect] [] rfl (List.append_nil _).symm rfl
  | query => exact Quiet.step [_] [] rfl (List.append_nil _).symm rfl

theorem hookOp_grow (c : C) (j : Nat) (op : HookOp) (hal : c.clientAlive = true) :
    Grow c (hookOp c j op) ∧ (hookOp c j op).hooksUp = c.hooksUp :=
  ⟨(hookOp_quiet c j op hal).grow, (hookOp_quiet c j op hal).hooks⟩

theorem runHookDown_quiet (c : C) (k : Nat) : Quiet c (runHookDown c k) := by
  unfold runHookDown
  split
  · rename_i hal
    split
    · exact Quiet.refl c
    · rename_i op rest _
      have h0 : Quiet c ({ c with hooksDown := rest } : C) := Quiet.same rfl rfl rfl
      exact h0.trans (hookOp_quiet ({ c with hooksDown := rest } : C) k op hal)
  · exact Quiet.refl c

theorem runHookDown_grow (c : C) (k : Nat) : Grow c (runHookDown c k) := (runHookDown_quiet c k).grow

/-- one UP report: the trace gains the hand-over and UP of socket `k`, the callback takes its next operation (state `m`),
and what follows is quiet; if that operation is `disconnect()`, the half-close of `k` is queued in the end -/
theorem Grow.up {c m c' : C} (k : Nat) (hnu : Ev.up k ∉ c.trace) (ht : m.trace = c.trace ++ [.handedOver k, .up k])
    (hp : m.pending = c.pending) (hc : ∀ j x, findIn c.conns j = some x → findIn m.conns j = some x)
    (ha : m.clientAlive = c.clientAlive)
    (hh : m.hooksUp = c.hooksUp.tail) (q : Quiet m c')
    (hd : ∀ rest, c.hooksUp = .disconnect :: rest →
      Task.shutdownInLoop k ∈ c'.pending ∧ ∃ x, findIn c'.conns k = some x ∧ x.destroyed = false) : Grow c c' := by
  refine ⟨(ht ▸ List.prefix_append _ _ : c.trace <+: m.trace).trans q.grow.tr, hp ▸ q.grow.pend,
    fun j x hx => q.grow.conn j x (hc j x hx), q.grow.alive.trans ha, fun j x hx => hp ▸ q.grow.hold j x (hc j x hx), by rw [← ha, ← hp]; exact q.grow.nostop,
    by rw [q.hooks, hh]; exact List.tail_suffix _, fun rest e _ => ?_, fun _ _ _ => ?_⟩
  · obtain ⟨h1, x, h2, h3⟩ := hd rest e
    exact ⟨k, q.grow.tr.subset (by rw [ht]; simp), hnu, h1, x, h2, h3⟩
  · rw [q.hooks, hh]
    cases c.hooksUp with
    | nil => exact .inl rfl
    | cons op rest => exact .inr fun e => by have := congrArg List.length e; simp at this

theorem newConnection_grow (c : C) (k : Nat) (hn : findIn c.conns k = none) (hnu : Ev.up k ∉ c.trace) :
    Grow c (newConnection c k) := by
  by_cases hal : c.clientAlive = true
  · rw [newConnection_eq c k hal]
    have hc : ∀ j x, findIn c.conns j = some x → findIn (c.conns ++ [({ sock := k } : ConnRec)]) j = some x :=
      fun j x hx => by rw [findIn_append_new _ rfl, hx]; simp
    unfold runHookUp
    rw [if_pos (show (estab c k).clientAlive = true from hal)]
    cases hh : c.hooksUp with
    | nil =>
      rw [show (estab c k).hooksUp = [] from hh]
      simp only
      exact Grow.up (m := estab c k) k hnu rfl rfl hc rfl (by rw [hh]; exact hh) (Quiet.refl _) fun _ e => by rw [hh] at e; cases e
    | cons op rest =>
      rw [show (estab c k).hooksUp = op :: rest from hh]
      simp only
      refine Grow.up (m := { estab c k with hooksUp := rest }) k hnu rfl rfl hc rfl (by rw [hh]; rfl) (hookOp_quiet _ k op hal) fun _ e => ?_
      rw [hh] at e; cases e
      -- `disconnect()` inside the UP callback: `connection_` is published, the connection is connected
      rw [disconnect_in_estab c k hn rest]
      refine ⟨by simp, _, findIn_upd_self toDisconnecting (fun _ => rfl) (x := { sock := k }) ?_, rfl⟩
      rw [findIn_append_new _ rfl, hn]; simp
  · unfold newConnection
    rw [if_neg hal]
    exact ((Quiet.refl c).die _).grow

theorem handleError_quiet (c : C) : Quiet c (handleError c) := by
  unfold handleError
  split
  · split
    · simp only
      rw [popSoErr_eq]
      refine Quiet.trans ?_ (retry_own _ _).quiet; exact Quiet.step [] [.resetChannel] (List.append_nil _).symm rfl rfl
    · exact (Quiet.refl c).die _
  · exact Quiet.refl c

/-- `queueInLoop(connectDestroyed)` of a connection that was up at the beginning, after DOWN -/
theorem Quiet.enqueueCd {c c2 : C} (G : Quiet c c2) (j : Nat) (xj : ConnRec) (hj : findIn c.conns j = some xj)
    (hst : xj.st ≠ .disconnected) (cn : Option Nat) :
    Quiet c { c2 with connection := cn, pending := c2.pending ++ [.connectDestroyed j] } := by
  refine Quiet.of G.grow.tr (G.grow.pend.trans (by simp)) G.grow.conn G.grow.alive ?_ ?_ G.hooks G.noUp
  · intro k x hx hxs t ht hh
    simp only [List.mem_append, List.mem_singleton] at ht
    rcases ht with ht | rfl
    · exact G.grow.hold k x hx hxs t ht hh
    · have : j = k := by simpa [Task.holds] using hh
      subst this; rw [hj] at hx; cases hx; exact absurd hxs hst
  · intro ha h
    simp only [List.mem_append, List.mem_singleton] at h
    rcases h with h | h
    · exact G.grow.nostop ha h
    · cases h

theorem handleClose_quiet (c : C) (j : Nat) (xj : ConnRec) (hj : findIn c.conns j = some xj) (hst : xj.st ≠ .disconnected) :
    Quiet c (handleClose c j) := by
  have h0 : Quiet c (downState c j) :=
    (Quiet.upd c j goDown (fun _ => rfl) fun _ _ => ⟨rfl, fun _ => rfl, rfl, rfl⟩).trans
      (Quiet.step [.down j] [] rfl (List.append_nil _).symm rfl)
  have h2 := h0.trans (runHookDown_quiet (downState c j) j)
  rw [handleClose_eq]
  simp only
  generalize runHookDown (downState c j) j = c2 at h2
  split
  · exact h2
  · split
    · exact h2.enqueueCd j xj hj hst c2.connection
    · unfold removeConn
      simp only
      split
      · exact h2.die _
      · split
        · exact h2.die _
        · split
          · exact (h2.enqueueCd j xj hj hst none).trans (restart_own _).quiet
          · exact h2.enqueueCd j xj hj hst none

theorem handleRead_quiet (c : C) (j : Nat) (xj : ConnRec) (hj : findIn c.conns j = some xj) (hst : xj.st ≠ .disconnected) :
    Quiet c (handleRead c j) := by
  unfold handleRead
  simp only
  rw [popRead_eq]
  have h0 : Quiet c ({ c with envRead := (popRead c).2.envRead, starved := (popRead c).2.starved } : C) := Quiet.same rfl rfl rfl
  split
  · exact h0.trans (handleClose_quiet _ j xj hj hst)
  · exact h0

theorem connectDestroyed_quiet (c : C) (j : Nat) (x : ConnRec) (hx : findIn c.conns j = some x) (hst : x.st = .disconnected) :
    Quiet c (connectDestroyed c j) := by
  unfold connectDestroyed
  rw [findConn_eq, hx]
  simp only
  rw [if_neg (by rw [hst]; simp), updConn_eq]
  exact Quiet.upd c j chanOff (fun _ => rfl) fun _ _ => ⟨rfl, id, rfl, rfl⟩

end MuduoVerif.Client
