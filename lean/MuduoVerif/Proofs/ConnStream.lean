import MuduoVerif.Proofs.ConnInv
/-! The stream invariant of the send direction, preserved by every transition; `Preserves.ofData` reduces the moves of
`Preserves` to `sendInLoop`, `handleWrite` and a new `write` result for invariants that read the stream fields only
(what these two do to the stream fields: `Proofs/ConnSend.lean`). -/
namespace MuduoVerif.Conn
open MuduoVerif.Gen.Conn

/-- nothing lost, duplicated, reordered or interleaved between `send` and the kernel -/
def StreamInv (c : Conn) : Prop := c.discarded = false → c.wrote ++ c.outBuf = c.accepted

theorem Preserves.ofData {P : Conn → Prop} {okW : WriteRes → Prop}
    (frame : ∀ {c c' : Conn}, P c → SameData c c' → P c')
    (send : ∀ (c : Conn) (d : Bytes) (q : Bool), P c → P (sendInLoop c d q))
    (write : ∀ c : Conn, P c → P (handleWrite c))
    (envWrite : ∀ (c : Conn) (r : WriteRes), okW r → P c → P { c with writes := c.writes ++ [r] }) :
    Preserves (fun _ => True) okW P where
  frame h e := frame h ⟨congrArg Core.wrote e, congrArg Core.outBuf e, congrArg Core.accepted e,
    congrArg Core.discarded e, congrArg Core.writes e⟩
  event _ _ _ h := frame h ⟨rfl, rfl, rfl, rfl, rfl⟩
  queued _ _ _ _ _ h := frame h ⟨rfl, rfl, rfl, rfl, rfl⟩
  disconnecting _ _ h := frame h ⟨rfl, rfl, rfl, rfl, rfl⟩
  shutdown _ _ h := frame h ⟨rfl, rfl, rfl, rfl, rfl⟩
  sendForeign _ _ _ h := frame h ⟨rfl, rfl, rfl, rfl, rfl⟩
  sendLoop _ d _ h := send _ d false (frame h ⟨rfl, rfl, rfl, rfl, rfl⟩)
  down _ h := frame h ⟨rfl, rfl, rfl, rfl, rfl⟩
  write := write
  swap _ h := frame h ⟨rfl, rfl, rfl, rfl, rfl⟩
  pop _ _ _ _ _ _ h := frame h ⟨rfl, rfl, rfl, rfl, rfl⟩
  runSend _ d _ _ h := send _ d true (frame h ⟨rfl, rfl, rfl, rfl, rfl⟩)
  runShut _ _ _ _ _ h := frame h (by unfold shutdownInLoop; split <;> exact ⟨rfl, rfl, rfl, rfl, rfl⟩)
  runWc _ _ _ _ _ h := frame h ⟨rfl, rfl, rfl, rfl, rfl⟩
  envWrite := envWrite

theorem StreamInv.frame {c c' : Conn} (hi : StreamInv c) (h : SameData c c') : StreamInv c' := by
  unfold StreamInv at *; obtain ⟨h1, h2, h3, h4, _⟩ := h; rw [h1, h2, h3, h4]; exact hi

theorem sendInLoop_stream (c : Conn) (data : Bytes) (q : Bool) (h : StreamInv c) : StreamInv (sendInLoop c data q) := by
  by_cases hu : c.st = .kDisconnected
  · rw [sendInLoop_down hu]; exact h.frame ⟨rfl, rfl, rfl, rfl, rfl⟩
  · have hs := sendInLoop_data c data q hu
    have hd := hs.direct
    unfold StreamInv at *
    rw [hs.accepted, hs.outBuf, unsent, if_neg hu]
    split at hd
    · rename_i hg
      intro h'
      rw [hd.discarded, Bool.or_eq_false_iff] at h'
      rw [if_pos hg, hd.wrote, h'.2, ← h h'.1, List.eq_nil_of_length_eq_zero hg.2]
      simp
    · rename_i hg
      rw [if_neg hg, hd.wrote, hd.discarded, ← List.append_assoc]
      exact fun h' => congrArg (· ++ data) (h h')

theorem stream_pres : Preserves (fun _ => True) (fun _ => True) StreamInv :=
  Preserves.ofData StreamInv.frame sendInLoop_stream
    (fun c h => by
      obtain ⟨h1, h2, h3, _⟩ := handleWrite_data c
      unfold StreamInv; rw [h1, h2, h3]; exact h)
    (fun _ _ _ h => h)

theorem establish_stream (c : Conn) (h : Fresh c) : StreamInv (step c .establish) :=
  establish_pres stream_pres h (fun _ => by
    show c.wrote ++ c.outBuf = c.accepted
    rw [h.wrote, h.outBuf, h.accepted]; rfl)

end MuduoVerif.Conn
