import MuduoVerif.Model.Pool
/-!
Lemmas about the loop selection of `EventLoopThreadPool` (model: `Model/Pool.lean`, whose guards,
subscripts and cursor update are the generated definitions of `Generated/Pool.lean`).

Both selections come to one choice, `pick n i` = loop `i % n` of `n` (the base loop when `n = 0`):
the `k`-th `getNextLoop` after `start` answers `pick n k`, `getLoopForHash h` answers `pick n h`.
Everything else is read off these two closed forms.
-/
namespace MuduoVerif.Pool
open MuduoVerif.Gen.Pool

/-- loop `i % n` of `n` loops; the base loop when there are none -/
def pick (n i : Nat) : LoopRef := if n = 0 then .base else .worker (i % n)

/-- the pool of `n` loops after `k` calls of `getNextLoop` -/
def state (n k : Nat) : Pool := ⟨n, if n = 0 then 0 else k % n⟩

theorem pick_pos {n : Nat} (hn : 0 < n) (i : Nat) : pick n i = .worker (i % n) := if_neg (Nat.ne_of_gt hn)

theorem nextCursor_eq (next n : Nat) (h : next < n) : nextCursor next n = (next + 1) % n := by
  show (if next + 1 ≥ n then 0 else next + 1) = _
  split
  next h1 => rw [show next + 1 = n from Nat.le_antisymm h h1, Nat.mod_self]
  next h1 => rw [Nat.mod_eq_of_lt (Nat.not_le.1 h1)]

theorem nextCursor_lt (next n : Nat) (h : next < n) : nextCursor next n < n := by
  rw [nextCursor_eq next n h]; exact Nat.mod_lt _ (by omega)

theorem getNextLoop_pos (p : Pool) (h : p.next < p.n) :
    getNextLoop p = (.worker p.next, ⟨p.n, (p.next + 1) % p.n⟩) := by
  have hn : p.n ≠ 0 := by omega
  simp [getNextLoop, nextGuard, hn, nextIndex, subscript, h, nextCursor_eq p.next p.n h]

theorem getNextLoop_state (n k : Nat) : getNextLoop (state n k) = (pick n k, state n (k + 1)) := by
  by_cases hn : n = 0
  · subst hn; rfl
  · have hk : (state n k).next < (state n k).n := by simpa [state, hn] using Nat.mod_lt k (Nat.pos_of_ne_zero hn)
    rw [getNextLoop_pos _ hk]
    simp [state, pick, hn, Nat.mod_add_mod]

theorem afterNext_state (n k j : Nat) : afterNext (state n k) j = state n (k + j) := by
  induction j generalizing k with
  | zero => rfl
  | succ j ih => rw [afterNext, getNextLoop_state, ih, Nat.add_right_comm, Nat.add_assoc]

theorem nextSeq_state (n k j : Nat) : nextSeq (state n k) j = (List.range' k j).map (pick n) := by
  induction j generalizing k with
  | zero => rfl
  | succ j ih => rw [nextSeq, getNextLoop_state, ih, List.range'_succ, List.map_cons]

theorem start_eq (n : Nat) : start n = state n 0 := by
  simp [start, initialNext, state]

theorem afterNext_start (n k : Nat) : afterNext (start n) k = state n k := by
  rw [start_eq, afterNext_state, Nat.zero_add]

theorem nextSeq_start (n k : Nat) : nextSeq (start n) k = (List.range k).map (pick n) := by
  rw [start_eq, nextSeq_state, List.range_eq_range']

theorem nextSeq_get (n k i : Nat) (hi : i < k) : (nextSeq (start n) k)[i]? = some (pick n i) := by
  rw [nextSeq_start, List.getElem?_map, List.getElem?_range hi, Option.map_some]

theorem nextSeq_eq (n k : Nat) (hn : 0 < n) :
    nextSeq (start n) k = (List.range k).map (fun i => LoopRef.worker (i % n)) := by
  rw [nextSeq_start, funext (pick_pos hn)]

theorem nextSeq_eq_zero (k : Nat) : nextSeq (start 0) k = List.replicate k LoopRef.base := by
  rw [nextSeq_start, show pick 0 = fun _ => .base from rfl, List.map_const', List.length_range]

/-- a call never leaves `loops_`: every result is the base loop (only if `n = 0`) or a worker `< n` -/
theorem nextSeq_in_range (n k : Nat) (r : LoopRef) (hr : r ∈ nextSeq (start n) k) :
    (n = 0 ∧ r = .base) ∨ (∃ i, i < n ∧ r = .worker i) := by
  rw [nextSeq_start] at hr
  obtain ⟨i, _, rfl⟩ := List.mem_map.1 hr
  by_cases hn : n = 0
  · exact .inl ⟨hn, if_pos hn⟩
  · exact .inr ⟨i % n, Nat.mod_lt _ (by omega), if_neg hn⟩

theorem nextSeq_periodic (n k i : Nat) (hn : 0 < n) (hi : i + n < k) :
    (nextSeq (start n) k)[i + n]? = (nextSeq (start n) k)[i]? := by
  rw [nextSeq_get n k (i + n) hi, nextSeq_get n k i (by omega), pick_pos hn, Nat.add_mod_right, pick_pos hn]

theorem mod_ne_of_window (n i j : Nat) (hij : i < j) (hjn : j < i + n) : i % n ≠ j % n := by
  intro h
  have := Nat.le_of_dvd (Nat.sub_pos_of_lt hij) (Nat.dvd_of_mod_eq_zero (Nat.sub_mod_eq_zero_of_mod_eq h.symm))
  omega

/-- every residue occurs in every window of `n` consecutive numbers: round the last number that may
still be followed by `w` more, `i + (n - 1 - w)`, down to a multiple of `n` and add `w` -/
theorem mod_eq_in_window (n i w : Nat) (hw : w < n) : ∃ j, i ≤ j ∧ j < i + n ∧ j % n = w := by
  have hm := Nat.div_add_mod' (i + (n - 1 - w)) n
  have hr := Nat.mod_lt (i + (n - 1 - w)) (Nat.zero_lt_of_lt hw)
  exact ⟨(i + (n - 1 - w)) / n * n + w, by omega, by omega, Nat.mul_add_mod_of_lt hw⟩

theorem window_distinct (n k i j : Nat) (hij : i < j) (hjn : j < i + n) (hjk : j < k) :
    (nextSeq (start n) k)[i]? ≠ (nextSeq (start n) k)[j]? := by
  have hn : 0 < n := by omega
  rw [nextSeq_get n k i (by omega), nextSeq_get n k j hjk, pick_pos hn, pick_pos hn]
  intro h
  exact mod_ne_of_window n i j hij hjn (LoopRef.worker.inj (Option.some.inj h))

theorem window_covers (n k i w : Nat) (hw : w < n) (hik : i + n ≤ k) :
    ∃ j, i ≤ j ∧ j < i + n ∧ (nextSeq (start n) k)[j]? = some (.worker w) := by
  obtain ⟨j, hij, hjn, rfl⟩ := mod_eq_in_window n i w hw
  exact ⟨j, hij, hjn, by rw [nextSeq_get n k j (by omega), pick_pos (by omega)]⟩

theorem getNextLoop_n (p : Pool) : (getNextLoop p).2.n = p.n := by
  unfold getNextLoop; split <;> rfl

theorem afterNext_n (p : Pool) (k : Nat) : (afterNext p k).n = p.n := by
  induction k generalizing p with
  | zero => rfl
  | succ k ih => rw [afterNext, ih, getNextLoop_n]

theorem hash_eq (p : Pool) (h : Nat) : getLoopForHash p h = pick p.n h := by
  by_cases hn : p.n = 0
  · simp [getLoopForHash, hashGuard, pick, hn]
  · simp [getLoopForHash, hashGuard, hashIndex, subscript, pick, hn, Nat.mod_lt _ (Nat.pos_of_ne_zero hn)]

theorem hash_injective (p : Pool) (h₁ h₂ : Nat) (hn : 0 < p.n)
    (he : getLoopForHash p h₁ = getLoopForHash p h₂) : h₁ % p.n = h₂ % p.n := by
  rw [hash_eq, hash_eq, pick_pos hn, pick_pos hn] at he
  exact LoopRef.worker.inj he

theorem allLoops (p : Pool) :
    getAllLoops p = if p.n = 0 then [.base] else (List.range p.n).map .worker := by
  simp [getAllLoops, allEmpty, allBaseCount]

theorem pick_mem_allLoops (p : Pool) (i : Nat) : pick p.n i ∈ getAllLoops p := by
  rw [allLoops]
  by_cases hn : p.n = 0
  · rw [if_pos hn, pick, if_pos hn]; exact List.mem_singleton_self _
  · rw [if_neg hn, pick, if_neg hn]
    exact List.mem_map.2 ⟨_, List.mem_range.2 (Nat.mod_lt _ (Nat.pos_of_ne_zero hn)), rfl⟩

/-- three workers, seven calls -/
example : nextSeq (start 3) 7 = [.worker 0, .worker 1, .worker 2, .worker 0, .worker 1, .worker 2, .worker 0] := by
  decide

/-! ### `getNextLoop` of a pool without loops; no proof uses it (`getNextLoop_state` has that case by `rfl`) -/

theorem getNextLoop_zero (p : Pool) (h : p.n = 0) : getNextLoop p = (.base, p) := by
  simp [getNextLoop, nextGuard, h]

end MuduoVerif.Pool
