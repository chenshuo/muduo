import MuduoVerif.Proofs.RpcResp
/-! Trace invariants of the caller side: which arrival completes which call (`first`, `cause`), one REQUEST
frame per call, heap order of the response objects, no duplicate keys in `outstandings_`. -/
namespace MuduoVerif.Rpc
open MuduoVerif.Gen.Rpc

theorem cons_split {α : Type} {x e : α} {rest post pre : List α} (h : x :: rest = post ++ e :: pre) :
    (post = [] ∧ x = e ∧ rest = pre) ∨ ∃ post', post = x :: post' ∧ rest = post' ++ e :: pre := by
  rcases List.cons_eq_append_iff.mp h with ⟨h1, h2⟩ | ⟨as', h1, h2⟩
  · injection h2 with h3 h4
    exact Or.inl ⟨h1, h3.symm, h4.symm⟩
  · exact Or.inr ⟨as', h1, h2⟩

theorem split_ext {α : Type} (evs : List α) {log post pre : List α} {e : α}
    (h : evs ++ log = post ++ e :: pre) (hne : e ∉ evs) :
    ∃ post2, post = evs ++ post2 ∧ log = post2 ++ e :: pre := by
  rcases List.append_eq_append_iff.mp h with h | ⟨bs, h1, h2⟩
  · exact h
  · cases bs with
    | nil => exact ⟨[], by simpa using h1.symm, h2.symm⟩
    | cons x bs => cases h2; exact absurd (h1 ▸ by simp) hne

def isSent (k : Nat) : Ev → Bool
  | .sent _ k' => decide (k' = k)
  | _ => false

/-- REQUEST frames that left for call `k` -/
def sentCount (k : Nat) (log : List Ev) : Nat := log.countP (isSent k)

/-- events on the response object of call `k`, and uses of its closure after the closure died -/
def touches (k : Nat) : Ev → Bool
  | .parse k' => decide (k' = k)
  | .ran k' _ _ => decide (k' = k)
  | .free (.resp k') => decide (k' = k)
  | .uaf (.resp k') => decide (k' = k)
  | .uaf (.done k') => decide (k' = k)
  | _ => false

/-- a RESPONSE that is not "bare": the message has a payload or an error (what the `assert` that the RESPONSE
    branch once contained demanded of the peer) -/
def Msg.wellFormed (m : Msg) : Prop := m.payload.isSome = true ∨ m.err.isSome = true

instance (m : Msg) : Decidable m.wellFormed := by unfold Msg.wellFormed; infer_instance

theorem touches_of_quiet {e : Ev} (k : Nat) (h : e.quiet = true) : touches k e = false := by
  cases e with
  | free c => cases c <;> simp_all [Ev.quiet, Ev.srvSide, touches]
  | uaf c => cases c <;> simp_all [Ev.quiet, Ev.srvSide, touches]
  | _ => simp_all [Ev.quiet, Ev.srvSide, touches]

theorem isRan_of_quiet {e : Ev} (k : Nat) (h : e.quiet = true) : isRan k e = false := by
  cases e <;> simp_all [Ev.quiet, Ev.srvSide, isRan]

theorem isFreeResp_of_quiet {e : Ev} (k : Nat) (h : e.quiet = true) : isFreeResp k e = false := by
  cases e with
  | free c => cases c <;> simp_all [Ev.quiet, Ev.srvSide, isFreeResp]
  | _ => simp_all [Ev.quiet, Ev.srvSide, isFreeResp]

structure TraceInv (s : Chan) : Prop where
  /-- the first RESPONSE with the id of call `k` that arrives after the request left completes the call
      (or the loop thread is about to), with its payload -/
  first : ∀ post pre m k, s.log = post ++ .arrived m :: pre → m.type = .RESPONSE → .sent m.id k ∈ pre →
    ranCount k pre = 0 → (s.asserts = false ∨ respAssert m.payload.isSome m.err.isSome) →
    .ran k m.id (view m) ∈ post ∨ s.pending = some (k, m)
  pendArr : ∀ k m, s.pending = some (k, m) →
    m.type = .RESPONSE ∧ ∃ mid pre, s.log = mid ++ .arrived m :: pre ∧ ∀ e ∈ mid, e.isArrived = false
  /-- a completion is caused by the RESPONSE that arrived last before it -/
  cause : ∀ post pre k i v, s.log = post ++ .ran k i v :: pre →
    ∃ m mid pre', pre = mid ++ .arrived m :: pre' ∧ m.type = .RESPONSE ∧ m.id = i ∧ v = view m ∧
      ∀ e ∈ mid, e.isArrived = false
  sentOnce : ∀ k, sentCount k s.log = if s.stage k = .returned then 1 else 0
  /-- nothing touches a response object after it was freed -/
  afterFree : ∀ post pre k, s.log = post ++ .free (.resp k) :: pre → ∀ e ∈ post, touches k e = false
  freeEq : ∀ k, freeCount k s.log = ranCount k s.log
  noUaf : ∀ c, .uaf c ∈ s.log → ∃ r, c = .closure r
  keys : (s.outstanding.map Prod.fst).Nodup

theorem TraceInv.init (a h : Bool) : TraceInv (init a h) := by
  constructor <;> simp [MuduoVerif.Rpc.init, sentCount, freeCount, ranCount]

theorem TraceInv.quiet_step {s s' : Chan} (ti : TraceInv s) (evs : List Ev)
    (hlog : s'.log = evs ++ s.log) (hq : ∀ e ∈ evs, e.quiet = true)
    (harr : s.pending = none ∨ ∀ e ∈ evs, e.isArrived = false)
    (hp : s'.pending = s.pending) (ha : s'.asserts = s.asserts)
    (hsent : ∀ k, sentCount k s'.log = if s'.stage k = .returned then 1 else 0)
    (hkeys : (s'.outstanding.map Prod.fst).Nodup) : TraceInv s' := by
  -- an event that is not quiet lies in the old log
  have hsplit : ∀ {e post pre}, e.quiet = false → s'.log = post ++ e :: pre →
      ∃ p2, post = evs ++ p2 ∧ s.log = p2 ++ e :: pre :=
    fun hne hl => split_ext evs (hlog ▸ hl) (fun hm => by simp [hq _ hm] at hne)
  refine ⟨?_, ?_, ?_, hsent, ?_, ?_, ?_, hkeys⟩
  · intro post pre m k hl ht hs hr hw
    obtain ⟨p2, rfl, hl2⟩ := hsplit (by simp [Ev.quiet, Ev.srvSide, ht]) hl
    exact hp ▸ (ti.first p2 pre m k hl2 ht hs hr (ha ▸ hw)).imp_left (List.mem_append_right _)
  · intro k m hpm
    rw [hp] at hpm
    obtain ⟨ht, mid, pre, hl, hm⟩ := ti.pendArr k m hpm
    refine ⟨ht, evs ++ mid, pre, by rw [hlog, hl, List.append_assoc], fun e he => ?_⟩
    exact (List.mem_append.mp he).elim (harr.resolve_left (by simp [hpm]) e) (hm e)
  · intro post pre k i v hl
    obtain ⟨p2, _, hl2⟩ := hsplit rfl hl
    exact ti.cause p2 pre k i v hl2
  · intro post pre k hl e he
    obtain ⟨p2, rfl, hl2⟩ := hsplit rfl hl
    exact (List.mem_append.mp he).elim (fun h => touches_of_quiet k (hq e h)) (ti.afterFree p2 pre k hl2 e)
  · intro k
    rw [hlog, freeCount, ranCount, countP_append_of_false _ (fun e he => isFreeResp_of_quiet k (hq e he)),
      countP_append_of_false _ (fun e he => isRan_of_quiet k (hq e he))]
    exact ti.freeEq k
  · intro c hc
    rcases List.mem_append.mp (hlog ▸ hc) with h | h
    · have := hq _ h
      cases c <;> simp [Ev.quiet, Ev.srvSide] at this
      exact ⟨_, rfl⟩
    · exact ti.noUaf c h

theorem sentCount_cons (j : Nat) (e : Ev) (log : List Ev) :
    sentCount j (e :: log) = (if isSent j e then 1 else 0) + sentCount j log := by
  unfold sentCount
  rw [List.countP_cons]
  omega

theorem TraceInv.arrive {s s' : Chan} (ti : TraceInv s) (m : Msg) (hp : s.pending = none)
    (hlog : s'.log = .arrived m :: s.log) (ht : m.type = .RESPONSE) (ha : s'.asserts = s.asserts)
    (hst : s'.stage = s.stage) (hkeys : (s'.outstanding.map Prod.fst).Nodup)
    (hnew : ∀ k, .sent m.id k ∈ s.log → ranCount k s.log = 0 → (s.asserts = false ∨ respAssert m.payload.isSome m.err.isSome) →
      s'.pending = some (k, m))
    (hpend : ∀ k' m', s'.pending = some (k', m') → m' = m) : TraceInv s' := by
  refine ⟨?_, ?_, ?_, ?_, ?_, ?_, ?_, hkeys⟩
  · intro post pre m' k hl ht' hs hr hw
    -- a split of the new log is at its head, the new arrival (`hnew`), or a split of the old log
    rcases cons_split (hlog ▸ hl) with ⟨_, h2, rfl⟩ | ⟨p2, rfl, h2⟩
    · cases h2; exact .inr (hnew k hs hr (ha ▸ hw))
    · exact .inl (List.mem_cons_of_mem _ ((ti.first p2 pre m' k h2 ht' hs hr (ha ▸ hw)).resolve_right (by simp [hp])))
  · intro k' m' hpm
    cases hpend k' m' hpm
    exact ⟨ht, [], s.log, hlog, by simp⟩
  · intro post pre k i v hl
    rcases cons_split (hlog ▸ hl) with ⟨_, h2, _⟩ | ⟨p2, _, h2⟩
    · cases h2
    · exact ti.cause p2 pre k i v h2
  · intro k
    rw [hlog, sentCount_cons, hst]
    simp [isSent, ti.sentOnce k]
  · intro post pre k hl e he
    rcases cons_split (hlog ▸ hl) with ⟨_, h2, _⟩ | ⟨p2, rfl, h2⟩
    · cases h2
    · exact (List.mem_cons.mp he).elim (fun h => h ▸ rfl) (ti.afterFree p2 pre k h2 e)
  · intro k
    rw [hlog, freeCount_cons_of_false k _ _ rfl, ranCount_cons_of_false k _ _ rfl]
    exact ti.freeEq k
  · exact fun c hc => ti.noUaf c (by simpa [hlog] using hc)

theorem TraceInv.completion {s : Chan} (inv : CallInv s) (ti : TraceInv s) {k : Nat} {m : Msg}
    (hp : s.pending = some (k, m)) :
    TraceInv { s with pending := none
                      log := .free (.resp k) :: .ran k m.id (view m) ::
                               ((if m.payload.isSome then [.parse k] else []) ++ s.log) } := by
  obtain ⟨_, _, _, _, hf0⟩ := inv.pend k m hp
  obtain ⟨hty, mid, pre0, hl0, hmid⟩ := ti.pendArr k m hp
  generalize htail : (if m.payload.isSome then [Ev.parse k] else []) = tail
  have ht : ∀ e ∈ tail, e = .parse k := fun e he => mem_parseEvs (htail ▸ he)
  refine ⟨?_, (fun _ _ h => nomatch h), ?_, ?_, ?_, ?_, ?_, ti.keys⟩
  · intro post pre m' k' hl ht' hs hr hw
    obtain ⟨p2, rfl, hl2⟩ := split_ext (_ :: _ :: tail) hl (by simp; exact fun h => nomatch ht _ h)
    refine .inl ((ti.first p2 pre m' k' hl2 ht' hs hr hw).elim (List.mem_append_right _) (fun h => ?_))
    cases hp.symm.trans h; simp
  · intro post pre k' i v hl
    rcases cons_split hl with ⟨_, h2, _⟩ | ⟨p1, _, h2⟩
    · cases h2
    rcases cons_split h2 with ⟨_, h3, rfl⟩ | ⟨p2, _, h3⟩
    · cases h3
      exact ⟨m, tail ++ mid, pre0, by rw [hl0, List.append_assoc], hty, rfl, rfl,
        fun e he => (List.mem_append.mp he).elim (fun h => ht e h ▸ rfl) (hmid e)⟩
    · obtain ⟨p3, _, hl3⟩ := split_ext tail h3 (fun hm => nomatch ht _ hm)
      exact ti.cause p3 pre k' i v hl3
  · intro j
    show sentCount j (_ :: _ :: (tail ++ s.log)) = _
    rw [sentCount_cons, sentCount_cons, sentCount, countP_append_of_false _ (fun e he => by rw [ht e he]; rfl)]
    simpa [isSent, sentCount] using ti.sentOnce j
  · intro post pre k' hl e he
    rcases cons_split hl with ⟨rfl, _, _⟩ | ⟨p1, rfl, h2⟩
    · cases he
    obtain ⟨p3, rfl, hl3⟩ := split_ext (_ :: tail) h2 (by simp; exact fun h => nomatch ht _ h)
    -- the object freed earlier is not the one freed now: that one has not been freed before
    have hkk : k ≠ k' := fun hkk => by
      have := List.countP_eq_zero.mp hf0 (.free (.resp k')) (by rw [hl3]; simp)
      simp [isFreeResp, hkk] at this
    simp only [List.mem_cons, List.mem_append] at he
    rcases he with rfl | (rfl | h) | h
    · simp [touches, hkk]
    · simp [touches, hkk]
    · rw [ht e h]; simp [touches, hkk]
    · exact ti.afterFree p3 pre k' hl3 e h
  · intro j
    have hc := htail ▸ counts_finish k j m.id (view m) m.payload.isSome s.log
    show freeCount j (_ :: _ :: (tail ++ s.log)) = ranCount j (_ :: _ :: (tail ++ s.log))
    rw [hc.1, hc.2, ti.freeEq j]
  · intro c hc
    simp only [List.mem_cons, List.mem_append, reduceCtorEq, false_or] at hc
    exact hc.elim (fun h => nomatch ht _ h) (ti.noUaf c)

/-- a step of the REQUEST side: logs only its own events, touches nothing of the caller side -/
structure SrvStep (s s' : Chan) : Prop where
  log : ∃ evs, s'.log = evs ++ s.log ∧ ∀ e ∈ evs, e.srvSide = true ∧ (s.pending = none ∨ e.isArrived = false)
  outstanding : s'.outstanding = s.outstanding
  stage : s'.stage = s.stage
  pending : s'.pending = s.pending
  asserts : s'.asserts = s.asserts
  halted : s'.halted = s.halted


theorem isSent_srvSide {e : Ev} (k : Nat) (h : e.srvSide = true) : isSent k e = false := by
  unfold isSent; split <;> simp_all [Ev.srvSide]

theorem TraceInv.srv {s s' : Chan} (ti : TraceInv s) (h : SrvStep s s') : TraceInv s' := by
  obtain ⟨evs, hl, hev⟩ := h.log
  refine ti.quiet_step evs hl (fun e he => quiet_of_srvSide (hev e he).1) ?_ h.pending h.asserts ?_ ?_
  · by_cases hp : s.pending = none
    · exact Or.inl hp
    · exact Or.inr (fun e he => (hev e he).2.resolve_left hp)
  · intro k
    rw [hl, sentCount, countP_append_of_false _ (fun e he => isSent_srvSide k (hev e he).1), h.stage]
    exact ti.sentOnce k
  · rw [h.outstanding]; exact ti.keys

theorem SrvStep.logs {s : Chan} (evs : List Ev)
    (h : ∀ e ∈ evs, e.srvSide = true ∧ (s.pending = none ∨ e.isArrived = false))
    (cl : List (Nat × Nat × Nat)) (rq : Nat → Option Msg) (n : Nat) :
    SrvStep s { s with closures := cl, reqs := rq, nextReq := n, log := evs ++ s.log } :=
  ⟨⟨evs, rfl, h⟩, rfl, rfl, rfl, rfl, rfl⟩

theorem TraceInv.trans {s s' : Chan} {a : Act} (inv : CallInv s) (ti : TraceInv s) (h : Trans s a s') :
    TraceInv s' := by
  -- the call that a RESPONSE with this id must complete is the one registered under the id
  have hreg : ∀ (m : Msg) k, s.pending = none → Ev.sent m.id k ∈ s.log → ranCount k s.log = 0 →
      lookup m.id s.outstanding = some k := by
    intro m k hp hs hr
    obtain ⟨hid, hst⟩ := inv.wire m.id k hs
    exact hid ▸ inv.reg k (Or.inr hst) hr (by simp [hp])
  cases h with
  | callBegin =>
    refine ti.quiet_step [] rfl (by simp) (.inr (by simp)) rfl rfl (fun j => ?_) ti.keys
    show sentCount j s.log = if setAt s.stage s.nextCall .fetched j = .returned then 1 else 0
    by_cases h : j = s.nextCall <;> simp [ti.sentOnce, setAt, h, inv.born s.nextCall (Nat.le_refl _)]
  | callInsert k hst =>
    refine ti.quiet_step [] rfl (by simp) (.inr (by simp)) rfl rfl (fun j => ?_) (keys_insertKey _ _ _ ti.keys)
    show sentCount j s.log = if setAt s.stage k .inserted j = .returned then 1 else 0
    by_cases h : j = k <;> simp [ti.sentOnce, setAt, h, hst]
  | callSend k hst =>
    refine ti.quiet_step [.sent (s.idOf k) k] rfl (by simp [Ev.quiet]) (.inr (by simp [Ev.isArrived])) rfl rfl
      (fun j => ?_) ti.keys
    show sentCount j (.sent (s.idOf k) k :: s.log) = if setAt s.stage k .returned j = .returned then 1 else 0
    by_cases h : j = k
    · simp [sentCount_cons, isSent, ti.sentOnce, setAt, h, hst]
    · simp [sentCount_cons, isSent, ti.sentOnce, setAt, h, Ne.symm h]
  | abort m hp ht ha hw =>
    have h1 : TraceInv { s with log := .arrived m :: s.log } :=
      ti.arrive m hp rfl ht rfl rfl ti.keys
        (fun k _ _ hc => absurd (hc.resolve_left (by simp [ha])) hw) (fun k' m' h => by simp [hp] at h)
    exact h1.quiet_step [.abort] rfl (by simp [Ev.quiet]) (.inl hp) rfl rfl h1.sentOnce h1.keys
  | ignore m hp hne hr =>
    by_cases ht : m.type = .RESPONSE
    · refine ti.arrive m hp rfl ht rfl rfl ti.keys ?_ (fun k' m' h => by simp [hp] at h)
      intro k hs hr0 _
      rw [hreg m k hp hs hr0] at hr; cases hr ht
    · exact ti.srv (.logs [.arrived m] (by simp [Ev.srvSide, ht, hp]) _ _ _)
  | found m k hp ht hl =>
    refine ti.arrive m hp rfl ht rfl rfl (keys_eraseKey _ _ ti.keys) ?_ ?_
    · intro k' hs hr0 _
      have := hreg m k' hp hs hr0
      rw [hl] at this; cases this; rfl
    · intro k' m' h; cases h; rfl
  | request m hp ht =>
    rw [List.append_cons]
    exact ti.srv (.logs _ (fun e he => ⟨served_srvSide ht e he, .inl hp⟩) _ _ _)
  | finish k m hp => exact ti.completion inv hp
  | fire r c =>
    exact ti.srv (.logs [.free (.srvResp r), .reply r c.2.1 (some c.2.2) none] (by simp [Ev.srvSide, Ev.isArrived]) _ _ _)
  | stale r => exact ti.srv (.logs [.uaf (.closure r)] (by simp [Ev.srvSide, Ev.isArrived]) _ _ _)

theorem TraceInv.run (asserts hs : Bool) (acts : List Act) : TraceInv (run asserts hs acts) :=
  (run_induct (P := fun s => CallInv s ∧ TraceInv s) asserts hs ⟨.init asserts hs, .init asserts hs⟩
    (fun h t => ⟨h.1.trans t, h.2.trans h.1 t⟩) acts).2

/-! ### `TraceInv` across the function `finish` (the proofs go by the relation `Trans`); no proof uses it -/

theorem TraceInv.finish {s : Chan} (inv : CallInv s) (ti : TraceInv s) : TraceInv (finish s) := by
  rcases finish_trans s with h | h
  · rw [h]; exact ti
  · exact ti.trans inv h

end MuduoVerif.Rpc
