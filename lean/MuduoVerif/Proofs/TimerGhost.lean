import MuduoVerif.Proofs.TimerStep
/-! Ghost invariant behind `never_early` and `once` (C06): what every recorded callback run satisfies, how runs are
numbered, and how the run count of a timer relates to its cell. -/
namespace MuduoVerif.Timer
open MuduoVerif.Gen.Timer

/-- a `Timer` cell: the deadline is at least the first one plus one interval per restart; one-shot timers are never
restarted; before the first restart the deadline is the one it was created with -/
def CellOK (c : Cell) : Prop :=
  c.first + (c.runs : Int) * c.delta ≤ c.exp ∧ (c.rep = false → c.runs = 0) ∧ (c.runs = 0 → c.exp = c.first)

/-- one callback run: not before the deadline it was queued under; the k-th run's deadline is at least the first
deadline plus k-1 intervals; a one-shot timer only has a first run -/
def RunOK (r : RunRec) : Prop :=
  1 ≤ r.k ∧ r.exp ≤ r.now ∧ r.first + ((r.k : Int) - 1) * r.delta ≤ r.exp ∧ (r.rep = false → r.k = 1) ∧
    (r.k = 1 → r.exp = r.first)

/-- number of runs of the timer with sequence number `q` -/
def cnt (q : Nat) (l : List RunRec) : Nat := l.countP (fun r => r.seq = q)

theorem cnt_cons (q : Nat) (r : RunRec) (l : List RunRec) : cnt q (r :: l) = cnt q l + (if r.seq = q then 1 else 0) := by
  unfold cnt; rw [List.countP_cons]; simp

/-- runs are numbered: the run that is the k-th of its timer carries k (list newest first) -/
def NumOK : List RunRec → Prop
  | [] => True
  | r :: l => r.k = cnt r.seq l + 1 ∧ NumOK l

/-- the run belongs to the timer in cell `c` at `a` -/
def SameT (r : RunRec) (c : Cell) (a : Addr) : Prop :=
  r.name = c.name ∧ r.addr = a ∧ r.rep = c.rep ∧ r.first = c.first ∧ r.delta = c.delta

/-- the ghost history: what the recorded runs and the cells say of each other; `D`: the addresses whose callback ran in the batch
under way and whose cell is not restarted or deleted yet (one run ahead of `Cell.runs`) -/
structure GH (s : TQ) (D : List Addr) : Prop where
  cell_ok : ∀ a c, s.heap a = some c → CellOK c
  ev_ok : ∀ r ∈ runRecs s.trace, RunOK r
  ev_seq : ∀ r ∈ runRecs s.trace, r.seq ≤ s.numCreated
  r_cnt : ∀ a c, s.heap a = some c → cnt c.seq (runRecs s.trace) = c.runs + (if a ∈ D then 1 else 0)
  r_attr : ∀ a c, s.heap a = some c → ∀ r ∈ runRecs s.trace, r.seq = c.seq → SameT r c a
  r_num : NumOK (runRecs s.trace)
  r_same : ∀ r ∈ runRecs s.trace, ∀ r' ∈ runRecs s.trace, r.seq = r'.seq →
    r.name = r'.name ∧ r.addr = r'.addr ∧ r.rep = r'.rep ∧ r.first = r'.first ∧ r.delta = r'.delta

variable {s s' : TQ} {D D' : List Addr}

theorem GH.shrink (h : GH s D) (hh : ∀ x c, s'.heap x = some c → s.heap x = some c ∧ (x ∈ D' ↔ x ∈ D))
    (hr : runRecs s'.trace = runRecs s.trace) (hn : s.numCreated ≤ s'.numCreated) : GH s' D' := by
  refine ⟨fun a c hc => h.cell_ok a c (hh a c hc).1, by rw [hr]; exact h.ev_ok, ?_, ?_, ?_, by rw [hr]; exact h.r_num,
    by rw [hr]; exact h.r_same⟩
  · rw [hr]; intro r hr'; exact Nat.le_trans (h.ev_seq r hr') hn
  · intro a c hc
    obtain ⟨h1, h2⟩ := hh a c hc
    rw [hr, h.r_cnt a c h1]
    by_cases hm : a ∈ D
    · rw [if_pos hm, if_pos (h2.2 hm)]
    · rw [if_neg hm, if_neg (fun h' => hm (h2.1 h'))]
  · rw [hr]; intro a c hc; exact h.r_attr a c (hh a c hc).1

theorem GH.ext (h : GH s D) (he : Ext s s') (hh : s'.heap = s.heap) : GH s' D :=
  h.shrink (fun x c hc => ⟨by rw [← hh]; exact hc, Iff.rfl⟩) he.runs he.numCreated

theorem GH.core (h : GH s D) (hc : s'.core = s.core) : GH s' D := by
  exact h.shrink (fun x c hx => ⟨(congrArg (·.heap) hc : s'.heap = s.heap) ▸ hx, Iff.rfl⟩) (congrArg (runRecs ·.trace) hc)
    (Nat.le_of_eq (congrArg (·.numCreated) hc).symm)

theorem GH.alloc {a : Addr} {c : Cell} (h : GH s D) (hn : Fresh s a c) (hd : a ∉ D) : GH (allocCell s a c) D := by
  obtain ⟨hf, -, hs, hr, hx⟩ := hn
  -- no run is recorded under the new sequence number: the recorded ones are at most `numCreated`
  have hfresh : cnt c.seq (runRecs s.trace) = 0 := by
    unfold cnt; rw [List.countP_eq_zero]
    intro r hr' heq
    have := h.ev_seq r hr'
    simp only [decide_eq_true_eq] at heq
    omega
  refine ⟨?_, h.ev_ok, ?_, ?_, ?_, h.r_num, h.r_same⟩
  · intro x cx hcx
    rcases hset_some hcx with ⟨_, rfl⟩ | ⟨_, hcx⟩
    · exact ⟨by rw [hr, hx]; simp, fun _ => hr, fun _ => hx⟩
    · exact h.cell_ok x cx hcx
  · intro r hr'
    show r.seq ≤ c.seq
    have := h.ev_seq r hr'; omega
  · intro x cx hcx
    show cnt cx.seq (runRecs s.trace) = _
    rcases hset_some hcx with ⟨rfl, rfl⟩ | ⟨_, hcx⟩
    · rw [hfresh, hr, if_neg hd]
    · exact h.r_cnt x cx hcx
  · intro x cx hcx r hr' heq
    rcases hset_some hcx with ⟨_, rfl⟩ | ⟨_, hcx⟩
    · have := h.ev_seq r hr'; omega
    · exact h.r_attr x cx hcx r hr' heq

theorem GH.run {B : List (Time × Addr)} {L : List Addr} {e : Time × Addr} {c : Cell} (h : GH s D) (hw : WFp s B L)
    (he : e ∈ B) (hc : s.heap e.2 = some c) (hd : e.2 ∉ D) {now : Time} (hle : e.1 ≤ now) :
    GH (emit s (.run c.name c.seq (c.runs + 1) e.2 c.rep c.first c.delta e.1 now s.clock)) (D ++ [e.2]) := by
  have hce : c.exp = e.1 := by
    obtain ⟨⟨c', hc', hce⟩, _⟩ := hw.b_live e he
    rw [hc] at hc'; cases hc'; exact hce
  have htr : runRecs (emit s (.run c.name c.seq (c.runs + 1) e.2 c.rep c.first c.delta e.1 now s.clock)).trace =
      ⟨c.name, c.seq, c.runs + 1, e.2, c.rep, c.first, c.delta, e.1, now⟩ :: runRecs s.trace := by
    show runRecs (_ :: s.trace) = _
    rw [runRecs_cons]; rfl
  -- `e.2 ∉ D`: the cell's `runs` is the number of runs recorded for it, so the new record's `k = runs + 1` continues the numbering
  have hcnt := h.r_cnt e.2 c hc
  rw [if_neg hd] at hcnt
  obtain ⟨k1, k2, k3⟩ := h.cell_ok e.2 c hc
  have hok : RunOK ⟨c.name, c.seq, c.runs + 1, e.2, c.rep, c.first, c.delta, e.1, now⟩ := by
    refine ⟨Nat.succ_pos _, hle, ?_, fun hrep => by rw [k2 hrep], fun hk => hce ▸ k3 (Nat.succ.inj hk)⟩
    simp only [Nat.cast_add, Nat.cast_one, add_sub_cancel_right]; exact hce ▸ k1
  have key : ∀ r ∈ runRecs s.trace, r.seq = c.seq → SameT r c e.2 := fun r hr heq => h.r_attr e.2 c hc r hr heq
  refine ⟨h.cell_ok, ?_, ?_, ?_, ?_, ?_, ?_⟩
  · rw [htr]; exact List.forall_mem_cons.2 ⟨hok, h.ev_ok⟩
  · rw [htr]; exact List.forall_mem_cons.2 ⟨(hw.seq_le e.2 c hc).2, h.ev_seq⟩
  · intro x cx hcx0
    have hcx : s.heap x = some cx := hcx0
    rw [htr, cnt_cons, h.r_cnt x cx hcx]
    by_cases hxa : x = e.2
    · subst hxa
      rw [hc] at hcx; cases hcx
      rw [if_neg hd, if_pos rfl, if_pos (List.mem_append_right _ List.mem_cons_self)]
    · have hne : c.seq ≠ cx.seq := fun he => hxa (hw.seq_inj x e.2 cx c hcx hc he.symm)
      simp only [hne, if_false, List.mem_append, List.mem_singleton, hxa, or_false, Nat.add_zero]
  · rw [htr]; intro x cx hcx0 r hr heq
    have hcx : s.heap x = some cx := hcx0
    rcases List.mem_cons.1 hr with rfl | hr
    · have : x = e.2 := hw.seq_inj x e.2 cx c hcx hc heq.symm
      subst this
      rw [hc] at hcx; cases hcx
      exact ⟨rfl, rfl, rfl, rfl, rfl⟩
    · exact h.r_attr x cx hcx r hr heq
  · rw [htr]
    exact ⟨by show c.runs + 1 = cnt c.seq _ + 1; rw [hcnt], h.r_num⟩
  · rw [htr]
    intro r hr r' hr' heq
    rcases List.mem_cons.1 hr with rfl | hr <;> rcases List.mem_cons.1 hr' with rfl | hr'
    · exact ⟨rfl, rfl, rfl, rfl, rfl⟩
    · obtain ⟨a1, a2, a3, a4, a5⟩ := key r' hr' heq.symm
      exact ⟨a1.symm, a2.symm, a3.symm, a4.symm, a5.symm⟩
    · exact key r hr heq
    · exact h.r_same r hr r' hr' heq

theorem GH.restart {a : Addr} {c : Cell} {now : Time} (h : GH s D) (hc : s.heap a = some c) (hd : a ∈ D)
    (hrep : c.rep = true) (hle : c.exp ≤ now) (hD : ∀ x, x ∈ D' ↔ x ∈ D ∧ x ≠ a) :
    GH (setCell s a (restarted c now)) D' := by
  refine ⟨?_, h.ev_ok, h.ev_seq, ?_, ?_, h.r_num, h.r_same⟩
  · intro x cx hcx
    rcases hset_some hcx with ⟨rfl, rfl⟩ | ⟨_, hcx⟩
    · obtain ⟨k1, _, _⟩ := h.cell_ok x c hc
      refine ⟨?_, fun hf => absurd (hrep.symm.trans hf) (by decide), fun h0 => absurd h0 (Nat.succ_ne_zero _)⟩
      -- `first + runs * delta ≤ exp ≤ now`, and the new deadline is `now + delta`
      show c.first + ((c.runs + 1 : Nat) : Int) * c.delta ≤ Gen.Timer.restart c.rep now c.delta
      rw [hrep, restart_repeating, Nat.cast_add, Nat.cast_one, Int.add_mul, Int.one_mul, ← Int.add_assoc]
      exact Int.add_le_add_right (Int.le_trans k1 hle) _
    · exact h.cell_ok x cx hcx
  · intro x cx hcx
    show cnt cx.seq (runRecs s.trace) = _
    rcases hset_some hcx with ⟨rfl, rfl⟩ | ⟨hxa, hcx⟩
    · rw [if_neg (fun hm => ((hD x).1 hm).2 rfl)]
      exact (h.r_cnt x c hc).trans (by rw [if_pos hd]; rfl)
    · rw [h.r_cnt x cx hcx]
      by_cases hm : x ∈ D
      · rw [if_pos hm, if_pos ((hD x).2 ⟨hm, hxa⟩)]
      · rw [if_neg hm, if_neg (fun h' => hm ((hD x).1 h').1)]
  · intro x cx hcx r hr heq
    rcases hset_some hcx with ⟨rfl, rfl⟩ | ⟨_, hcx⟩
    · exact h.r_attr x c hc r hr heq
    · exact h.r_attr x cx hcx r hr heq

variable {B : List (Time × Addr)} {L : List Addr}

theorem cancelInLoop_heap (hw : WFp s B L) (id : TimerId) {x : Addr} {c : Cell}
    (hx : (cancelInLoop s id).heap x = some c) : s.heap x = some c := by
  rw [cancelInLoop_eq hw id] at hx
  split at hx
  · exact (hfree_some hx).2
  · split at hx <;> exact hx

theorem GH.cancelInLoop (hw : WFp s B L) (h : GH s D) (id : TimerId) : GH (Timer.cancelInLoop s id) D :=
  h.shrink (fun _ _ hx => ⟨cancelInLoop_heap hw id hx, Iff.rfl⟩) (cancelInLoop_ext hw id).runs
    (cancelInLoop_ext hw id).numCreated

/-- callbacks and queued functors; `D` lies inside the batch, so a new `Timer` is at none of its addresses -/
theorem GH.kept (hD : ∀ x ∈ D, x ∈ B.map (·.2)) : Kept B (fun s => GH s D) where
  frame f h := h.core f.core
  alloc {_ _ a _} hw hn h := h.alloc hn fun hm => by
    obtain ⟨e, he, rfl⟩ := List.mem_map.1 (hD a hm)
    obtain ⟨⟨c', hc', _⟩, _⟩ := hw.b_live e he
    rw [hn.free] at hc'; cases hc'
  addInLoop _ hc h := h.ext (addInLoop_ext hc) (addInLoop_heap hc)
  cancelInLoop hw id h := h.cancelInLoop hw id
  bindId _ _ _ h := h.ext (bindId_ext _ _ _ _) rfl

theorem GH.resetOne {e : Time × Addr} (hw : WFp s (e :: B) L) (h : GH s ((e :: B).map (·.2))) {now : Time}
    (hle : e.1 ≤ now) : GH (Timer.resetOne now s e) (B.map (·.2)) := by
  obtain ⟨⟨c, hc, hce⟩, _⟩ := hw.b_live e List.mem_cons_self
  have hnd : e.2 ∉ B.map (·.2) := (List.nodup_cons.1 hw.b_nodup).1
  have hD : ∀ x, x ∈ B.map (·.2) ↔ x ∈ (e :: B).map (·.2) ∧ x ≠ e.2 := fun x =>
    ⟨fun hx => ⟨List.mem_cons_of_mem _ hx, fun hxe => hnd (hxe ▸ hx)⟩, fun hx => (List.mem_cons.1 hx.1).resolve_left hx.2⟩
  rw [resetOne_eq hc]
  split
  · rename_i hr
    exact (h.restart (now := now) hc List.mem_cons_self hr.1 (hce ▸ hle) hD).ext
      ((emit_ext _ _ rfl).trans (Ext.same rfl rfl rfl rfl rfl rfl (Nat.le_refl _))) rfl
  · exact h.shrink (fun x cx hx => ⟨(hfree_some hx).2, (hD x).trans (and_iff_left (hfree_some hx).1)⟩) rfl (Nat.le_refl _)

theorem GH.batchInv (now : Time) :
    BatchInv now (fun done _ s => GH s (done.map (·.2))) (fun B s => GH s (B.map (·.2))) where
  kept := GH.kept fun x hx => by rw [List.map_append]; exact List.mem_append_left _ hx
  run hw hc hle hd h := by
    rw [List.map_append]; exact h.run hw (List.mem_append_right _ List.mem_cons_self) hc hd hle
  flag h := h.shrink (fun _ _ hc => ⟨hc, Iff.rfl⟩) rfl (Nat.le_refl _)
  resetOne hw hle h := h.resetOne hw hle

theorem rearm_heap (hw : WFp s B L) : (rearm s).heap = s.heap := by
  rw [rearm_eq hw]
  split
  · rfl
  · split
    · rw [armFd_eq]
    · rfl

theorem GH.handleRead (hw : WFp s [] L) (h : GH s []) : GH (Timer.handleRead s) [] := by
  rw [handleRead_eq hw]
  have f := readNow_frame s
  have h0 : GH (batchStart s) [] :=
    h.shrink (fun x c hc => ⟨f.heap ▸ hc, Iff.rfl⟩) (congrArg runRecs f.trace) (Nat.le_of_eq f.numCreated.symm)
  obtain ⟨hw3, h3⟩ := (GH.batchInv _).batch (fun _ => batch_due _) hw.batchStart h0
  exact h3.ext (rearm_ext hw3) (rearm_heap hw3)

theorem GH.stable : Stable (fun s => GH s []) where
  toKept := GH.kept (B := []) fun _ hx => nomatch hx
  core h hc := h.core hc
  processed _ h := h.ext (emit_ext _ _ rfl) rfl
  expire h := h.shrink (fun _ _ hc => ⟨hc, Iff.rfl⟩) rfl (Nat.le_refl _)

theorem run_gh (ins : List In) : GH (run ins) [] := by
  refine (GH.stable.run (fun ht h => h.handleRead ht.wf) ⟨?_, ?_, ?_, ?_, ?_, trivial, ?_⟩ ins).2
  · intro a c hc; cases hc
  · intro r hr; cases hr
  · intro r hr; cases hr
  · intro a c hc; cases hc
  · intro a c hc; cases hc
  · intro r hr; cases hr

theorem cnt_le_one_of_k (q : Nat) (l : List RunRec) (hn : NumOK l) (hk : ∀ r ∈ l, r.seq = q → r.k = 1) : cnt q l ≤ 1 := by
  induction l with
  | nil => simp [cnt]
  | cons r l ih =>
    have ih' := ih hn.2 (fun r' hr' => hk r' (List.mem_cons_of_mem _ hr'))
    rw [cnt_cons]
    split
    · rename_i hq
      have h1 := hk r List.mem_cons_self hq
      have h2 := hn.1
      rw [hq] at h2
      omega
    · omega

theorem cnt_pos_of_mem (q : Nat) (l : List RunRec) {r : RunRec} (hr : r ∈ l) (hq : r.seq = q) : 1 ≤ cnt q l := by
  unfold cnt
  exact List.countP_pos_iff.2 ⟨r, hr, by simpa using hq⟩

end MuduoVerif.Timer
