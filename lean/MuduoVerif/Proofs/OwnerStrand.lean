import MuduoVerif.Proofs.OwnerExit
/-! The exit invariant, whole.  What the functors of the model append to the queue of the loop that runs them are
`connectDestroyed` functors only, and those append nothing: the repeated final drain leaves the queue of the base loop
empty when it exits, and afterwards nothing that still has to run is ever queued there (`BaseQueueInv`).  `ExitInv`
joins this clause to `XInvE`; one walk over the steps keeps both (`exitInv_step`), and no schedule strands a
`connectEstablished` / `connectDestroyed` functor (`run_all`). -/
namespace MuduoVerif.Owner
open MuduoVerif.Gen.Owner
open MuduoVerif.Gen.Conn (StateE forceCloseAccepts shutdownAccepts forceCloseInLoopActs destroyedWhileConnected)

theorem connectDestroyed_q (s : Srv) (l c : Nat) : (connectDestroyed s l c).q = s.q := by
  simp only [connectDestroyed, apply_ite Srv.q, emit_q, setConn_q, ite_self]

/-- `~TcpServer` queues nothing on the base loop -/
theorem baseAppends_destroyServer (b : Bool) (s : Srv) : BaseAppends b s (destroyServer s) :=
  destroyServer_inv (P := BaseAppends b s) (BaseAppends.refl b s) (fun _ => baseAppends_of_q b _ _ rfl)
    -- `Eff.app` speaks of `decide (thr = 0)`: the thread is picked so that this reduces to `b`
    (fun s' c h => h.trans (by cases b; exacts [(eff_dtorOne 1 s' c).app, (eff_dtorOne 0 s' c).app]))

theorem baseAppends_runTask (s : Srv) (l : Nat) (t : Task) : BaseAppends (decide (l = 0)) s (runTask s l t) := by
  cases ht : t.conn? with
  | some c => exact (eff_runTask s l t c ht).app
  | none => rw [conn?_eq_none ht]; exact baseAppends_destroyServer _ s

theorem runHead0 (s : Srv) (t : Task) (rest : List Task) (hq : s.q 0 = t :: rest) :
    ∃ app, (runHead s 0).q 0 = rest ++ app ∧ (∀ u ∈ app, u.isDes = true) ∧ (t.isDes = true → app = []) := by
  rw [runHead_cons s 0 t rest hq]
  obtain ⟨ts, e1, c1⟩ := (baseAppends_runTask (pop s 0 t rest) 0 t).q
  refine ⟨ts, by rw [e1]; simp, fun u hu => by simpa using c1 u hu, ?_⟩
  intro hd
  cases t with
  | des c => simpa [runTask, connectDestroyed_q] using e1
  | _ => simp [Task.isDes] at hd

theorem iterate_runHead0 (k : Nat) : ∀ s : Srv, k ≤ (s.q 0).length →
    ∃ app, (iterate (fun s => runHead s 0) k s).q 0 = (s.q 0).drop k ++ app ∧ (∀ u ∈ app, u.isDes = true) ∧
      ((∀ t ∈ s.q 0, t.isDes = true) → app = []) := by
  induction k with
  | zero => intro s _; exact ⟨[], by simp [iterate], by simp, fun _ => rfl⟩
  | succ k ih =>
    intro s hk
    cases hq : s.q 0 with
    | nil => rw [hq] at hk; simp at hk
    | cons t rest =>
      have hkr : k ≤ rest.length := by rw [hq] at hk; simpa using hk
      obtain ⟨a1, e1, d1, z1⟩ := runHead0 s t rest hq
      obtain ⟨a2, e2, d2, z2⟩ := ih (runHead s 0) (by rw [e1, List.length_append]; omega)
      rw [e1, List.drop_append_of_le_length hkr] at e2
      refine ⟨a1 ++ a2, by simpa [iterate] using e2, fun u hu => (List.mem_append.mp hu).elim (d1 u) (d2 u), fun hall => ?_⟩
      obtain rfl := z1 (hall t List.mem_cons_self)
      rw [e1, List.append_nil] at z2
      exact z2 fun u hu => hall u (List.mem_cons_of_mem _ hu)

theorem drainBatch0 (s : Srv) :
    (∀ u ∈ (drainBatch s 0).q 0, u.isDes = true) ∧ ((∀ t ∈ s.q 0, t.isDes = true) → (drainBatch s 0).q 0 = []) := by
  unfold drainBatch
  obtain ⟨hq3, _⟩ := endBatch_q_done (iterate (fun s => runHead s 0) (s.q 0).length s) 0
  obtain ⟨app, e, d, z⟩ := iterate_runHead0 (s.q 0).length s (Nat.le_refl _)
  rw [hq3, e]
  simp only [List.drop_length, List.nil_append]
  exact ⟨d, z⟩

theorem drainAll0 (s : Srv) : (drainAll 0 3 s).q 0 = [] := by
  have h1 := drainBatch0 s
  simp only [drainAll]
  split
  · assumption
  · have h2 := (drainBatch0 (drainBatch s 0)).2 h1.1
    rw [if_pos h2]; exact h2

/-- the fifth clause of the exit invariant (after `XInvE.x1` .. `x4`): once the base loop has exited, nothing that still
has to run is queued to it -/
def BaseQueueInv (s : Srv) : Prop := s.exited 0 = true → ∀ t ∈ s.q 0, t.mustRun = false

/-- the exit invariant: what a loop that has left `loop()` leaves in its queue.  `XInvE` for the io loops;
`BaseQueueInv` for the base loop, which holds only where `EventLoop::loop` repeats its final `doPendingFunctors()` until
the queue is empty (`y`: the configuration has `drainRepeats`; `exitInv_step` asks for it in the one case that needs it,
the exit of the base loop) -/
structure ExitInv (y : Bool) (e : Nat) (s : Srv) : Prop where
  x : XInvE e s
  base : y = true → BaseQueueInv s

section closure
variable {y : Bool} {e : Nat} {s s' : Srv}

theorem ExitInv.shrinks (h : ExitInv y e s) (hs : Shrinks e s s') : ExitInv y e s' :=
  ⟨h.x.shrinks hs, fun hy he t ht => h.base hy (by rwa [hs.exited] at he) t ((hs.q 0).subset ht)⟩

/-- a step that only appends functors; `b`: on the base loop's thread, which then has not left `loop()` -/
theorem ExitInv.grow {al b : Bool} (h : ExitInv y e s) (hg : GrowA al s s') (ha : BaseAppends b s s') (hal : al = true → s.alive = true)
    (hb : y = true → b = true → s.exited 0 = false) : ExitInv y e s' := by
  refine ⟨h.x.grow hg hal, fun hy he t ht => ?_⟩
  obtain ⟨ts, e1, c1⟩ := ha.q
  rw [hg.exited] at he
  rcases List.mem_append.mp (e1 ▸ ht) with h1 | h1
  · exact h.base hy he t h1
  · cases b with
    | false => simpa using c1 t h1
    | true => cases (hb hy rfl).symm.trans he

theorem ExitInv.frame (h : ExitInv y e s) (h1 : s'.exited = s.exited) (h2 : s'.drain = s.drain) (h3 : s'.L = s.L) (h4 : s'.done = s.done)
    (h5 : s'.alive = true → s.alive = true) (h6 : s'.q = s.q) : ExitInv y e s' :=
  h.grow (growA_of_fields false s s' h1 h2 h3 h4 h5 h6) (baseAppends_of_q false s s' h6) nofun nofun

theorem ExitInv.eff {al : Bool} {thr c : Nat} (h : ExitInv y e s) (he : Eff al thr c s s') (hle : (s.conn c).loop ≤ s.L)
    (hal : al = true → s.alive = true) (hthr : y = true → thr = 0 → s.exited 0 = false) : ExitInv y e s' :=
  h.grow (he.grow hle) he.app hal fun hy hb => hthr hy (of_decide_eq_true hb)

theorem ExitInv.reapOne (h : ExitInv y e s) (l c : Nat) : ExitInv y e (reapOne s l c) :=
  h.grow (growA_reapOne false s l c) (baseAppends_of_q false _ _ (reapOne_q s l c)) nofun nofun

theorem ExitInv.enq (h : ExitInv y e s) (l : Nat) (t : Task) (ht : t = .srvDtor → l = 0) (hl : l ≤ s.L)
    (hex : l = 0 ∨ s.exited l = false ∨ s.drain = false) (hm : l = 0 → t.mustRun = false) : ExitInv y e (s.enq l t) := by
  refine ⟨xinvE_enq e s h.x l t ht hl hex, fun hy he u hu => ?_⟩
  rcases mem_enq.mp hu with h1 | ⟨h1, rfl⟩
  · exact h.base hy he u h1
  · exact hm h1.symm

theorem ExitInv.close {l : Nat} (h : ExitInv y l s) (hemp : l ≠ 0 → s.q l = [] ∧ s.done l = []) : ExitInv y 0 s := ⟨h.x.close hemp, h.base⟩

end closure

theorem exitInv_runHead (y : Bool) (e : Nat) (s : Srv) (hg : GInv s) (hx : ExitInv y e s) (l : Nat) (hex : s.exited l = false ∨ l = e)
    (h0 : y = true → l = 0 → s.exited 0 = false) : ExitInv y e (runHead s l) :=
  runHead_inv (P := ExitInv y e) hx fun t rest hq => (hx.shrinks (shrinks_pop e s l t rest hq hex)).grow
    (growA_runTask (pop s l t rest) l t (fun c => loops_le hg c)) (baseAppends_runTask (pop s l t rest) l t) (fun h => h)
    fun hy hb => h0 hy (of_decide_eq_true hb)

theorem exitInv_releaseHead (y : Bool) (e : Nat) (s : Srv) (hx : ExitInv y e s) (l : Nat) : ExitInv y e (releaseHead s l) :=
  releaseHead_inv (P := ExitInv y e) hx (fun t rest hd => hx.shrinks (shrinks_undone e s l t rest hd)) (fun _ c h => h.reapOne l c)

theorem exitInv_dropHead (y : Bool) (e : Nat) (s : Srv) (hx : ExitInv y e s) (l : Nat) : ExitInv y e (dropHead s l) :=
  dropHead_inv (P := ExitInv y e) hx (fun t rest hq => hx.shrinks (shrinks_dropq e s l t rest hq)) (fun _ c h => h.reapOne l c)

/-- the final drain of loop `l`: an io loop, or the base loop while the fifth clause is not claimed -/
theorem exitInv_drainBatch (y : Bool) (e : Nat) (s : Srv) (hg : GInv s) (hx : ExitInv y e s) (l : Nat) (hex : s.exited l = false ∨ l = e)
    (h0 : y = true → l ≠ 0) : GInv (drainBatch s l) ∧ ExitInv y e (drainBatch s l) := by
  obtain ⟨hg2, hx2, _⟩ := iterate_inv (P := fun s' => GInv s' ∧ ExitInv y e s' ∧ s'.exited = s.exited)
    (fun s' h => ⟨(ginv_runHead s' ⟨h.1, .refl s'⟩ l).toGInv,
      exitInv_runHead y e s' h.1 h.2.1 l (by rw [h.2.2]; exact hex) (fun hy hl => absurd hl (h0 hy)),
      (runHead_exited s' l).trans h.2.2⟩) (s.q l).length s ⟨hg, hx, rfl⟩
  exact ⟨(ginv_endBatch _ ⟨hg2, .refl _⟩ l).toGInv, iterate_inv (fun s' h => exitInv_releaseHead y e s' h l) _ _ hx2⟩

theorem exitInv_drainAll (y : Bool) (l : Nat) (f : Nat) (s : Srv) (hg : GInv s) (hx : ExitInv y l s) (h0 : y = true → l ≠ 0) :
    ExitInv y l (drainAll l f s) :=
  (drainAll_inv (P := fun s' => GInv s' ∧ ExitInv y l s') (fun s' h => exitInv_drainBatch y l s' h.1 h.2 l (Or.inr rfl) h0) f s ⟨hg, hx⟩).2

theorem exitInv_exit (y : Bool) (s : Srv) (hg : GInv s) (hx : ExitInv y 0 s) (l : Nat)
    (hy : y = true → s.drain = true ∧ s.drainRepeats = true) : ExitInv y 0 (step s (.exit l)) := by
  refine ite_inv (P := ExitInv y 0) (fun _ => hx) (fun hcond => ?_)
  have hio : l ≠ 0 → s.alive = false ∧ l ≤ s.L := fun hl0 => by
    simp only [Bool.or_eq_true, Bool.and_eq_true, bne_iff_ne, ne_eq, decide_eq_true_eq, not_or, not_and, hl0,
      not_false_eq_true, true_imp_iff] at hcond
    exact ⟨by simpa using hcond.2.1, by omega⟩
  -- the loop is marked as exited; while its final drain runs it is exempt from the "exited loops are empty" clause, and
  -- the fifth clause is claimed for the exit of an io loop only
  have hne : (y && l != 0) = true → y = true ∧ l ≠ 0 := by simp
  have hx1 : ExitInv (y && l != 0) l { s with exited := fun i => if i = l then true else s.exited i } := {
    x := { hx.x with
      x1 := fun l' h0 hex => by
        simp only at hex
        split at hex
        · next h => subst h; exact hio h0
        · exact hx.x.x1 l' h0 hex
      x2 := fun hd l' h0 he hex => by
        simp only at hex
        rw [if_neg he] at hex
        exact hx.x.x2 hd l' h0 h0 hex }
    base := fun hy' he => hx.base (hne hy').1 (by simpa [Ne.symm (hne hy').2] using he) }
  have hg1 := (ginv_exited s ⟨hg, .refl s⟩ (fun i => if i = l then true else s.exited i)).toGInv
  -- an io loop leaves when its server is gone: one drain empties its queue
  have hemp := fun hl0 : l ≠ 0 => drainBatch_io _ hg1 l hl0 (hio hl0).1
  have key : ExitInv (y && l != 0) 0 _ := ite_inv (P := ExitInv (y && l != 0) 0) (p := s.drain = true)
    (fun _ => ite_inv (p := s.drainRepeats = true)
      (fun _ => (exitInv_drainAll _ l 3 _ hg1 hx1 (fun h => (hne h).2)).close (fun hl0 => by
        rw [drainAll, if_pos (hemp hl0).1]; exact hemp hl0))
      (fun _ => (exitInv_drainBatch _ l _ hg1 hx1 l (Or.inr rfl) (fun h => (hne h).2)).2.close hemp))
    (fun hd => { hx1 with x := { hx1.x with x2 := fun hd' => absurd hd' hd } })
  refine ⟨key.x, fun hyt he t ht => ?_⟩
  by_cases hl : l = 0
  · -- the base loop: its repeated drain leaves its queue empty
    subst hl
    obtain ⟨hd, hr⟩ := hy hyt
    rw [if_pos hd, if_pos hr, drainAll0] at ht; cases ht
  · exact key.base (by simp [hyt, hl]) he t ht

section step
variable (y : Bool) (s : Srv) (hg : GInv s) (hx : ExitInv y 0 s)
include hg hx

theorem exitInv_accept (hinj : Function.Injective s.nameOf) : ExitInv y 0 (accept s) := by
  by_cases hgo : s.alive = true ∧ s.exited 0 = false
  swap
  · rw [accept_off s hgo]; exact hx
  obtain ⟨ha, he⟩ := hgo
  rw [accept_nf s ha he (mapFind_fresh s hg hinj)]
  have g0 : ∀ l, ExitInv y 0 (accepted s l) := fun l => hx.frame rfl rfl rfl rfl (fun _ => ha) rfl
  split
  · exact (g0 0).eff (eff_connectEstablished true 0 _ 0 _) (by simp [accepted, newConn]) (fun _ => ha) (fun _ _ => he)
  · rename_i hl0
    exact (g0 _).grow (growA_enq true _ _ _ (by simp) (Or.inr ⟨rfl, picked_loop_le s hg⟩)) (baseAppends_enq true _ _ _ (fun h0 => absurd h0 hl0))
      (fun _ => ha) (fun _ _ => he)

/-- a user's call changes the record of a live, connected connection and queues a functor on its loop -/
theorem exitInv_enq_up (c : Nat) (hal : (s.conn c).alive = true) (hup : isUp (s.conn c).st = true) (C : Conn) (t : Task)
    (ht : t ≠ .srvDtor) (hm : t.mustRun = false) : ExitInv y 0 ((s.setConn c C).enq (s.conn c).loop t) := by
  refine ExitInv.enq (s := s.setConn c C) (hx.frame rfl rfl rfl rfl id rfl) _ _ (fun h => absurd h ht) (by simpa using loops_le hg c) ?_
    (fun _ => hm)
  by_cases hl0 : (s.conn c).loop = 0
  · exact Or.inl hl0
  · right
    cases hex : s.exited (s.conn c).loop with
    | false => exact Or.inl hex
    | true =>
      right
      cases hd : s.drain with
      | false => exact hd
      | true => have := not_up_of_exited s hg hx.x c hal hl0 hex hd; rw [hup] at this; cases this

theorem exitInv_step (hinj : Function.Injective s.nameOf) (hy : y = true → s.drain = true ∧ s.drainRepeats = true) (a : Action) :
    ExitInv y 0 (step s a) := by
  cases a with
  | accept => exact exitInv_accept y s hg hx hinj
  | run l =>
    exact ite_inv (P := ExitInv y 0) (fun _ => hx) fun h =>
      exitInv_runHead y 0 s hg hx l (Or.inl (by simpa using h)) (fun _ h0 => by subst h0; simpa using h)
  | endBatch l => exact iterate_inv (fun s h => exitInv_releaseHead y 0 s h l) _ s hx
  | msg c | hold c => exact ite_inv (P := ExitInv y 0) (fun _ => hx.frame rfl rfl rfl rfl id rfl) (fun _ => hx)
  | close c =>
    refine ite_inv (P := ExitInv y 0) (fun hr => ?_) (fun _ => hx)
    obtain ⟨-, -, -, hex⟩ := evReady_iff.mp hr
    exact hx.eff ((eff_handleClose s _ c rfl).trans (eff_reapOne _ _ _ _ c)) (loops_le hg c) (fun h => h) (fun _ h0 => h0 ▸ hex)
  | forceClose c thr =>
    refine ite_inv (P := ExitInv y 0) (fun hgd => ite_inv (fun h => absurd h.1 (by decide)) (fun _ => ?_)) (fun _ => hx)
    exact exitInv_enq_up y s hg hx c hgd.1 (isUp_of_accepts hgd.2) _ _ (by simp) rfl
  | shutdown c thr =>
    refine ite_inv (P := ExitInv y 0) (fun hgd => ite_inv (fun h => absurd h.1 (by decide)) (fun _ => ?_)) (fun _ => hx)
    exact exitInv_enq_up y s hg hx c hgd.1 (isUp_of_accepts (.inl hgd.2)) _ _ (by simp) rfl
  | drop c thr =>
    exact ite_inv (P := ExitInv y 0) (fun _ => (hx.frame (s' := s.setConn c _) rfl rfl rfl rfl id rfl).reapOne thr c) (fun _ => hx)
  | destroy =>
    exact hx.grow (growA_destroyServer s (fun c => loops_le hg c)) (baseAppends_destroyServer false s) (fun h => h) nofun
  | postDestroy =>
    exact ite_inv (P := ExitInv y 0) (fun _ => hx.enq 0 _ (fun _ => rfl) (Nat.zero_le _) (Or.inl rfl) (fun _ => rfl)) (fun _ => hx)
  | loopGone l => exact ite_inv (P := ExitInv y 0) (fun _ => iterate_inv (fun s h => exitInv_dropHead y 0 s h l) _ s hx) (fun _ => hx)
  | exit l => exact exitInv_exit y s hg hx l hy

/-- no `connectEstablished` / `connectDestroyed` functor is stranded: the io loops empty their queues when they leave; the
base loop's queue holds none once it has left (repeated drain), or never holds one at all (connections are served by io loops) -/
theorem strandOK_exitInv (hd : s.drain = true) (hy : y = true ∨ s.L ≠ 0) (l : Nat) (hr : goneReady s l = true) : StrandOK s l := by
  simp only [goneReady, Bool.and_eq_true, Bool.not_eq_true'] at hr
  by_cases h0 : l = 0
  · subst h0
    rcases hy with hy | hL
    · exact strandOK_of_mustRun (hx.base hy hr.1.1)
    · intro t ht c
      have key : ∀ u, u = Task.est c ∨ u = Task.des c → u ∈ s.q 0 → False := by
        intro u hu hm
        have hc : c < s.n := hg.lt_of_mem hm (by rcases hu with h | h <;> simp [h])
        have hl := (hg.conns c hc).core.stray.loop_of_mem hm (by rcases hu with h | h <;> simp [h])
        have := hg.rest.assigned c hc
        rw [if_neg hL] at this
        omega
      exact ⟨fun h => key t (Or.inl h) ht, fun h => key t (Or.inr h) ht⟩
  · have := (hx.x.x2 hd l h0 h0 hr.1.1).1
    intro t ht; rw [this] at ht; cases ht

end step

theorem exitInv_init (y : Bool) (L : Nat) (nameOf : Nat → Nat) : ExitInv y 0 (init L nameOf) :=
  ⟨⟨fun l _ h => by simp [init] at h, fun _ l _ _ h => by simp [init] at h, fun l _ => ⟨rfl, rfl⟩, fun l h => by simp [init] at h⟩,
    fun _ h => by simp [init] at h⟩

/-- with the final drain **no schedule** strands a functor that still has to run, provided the drain is repeated (`y`) or
io loops serve the connections (both said of `g`, the state whose configuration the run keeps); the exit invariant holds
along the schedule -/
theorem run_all {g : Srv} (y : Bool) (hinj : Function.Injective g.nameOf) (hd : g.drain = true) (hr : y = true → g.drainRepeats = true)
    (hy : y = true ∨ g.L ≠ 0) (as : List Action) : ∀ s, GInvC g s → ExitInv y 0 s → GoodSched s as ∧ ExitInv y 0 (run s as) := by
  induction as with
  | nil => exact fun s _ hx => ⟨trivial, hx⟩
  | cons a as ih =>
    intro s hg hx
    have hs := hg.same
    have hd' : s.drain = true := hs.drain.trans hd
    have h1 : ∀ l, a = .loopGone l → goneReady s l = true → StrandOK s l := fun l _ =>
      strandOK_exitInv y s hg.toGInv hx hd' (hy.imp_right fun h => by rw [hs.L]; exact h) l
    obtain ⟨g', x⟩ := ih (step s a) (ginv_step s hg hinj a h1)
      (exitInv_step y s hg.toGInv hx (hs.nameOf ▸ hinj) (fun h => ⟨hd', hs.drainRepeats.trans (hr h)⟩) a)
    exact ⟨⟨h1, g'⟩, x⟩

/-! ### A further fact about `GoodSched`; no proof uses it -/

theorem goodSched_io (as : List Action) : ∀ s, GInv s → XInv s → Function.Injective s.nameOf → s.L ≠ 0 → s.drain = true →
    GoodSched s as :=
  fun s hg hx hinj hL hd => (run_all false hinj hd nofun (.inr hL) as s ⟨hg, .refl s⟩ ⟨hx, nofun⟩).1

end MuduoVerif.Owner
