import MuduoVerif.Proofs.ClientSpec
import MuduoVerif.Proofs.Fold
/-! `Mid c r ph`: what holds of the state inside a loop iteration while the functors `r` of the running batch are still to
run; `Bnd` is `Mid` between two inputs.  Its last conjunct `Tr` ties the state to the specification: `scan` accepts the
trace and ends in a state that agrees (`Rel`) with the sockets, the connection records and the ghost counters. -/
namespace MuduoVerif.Client
open MuduoVerif.Gen.Client

def isRetryT (t : Nat × TKind) : Bool := t.2 == .retry
def nRetry (timers : List (Nat × TKind)) : Nat := timers.countP isRetryT
/-- an attempt is in progress or will be made when the retry timer fires -/
def attempting (st : States) (timers : List (Nat × TKind)) : Prop := st = .kConnecting ∨ 0 < nRetry timers
instance : Decidable (attempting st tm) := by unfold attempting; infer_instance

def findIn (conns : List ConnRec) (k : Nat) : Option ConnRec := conns.find? (·.sock == k)

/-- what the events must have said about socket `k`, given the state -/
def phaseAt (sockSt : List SockSt) (conns : List ConnRec) (k : Nat) : Option Phase :=
  match sockSt[k]? with
  | none => none
  | some .opened => some .opened
  | some .closed => some .closed
  | some .handedOver => match findIn conns k with
     | none => some .handed
     | some r => some (if r.destroyed then .connClosed else if r.st = .disconnected then .down else .up)

structure Rel (s : Spec) (nsock : Nat) (sockSt : List SockSt) (conns : List ConnRec) (ups nretry : Nat)
    (stopReq alive : Bool) : Prop where
  len : s.phases.length = nsock
  ph : ∀ k, s.phases[k]? = phaseAt sockSt conns k
  ups : s.ups = ups
  nretry : s.nretry = nretry
  stopped : s.stopped = stopReq
  gone : s.gone = !alive

def Tr (tr : List Ev) (nsock : Nat) (sockSt : List SockSt) (conns : List ConnRec) (ups nretry : Nat)
    (stopReq alive : Bool) : Prop :=
  ∃ s, scan tr = some s ∧ Rel s nsock sockSt conns ups nretry stopReq alive

def held (alive : Bool) (connection : Option Nat) (q : List Task) (r : ConnRec) : Prop :=
  r.userRef = true ∨ (alive = true ∧ connection = some r.sock) ∨ ∃ t ∈ q, t.holds r.sock = true

def Task.plain : Task → Bool
  | .setCloseCb _ | .addTimer _ _ => false
  | _ => true

/-- `r`: the functors of the running batch that have not run yet; the queue is `r ++ c.pending`.
`ph = true`: the loop is running the functor batch or is between two iterations (no channel reset
can be outstanding that is not in the batch) -/
structure Mid (c : C) (r : List Task) (ph : Bool) : Prop where
  notDead : c.dead = false
  /-- `a1`, `a2`: the connector's channel is registered exactly while the state is `kConnecting` -/
  a1 : c.chanOn = true → c.cstate = .kConnecting
  a2 : c.cstate = .kConnecting → c.chanOn = true
  /-- the registered channel watches an open socket ... -/
  a3 : c.chanOn = true → ∃ k, c.chan = some k ∧ c.sockSt[k]? = some .opened
  /-- ... and no other socket is open: every socket but that of the attempt in progress was handed over or closed -/
  a4 : ∀ k, c.sockSt[k]? = some .opened → c.chan = some k ∧ c.chanOn = true
  /-- a channel that is unregistered but not yet destroyed waits for its queued `resetChannel`; until then no back-off
  timer is due, so that a timer that fires finds `channel_` null (`connecting` asserts it: `fireTimers_mid`) -/
  a5 : c.chan.isSome = true → c.chanOn = false →
        .resetChannel ∈ r ++ c.pending ∧ ∀ t ∈ c.timers, t.2 = .retry → c.now < t.1
  /-- a queued `resetChannel` has such a channel to destroy, is the only one, and no `startCycle` is queued beside it -/
  a6 : .resetChannel ∈ r ++ c.pending →
        c.chan.isSome = true ∧ c.chanOn = false ∧ (r ++ c.pending).count .resetChannel ≤ 1 ∧ .startCycle ∉ r ++ c.pending
  /-- `channel_` and `connection_` never name different sockets (`dispatchConn`: the poller cannot have reported the
  connection on the channel's descriptor) -/
  a7 : ∀ k j, c.chan = some k → c.connection = some j → j = k
  /-- at most one back-off timer is pending, and only in state `kDisconnected` -/
  a8 : nRetry c.timers ≤ 1 ∧ (0 < nRetry c.timers → c.cstate = .kDisconnected)
  /-- during an attempt or the wait for its timer: no connection, no queued `startCycle`, no UP yet in this cycle -/
  a9 : attempting c.cstate c.timers → c.connection = none ∧ .startCycle ∉ r ++ c.pending ∧ c.ups = 0
  /-- at most one `startCycle` is queued, and none while there is a connection -/
  a10 : (r ++ c.pending).count .startCycle ≤ 1 ∧ (.startCycle ∈ r ++ c.pending → c.connection = none)
  /-- what a destroyed client leaves: no `connection_`, and `connect_` false (`~TcpClient` stopped the connector) or else
  nothing that could still start an attempt - `retry`/`newConnection` never run for it with `connect_` true (`attempt_alive`) -/
  a11 : c.clientAlive = false →
        c.connection = none ∧ (c.cConnect = false ∨ (¬ attempting c.cstate c.timers ∧ .startCycle ∉ r ++ c.pending))
  /-- `setCloseCb`, `addTimer` are posted only by `~TcpClient` on a foreign thread, which `okIn` excludes -/
  a13 : ∀ t ∈ r ++ c.pending, t.plain = true
  /-- a registered channel has an owner that keeps the connector alive: the client, or the `stopInLoop` its destructor
  queued (`reapConnector_id`) -/
  a14 : c.chanOn = true → c.clientAlive = true ∨ .stopInLoop ∈ r ++ c.pending
  /-- the functors of the batch still to run are held by `batch` (they keep the connector alive: `mem_q_connectorAlive`) -/
  a15 : ∀ t ∈ r, t ∈ c.batch
  /-- `resetChannel` is queued only by the dispatch phase (`ph = false`) and run by the batch of the same iteration: between
  iterations `channel_` exists only while registered (`bnd_chan`, `advance_mid`) -/
  a16 : ph = true → .resetChannel ∉ c.pending
  s1 : c.sockSt.length = c.nsock
  c1 : ∀ x ∈ c.conns, c.sockSt[x.sock]? = some .handedOver
  c2 : (c.conns.map (·.sock)).Nodup
  c3 : ∀ x ∈ c.conns, x.chanOn = true → x.st ≠ .disconnected
  c4 : ∀ x ∈ c.conns, x.destroyed = true → x.st = .disconnected ∧ x.chanOn = false
  /-- a connection that is not down is referred to by somebody (`reap` never meets `~TcpConnection`'s assertion) -/
  c5 : ∀ x ∈ c.conns, x.st ≠ .disconnected → held c.clientAlive c.connection (r ++ c.pending) x
  /-- `TcpClient::removeConnection` as close callback of a connection not yet down: the client lives and this is its connection -/
  c6 : ∀ x ∈ c.conns, x.st ≠ .disconnected → x.closeCb = .client → c.clientAlive = true ∧ c.connection = some x.sock
  c7 : ∀ k, c.connection = some k → ∃ x, findIn c.conns k = some x ∧ x.st ≠ .disconnected ∧ x.closeCb = .client
  /-- `c8`, `c9`: a queued `forceCloseInLoop` comes from `~TcpClient` (callback detached), a queued `connectDestroyed` from `handleClose` (down) -/
  c8 : ∀ k, .forceCloseInLoop k ∈ r ++ c.pending → ∃ x, findIn c.conns k = some x ∧ x.closeCb = .detached
  c9 : ∀ k, .connectDestroyed k ∈ r ++ c.pending → ∃ x, findIn c.conns k = some x ∧ x.st = .disconnected
  c10 : ∀ x ∈ c.conns, x.closeCb = .detached → c.clientAlive = false
  /-- the delay is the property's schedule at the number of retries of this cycle -/
  g1 : c.delay = specDelay c.nretry
  /-- `stop()` as the user's last word leaves both `connect_` flags false -/
  g3 : c.stopReq = true → c.cConnect = false ∧ c.tConnect = false
  /-- scope of the callback operations: `connect()` is never issued from the UP callback (a connection is outstanding),
  and from the DOWN callback only by a client that does not reconnect by itself -/
  h1 : HookOp.connect ∉ c.hooksUp ∧ (HookOp.connect ∈ c.hooksDown → c.retry = false)
  t1 : ∃ s, scan c.trace = some s ∧ Rel s c.nsock c.sockSt c.conns c.ups c.nretry c.stopReq c.clientAlive

/-- the invariant between two inputs -/
def Bnd (c : C) : Prop := Mid c [] true

/-! ### the invariant by the fields it reads

`Mid` has three parts that read different fields of the state, so that a function of the model which leaves
the fields of a part alone keeps that part by `exact`: the connector's part `MidK` (channel, state, timers,
`connection_`, the queue), the connections' part `MidN` (the records, who holds them, the queue), and single
facts about the queue, the ghost counters, the callback's operations and the trace. -/

structure MidK (on : Bool) (st : States) (ch : Option Nat) (ss : List SockSt) (q : List Task)
    (tm : List (Nat × TKind)) (now : Nat) (cn : Option Nat) (ups : Nat) (al cc : Bool) : Prop where
  a1 : on = true → st = .kConnecting
  a2 : st = .kConnecting → on = true
  a3 : on = true → ∃ k, ch = some k ∧ ss[k]? = some .opened
  a4 : ∀ k, ss[k]? = some .opened → ch = some k ∧ on = true
  a5 : ch.isSome = true → on = false → .resetChannel ∈ q ∧ ∀ t ∈ tm, t.2 = .retry → now < t.1
  a6 : .resetChannel ∈ q → ch.isSome = true ∧ on = false ∧ q.count .resetChannel ≤ 1 ∧ .startCycle ∉ q
  a7 : ∀ k j, ch = some k → cn = some j → j = k
  a8 : nRetry tm ≤ 1 ∧ (0 < nRetry tm → st = .kDisconnected)
  a9 : attempting st tm → cn = none ∧ .startCycle ∉ q ∧ ups = 0
  a10 : q.count .startCycle ≤ 1 ∧ (.startCycle ∈ q → cn = none)
  a11 : al = false → cn = none ∧ (cc = false ∨ (¬ attempting st tm ∧ .startCycle ∉ q))
  a14 : on = true → al = true ∨ .stopInLoop ∈ q

structure MidN (ss : List SockSt) (cs : List ConnRec) (al : Bool) (cn : Option Nat) (q : List Task) : Prop where
  c1 : ∀ x ∈ cs, ss[x.sock]? = some .handedOver
  c2 : (cs.map (·.sock)).Nodup
  c3 : ∀ x ∈ cs, x.chanOn = true → x.st ≠ .disconnected
  c4 : ∀ x ∈ cs, x.destroyed = true → x.st = .disconnected ∧ x.chanOn = false
  c5 : ∀ x ∈ cs, x.st ≠ .disconnected → held al cn q x
  c6 : ∀ x ∈ cs, x.st ≠ .disconnected → x.closeCb = .client → al = true ∧ cn = some x.sock
  c7 : ∀ k, cn = some k → ∃ x, findIn cs k = some x ∧ x.st ≠ .disconnected ∧ x.closeCb = .client
  c8 : ∀ k, .forceCloseInLoop k ∈ q → ∃ x, findIn cs k = some x ∧ x.closeCb = .detached
  c9 : ∀ k, .connectDestroyed k ∈ q → ∃ x, findIn cs k = some x ∧ x.st = .disconnected
  c10 : ∀ x ∈ cs, x.closeCb = .detached → al = false

theorem Mid.k {c : C} {r : List Task} {ph : Bool} (h : Mid c r ph) :
    MidK c.chanOn c.cstate c.chan c.sockSt (r ++ c.pending) c.timers c.now c.connection c.ups c.clientAlive c.cConnect :=
  ⟨h.a1, h.a2, h.a3, h.a4, h.a5, h.a6, h.a7, h.a8, h.a9, h.a10, h.a11, h.a14⟩

theorem Mid.n {c : C} {r : List Task} {ph : Bool} (h : Mid c r ph) :
    MidN c.sockSt c.conns c.clientAlive c.connection (r ++ c.pending) :=
  ⟨h.c1, h.c2, h.c3, h.c4, h.c5, h.c6, h.c7, h.c8, h.c9, h.c10⟩

theorem Mid.of {c : C} {r : List Task} {ph : Bool} (dead : c.dead = false)
    (k : MidK c.chanOn c.cstate c.chan c.sockSt (r ++ c.pending) c.timers c.now c.connection c.ups c.clientAlive c.cConnect)
    (a13 : ∀ t ∈ r ++ c.pending, t.plain = true) (a15 : ∀ t ∈ r, t ∈ c.batch) (a16 : ph = true → .resetChannel ∉ c.pending)
    (s1 : c.sockSt.length = c.nsock) (n : MidN c.sockSt c.conns c.clientAlive c.connection (r ++ c.pending))
    (g1 : c.delay = specDelay c.nretry) (g3 : c.stopReq = true → c.cConnect = false ∧ c.tConnect = false)
    (h1 : HookOp.connect ∉ c.hooksUp ∧ (HookOp.connect ∈ c.hooksDown → c.retry = false))
    (t1 : Tr c.trace c.nsock c.sockSt c.conns c.ups c.nretry c.stopReq c.clientAlive) : Mid c r ph :=
  ⟨dead, k.a1, k.a2, k.a3, k.a4, k.a5, k.a6, k.a7, k.a8, k.a9, k.a10, k.a11, a13, k.a14, a15, a16, s1,
   n.c1, n.c2, n.c3, n.c4, n.c5, n.c6, n.c7, n.c8, n.c9, n.c10, g1, g3, h1, t1⟩

theorem MidK.queue {on st ch ss q tm now cn ups al cc} (h : MidK on st ch ss q tm now cn ups al cc) {q' : List Task}
    (hr : q'.count .resetChannel = q.count .resetChannel) (hs : q'.count .startCycle ≤ q.count .startCycle)
    (hp : on = true → .stopInLoop ∈ q → .stopInLoop ∈ q') : MidK on st ch ss q' tm now cn ups al cc := by
  have mr : Task.resetChannel ∈ q' ↔ Task.resetChannel ∈ q := by
    rw [← List.count_pos_iff, ← List.count_pos_iff, hr]
  have ms : Task.startCycle ∈ q' → Task.startCycle ∈ q := fun hm =>
    List.count_pos_iff.mp (Nat.lt_of_lt_of_le (List.count_pos_iff.mpr hm) hs)
  exact { h with
    a5 := fun a b => ⟨mr.mpr (h.a5 a b).1, (h.a5 a b).2⟩
    a6 := fun a => ⟨(h.a6 (mr.mp a)).1, (h.a6 (mr.mp a)).2.1, hr ▸ (h.a6 (mr.mp a)).2.2.1, fun m => (h.a6 (mr.mp a)).2.2.2 (ms m)⟩
    a9 := fun a => ⟨(h.a9 a).1, fun m => (h.a9 a).2.1 (ms m), (h.a9 a).2.2⟩
    a10 := ⟨Nat.le_trans hs h.a10.1, fun m => h.a10.2 (ms m)⟩
    a11 := fun a => ⟨(h.a11 a).1, (h.a11 a).2.imp_right fun b => ⟨b.1, fun m => b.2 (ms m)⟩⟩
    a14 := fun a => (h.a14 a).imp_right (hp a) }

theorem MidK.aliveOfCc {on st ch ss q tm now cn ups al cc} (h : MidK on st ch ss q tm now cn ups al cc) (hcc : cc = true)
    (hq : attempting st tm ∨ .startCycle ∈ q) : al = true := by
  cases hal : al with
  | true => rfl
  | false =>
    rcases (h.a11 hal).2 with h2 | h2
    · rw [hcc] at h2; cases h2
    · exact absurd hq (not_or.mpr h2)

theorem findConn_eq (c : C) (k : Nat) : findConn c k = findIn c.conns k := rfl

theorem findIn_some {cs : List ConnRec} {k : Nat} {x : ConnRec} (h : findIn cs k = some x) : x ∈ cs ∧ x.sock = k := by
  unfold findIn at h
  exact ⟨List.mem_of_find?_eq_some h, by simpa using List.find?_some h⟩

theorem findIn_of_mem {cs : List ConnRec} {x : ConnRec} (hn : (cs.map (·.sock)).Nodup) (hx : x ∈ cs) :
    findIn cs x.sock = some x := by
  induction cs with
  | nil => cases hx
  | cons y ys ih =>
    simp only [List.map_cons, List.nodup_cons] at hn
    by_cases hy : y.sock = x.sock
    · rcases List.mem_cons.mp hx with h | h
      · subst h; simp [findIn]
      · exact absurd (hy ▸ List.mem_map_of_mem (f := (·.sock)) h) hn.1
    · rcases List.mem_cons.mp hx with h | h
      · subst h; exact absurd rfl hy
      · have hb : (y.sock == x.sock) = false := by simpa using hy
        simp only [findIn, List.find?_cons, hb]; exact ih hn.2 h

theorem findIn_none_iff {cs : List ConnRec} {k : Nat} : findIn cs k = none ↔ ∀ x ∈ cs, x.sock ≠ k := by
  simp [findIn]

theorem findIn_append_new {cs : List ConnRec} {k j : Nat} (x : ConnRec) (hx : x.sock = k) :
    findIn (cs ++ [x]) j = if j = k then (match findIn cs j with | some y => some y | none => some x) else findIn cs j := by
  unfold findIn
  rw [List.find?_append]
  by_cases h : j = k
  · subst h; cases hf : List.find? (fun r => r.sock == j) cs <;> simp [hx]
  · have : ¬ x.sock = j := by rw [hx]; exact fun e => h e.symm
    cases hf : List.find? (fun r => r.sock == j) cs <;> simp [h, this]

theorem findIn_mapg {cs : List ConnRec} (j : Nat) (g : ConnRec → ConnRec) (hg : ∀ r, (g r).sock = r.sock) :
    findIn (cs.map g) j = (findIn cs j).map g := by
  induction cs with
  | nil => rfl
  | cons y ys ih =>
    unfold findIn at ih ⊢
    simp only [List.map_cons, List.find?_cons, hg]
    by_cases h : y.sock = j
    · simp [h]
    · have hb : (y.sock == j) = false := by simpa using h
      simp only [hb]; exact ih

theorem findIn_map {cs : List ConnRec} (k j : Nat) (f : ConnRec → ConnRec) (hf : ∀ r, (f r).sock = r.sock) :
    findIn (cs.map (fun r => if r.sock == k then f r else r)) j =
      (findIn cs j).map (fun r => if r.sock == k then f r else r) :=
  findIn_mapg j _ fun r => by split <;> simp [hf]

theorem scan_snoc (tr : List Ev) (e : Ev) : scan (tr ++ [e]) = (scan tr).bind (fun s => specStep s e) := by
  simp [scan, scanFrom, List.foldl_append]

theorem scan_append (tr d : List Ev) : scan (tr ++ d) = (scan tr).bind (fun s => scanFrom s d) := by
  unfold scan scanFrom
  rw [List.foldl_append]
  cases h : List.foldl (fun o e => o.bind (fun s => specStep s e)) (some ({} : Spec)) tr with
  | some s => rfl
  | none => exact foldl_fix _ d none fun _ _ => rfl

theorem scanFrom_cons (s : Spec) (e : Ev) (d : List Ev) : scanFrom s (e :: d) = (specStep s e).bind (fun s => scanFrom s d) := by
  unfold scanFrom
  simp only [List.foldl_cons, Option.bind_some]
  cases h : specStep s e with
  | some s' => rfl
  | none => exact foldl_fix _ d none fun _ _ => rfl

theorem specDelay_pos (i : Nat) : 0 < specDelay i := by
  unfold specDelay
  have : 0 < 2 ^ i := Nat.pow_pos (by decide)
  omega

theorem held_mono {al : Bool} {cn : Option Nat} {q q' : List Task} {x : ConnRec}
    (h : held al cn q x) (hs : ∀ t ∈ q, t.holds x.sock = true → t ∈ q') : held al cn q' x := by
  rcases h with h | h | ⟨t, ht, hh⟩
  · exact .inl h
  · exact .inr (.inl h)
  · exact .inr (.inr ⟨t, hs t ht hh, hh⟩)

theorem MidN.queue {ss cs al cn q} (h : MidN ss cs al cn q) {q' : List Task}
    (h5 : ∀ x ∈ cs, x.st ≠ .disconnected → ∀ t ∈ q, t.holds x.sock = true → t ∈ q')
    (h8 : ∀ k, .forceCloseInLoop k ∈ q' → .forceCloseInLoop k ∈ q ∨ ∃ x, findIn cs k = some x ∧ x.closeCb = .detached)
    (h9 : ∀ k, .connectDestroyed k ∈ q' → .connectDestroyed k ∈ q ∨ ∃ x, findIn cs k = some x ∧ x.st = .disconnected) :
    MidN ss cs al cn q' :=
  { h with c5 := fun x hx hs => held_mono (h.c5 x hx hs) (h5 x hx hs), c8 := fun k hk => (h8 k hk).elim (h.c8 k) id,
           c9 := fun k hk => (h9 k hk).elim (h.c9 k) id }

theorem mem_snoc_q {r p : List Task} {t u : Task} : u ∈ r ++ (p ++ [t]) ↔ u ∈ r ++ p ∨ u = t := by
  simp only [List.mem_append, List.mem_singleton, or_assoc]

theorem count_snoc_q {r p : List Task} {t u : Task} (h : u ≠ t) : (r ++ (p ++ [t])).count u = (r ++ p).count u := by
  simp [List.count_append, Ne.symm h]

theorem plain_snoc {r p : List Task} {t : Task} (h : ∀ u ∈ r ++ p, u.plain = true) (ht : t.plain = true) :
    ∀ u ∈ r ++ (p ++ [t]), u.plain = true :=
  fun u hu => (mem_snoc_q.mp hu).elim (h u) fun e => e ▸ ht

theorem MidN.snoc {ss cs al cn} {r p : List Task} (h : MidN ss cs al cn (r ++ p)) (t : Task)
    (h8 : ∀ k, t ≠ .forceCloseInLoop k := by simp) (h9 : ∀ k, t ≠ .connectDestroyed k := by simp) :
    MidN ss cs al cn (r ++ (p ++ [t])) :=
  h.queue (fun _ _ _ _ hu _ => mem_snoc_q.mpr (.inl hu))
    (fun k hk => .inl ((mem_snoc_q.mp hk).resolve_right fun e => h8 k e.symm))
    (fun k hk => .inl ((mem_snoc_q.mp hk).resolve_right fun e => h9 k e.symm))

theorem MidN.pop {ss cs al cn t q} (h : MidN ss cs al cn (t :: q))
    (ht : ∀ x ∈ cs, x.st ≠ .disconnected → t.holds x.sock = false) : MidN ss cs al cn q :=
  { h with
    c5 := fun x hx hs => held_mono (h.c5 x hx hs) fun t' ht' hh => (List.mem_cons.mp ht').elim
      (fun e => by rw [e, ht x hx hs] at hh; cases hh) id
    c8 := fun k hk => h.c8 k (List.mem_cons_of_mem _ hk)
    c9 := fun k hk => h.c9 k (List.mem_cons_of_mem _ hk) }

theorem MidN.socks {ss cs al cn q} (h : MidN ss cs al cn q) {ss' : List SockSt}
    (hs : ∀ k : Nat, ss[k]? = some SockSt.handedOver → ss'[k]? = some SockSt.handedOver) : MidN ss' cs al cn q :=
  { h with c1 := fun x hx => hs _ (h.c1 x hx) }

theorem MidN.fresh {ss cs al cn q} (h : MidN ss cs al cn q) {k : Nat} (hop : ss[k]? = some .opened) : findIn cs k = none := by
  rw [findIn_none_iff]; intro x hx he
  have := h.c1 x hx; rw [he, hop] at this; cases this

/-- what `MidN` says of one record (one `TcpConnection`): its socket was handed over; registered, destroyed and down fit
together; while it is not down somebody holds it, and `TcpClient::removeConnection` is its close callback only for the
client's own connection.  The other conjuncts of `MidN` speak of the list: no two records on one socket (`c2`), what
`connection_` and the queued functors point at (`c7`, `c8`, `c9`) -/
structure RecOk (ss : List SockSt) (al : Bool) (cn : Option Nat) (q : List Task) (x : ConnRec) : Prop where
  c1 : ss[x.sock]? = some .handedOver
  c3 : x.chanOn = true → x.st ≠ .disconnected
  c4 : x.destroyed = true → x.st = .disconnected ∧ x.chanOn = false
  c5 : x.st ≠ .disconnected → held al cn q x
  c6 : x.st ≠ .disconnected → x.closeCb = .client → al = true ∧ cn = some x.sock
  c10 : x.closeCb = .detached → al = false

theorem MidN.ok {ss cs al cn q} (h : MidN ss cs al cn q) {x : ConnRec} (hx : x ∈ cs) : RecOk ss al cn q x :=
  ⟨h.c1 x hx, h.c3 x hx, h.c4 x hx, h.c5 x hx, h.c6 x hx, h.c10 x hx⟩

theorem MidN.mapg {ss cs al cn q} (h : MidN ss cs al cn q) {g : ConnRec → ConnRec} (hg : ∀ r, (g r).sock = r.sock)
    {al' : Bool} {cn' : Option Nat} {q' : List Task} (hr : ∀ x ∈ cs, RecOk ss al' cn' q' (g x))
    (h7 : ∀ k, cn' = some k → ∃ x, findIn cs k = some x ∧ (g x).st ≠ .disconnected ∧ (g x).closeCb = .client)
    (h8 : ∀ k, .forceCloseInLoop k ∈ q' → ∃ x, findIn cs k = some x ∧ (g x).closeCb = .detached)
    (h9 : ∀ k, .connectDestroyed k ∈ q' → ∃ x, findIn cs k = some x ∧ (g x).st = .disconnected) :
    MidN ss (cs.map g) al' cn' q' := by
  have hm : ∀ y ∈ cs.map g, RecOk ss al' cn' q' y := fun y hy => by
    obtain ⟨x, hx, rfl⟩ := List.mem_map.mp hy; exact hr x hx
  have hf : ∀ {k x}, findIn cs k = some x → findIn (cs.map g) k = some (g x) := fun hx => by
    rw [findIn_mapg _ g hg, hx]; rfl
  exact ⟨fun y hy => (hm y hy).c1, by rw [List.map_map]; exact (List.map_congr_left fun x _ => hg x) ▸ h.c2,
    fun y hy => (hm y hy).c3, fun y hy => (hm y hy).c4, fun y hy => (hm y hy).c5, fun y hy => (hm y hy).c6,
    fun k hk => (h7 k hk).elim fun x hx => ⟨g x, hf hx.1, hx.2⟩, fun k hk => (h8 k hk).elim fun x hx => ⟨g x, hf hx.1, hx.2⟩,
    fun k hk => (h9 k hk).elim fun x hx => ⟨g x, hf hx.1, hx.2⟩, fun y hy => (hm y hy).c10⟩

theorem Mid.notStopped {c : C} {r : List Task} {ph : Bool} (hi : Mid c r ph) (hcc : c.cConnect = true) : c.stopReq = false := by
  cases h : c.stopReq
  · rfl
  · have := (hi.g3 h).1; rw [hcc] at this; cases this

theorem Mid.off {c : C} {r : List Task} {ph : Bool} (hi : Mid c r ph) (h : c.cstate = .kDisconnected ∨ c.chan = none) :
    c.chanOn = false := by
  cases hon : c.chanOn
  · rfl
  · rcases h with h | h
    · have := hi.a1 hon; rw [h] at this; cases this
    · obtain ⟨k, hk, _⟩ := hi.a3 hon; rw [h] at hk; cases hk

theorem Mid.noneOpen {c : C} {r : List Task} {ph : Bool} (hi : Mid c r ph) (hon : c.chanOn = false) (k : Nat) :
    c.sockSt[k]? ≠ some .opened := fun h => by
  have := (hi.a4 k h).2; rw [hon] at this; cases this

theorem Mid.noReset {c : C} {r : List Task} {ph : Bool} (hi : Mid c r ph) (hch : c.chan = none) :
    .resetChannel ∉ r ++ c.pending := fun m => by
  have := (hi.a6 m).1; rw [hch] at this; cases this

theorem Mid.chanNone {c : C} {r : List Task} {ph : Bool} (hi : Mid c r ph) (hnr : .resetChannel ∉ r ++ c.pending)
    (hnc : c.cstate ≠ .kConnecting) : c.chan = none := by
  cases hc : c.chan with
  | none => rfl
  | some k =>
    cases hon : c.chanOn
    · exact absurd (hi.a5 (by simp [hc]) hon).1 hnr
    · exact absurd (hi.a1 hon) hnc

theorem nRetry_snoc_retry (l : List (Nat × TKind)) (d : Nat) : nRetry (l ++ [(d, .retry)]) = nRetry l + 1 := by
  simp [nRetry, List.countP_append, isRetryT]

theorem nRetry_snoc_park (l : List (Nat × TKind)) (d : Nat) : nRetry (l ++ [(d, .park)]) = nRetry l := by
  simp [nRetry, List.countP_append, isRetryT]

theorem nRetry_pos_iff {l : List (Nat × TKind)} : 0 < nRetry l ↔ ∃ t ∈ l, t.2 = .retry := by
  unfold nRetry
  rw [List.countP_pos_iff]
  constructor
  · rintro ⟨t, ht, h⟩; exact ⟨t, ht, by simpa [isRetryT] using h⟩
  · rintro ⟨t, ht, h⟩; exact ⟨t, ht, by simpa [isRetryT] using h⟩

theorem nRetry_zero {l : List (Nat × TKind)} (h : nRetry l = 0) : ∀ t ∈ l, t.2 ≠ .retry := fun t ht he =>
  absurd (nRetry_pos_iff.mpr ⟨t, ht, he⟩) (by omega)

theorem nRetry_cancel (l : List (Nat × TKind)) : nRetry (l.filter (fun t => !(t.2 == .retry))) = 0 := by
  unfold nRetry
  rw [List.countP_eq_zero]
  intro t ht
  have := (List.mem_filter.mp ht).2
  simpa [isRetryT] using this

theorem nRetry_split (l : List (Nat × TKind)) (now : Nat) :
    nRetry l = nRetry (l.filter (fun t => decide (t.1 ≤ now))) + nRetry (l.filter (fun t => decide (¬ t.1 ≤ now))) := by
  induction l with
  | nil => rfl
  | cons t l ih =>
    unfold nRetry at ih ⊢
    by_cases h : t.1 ≤ now <;> by_cases hr : isRetryT t = true <;>
      simp only [List.filter_cons, h, decide_true, decide_false, not_true_eq_false, not_false_eq_true, if_true,
        if_false, List.countP_cons, hr, Bool.false_eq_true] <;> omega

theorem nRetry_of_not_attempting {st : States} {tm : List (Nat × TKind)} (h : ¬ attempting st tm) : nRetry tm = 0 := by
  cases hn : nRetry tm
  · rfl
  · exact absurd (.inr (by omega)) h

theorem Mid.opened {c : C} {r : List Task} {ph : Bool} (hi : Mid c r ph) (hon : c.chanOn = true) {k : Nat}
    (hk : c.chan = some k) : c.sockSt[k]? = some .opened := by
  obtain ⟨k', hk', hop⟩ := hi.a3 hon; rw [hk] at hk'; cases hk'; exact hop

theorem Mid.notDestroyed {c : C} {r : List Task} {ph : Bool} (hi : Mid c r ph) {x : ConnRec} (hx : x ∈ c.conns)
    (hst : x.st ≠ .disconnected) : x.destroyed = false := by
  cases h : x.destroyed
  · rfl
  · exact absurd (hi.c4 x hx h).1 hst

theorem Mid.handed {c : C} {r : List Task} {ph : Bool} (hi : Mid c r ph) {k : Nat} {x : ConnRec}
    (hx : findIn c.conns k = some x) : c.sockSt[k]? = some .handedOver := by
  obtain ⟨hxm, hxs⟩ := findIn_some hx
  rw [← hxs]; exact hi.c1 x hxm

theorem Mid.connQuiet {c : C} {r : List Task} {ph : Bool} (hi : Mid c r ph) {k : Nat} (hcn : c.connection = some k) :
    ¬ attempting c.cstate c.timers ∧ .startCycle ∉ r ++ c.pending := by
  refine ⟨fun h => ?_, fun m => ?_⟩
  · have := (hi.a9 h).1; rw [hcn] at this; cases this
  · have := hi.a10.2 m; rw [hcn] at this; cases this

theorem Mid.enqueue {c : C} {r : List Task} {ph : Bool} (hi : Mid c r ph) (t : Task) (hp : t.plain = true)
    (hr : t ≠ .resetChannel) (hs : t ≠ .startCycle)
    (h8 : ∀ k, t = .forceCloseInLoop k → ∃ x, findIn c.conns k = some x ∧ x.closeCb = .detached)
    (h9 : ∀ k, t = .connectDestroyed k → ∃ x, findIn c.conns k = some x ∧ x.st = .disconnected) :
    Mid { c with pending := c.pending ++ [t] } r ph := by
  refine Mid.of hi.notDead
    (hi.k.queue (count_snoc_q hr.symm) (Nat.le_of_eq (count_snoc_q hs.symm)) fun _ h => mem_snoc_q.mpr (.inl h))
    (plain_snoc hi.a13 hp) hi.a15
    (fun a m => (List.mem_append.mp m).elim (hi.a16 a) (fun m => hr (List.mem_singleton.mp m).symm)) hi.s1
    ?_ hi.g1 hi.g3 hi.h1 hi.t1
  exact hi.n.queue (fun _ _ _ _ hu _ => mem_snoc_q.mpr (.inl hu))
    (fun k hk => (mem_snoc_q.mp hk).imp_right fun e => h8 k e.symm)
    (fun k hk => (mem_snoc_q.mp hk).imp_right fun e => h9 k e.symm)

theorem Mid.pop {c : C} {t : Task} {r : List Task} {ph : Bool} (hi : Mid c (t :: r) ph) (hr : t ≠ .resetChannel)
    (hs : t = .stopInLoop → c.chanOn = false) (hh : ∀ x ∈ c.conns, x.st ≠ .disconnected → t.holds x.sock = false) :
    Mid c r ph :=
  Mid.of hi.notDead
    (hi.k.queue (List.count_cons_of_ne hr).symm (List.count_le_count_cons ..) fun a m =>
      (List.mem_cons.mp m).elim (fun e => by rw [hs e.symm] at a; cases a) id)
    (fun u hu => hi.a13 u (List.mem_cons_of_mem _ hu)) (fun u hu => hi.a15 u (List.mem_cons_of_mem _ hu)) hi.a16 hi.s1
    (hi.n.pop hh) hi.g1 hi.g3 hi.h1 hi.t1

theorem Mid.trace {c : C} {r : List Task} {ph : Bool} (hi : Mid c r ph) {tr : List Ev}
    (h : Tr tr c.nsock c.sockSt c.conns c.ups c.nretry c.stopReq c.clientAlive) : Mid { c with trace := tr } r ph :=
  Mid.of hi.notDead hi.k hi.a13 hi.a15 hi.a16 hi.s1 hi.n hi.g1 hi.g3 hi.h1 h

theorem Mid.env {c : C} {r : List Task} {ph : Bool} (hi : Mid c r ph) (e1 : List Nat) (e2 : List Nat) (e3 : List Bool)
    (e4 : List (Option Nat)) (b : Bool) (h : Nat) :
    Mid { c with envConnect := e1, envSoErr := e2, envSelf := e3, envRead := e4, starved := b, horizon := h } r ph :=
  Mid.of hi.notDead hi.k hi.a13 hi.a15 hi.a16 hi.s1 hi.n hi.g1 hi.g3 hi.h1 hi.t1

theorem Mid.hooks {c : C} {r : List Task} {ph : Bool} (hi : Mid c r ph) (hu hd : List HookOp)
    (h1 : ∀ o ∈ hu, o ∈ c.hooksUp) (h2 : ∀ o ∈ hd, o ∈ c.hooksDown) :
    Mid { c with hooksUp := hu, hooksDown := hd } r ph :=
  Mid.of hi.notDead hi.k hi.a13 hi.a15 hi.a16 hi.s1 hi.n hi.g1 hi.g3
    ⟨fun h => hi.h1.1 (h1 _ h), fun h => hi.h1.2 (h2 _ h)⟩ hi.t1

end MuduoVerif.Client
