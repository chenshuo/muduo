import MuduoVerif.Generated.LogStreamSkel
import MuduoVerif.Model.LogStream
/-!
T1 tie for the statement order of `LogStream` / `Logging` (C17).  `Gen.LogStreamSkel.<fn>` is the statement skeleton
`vlib/gen/logstreamskel.py` extracts from /repo's `muduo/base/LogStream.{h,cc}` / `Logging.cc` on every run (function
templates and members of `FixedBuffer<SIZE>`: from every instantiation, which must agree), `Decl.<fn>`
(`Model/LogStreamSkelDecl.lean`) the skeleton the definition in `Model/LogStream.lean` implements; they are equal by `rfl`
exactly as long as the source performs the same stores, calls, insertion chains, assertions and returns, in the same order,
under the same nesting of the same (generated) guards, table rows and loops.  `Logger::Impl::Impl` is not among them: its
statement list is `Gen.LogStream.implSteps`, which the model executes.  The `reading_*` lemmas check the places where the
model is written more compactly than the statement sequence the declared skeleton lists.
-/
namespace MuduoVerif.LogStreamSkel

theorem skeletons_agree :
    Gen.LogStreamSkel.bufAppend = Decl.bufAppend ∧
    Gen.LogStreamSkel.bufAdd = Decl.bufAdd ∧
    Gen.LogStreamSkel.bufReset = Decl.bufReset ∧
    Gen.LogStreamSkel.insBool = Decl.insBool ∧
    Gen.LogStreamSkel.insFloat = Decl.insFloat ∧
    Gen.LogStreamSkel.insChar = Decl.insChar ∧
    Gen.LogStreamSkel.insCStr = Decl.insCStr ∧
    Gen.LogStreamSkel.insUCStr = Decl.insUCStr ∧
    Gen.LogStreamSkel.insString = Decl.insString ∧
    Gen.LogStreamSkel.insPiece = Decl.insPiece ∧
    Gen.LogStreamSkel.insBuffer = Decl.insBuffer ∧
    Gen.LogStreamSkel.streamAppend = Decl.streamAppend ∧
    Gen.LogStreamSkel.resetBuffer = Decl.resetBuffer ∧
    Gen.LogStreamSkel.insFmt = Decl.insFmt ∧
    Gen.LogStreamSkel.convert = Decl.convert ∧
    Gen.LogStreamSkel.convertHex = Decl.convertHex ∧
    Gen.LogStreamSkel.formatSI = Decl.formatSI ∧
    Gen.LogStreamSkel.formatIEC = Decl.formatIEC ∧
    Gen.LogStreamSkel.formatInteger = Decl.formatInteger ∧
    Gen.LogStreamSkel.insShort = Decl.insShort ∧
    Gen.LogStreamSkel.insUShort = Decl.insUShort ∧
    Gen.LogStreamSkel.insInt = Decl.insInteger ∧
    Gen.LogStreamSkel.insUInt = Decl.insInteger ∧
    Gen.LogStreamSkel.insLong = Decl.insInteger ∧
    Gen.LogStreamSkel.insULong = Decl.insInteger ∧
    Gen.LogStreamSkel.insLongLong = Decl.insInteger ∧
    Gen.LogStreamSkel.insULongLong = Decl.insInteger ∧
    Gen.LogStreamSkel.insPointer = Decl.insPointer ∧
    Gen.LogStreamSkel.insDouble = Decl.insDouble ∧
    Gen.LogStreamSkel.fmtCtor = Decl.fmtCtor ∧
    Gen.LogStreamSkel.tCtor = Decl.tCtor ∧
    Gen.LogStreamSkel.insT = Decl.insT ∧
    Gen.LogStreamSkel.insSourceFile = Decl.insSourceFile ∧
    Gen.LogStreamSkel.formatTime = Decl.formatTime ∧
    Gen.LogStreamSkel.finish = Decl.finish ∧
    Gen.LogStreamSkel.loggerDtor = Decl.loggerDtor :=
  by and_intros <;> rfl

section Readings
open MuduoVerif.LogStream MuduoVerif.Gen.LogStream

/-- `Decl.convert`: a `do .. while` - the digit of the value BEFORE the division is emitted unconditionally, the test
looks at the divided value, the recursion continues with it -/
theorem reading_digit_loop (fuel : Nat) (i : Int) :
    digitLoop (fuel + 1) i =
      (let lsd := Int.tmod i radixDec                                    -- int lsd = i % 10
       let i' := Int.tdiv i radixDec                                     -- i /= 10
       if i' = 0 then [zeroAt lsd] else zeroAt lsd :: digitLoop fuel i') := rfl   -- *p++ = zero[lsd]; while (i != 0)

/-- `Decl.convert`: digits, then the sign of the ARGUMENT, then the reverse -/
theorem reading_convert (v : Int) :
    LogStream.convert v = ((digitLoop v.natAbs v) ++ (if v < 0 then [45] else [])).reverse := rfl

theorem reading_hex_loop (fuel i : Nat) :
    hexLoop (fuel + 1) i =
      (if i / radixHex = 0 then [digitsHex.getD (i % radixHex) 0]
       else digitsHex.getD (i % radixHex) 0 :: hexLoop fuel (i / radixHex)) := rfl

/-- `Decl.formatInteger` / `Decl.bufAppend` / `Decl.insPointer` / `Decl.insDouble`: text and `cur_` change together and
only under the space guard -/
theorem reading_insert (b : FixedBuf) (it : Item) :
    insert b it = if it.fits (avail b) then { b with data := b.data ++ it.text } else b := rfl

/-- `Decl.cascade`: one step of the `else if` cascade of `formatSI` is one row of the table -/
theorem reading_si_row (s : Nat) (onDouble : Bool) (thr k e : Nat) (u : Bytes) (rest : List (Bool × Nat × Nat × Nat × Bytes)) :
    siGo s ((onDouble, thr, k, e, u) :: rest) =
      (if (if onDouble then rnInt s else s) < thr then siFormat s k e u else siGo s rest) := rfl

theorem reading_iec_row (n num den k j : Nat) (u : Bytes) (rest : List (Nat × Nat × Nat × Nat × Bytes)) :
    iecGo n ((num, den, k, j, u) :: rest) = (if n * den < num then iecFormat n k j u else iecGo n rest) := rfl

/-- `Decl.formatTime`, cache miss: second, generation and text change together -/
theorem reading_cache_miss (z : Zone) (gen : Int) (c : TimeCache) (us : Int)
    (h : cacheMiss (splitSeconds us) c.lastSecond gen c.zoneGen) :
    cacheStep z gen c us =
      { lastSecond := splitSeconds us,                                   -- t_lastSecond = seconds
        zoneGen := if cacheStoresGen then gen else c.zoneGen,            -- t_lastZoneGen = zoneGen
        text := secondText z (splitSeconds us) } := by                   -- dt = ..; snprintf(t_time, ..)
  simp only [cacheStep, if_pos h]

theorem reading_cache_hit (z : Zone) (gen : Int) (c : TimeCache) (us : Int)
    (h : ¬ cacheMiss (splitSeconds us) c.lastSecond gen c.zoneGen) : cacheStep z gen c us = c := by
  simp only [cacheStep, if_neg h]

/-- `Decl.finish` / `Decl.loggerDtor`: the pieces of `finish()` are the LAST items of the line that is handed over -/
theorem reading_line_tail (steps : List ImplStep) (z : Zone) (gen : Int) (c : TimeCache) (t : TidState) (r : LogReq) :
    ∃ front, lineItemsOf steps z gen c t r =
      front ++ finishPieces.map (pieceItem (implRun z (lineEnv z gen c t r) steps).1) :=
  ⟨_, rfl⟩

end Readings

end MuduoVerif.LogStreamSkel
