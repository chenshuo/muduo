import MuduoVerif.Proofs.ClientLive
import MuduoVerif.Proofs.ClientOps
/-!
The facts the property theorems of `Props/C12.lean` state, about a state that satisfies the invariant (`Bnd` between two
inputs, `Mid` inside an iteration): what acceptance of the trace by `scan` says of it (`bnd_*`), what `handleClose` of the
client's connection does, what the next one or two loop iterations lead to after `disconnect()` and `~TcpClient`, and
that the ghost marks in the trace are the user's calls.
-/
namespace MuduoVerif.Client
open MuduoVerif.Gen.Client

abbrev reach (asserts : Bool) (ins : List In) : C := run (init asserts) ins

section
variable {c : C} (hb : Bnd c)
include hb

theorem bnd_no_bad : c.dead = false ∧ ∀ w, Ev.abort w ∉ c.trace ∧ Ev.uaf w ∉ c.trace := by
  obtain ⟨s, hs, _⟩ := hb.tr
  have h := cnt_scan hs
  exact ⟨hb.notDead, fun w => ⟨h.noAbort w, h.noUaf w⟩⟩

theorem bnd_socket (k : Nat) :
    c.trace.count (.sockCreated k) = (if k < c.nsock then 1 else 0) ∧
    (k < c.nsock → c.trace.count (.handedOver k) + c.trace.count (.sockClosed k) =
        (if c.sockSt[k]? = some .opened then 0 else 1)) ∧
    (c.sockSt[k]? = some .opened → c.cstate = .kConnecting ∧ c.chan = some k ∧ c.chanOn = true) ∧
    c.trace.count (.connClosed k) ≤ c.trace.count (.down k) ∧
    c.trace.count (.down k) ≤ c.trace.count (.up k) ∧
    c.trace.count (.up k) ≤ c.trace.count (.handedOver k) ∧
    c.trace.count (.handedOver k) ≤ 1 := by
  obtain ⟨s, hs, hr⟩ := hb.tr
  -- acceptance gives each count as a function of the automaton's phase of `k` (`cnt_scan`), `Rel` gives that phase from the state
  have h := cnt_scan hs
  have hph := hr.ph k
  have hlen := hr.len
  refine ⟨?_, ?_, ?_, legal_order hs k⟩
  · rw [h.created k, hlen]; unfold b2n; simp
  · intro hk
    rw [h.handed k, h.closed k]
    have hk' : k < c.sockSt.length := by rw [hb.s1]; exact hk
    unfold Spec.has; rw [hph]; unfold phaseAt
    cases hv : c.sockSt[k]? with
    | none => rw [List.getElem?_eq_none_iff] at hv; omega
    | some v =>
      cases v with
      | opened => simp [b2n, Phase.wasHanded]
      | closed => simp [b2n, Phase.wasHanded]
      | handedOver =>
        simp only
        cases findIn c.conns k with
        | none => simp [b2n, Phase.wasHanded]
        | some x =>
          by_cases hd : x.destroyed = true
          · simp [b2n, Phase.wasHanded, hd]
          · by_cases hst : x.st = .disconnected <;> simp [b2n, Phase.wasHanded, hd, hst]
  · intro ho
    have := hb.a4 k ho
    exact ⟨hb.a1 this.2, this.1, this.2⟩

theorem bnd_backoff {pre post : List Ev} {i ms t : Nat} (h : c.trace = pre ++ .retryScheduled i ms t :: post) :
    i = (cyc pre).2 ∧ ms = specDelay i :=
  hb.tr.elim fun _ hs => legal_backoff (h ▸ hs.1)

theorem bnd_one_up {pre post : List Ev} {k : Nat} (h : c.trace = pre ++ .up k :: post) :
    (cyc pre).1 = 0 ∧ Ev.handedOver k ∈ pre ∧ Ev.up k ∉ pre ∧ Ev.sockClosed k ∉ pre :=
  hb.tr.elim fun _ hs => legal_one_up (h ▸ hs.1)

theorem bnd_silence {pre post : List Ev} {e : Ev} (h : c.trace = pre ++ e :: post)
    (hq : stoppedAfter pre = true ∨ goneAfter pre = true) : e.starts = false :=
  hb.tr.elim fun _ hs => legal_silence (h ▸ hs.1) hq

theorem bnd_query {pre post : List Ev} {k : Nat} {seen : Option Nat} (h : c.trace = pre ++ .query k seen :: post) :
    seen = some k ∧ Ev.up k ∈ pre :=
  hb.tr.elim fun _ hs => legal_query (h ▸ hs.1)

end

/-- `handleClose` of the client's connection: DOWN, the user's callback (`downCb c k`: the state when it returns),
then `TcpClient::removeConnection`, which looks at `retry_ && connect_` as they are then -/
theorem handleClose_client_eq (c : C) (r : List Task) (ph : Bool) (hi : Mid c r ph) (k : Nat) (x : ConnRec)
    (hx : findIn c.conns k = some x) (hst : x.st ≠ .disconnected) (hcb : x.closeCb = .client) (hch : c.chan = none) :
    handleClose c k =
      if reconnects (downCb c k).retry (downCb c k).tConnect then restart (afterDown (downCb c k) k)
      else afterDown (downCb c k) k := by
  obtain ⟨hxm, hxs⟩ := findIn_some hx
  obtain ⟨hal, hcn⟩ := hi.c6 x hxm hst hcb
  rw [hxs] at hcn
  have hm := handleClose_mid c r ph hi k x hx hst (fun _ => hch)
  have hg := runHookDown_grow (downState c k) k
  have hc2 := runHookDown_connection (downState c k) k
  rw [handleClose_eq] at hm ⊢
  simp only [findConn_eq, hx, Option.map_some, Option.getD_some, hcb] at hm ⊢
  unfold downCb
  generalize runHookDown (downState c k) k = c2 at hm hg hc2 ⊢
  have hnd : c2.dead = false := by
    cases h : c2.dead
    · rfl
    · rw [if_pos h] at hm; exact absurd hm.notDead (by rw [h]; simp)
  rw [if_neg (by rw [hnd]; exact Bool.false_ne_true)]
  unfold removeConn
  rw [if_neg (by rw [hg.alive]; simp [downState, hal]), if_neg (by rw [hc2]; simp [downState, hcn])]
  rfl

theorem handleClose_client_trace (c : C) (r : List Task) (ph : Bool) (hi : Mid c r ph) (k : Nat) (x : ConnRec)
    (hx : findIn c.conns k = some x) (hst : x.st ≠ .disconnected) (hcb : x.closeCb = .client) (hch : c.chan = none) :
    ((downCb c k).retry = true ∧ (downCb c k).tConnect = true →
      ∃ tail, (handleClose c k).trace = (downCb c k).trace ++
        [.ghost .cycle, .sockCreated (downCb c k).nsock, .attempt (downCb c k).nsock (downCb c k).now] ++ tail) ∧
    (¬ ((downCb c k).retry = true ∧ (downCb c k).tConnect = true) →
      (handleClose c k).trace = (downCb c k).trace ∧ (handleClose c k).nsock = (downCb c k).nsock) := by
  rw [handleClose_client_eq c r ph hi k x hx hst hcb hch]
  generalize downCb c k = c2
  constructor
  · intro hre
    rw [if_pos (by simpa [reconnects] using hre)]
    obtain ⟨tail, ht⟩ := restart_trace (afterDown c2 k)
    exact ⟨tail, by rw [ht]; simp [afterDown]⟩
  · intro hre
    rw [if_neg (by simpa [reconnects] using hre)]
    exact ⟨rfl, rfl⟩

theorem fireTimers_not_due (c : C) (r : List Task) (ph : Bool) (hi : Mid c r ph) (h : ∀ t ∈ c.timers, c.now < t.1) :
    (fireTimers c).trace = c.trace ∧ (fireTimers c).nsock = c.nsock := by
  have hdue : c.timers.filter (fun t => decide (t.1 ≤ c.now)) = [] := by
    rw [List.filter_eq_nil_iff]; intro t ht; have := h t ht; simp; omega
  have hm1 := notDue_mid c r ph hi
  rw [fireTimers_eq]
  simp only [hdue, List.foldl_nil]
  rw [if_neg (by rw [hm1.notDead]; exact Bool.false_ne_true), reapConnector_id hm1]
  exact ⟨rfl, rfl⟩

theorem destroyed_in_trace {c : C} (hb : Bnd c) {k : Nat} {z : ConnRec} (hz : findIn c.conns k = some z)
    (hd : z.destroyed = true) : Ev.up k ∈ c.trace ∧ Ev.down k ∈ c.trace ∧ Ev.connClosed k ∈ c.trace := by
  obtain ⟨s, hs, hr⟩ := hb.tr
  have h := cnt_scan hs
  have hp : s.phases[k]? = some .connClosed := by
    rw [hr.ph k, phaseAt_conn (hb.handed hz) hz]; simp [hd]
  exact ⟨(h.mem .up k).mpr (by rw [Spec.has_eq hp]; rfl), (h.mem .down k).mpr (by rw [Spec.has_eq hp]; rfl),
    (h.mem .connClosed k).mpr (by rw [Spec.has_eq hp]; rfl)⟩

theorem disconnect_leads (c : C) (hb : Bnd c) (hal : c.clientAlive = true) (w : Who) (k : Nat) (x : ConnRec)
    (hcn : c.connection = some k) (hx : findIn c.conns k = some x) (hst : x.st = .connected) :
    (step c (.disconnect w)).tConnect = false ∧ (step c (.disconnect w)).trace = c.trace ∧
    (step c (.disconnect w)).pending = c.pending ++ [.shutdownInLoop k] ∧
    ∀ a, ∃ d, (step (step c (.disconnect w)) (.iter a)).trace = c.trace ++ d ∧ Ev.shutdownWr k ∈ d := by
  have hb1 := step_bnd c (.disconnect w) hb hal
  have hs : step c (.disconnect w) = userDisconnect c := by
    rw [step_live c _ hb.notDead]; simp [stepLive, hal]
  have he := userDisconnect_eq c k x hcn hx hst
  rw [hs] at hb1 ⊢
  rw [he] at hb1 ⊢
  refine ⟨rfl, rfl, rfl, ?_⟩
  intro a
  rw [step_iter _ a hb1.notDead]
  have hd : x.destroyed = false := by
    cases h : x.destroyed
    · rfl
    · have := (hb.c4 x (findIn_some hx).1 h).1; rw [hst] at this; cases this
  exact iter_shutdown _ hb1 k (by simp) ⟨toDisconnecting x, findIn_upd_self toDisconnecting (fun _ => rfl) hx, hd⟩ a

theorem step_destroy (c : C) (hb : Bnd c) (hal : c.clientAlive = true) :
    step c (.destroy .loop) = reap (userDestroy c .loop) ∧ Mid (userDestroy c .loop) [] true := by
  have hm := userDestroy_mid c hb hal
  refine ⟨?_, hm⟩
  rw [step_live c _ hb.notDead]
  have : stepLive c (.destroy .loop) = userDestroy c .loop := by simp [stepLive, hal]
  simp only [this]
  rw [if_neg (by rw [hm.notDead]; exact Bool.false_ne_true)]

theorem destroy_quiet (c : C) (hb : Bnd c) (hal : c.clientAlive = true) :
    (step c (.destroy .loop)).clientAlive = false ∧
    ∀ (a : List Src) (k : Nat), (step (step c (.destroy .loop)) (.iter a)).sockSt[k]? ≠ some SockSt.opened := by
  have hb1 := step_bnd c (.destroy .loop) hb ⟨hal, rfl⟩
  have hal1 : (step c (.destroy .loop)).clientAlive = false := by
    rw [(step_destroy c hb hal).1, reap_alive, userDestroy_alive]
  refine ⟨hal1, fun a k => ?_⟩
  rw [step_iter _ a hb1.notDead]
  exact iter_gone_quiet _ hb1 hal1 a k

theorem destroy_leads (c : C) (hb : Bnd c) (hal : c.clientAlive = true) (k : Nat) (x : ConnRec)
    (hcn : c.connection = some k) (hx : findIn c.conns k = some x) (hur : x.userRef = false) (a b : List Src) :
    Ev.down k ∈ (step (step (step c (.destroy .loop)) (.iter a)) (.iter b)).trace ∧
    Ev.connClosed k ∈ (step (step (step c (.destroy .loop)) (.iter a)) (.iter b)).trace := by
  obtain ⟨x', hx', hst, hcb⟩ := hb.c7 k hcn
  rw [hx] at hx'; cases hx'
  have hb1 := step_bnd c (.destroy .loop) hb ⟨hal, rfl⟩
  obtain ⟨hs, hmU⟩ := step_destroy c hb hal
  have hu : (useCount c k == 1) = true := by
    simp [useCount, findConn_eq, hx, hur, no_pending_holds hb hcn]
  have hU := userDestroy_unique_eq c k x hcn hx hst hu
  have hmU' := destroyUnique_mid c hb hal k hcn
  rw [reapConnector_id hmU'] at hU
  rw [hU] at hs
  have hal1 : (step c (.destroy .loop)).clientAlive = false := (destroy_quiet c hb hal).1
  have hk := reap_keeps _ hmU' k (detachClose x) (findIn_upd_self detachClose (fun _ => rfl) hx)
  rw [← hs] at hk
  have hfind : ∃ y, findIn (step c (.destroy .loop)).conns k = some y ∧ y.userRef = false :=
    ⟨_, hk.1, by rw [(reapRec_fields _ _).2.2.1]; exact hur⟩
  have hin : Task.forceCloseInLoop k ∈ (step c (.destroy .loop)).pending := by
    rw [hk.2]; simp
  obtain ⟨y, hy, hyu⟩ := hfind
  -- iteration `a` runs the queued `forceCloseInLoop k`: `k` is down at its end; at the end of `b` nothing holds `k`: reaped
  rw [step_iter _ a hb1.notDead]
  obtain ⟨hal2, y2, hy2, hst2, hur2⟩ := iter_force _ hb1 hal1 k y hy hyu hin a
  have hb2 := iter_bnd _ a hb1
  rw [step_iter _ b hb2.notDead]
  obtain ⟨z, hz, hzd⟩ := iter_reaps _ hb2 hal2 k y2 hy2 hst2 hur2 b
  have hb3 := iter_bnd _ b hb2
  exact (destroyed_in_trace hb3 hz hzd).2

theorem iter_no_conn_leak (c : C) (hb : Bnd c) (a : List Src) :
    ∀ y ∈ (iter c a).conns, y.destroyed = false → connHeld (iter c a) y = true := by
  obtain ⟨c1, c2, hp⟩ := iter_parts c a hb
  rw [hp.iter_eq]
  intro y hy hd
  obtain ⟨x, hx, rfl⟩ := List.mem_map.mp (show y ∈ c2.conns.map (reapRec { c2 with batch := [] }) from hy)
  have hf := reapRec_fields { c2 with batch := [] } x
  by_cases hdy : dyingP { c2 with batch := [] } x = true
  · simp [reapRec, hdy, kill] at hd
  · have hid : reapRec { c2 with batch := [] } x = x := by simp [reapRec, hdy]
    rw [hid] at hd ⊢
    simp only [dyingP, hd, Bool.not_false, Bool.true_and, Bool.not_eq_true', Bool.not_eq_false] at hdy
    exact hdy

/-! ### only the dispatch of the connector's channel runs the UP callback -/

theorem reap_hooksUp (c : C) : (reap c).hooksUp = c.hooksUp := by
  obtain ⟨_, _, _, h⟩ := reap_frame c; rw [h]

theorem iter_callback_disconnect (c : C) (hb : Bnd c) (rest : List HookOp) (hh : c.hooksUp = .disconnect :: rest)
    (active : List Src) (hf : (iter c active).hooksUp ≠ c.hooksUp) :
    ∃ k d0 d1, (iter c active).trace = c.trace ++ d0 ++ d1 ∧ Ev.up k ∈ d0 ∧ Ev.shutdownWr k ∈ d1 := by
  obtain ⟨c1, c2, hp⟩ := iter_parts c active hb
  have hne : c1.hooksUp ≠ c.hooksUp := by
    intro e; apply hf; rw [hp.e, reap_hooksUp]; exact hp.q2.hooks.trans e
  obtain ⟨k, u1, u2, u3, x, u4, u5⟩ := hp.g1.hup rest hh hne
  obtain ⟨d0, d1, h0, h, hm⟩ := hp.shutdown u3 ⟨x, u4, u5⟩
  rw [h0] at u1
  exact ⟨k, d0, d1, h, (List.mem_append.mp u1).resolve_left u2, hm⟩

theorem iter_up_runs_callback (c : C) (hb : Bnd c) (active : List Src) (k : Nat)
    (hk : Ev.up k ∈ (iter c active).trace) (hnk : Ev.up k ∉ c.trace) :
    c.hooksUp = [] ∨ (iter c active).hooksUp ≠ c.hooksUp := by
  obtain ⟨c1, c2, hp⟩ := iter_parts c active hb
  rw [show (iter c active).hooksUp = c1.hooksUp by rw [hp.e, reap_hooksUp]; exact hp.q2.hooks]
  -- neither the release nor the functor batch reports an UP
  rw [hp.iter_eq] at hk
  exact hp.g1.upq k (hp.q2.noUp k ((List.mem_append.mp hk).resolve_right (by simp))) hnk

theorem stop_marks (c : C) (w : Who) (hd : c.dead = false) (hal : c.clientAlive = true) :
    (step c (.stop w)).trace = c.trace ++ [.ghost .stop] := by
  rw [step_live c _ hd]
  simp only [stepLive, hal, if_true]
  rw [userStop_eq]

theorem destroy_marks (c : C) (hb : Bnd c) (hal : c.clientAlive = true) :
    c.trace ++ [.ghost .destroy] <+: (step c (.destroy .loop)).trace := by
  obtain ⟨hs, hm⟩ := step_destroy c hb hal
  rw [hs, reap_eq2 hm]
  refine List.IsPrefix.trans ?_ (List.prefix_append _ _)
  cases hcn : c.connection with
  | none =>
    have h := destroyIdle_mid c hb hal hcn (c.now + dtorParkUs)
    rw [userDestroy_idle_eq c hcn, reapConnector_id h]; exact List.prefix_refl _
  | some k =>
    obtain ⟨x, hx, hst, hcb⟩ := hb.c7 k hcn
    by_cases hu : (useCount c k == 1) = true
    · have h := destroyUnique_mid c hb hal k hcn
      rw [userDestroy_unique_eq c k x hcn hx hst hu, reapConnector_id h]; exact List.prefix_refl _
    · have hg := reapConnector_grow
        ({ c with destroyedAt := some c.now, trace := c.trace ++ [.ghost .destroy],
                  conns := c.conns.map (updRec k detach), clientAlive := false, connection := none } : C)
      rw [userDestroy_shared_eq c k hcn hu]
      exact hg.tr

theorem connect_marks (c : C) (w : Who) (hd : c.dead = false) (hal : c.clientAlive = true) :
    c.trace ++ [.ghost .connect] <+: (step c (.connect w)).trace := by
  rw [step_live c _ hd]
  simp only [stepLive, hal, if_true]
  cases w
  · rw [userConnect_loop]
    refine List.IsPrefix.trans ?_ (startCycle_grow _).tr
    exact List.prefix_refl _
  · rw [userConnect_foreign]; exact List.prefix_refl _

end MuduoVerif.Client
