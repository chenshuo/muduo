import MuduoVerif.Proofs.LoopElt
/-!
# The documented use of `EventLoopThread` (C05 `clean_shutdown`)

One owner thread: `startLoop()`, then any number of submissions, then (optionally) the destructor; user code never
calls `quit()` on the thread's loop.  Under this discipline the exceptional all-blocked state of
`stuck_analysis` (`EarlyDestroy`) cannot occur.
-/
namespace MuduoVerif.Loop
open MuduoVerif.Gen.Loop

/-- calls that only hand work to the loop (`bury`, the death of an inline call's functor object, is put there by the
model itself: its destructor body is user code of the same kind, `BodiesInv.dtbl`) -/
def userSub : Sub → Bool
  | .queue _ | .run _ | .post _ | .bury _ => true
  | _ => false

def userOnly (l : List Sub) : Bool := l.all userSub

theorem userOnly_cons {x : Sub} {l : List Sub} : userOnly (x :: l) = true ↔ userSub x = true ∧ userOnly l = true := by
  simp [userOnly]

/-- no task body, no destructor of a functor's captured state (and nothing the loop thread is executing) calls
`quit()`, `startLoop()` or the destructor -/
structure BodiesInv (s : St) : Prop where
  tbl : ∀ x, userOnly (s.tbl x) = true
  dtbl : ∀ x, userOnly (s.dtbl x) = true
  stack : ∀ b, b ∈ s.stack → userOnly b = true
  lpc : s.lpc ≠ .quitStored
  selfq : s.selfQuit = false

section
variable {fd : FinalDrain} {bd : Bool} {s s' : St} {k : Nat}

theorem TopStep.bodiesInv_qreq (hs : TopStep s s') (h : BodiesInv s) : BodiesInv s' ∧ s'.qreq = s.qreq := by
  -- the body on top starts with a user call; what is left of it and the bodies below are user code
  have top {c : Sub} {r : List Sub} {rest : List (List Sub)} (hs : s.stack = (c :: r) :: rest) :
      (userSub c = true ∧ userOnly r = true) ∧ ∀ b, b ∈ rest → userOnly b = true := by
    have := h.stack; rwa [hs, List.forall_mem_cons, userOnly_cons] at this
  induction hs
  case wake | noWake => exact ⟨⟨h.tbl, h.dtbl, h.stack, (nomatch ·), h.selfq⟩, rfl⟩
  case quitDone hl => exact absurd hl h.lpc
  case nop => exact ⟨⟨h.tbl, h.dtbl, h.stack, h.lpc, h.selfq⟩, rfl⟩
  case pop hs => exact ⟨⟨h.tbl, h.dtbl, (List.forall_mem_cons.mp (hs ▸ h.stack)).2, h.lpc, h.selfq⟩, rfl⟩
  case queue hs =>
    exact ⟨⟨h.tbl, h.dtbl, List.forall_mem_cons.mpr ⟨(top hs).1.2, (top hs).2⟩, (nomatch ·), h.selfq⟩, rfl⟩
  case run x r rest hs =>
    exact ⟨⟨h.tbl, h.dtbl, List.forall_mem_cons.mpr ⟨h.tbl x,
      List.forall_mem_cons.mpr ⟨userOnly_cons.mpr ⟨rfl, (top hs).1.2⟩, (top hs).2⟩⟩, h.lpc, h.selfq⟩, rfl⟩
  case quit hs => exact nomatch (top hs).1.1
  case post hs | skip hs =>
    exact ⟨⟨h.tbl, h.dtbl, List.forall_mem_cons.mpr ⟨(top hs).1.2, (top hs).2⟩, h.lpc, h.selfq⟩, rfl⟩
  case dtor x r rest hs =>
    exact ⟨⟨h.tbl, h.dtbl, List.forall_mem_cons.mpr ⟨h.dtbl x, List.forall_mem_cons.mpr ⟨(top hs).1.2, (top hs).2⟩⟩,
      h.lpc, h.selfq⟩, rfl⟩

/-- (`EventLoopThread` scenario: its `loop()` is not entered again) -/
theorem LoopStep.bodiesInv_qreq (hs : LoopStep fd bd s s') (he : s.elt = true) (h : BodiesInv s) :
    BodiesInv s' ∧ s'.qreq = s.qreq := by
  induction hs
  case task ht => exact ht.bodiesInv_qreq h
  case pipeRead | exec =>
    exact ⟨⟨h.tbl, h.dtbl, fun b hb => by rw [List.mem_singleton.mp hb]; exact h.tbl _, h.lpc, h.selfq⟩, rfl⟩
  case bury =>
    exact ⟨⟨h.tbl, h.dtbl, fun b hb => by rw [List.mem_singleton.mp hb]; exact h.dtbl _, h.lpc, h.selfq⟩, rfl⟩
  case again he' _ => simp [he] at he'
  all_goals exact ⟨⟨h.tbl, h.dtbl, h.stack, h.lpc, h.selfq⟩, rfl⟩

theorem OtherStep.bodiesInv (hs : OtherStep s k s') (h : BodiesInv s) : BodiesInv s' := by
  induction hs <;> exact ⟨h.tbl, h.dtbl, h.stack, h.lpc, h.selfq⟩

theorem LoopStep.keepPtr (hs : LoopStep fd bd s s') (hq : QuitInv s) (hl : s.loopPtr = true) (hf : s.qreq = false) :
    s'.loopPtr = true := by
  induction hs
  case task ht => induction ht <;> exact hl
  case die hp _ _ => have := hq.goneReq (.inr (.inr (by simp [hp, exited]))); simp [hf] at this
  case publish => rfl
  all_goals exact hl

end

/-- where the owner thread (T0) stands in `startLoop(); submissions…; [~EventLoopThread()]`, and what that means for
the shared state; `tail` is `[]` or `[destroy]` -/
def OwnerOk (tail : List Sub) (s : St) : Prop :=
  match (s.thr 0).pc with
  | .idle =>
      (s.phase = .unborn ∧ s.qreq = false ∧ ∃ b, userOnly b = true ∧ (s.thr 0).prog = .startLoop :: (b ++ tail))
    ∨ (s.loopPtr = true ∧ s.qreq = false ∧ ∃ b, userOnly b = true ∧ (s.thr 0).prog = b ++ tail)
    ∨ (s.phase = .dead ∧ s.qreq = true ∧ (s.thr 0).prog = [] ∧ tail = [.destroy])
  | .appended => s.loopPtr = true ∧ s.qreq = false ∧ ∃ b, userOnly b = true ∧ (s.thr 0).prog = b ++ tail
  | .quitStored => False
  | .sCheck => s.qreq = false ∧ ∃ b, userOnly b = true ∧ (s.thr 0).prog = b ++ tail
  | .sWaiting => s.qreq = false ∧ ∃ b, userOnly b = true ∧ (s.thr 0).prog = b ++ tail
  | .dEntry => s.loopPtr = true ∧ s.qreq = false ∧ (s.thr 0).prog = [] ∧ tail = [.destroy]
  | .dBeforeQuit => s.qreq = false ∧ (s.thr 0).prog = [] ∧ tail = [.destroy]
  | .dStored => s.qreq = true ∧ (s.thr 0).prog = [] ∧ tail = [.destroy]
  | .dJoin => s.qreq = true ∧ (s.thr 0).prog = [] ∧ tail = [.destroy]

structure OwnerInv (tail : List Sub) (s : St) : Prop where
  elt : s.elt = true
  bodies : BodiesInv s
  quit : QuitInv s
  eltInv : EltInv s
  others : ∀ k, k ≠ 0 → k ≠ 1 → s.thr k = { pc := .idle, prog := [] }
  owner : OwnerOk tail s

/-- the loop thread's step, seen from the owner: `loop_` stays published as long as nobody has called `quit()` -/
theorem stepLoop_owner {tail : List Sub} {s : St} (h : OwnerInv tail s) : OwnerInv tail (stepLoop s) := by
  obtain ⟨he, hb, hq, hi, ho, hw⟩ := h
  have hs := stepLoopG_step finalDrain batchDestroyedBeforeReset s
  obtain ⟨hb', hqr⟩ := hs.bodiesInv_qreq he hb
  have t1 : (stepLoop s).thr = s.thr := hs.frame.thr
  refine ⟨hs.frame.elt.trans he, hb', hs.quitInv hq, hs.eltInv hi, by rw [t1]; exact ho, ?_⟩
  have keepPtr := hs.keepPtr hq
  have keepUnborn : s.phase = .unborn → (stepLoop s).phase = .unborn := by
    intro hp; unfold stepLoop stepLoopFD stepLoopG; simp [hp]
  have keepDead : s.phase = .dead → (stepLoop s).phase = .dead := by
    intro hp; unfold stepLoop stepLoopFD stepLoopG; simp [hp]
  unfold OwnerOk at hw ⊢
  rw [t1, show (stepLoop s).qreq = s.qreq from hqr]
  cases hpc : (s.thr 0).pc <;> simp only [hpc] at hw ⊢
  · rcases hw with ⟨a, b, c⟩ | ⟨a, b, c⟩ | ⟨a, b, c⟩
    · exact Or.inl ⟨keepUnborn a, b, c⟩
    · exact Or.inr (Or.inl ⟨keepPtr a b, b, c⟩)
    · exact Or.inr (Or.inr ⟨keepDead a, b, c⟩)
  · exact ⟨keepPtr hw.1 hw.2.1, hw.2.1, hw.2.2⟩
  · exact hw
  · exact hw
  · exact ⟨keepPtr hw.1 hw.2.1, hw.2.1, hw.2.2⟩
  · exact hw
  · exact hw
  · exact hw

theorem stepOther_idle_nil {s : St} {k : Nat} (h : s.thr k = { pc := .idle, prog := [] }) :
    stepOther s k = { s with out := none } := by
  unfold stepOther; simp [h, stepIdle]

theorem ownerOk_idle {c : Sub} {r : List Sub} {tail : List Sub} {s : St} (hw : OwnerOk tail s)
    (htail : tail = [] ∨ tail = [.destroy]) (hpc : (s.thr 0).pc = .idle) (hp : (s.thr 0).prog = c :: r) :
    (c = .startLoop ∧ s.phase = .unborn ∧ s.qreq = false ∧ ∃ b, userOnly b = true ∧ r = b ++ tail) ∨
    (s.loopPtr = true ∧ s.qreq = false ∧
      ((userSub c = true ∧ ∃ b, userOnly b = true ∧ r = b ++ tail) ∨ (c = .destroy ∧ r = [] ∧ tail = [.destroy]))) := by
  unfold OwnerOk at hw
  simp only [hpc, hp] at hw
  rcases hw with ⟨hph, hq, b, hb, e⟩ | ⟨hl, hq, b, hb, e⟩ | ⟨_, _, e, _⟩
  · cases e; exact .inl ⟨rfl, hph, hq, b, hb, rfl⟩
  · refine .inr ⟨hl, hq, ?_⟩
    cases b with
    | nil =>
      rcases htail with ht | ht <;> subst ht <;> cases e
      exact .inr ⟨rfl, rfl, rfl⟩
    | cons y b' =>
      cases e
      exact .inl ⟨(userOnly_cons.mp hb).1, b', (userOnly_cons.mp hb).2, rfl⟩
  · cases e

/-- the owner's own step: each kind of step is met at the position `OwnerOk` allows for it, or not at all -/
theorem OtherStep.ownerOk {tail : List Sub} {s s' : St} (hs : OtherStep s 0 s')
    (htail : tail = [] ∨ tail = [.destroy]) (h : OwnerInv tail s) : OwnerOk tail s' := by
  obtain ⟨he, -, hq, hi, -, hw⟩ := h
  have idle {c r} := ownerOk_idle hw htail (c := c) (r := r)
  induction hs
  case nop => exact hw
  all_goals unfold OwnerOk at hw ⊢
  case append x r hpc hp =>
    rcases hp with hp | hp <;> rcases idle hpc hp with ⟨hc, _⟩ | ⟨hl, hq, ⟨_, b⟩ | ⟨hc, _⟩⟩
    · cases hc
    · exact ⟨hl, hq, b⟩
    · cases hc
    · cases hc
    · exact ⟨hl, hq, b⟩
    · cases hc
  case quit r hpc hp =>
    rcases idle hpc hp with ⟨hc, _⟩ | ⟨_, _, ⟨hu, _⟩ | ⟨hc, _⟩⟩
    · cases hc
    · cases hu
    · cases hc
  case post x r hpc hp =>
    rcases idle hpc hp with ⟨hc, _⟩ | ⟨hl, hq, ⟨_, b⟩ | ⟨hc, _⟩⟩
    · cases hc
    · exact .inr (.inl ⟨hl, hq, b⟩)
    · cases hc
  case start r hpc hp _ _ =>
    rcases idle hpc hp with ⟨_, _, hq, b⟩ | ⟨_, _, ⟨hu, _⟩ | ⟨hc, _⟩⟩
    · exact ⟨hq, b⟩
    · cases hu
    · cases hc
  case dtor r hpc hp _ =>
    rcases idle hpc hp with ⟨hc, _⟩ | ⟨hl, hq, ⟨hu, _⟩ | ⟨_, hr, ht⟩⟩
    · cases hc
    · cases hu
    · exact ⟨hl, hq, hr, ht⟩
  case skip c r hpc hp hc =>
    rcases idle hpc hp with ⟨rfl, hu, _⟩ | ⟨hl, hq, ⟨_, b⟩ | ⟨rfl, _⟩⟩
    · simp [he, hu] at hc
    · exact .inr (.inl ⟨hl, hq, b⟩)
    · simp [he] at hc
  case wake hpc =>
    rcases hpc with hpc | hpc <;> rw [hpc] at hw
    · exact .inr (.inl hw)
    · exact hw.elim
  case started hpc _ ho =>
    rw [hpc] at hw
    rcases ho with ⟨hl, _⟩ | ⟨_, hf, _⟩
    · exact .inr (.inl ⟨hl, hw⟩)
    · -- nobody has quit the loop, so the loop thread cannot have finished
      have := hq.goneReq (.inr (.inr (by simp [hi.fin.2.mp hf, exited])))
      simp [hw.1] at this
  case wait hpc _ _ _ | notified hpc _ _ | dWake hpc => rw [hpc] at hw; exact hw
  case dLock hpc _ _ => rw [hpc] at hw; exact hw.2
  case dSkip hpc _ hl _ => rw [hpc] at hw; simp [hw.1] at hl
  case dQuit hpc => rw [hpc] at hw; exact ⟨rfl, hw.2⟩
  case joined hpc hd => rw [hpc] at hw; exact .inr (.inr ⟨hd, hw⟩)

theorem step_owner {tail : List Sub} (htail : tail = [] ∨ tail = [.destroy]) {s : St} (k : Nat)
    (h : OwnerInv tail s) : OwnerInv tail (step s k) := by
  have hL : s.L = 1 := by simp [St.L, h.elt]
  unfold step
  split
  · exact stepLoop_owner h
  · rename_i hk
    have hs := stepOther_step s k
    refine ⟨hs.frame.elt.trans h.elt, hs.bodiesInv h.bodies, hs.quitInv hk h.quit, hs.eltInv hk h.eltInv, ?_, ?_⟩ <;>
      by_cases hk0 : k = 0
    · subst hk0; exact fun j hj0 hj1 => (hs.frame.thr j hj0).trans (h.others j hj0 hj1)
    · -- a thread other than the owner and the loop thread has nothing to do
      rw [stepOther_idle_nil (h.others k hk0 (hL ▸ hk))]; exact h.others
    · subst hk0; exact hs.ownerOk htail h
    · rw [stepOther_idle_nil (h.others k hk0 (hL ▸ hk))]; exact h.owner

theorem init_owner (wl : Bool) (tbl dtbl : TaskId → List Sub) (pre body tail : List Sub)
    (htbl : ∀ x, userOnly (tbl x) = true) (hdtbl : ∀ x, userOnly (dtbl x) = true) (hpre : userOnly pre = true)
    (hbody : userOnly body = true) :
    OwnerInv tail (init true wl tbl dtbl pre [] (fun k => if k = 0 then .startLoop :: (body ++ tail) else [])) := by
  refine ⟨rfl, ⟨htbl, hdtbl, ?_, by simp [init], rfl⟩, init_quit _ _ _ _ _ _ _, init_eltInv _ _ _ _ _ _ _, ?_, ?_⟩
  · intro b hb
    simp only [init] at hb
    split at hb
    · simp at hb
    · simp at hb; subst hb; exact hpre
  · intro k hk0 _; simp [init, hk0]
  · simp [OwnerOk, init]; exact hbody

theorem owner_stuck {tail : List Sub} {s : St} (h : OwnerInv tail s) (hs : Stuck s) :
    (s.thr 0).pc = .idle ∧ (s.thr 0).prog = [] ∧ s.uafDtor = false ∧
    ((tail = [.destroy] ∧ s.phase = .dead ∧ s.qreq = true) ∨ (tail = [] ∧ IdleInPoll s)) := by
  have hL : s.L = 1 := by simp [St.L, h.elt]
  have h0 : (0 : Nat) ≠ s.L := by rw [hL]; decide
  obtain ⟨hall, hloop⟩ := stuck_analysis h.quit h.eltInv hs
  -- the owner has finished or is an `EarlyDestroy`; `OwnerOk` excludes the latter: at `dJoin` it has `qreq = true`
  have hw := h.owner
  unfold OwnerOk at hw
  rcases hall 0 h0 with hf | ⟨hpc, _, hqf⟩
  · simp [finished, h0] at hf
    obtain ⟨hpc, hprog⟩ := hf
    refine ⟨hpc, hprog, h.eltInv.noUaf, ?_⟩
    simp only [hpc] at hw
    rcases hw with ⟨_, _, b, _, hp⟩ | ⟨hl, hqf, b, _, hp⟩ | ⟨hph, hqt, _, htl⟩
    · rw [hprog] at hp; simp at hp
    · right
      rw [hprog] at hp
      have hb0 := List.append_eq_nil_iff.mp hp.symm
      refine ⟨hb0.2, ?_⟩
      rcases hloop with hfl | hi
      · exfalso
        have hr := (h.eltInv.ptr hl).1
        simp [finished, h.elt] at hfl
        rcases hfl with hd | hd <;> simp [hd, running] at hr
      · exact hi
    · exact Or.inl ⟨htl, hph, hqt⟩
  · exfalso
    simp only [hpc] at hw
    simp [hw.1] at hqf

end MuduoVerif.Loop
