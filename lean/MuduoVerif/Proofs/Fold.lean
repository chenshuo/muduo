/-!
Three facts about `List.foldl` that every engine uses whose histories are folds: a predicate kept by each step is
kept by the fold, a fold over steps that do nothing does nothing, and a trace automaton that fails for good has read
each letter of a trace it accepts in a state it reached on the letters before.
-/
namespace MuduoVerif

theorem foldl_inv {α β : Type} {P : α → Prop} {f : α → β → α} (l : List β) (hf : ∀ a, ∀ b ∈ l, P a → P (f a b))
    (a : α) (ha : P a) : P (l.foldl f a) := by
  induction l generalizing a with
  | nil => exact ha
  | cons b r ih =>
    exact ih (fun a x hx => hf a x (List.mem_cons_of_mem _ hx)) _ (hf a b (List.mem_cons_self ..) ha)

theorem foldl_fix {α β : Type} (f : α → β → α) (l : List β) (c : α) (h : ∀ t ∈ l, f c t = c) : l.foldl f c = c :=
  foldl_inv (P := (· = c)) l (fun _ t ht e => e ▸ h t ht) c rfl

theorem foldl_letter {σ α : Type} {f : Option σ → α → Option σ} (hf : ∀ e, f none e = none) {i : Option σ} {pre post : List α}
    {e : α} {x : σ} (h : (pre ++ e :: post).foldl f i = some x) : ∃ q q', pre.foldl f i = some q ∧ f (some q) e = some q' := by
  have hn : ∀ l : List α, l.foldl f none = none := fun l => foldl_fix f l none fun t _ => hf t
  rw [List.foldl_append, List.foldl_cons] at h
  cases hq : pre.foldl f i with
  | none => rw [hq, hf, hn] at h; cases h
  | some q =>
    cases hs : f (some q) e with
    | none => rw [hq, hs, hn] at h; cases h
    | some q' => exact ⟨q, q', rfl, hs⟩

end MuduoVerif
