import MuduoVerif.Generated.ThreadSkel
/-!
# T1 tie for muduo's threading primitives (C14 / C15 / C05 / C16 / C17)

`Gen.ThreadSkel.<fn>` is the statement skeleton `vlib/gen/threadskel.py` extracts from /repo's current
`muduo/base/Mutex.h`, `Condition.h`, `Condition.cc`, `CountDownLatch.cc`, `Thread.cc`, `CurrentThread.h` on every run;
`Decl.<fn>` (`Model/ThreadSkelDecl.lean`) is the skeleton the models' atomic reading of that primitive stands for.
Each `skeleton_<fn>` is closed by `rfl`: it holds exactly as long as the source performs the same stores (of the
same expressions), muduo calls, pthread / libc calls (with the same arguments, checked by `MCHECK` or not), guard
scopes, assertions, `delete`s and returns, in the same order, under the same nesting of the same conditions, loops and
`try` / `catch` clauses.  What the pthread functions DO stays trusted (POSIX); that the code asks them in the modelled
order is what is tied here.

The last part proves the deadline arithmetic of `Condition::waitForSeconds`
(`Gen.ThreadSkel.waitForSecondsDeadline`, a translation of the two assignments): a valid `timespec` that loses no time
for every non-negative wait - and an invalid one for a negative wait that crosses a second boundary downwards.
-/
namespace MuduoVerif.ThreadSkel

theorem skeleton_mutexCtor : Gen.ThreadSkel.mutexCtor = Decl.mutexCtor := rfl
theorem skeleton_mutexDtor : Gen.ThreadSkel.mutexDtor = Decl.mutexDtor := rfl
theorem skeleton_isLockedByThisThread : Gen.ThreadSkel.isLockedByThisThread = Decl.isLockedByThisThread := rfl
theorem skeleton_assertLocked : Gen.ThreadSkel.assertLocked = Decl.assertLocked := rfl
theorem skeleton_mutexLock : Gen.ThreadSkel.mutexLock = Decl.mutexLock := rfl
theorem skeleton_mutexUnlock : Gen.ThreadSkel.mutexUnlock = Decl.mutexUnlock := rfl
theorem skeleton_unassignHolder : Gen.ThreadSkel.unassignHolder = Decl.unassignHolder := rfl
theorem skeleton_assignHolder : Gen.ThreadSkel.assignHolder = Decl.assignHolder := rfl
theorem skeleton_unassignGuardCtor : Gen.ThreadSkel.unassignGuardCtor = Decl.unassignGuardCtor := rfl
theorem skeleton_unassignGuardDtor : Gen.ThreadSkel.unassignGuardDtor = Decl.unassignGuardDtor := rfl
theorem skeleton_lockGuardCtor : Gen.ThreadSkel.lockGuardCtor = Decl.lockGuardCtor := rfl
theorem skeleton_lockGuardDtor : Gen.ThreadSkel.lockGuardDtor = Decl.lockGuardDtor := rfl
theorem skeleton_condCtor : Gen.ThreadSkel.condCtor = Decl.condCtor := rfl
theorem skeleton_condDtor : Gen.ThreadSkel.condDtor = Decl.condDtor := rfl
theorem skeleton_condWait : Gen.ThreadSkel.condWait = Decl.condWait := rfl
theorem skeleton_condNotify : Gen.ThreadSkel.condNotify = Decl.condNotify := rfl
theorem skeleton_condNotifyAll : Gen.ThreadSkel.condNotifyAll = Decl.condNotifyAll := rfl
theorem skeleton_condWaitForSeconds : Gen.ThreadSkel.condWaitForSeconds = Decl.condWaitForSeconds := rfl
theorem skeleton_latchCtor : Gen.ThreadSkel.latchCtor = Decl.latchCtor := rfl
theorem skeleton_latchWait : Gen.ThreadSkel.latchWait = Decl.latchWait := rfl
theorem skeleton_latchCountDown : Gen.ThreadSkel.latchCountDown = Decl.latchCountDown := rfl
theorem skeleton_latchGetCount : Gen.ThreadSkel.latchGetCount = Decl.latchGetCount := rfl
theorem skeleton_tid : Gen.ThreadSkel.tid = Decl.tid := rfl
theorem skeleton_cacheTid : Gen.ThreadSkel.cacheTid = Decl.cacheTid := rfl
theorem skeleton_isMainThread : Gen.ThreadSkel.isMainThread = Decl.isMainThread := rfl
theorem skeleton_sleepUsec : Gen.ThreadSkel.sleepUsec = Decl.sleepUsec := rfl
theorem skeleton_gettid : Gen.ThreadSkel.gettid = Decl.gettid := rfl
theorem skeleton_afterFork : Gen.ThreadSkel.afterFork = Decl.afterFork := rfl
theorem skeleton_threadNameInitializer : Gen.ThreadSkel.threadNameInitializer = Decl.threadNameInitializer := rfl
theorem skeleton_threadDataCtor : Gen.ThreadSkel.threadDataCtor = Decl.threadDataCtor := rfl
theorem skeleton_runInThread : Gen.ThreadSkel.runInThread = Decl.runInThread := rfl
theorem skeleton_startThread : Gen.ThreadSkel.startThread = Decl.startThread := rfl
theorem skeleton_threadCtor : Gen.ThreadSkel.threadCtor = Decl.threadCtor := rfl
theorem skeleton_threadDtor : Gen.ThreadSkel.threadDtor = Decl.threadDtor := rfl
theorem skeleton_setDefaultName : Gen.ThreadSkel.setDefaultName = Decl.setDefaultName := rfl
theorem skeleton_threadStart : Gen.ThreadSkel.threadStart = Decl.threadStart := rfl
theorem skeleton_threadJoin : Gen.ThreadSkel.threadJoin = Decl.threadJoin := rfl

theorem skeletons_agree :
    (Gen.ThreadSkel.mutexCtor = Decl.mutexCtor ∧
     Gen.ThreadSkel.mutexDtor = Decl.mutexDtor ∧
     Gen.ThreadSkel.isLockedByThisThread = Decl.isLockedByThisThread ∧
     Gen.ThreadSkel.assertLocked = Decl.assertLocked ∧
     Gen.ThreadSkel.mutexLock = Decl.mutexLock ∧
     Gen.ThreadSkel.mutexUnlock = Decl.mutexUnlock ∧
     Gen.ThreadSkel.unassignHolder = Decl.unassignHolder ∧
     Gen.ThreadSkel.assignHolder = Decl.assignHolder ∧
     Gen.ThreadSkel.unassignGuardCtor = Decl.unassignGuardCtor ∧
     Gen.ThreadSkel.unassignGuardDtor = Decl.unassignGuardDtor ∧
     Gen.ThreadSkel.lockGuardCtor = Decl.lockGuardCtor ∧
     Gen.ThreadSkel.lockGuardDtor = Decl.lockGuardDtor) ∧
    (Gen.ThreadSkel.condCtor = Decl.condCtor ∧
     Gen.ThreadSkel.condDtor = Decl.condDtor ∧
     Gen.ThreadSkel.condWait = Decl.condWait ∧
     Gen.ThreadSkel.condNotify = Decl.condNotify ∧
     Gen.ThreadSkel.condNotifyAll = Decl.condNotifyAll ∧
     Gen.ThreadSkel.condWaitForSeconds = Decl.condWaitForSeconds) ∧
    (Gen.ThreadSkel.latchCtor = Decl.latchCtor ∧
     Gen.ThreadSkel.latchWait = Decl.latchWait ∧
     Gen.ThreadSkel.latchCountDown = Decl.latchCountDown ∧
     Gen.ThreadSkel.latchGetCount = Decl.latchGetCount) ∧
    (Gen.ThreadSkel.tid = Decl.tid ∧
     Gen.ThreadSkel.cacheTid = Decl.cacheTid ∧
     Gen.ThreadSkel.isMainThread = Decl.isMainThread ∧
     Gen.ThreadSkel.sleepUsec = Decl.sleepUsec ∧
     Gen.ThreadSkel.gettid = Decl.gettid ∧
     Gen.ThreadSkel.afterFork = Decl.afterFork ∧
     Gen.ThreadSkel.threadNameInitializer = Decl.threadNameInitializer) ∧
    (Gen.ThreadSkel.threadDataCtor = Decl.threadDataCtor ∧
     Gen.ThreadSkel.runInThread = Decl.runInThread ∧
     Gen.ThreadSkel.startThread = Decl.startThread ∧
     Gen.ThreadSkel.threadCtor = Decl.threadCtor ∧
     Gen.ThreadSkel.threadDtor = Decl.threadDtor ∧
     Gen.ThreadSkel.setDefaultName = Decl.setDefaultName ∧
     Gen.ThreadSkel.threadStart = Decl.threadStart ∧
     Gen.ThreadSkel.threadJoin = Decl.threadJoin) :=
  ⟨⟨skeleton_mutexCtor, skeleton_mutexDtor, skeleton_isLockedByThisThread, skeleton_assertLocked, skeleton_mutexLock,
    skeleton_mutexUnlock, skeleton_unassignHolder, skeleton_assignHolder, skeleton_unassignGuardCtor,
    skeleton_unassignGuardDtor, skeleton_lockGuardCtor, skeleton_lockGuardDtor⟩,
   ⟨skeleton_condCtor, skeleton_condDtor, skeleton_condWait, skeleton_condNotify, skeleton_condNotifyAll,
    skeleton_condWaitForSeconds⟩,
   ⟨skeleton_latchCtor, skeleton_latchWait, skeleton_latchCountDown, skeleton_latchGetCount⟩,
   ⟨skeleton_tid, skeleton_cacheTid, skeleton_isMainThread, skeleton_sleepUsec, skeleton_gettid, skeleton_afterFork,
    skeleton_threadNameInitializer⟩,
   ⟨skeleton_threadDataCtor, skeleton_runInThread, skeleton_startThread, skeleton_threadCtor, skeleton_threadDtor,
    skeleton_setDefaultName, skeleton_threadStart, skeleton_threadJoin⟩⟩

/-! ## What the primitives amount to once the wrappers are unfolded

`MutexLockGuard` and `UnassignGuard` are two-line wrappers; the models read `lock m .. unlock m` and `c.wait()` as the
pthread calls they end in.  The lemmas below spell that reading out on the EXTRACTED skeletons (by `rfl` on the
generated definitions; a change of a wrapper breaks them together with its `skeleton_*`). -/

/-- the actions of a straight-line skeleton -/
def acts : List Skel → List Act
  | [] => []
  | .act a :: r => a :: acts r
  | _ :: r => acts r

/-- `lock m` = `m.lock()` = `pthread_mutex_lock(&mutex_)` and THEN the holder; `unlock m` = `m.unlock()` = the holder
and THEN `pthread_mutex_unlock(&mutex_)`: `holder_` is written only while the pthread mutex is held -/
theorem lock_is_pthread_lock_then_holder :
    acts Gen.ThreadSkel.lockGuardCtor = [.store "mutex_" "mutex", .call "mutex_.lock" ""] ∧
    acts Gen.ThreadSkel.mutexLock = [.mcheck "pthread_mutex_lock" "&mutex_", .call "assignHolder" ""] ∧
    acts Gen.ThreadSkel.lockGuardDtor = [.call "mutex_.unlock" ""] ∧
    acts Gen.ThreadSkel.mutexUnlock = [.call "unassignHolder" "", .mcheck "pthread_mutex_unlock" "&mutex_"] :=
  ⟨rfl, rfl, rfl, rfl⟩

/-- `Condition::wait()` = clear the holder; `pthread_cond_wait(&pcond_, <the pthread mutex of mutex_>)`; assign the
holder - the model's "release the mutex and park; re-acquire before returning" is what pthread is asked for -/
theorem wait_is_unassign_condwait_assign :
    acts Gen.ThreadSkel.condWait =
      [.guard "UnassignGuard" "mutex_", .mcheck "pthread_cond_wait" "&pcond_, mutex_.getPthreadMutex()",
       .guardEnd "UnassignGuard" "mutex_"] ∧
    acts Gen.ThreadSkel.unassignGuardCtor = [.store "owner_" "owner", .call "owner_.unassignHolder" ""] ∧
    acts Gen.ThreadSkel.unassignGuardDtor = [.call "owner_.assignHolder" ""] :=
  ⟨rfl, rfl, rfl⟩

open Gen.ThreadSkel (Timespec waitForSecondsDeadline kNanoSecondsPerSecond)

/-- the clock the deadline is measured on is the clock the condition variable waits on: `waitForSeconds` reads clock 0
(`CLOCK_REALTIME`) and `Condition`'s constructor initialises `pcond_` with NULL attributes, for which
`pthread_cond_timedwait` measures `abstime` against `CLOCK_REALTIME` (POSIX).  Reading `CLOCK_MONOTONIC` without a
`pthread_condattr_setclock` would make every timed wait expire at once. -/
theorem wait_clock_is_cond_clock :
    Gen.ThreadSkel.waitClockId = 0 ∧
    acts Gen.ThreadSkel.condCtor = [.store "mutex_" "mutex", .mcheck "pthread_cond_init" "&pcond_, NULL"] :=
  ⟨rfl, rfl⟩

theorem kNanoSecondsPerSecond_eq : kNanoSecondsPerSecond = 1000000000 := rfl

/-- **no time is lost or invented**, whatever the sign of the wait: seconds and nanoseconds of the deadline add up to
the clock reading plus the wait (truncating division and its remainder are complementary) -/
theorem deadline_conserves (now : Timespec) (ns : Int) :
    (waitForSecondsDeadline now ns).tv_sec * 1000000000 + (waitForSecondsDeadline now ns).tv_nsec =
      now.tv_sec * 1000000000 + now.tv_nsec + ns := by
  simp only [waitForSecondsDeadline, kNanoSecondsPerSecond]
  have h := Int.mul_tdiv_add_tmod (now.tv_nsec + ns) 1000000000
  omega

/-- **a non-negative wait gives a valid `timespec`**: for a valid clock reading (`0 ≤ tv_nsec < 10^9`) and `ns ≥ 0` the
deadline's `tv_nsec` is in `[0, 10^9)` (what `pthread_cond_timedwait` requires, else `EINVAL`) and no time is lost -/
theorem deadline_valid (now : Timespec) (ns : Int) (h0 : 0 ≤ now.tv_nsec) (h1 : now.tv_nsec < 1000000000)
    (hns : 0 ≤ ns) :
    0 ≤ (waitForSecondsDeadline now ns).tv_nsec ∧ (waitForSecondsDeadline now ns).tv_nsec < 1000000000 ∧
    (waitForSecondsDeadline now ns).tv_sec * 1000000000 + (waitForSecondsDeadline now ns).tv_nsec =
      now.tv_sec * 1000000000 + now.tv_nsec + ns := by
  refine ⟨?_, ?_, deadline_conserves now ns⟩
  · simp only [waitForSecondsDeadline, kNanoSecondsPerSecond]
    rw [Int.tmod_eq_emod_of_nonneg (by omega)]
    omega
  · simp only [waitForSecondsDeadline, kNanoSecondsPerSecond]
    rw [Int.tmod_eq_emod_of_nonneg (by omega)]
    omega

theorem deadline_not_before_now (now : Timespec) (ns : Int) (hns : 0 ≤ ns) :
    now.tv_sec * 1000000000 + now.tv_nsec ≤
      (waitForSecondsDeadline now ns).tv_sec * 1000000000 + (waitForSecondsDeadline now ns).tv_nsec := by
  rw [deadline_conserves]; omega

/-- **the hypothesis `ns ≥ 0` is needed**: nothing in `waitForSeconds` (nor in `AsyncLogging`, whose `flushInterval` is
a plain `int`) excludes a negative wait, and C's `%` keeps the sign of the dividend: whenever `tv_nsec + ns` is negative
and not a whole number of seconds, the deadline's `tv_nsec` is negative - an invalid `timespec` -/
theorem deadline_invalid_of_negative (now : Timespec) (ns : Int) (hneg : now.tv_nsec + ns < 0)
    (hfrac : (now.tv_nsec + ns) % 1000000000 ≠ 0) :
    (waitForSecondsDeadline now ns).tv_nsec < 0 := by
  simp only [waitForSecondsDeadline, kNanoSecondsPerSecond]
  have e : now.tv_nsec + ns = -(-(now.tv_nsec + ns)) := by omega
  rw [e, Int.neg_tmod, Int.tmod_eq_emod_of_nonneg (by omega)]
  omega

/-- **a wait of a whole number of seconds** (`AsyncLogging` passes its `int flushInterval_`; `flushInterval * 10^9` is exact
in a `double`: `|flushInterval| < 2^31` and `10^9 = 2^9 * 5^9` with `5^9 < 2^21`, so the product has at most 52
significant bits): for `s ≥ 0` the deadline is the clock reading with `s` added to `tv_sec`; for `s < 0` it is an invalid
`timespec` unless the clock reading happens to have `tv_nsec = 0` -/
theorem deadline_whole_seconds (now : Timespec) (s : Int) (h0 : 0 ≤ now.tv_nsec) (h1 : now.tv_nsec < 1000000000) :
    (0 ≤ s → (waitForSecondsDeadline now (s * 1000000000)).tv_sec = now.tv_sec + s ∧
             (waitForSecondsDeadline now (s * 1000000000)).tv_nsec = now.tv_nsec) ∧
    (s < 0 → 0 < now.tv_nsec → (waitForSecondsDeadline now (s * 1000000000)).tv_nsec < 0) := by
  refine ⟨fun hs => ?_, fun hs hn => deadline_invalid_of_negative now _ (by omega) (by omega)⟩
  simp only [waitForSecondsDeadline, kNanoSecondsPerSecond]
  rw [Int.tmod_eq_emod_of_nonneg (by omega), Int.tdiv_eq_ediv_of_nonneg (by omega)]
  omega

theorem deadline_invalid_witness :
    waitForSecondsDeadline ⟨100, 500000000⟩ (-1000000000) = ⟨100, -500000000⟩ := rfl

end MuduoVerif.ThreadSkel
