import MuduoVerif.Model.LogStream
import MuduoVerif.Proofs.Fold
/-! Lemmas about the `LogStream` / `Logger` model (C17): the printf specification tied to core's `Nat.toDigits`, the
digit loops, lengths, the fixed buffer (`Fill`), `SourceFile`'s base name.  (`formatSI` / `formatIEC`:
`Proofs/LogStreamNum.lean`.) -/
namespace MuduoVerif.LogStream
open MuduoVerif.Gen.LogStream

theorem digitChar_hex : ∀ d, d < 16 → (Nat.digitChar d).toUpper.toNat = hexChar d := by decide

theorem decimalAux_eq (fuel : Nat) : ∀ (n : Nat) (acc : Bytes), n ≤ fuel →
    decimalAux fuel n acc = (Nat.toDigits 10 n).map Char.toNat ++ acc := by
  induction fuel with
  | zero =>
    intro n acc h
    obtain rfl : n = 0 := by omega
    rfl
  | succ f ih =>
    intro n acc h
    rw [decimalAux, Nat.toDigits_eq_if (by decide)]
    split
    · next hlt => simp [Nat.toNat_digitChar_of_lt_ten hlt]
    · rw [ih _ _ (by omega)]; simp [Nat.toNat_digitChar_of_lt_ten (Nat.mod_lt n (by decide))]

/-- `%u` is the canonical decimal numeral: the digits core's `Nat.toDigits 10` (hence `Nat.repr`) produces -/
theorem decimalNat_eq_toDigits (n : Nat) : decimalNat n = (Nat.toDigits 10 n).map Char.toNat := by
  simp [decimalNat, decimalAux_eq n n [] (Nat.le_refl n)]

theorem decimalNat_of_lt_ten (n : Nat) (h : n < 10) : decimalNat n = [48 + n] := by
  rw [decimalNat_eq_toDigits, Nat.toDigits_of_lt_base h]; simp [Nat.toNat_digitChar_of_lt_ten h]

theorem decimalNat_of_ten_le (n : Nat) (h : 10 ≤ n) : decimalNat n = decimalNat (n / 10) ++ [48 + n % 10] := by
  rw [decimalNat_eq_toDigits, decimalNat_eq_toDigits, Nat.toDigits_of_base_le (by decide) h]
  simp [Nat.toNat_digitChar_of_lt_ten (Nat.mod_lt n (by decide))]

theorem hexAux_eq (fuel : Nat) : ∀ (n : Nat) (acc : Bytes), n ≤ fuel →
    hexAux fuel n acc = (Nat.toDigits 16 n).map (fun c => c.toUpper.toNat) ++ acc := by
  induction fuel with
  | zero =>
    intro n acc h
    obtain rfl : n = 0 := by omega
    rfl
  | succ f ih =>
    intro n acc h
    rw [hexAux, Nat.toDigits_eq_if (by decide)]
    split
    · next hlt => simp [digitChar_hex n hlt]
    · rw [ih _ _ (by omega)]; simp [digitChar_hex (n % 16) (Nat.mod_lt _ (by decide))]

theorem hexUpper_eq_toDigits (n : Nat) :
    hexUpper n = (Nat.toDigits 16 n).map (fun c => c.toUpper.toNat) := by
  simp [hexUpper, hexAux_eq n n [] (Nat.le_refl n)]

theorem hexUpper_of_lt_base (n : Nat) (h : n < 16) : hexUpper n = [hexChar n] := by
  rw [hexUpper_eq_toDigits, Nat.toDigits_of_lt_base h]; simp [digitChar_hex n h]

theorem hexUpper_of_base_le (n : Nat) (h : 16 ≤ n) : hexUpper n = hexUpper (n / 16) ++ [hexChar (n % 16)] := by
  rw [hexUpper_eq_toDigits, hexUpper_eq_toDigits, Nat.toDigits_of_base_le (by decide) h]
  simp [digitChar_hex (n % 16) (Nat.mod_lt _ (by decide))]

theorem radixDec_eq : radixDec = 10 := by decide
theorem radixHex_eq : radixHex = 16 := by decide

/-- the 19-character table read through `zero = digits + 9` -/
theorem zeroAt_table : ∀ k : Fin 19, zeroAt ((k.val : Int) - 9) = 48 + ((k.val : Int) - 9).natAbs := by decide

theorem zeroAt_eq (d : Int) (h1 : -10 < d) (h2 : d < 10) : zeroAt d = 48 + d.natAbs := by
  have := zeroAt_table ⟨(d + 9).toNat, by omega⟩
  have e : (((d + 9).toNat : Nat) : Int) - 9 = d := by omega
  simp only [e] at this
  exact this

theorem hexTable : ∀ d, d < 16 → digitsHex.getD d 0 = hexChar d := by decide

theorem digitLoop_eq (fuel : Nat) : ∀ i : Int, i.natAbs ≤ fuel →
    (digitLoop fuel i).reverse = decimalNat i.natAbs := by
  induction fuel with
  | zero =>
    intro i h
    obtain rfl : i = 0 := by omega
    rfl
  | succ f ih =>
    intro i h
    -- truncated division: the remainder has the sign of `i`, and the table is read at its magnitude
    have hm : (Int.tmod i 10).natAbs = i.natAbs % 10 := Int.natAbs_tmod i 10
    have hd : (Int.tdiv i 10).natAbs = i.natAbs / 10 := Int.natAbs_tdiv i 10
    rw [digitLoop, radixDec_eq, Int.cast_ofNat_Int, zeroAt_eq _ (by omega) (by omega), hm]
    split
    · rw [List.reverse_singleton, decimalNat_of_lt_ten _ (by omega), Nat.mod_eq_of_lt (by omega)]
    · rw [List.reverse_cons, ih _ (by omega), hd, decimalNat_of_ten_le i.natAbs (by omega)]

theorem convert_eq_decimal (v : Int) : convert v = decimal v := by
  rw [convert, decimal, List.reverse_append, digitLoop_eq _ v (Nat.le_refl _)]
  split <;> rfl

theorem hexLoop_eq (fuel : Nat) : ∀ n : Nat, n ≤ fuel → (hexLoop fuel n).reverse = hexUpper n := by
  induction fuel with
  | zero =>
    intro n h
    obtain rfl : n = 0 := by omega
    rfl
  | succ f ih =>
    intro n h
    rw [hexLoop, radixHex_eq, hexTable (n % 16) (Nat.mod_lt _ (by decide))]
    split
    · rw [List.reverse_singleton, hexUpper_of_lt_base n (by omega), Nat.mod_eq_of_lt (by omega)]
    · rw [List.reverse_cons, ih _ (by omega), hexUpper_of_base_le n (by omega)]

theorem convertHex_eq (v : Nat) : convertHex v = hexUpper v := hexLoop_eq v v (Nat.le_refl v)

theorem decimalNat_length_le (k n : Nat) (h : n < 10 ^ (k + 1)) : (decimalNat n).length ≤ k + 1 := by
  rw [decimalNat_eq_toDigits, List.length_map]
  exact (Nat.length_toDigits_le_iff (by decide) (Nat.succ_pos k)).2 h

theorem decimalNat_length_pos (n : Nat) : 0 < (decimalNat n).length := by
  rw [decimalNat_eq_toDigits, List.length_map]; exact Nat.length_toDigits_pos

theorem hexUpper_length_le (k n : Nat) (h : n < 16 ^ (k + 1)) : (hexUpper n).length ≤ k + 1 := by
  rw [hexUpper_eq_toDigits, List.length_map]
  exact (Nat.length_toDigits_le_iff (by decide) (Nat.succ_pos k)).2 h

/-- numbers are formatted in place after a test for a fixed headroom; everything else goes through `append` -/
def Item.numeric : Item → Bool
  | .int _ | .ptr _ | .dbl _ => true
  | _ => false

/-- the space is short for the item (specification of the tests in the code): fewer than
`kMaxNumericSize` bytes for a number, not more than the item's length for anything else
(`append` keeps one byte in reserve) -/
def Item.short (room : Nat) (it : Item) : Prop :=
  if it.numeric then room < kMaxNumericSize else room ≤ it.text.length

instance (room : Nat) (it : Item) : Decidable (it.short room) := by unfold Item.short; infer_instance

/-- what the callers guarantee: integers and pointers are values of a (signed or unsigned) type of at most 64 bits,
the text `snprintf("%.12g")` reports is shorter than the size it was given -/
def Item.ok : Item → Prop
  | .int v => -2 ^ 63 ≤ v ∧ v < 2 ^ 64
  | .ptr v => v < 2 ^ 64
  | .dbl t => t.length < doubleBound
  | _ => True

instance (it : Item) : Decidable it.ok := by cases it <;> simp only [Item.ok] <;> infer_instance

/-- the generated guards are the specified space tests (`>` / `≥` exactly) -/
theorem fits_iff_not_short (room : Nat) (it : Item) : it.fits room ↔ ¬ it.short room := by
  cases it <;>
    simp only [Item.fits, Item.short, Item.numeric, Item.text, integerFits, pointerFits, doubleFits, appendFits,
      if_true, Bool.false_eq_true, if_false, List.length_singleton] <;> omega

theorem decimal_length_le (v : Int) (h1 : -2 ^ 63 ≤ v) (h2 : v < 2 ^ 64) : (decimal v).length ≤ 20 := by
  by_cases hn : v < 0
  · -- a negative value of a 64-bit type is at least -2^63: 19 digits and the sign
    have : (decimalNat v.natAbs).length ≤ 19 := decimalNat_length_le 18 _ (by omega)
    unfold decimal; simp only [hn, if_true, List.length_cons]; omega
  · have : (decimalNat v.natAbs).length ≤ 20 := decimalNat_length_le 19 _ (by omega)
    unfold decimal; simp only [hn, if_false]; exact this

theorem ptr_text_length (v : Nat) (h : v < 2 ^ 64) : (Item.ptr v).text.length ≤ 18 := by
  have := hexUpper_length_le 15 v (by omega)
  have hp : pointerPrefix.length = 2 := by decide
  simp only [Item.text, convertHex_eq, List.length_append, hp]; omega

theorem text_lt_room (room : Nat) (it : Item) (hok : it.ok) (hf : ¬ it.short room) : it.text.length < room := by
  cases it with
  | int v =>
    have := decimal_length_le v hok.1 hok.2
    simp only [Item.short, Item.numeric, if_true, kMaxNumericSize] at hf
    simp only [Item.text, convert_eq_decimal]; omega
  | ptr v =>
    have := ptr_text_length v (by simpa [Item.ok] using hok)
    simp only [Item.short, Item.numeric, if_true, kMaxNumericSize] at hf
    omega
  | dbl t =>
    simp only [Item.short, Item.numeric, if_true] at hf
    simp only [Item.ok, doubleBound] at hok
    simp only [Item.text]; omega
  | bool _ | chr _ | str _ => simpa [Item.short, Item.numeric] using hf

/-- specification of a sequence of insertions into a buffer of `cap` bytes that holds `d`:
an item for which the space is not short is appended whole, any other item is left out whole -/
inductive Fill (cap : Nat) : Bytes → List Item → Bytes → Prop
  | nil (d : Bytes) : Fill cap d [] d
  | take (d : Bytes) (it : Item) (rest : List Item) (out : Bytes) :
      ¬ it.short (cap - d.length) → Fill cap (d ++ it.text) rest out → Fill cap d (it :: rest) out
  | skip (d : Bytes) (it : Item) (rest : List Item) (out : Bytes) :
      it.short (cap - d.length) → Fill cap d rest out → Fill cap d (it :: rest) out

theorem insert_cap (b : FixedBuf) (it : Item) : (insert b it).cap = b.cap := by
  unfold insert; split <;> rfl

theorem run_cap (items : List Item) (b : FixedBuf) : (run b items).cap = b.cap :=
  foldl_inv (P := fun x => x.cap = b.cap) items (fun a it _ h => (insert_cap a it).trans h) b rfl

theorem run_fill (items : List Item) : ∀ b : FixedBuf, Fill b.cap b.data items (run b items).data := by
  induction items with
  | nil => exact fun b => Fill.nil _
  | cons it rest ih =>
    intro b
    have h := ih (insert b it)
    rw [insert_cap] at h
    rw [show run b (it :: rest) = run (insert b it) rest from rfl]
    by_cases hf : it.fits (avail b)
    · rw [insert, if_pos hf] at h ⊢
      exact Fill.take _ _ _ _ ((fits_iff_not_short _ _).1 hf) h
    · rw [insert, if_neg hf] at h ⊢
      exact Fill.skip _ _ _ _ (Classical.not_not.1 (mt (fits_iff_not_short _ _).2 hf)) h

theorem fill_sublist {cap : Nat} {d out : Bytes} {items : List Item} (h : Fill cap d items out) :
    ∃ kept : List Item, kept.Sublist items ∧ out = d ++ kept.flatMap Item.text := by
  induction h with
  | nil d => exact ⟨[], List.Sublist.slnil, by simp⟩
  | take d it rest out _ _ ih =>
    obtain ⟨k, hk, e⟩ := ih
    exact ⟨it :: k, hk.cons_cons it, by simp [e]⟩
  | skip d it rest out _ _ ih =>
    obtain ⟨k, hk, e⟩ := ih
    exact ⟨k, hk.cons it, e⟩

theorem fill_length {cap : Nat} {d out : Bytes} {items : List Item} (h : Fill cap d items out)
    (hd : d.length ≤ cap) (hok : ∀ it ∈ items, it.ok) : out.length ≤ cap := by
  induction h with
  | nil d => exact hd
  | take d it rest out hs _ ih =>
    have := text_lt_room _ it (hok it (by simp)) hs
    exact ih (by simp; omega) (fun x hx => hok x (by simp [hx]))
  | skip d it rest out _ _ ih => exact ih hd (fun x hx => hok x (by simp [hx]))

theorem basename_split (path : Bytes) :
    path = (path.reverse.dropWhile (· ≠ 47)).reverse ++ basename path := by
  have := List.takeWhile_append_dropWhile (p := (· ≠ 47)) (l := path.reverse)
  have h2 := congrArg List.reverse this
  simp only [List.reverse_append, List.reverse_reverse] at h2
  exact h2.symm

theorem basename_no_slash (path : Bytes) : 47 ∉ basename path := by
  intro h
  have : 47 ∈ path.reverse.takeWhile (· ≠ 47) := by simpa [basename] using h
  simpa using List.all_eq_true.mp List.all_takeWhile _ this

end MuduoVerif.LogStream
