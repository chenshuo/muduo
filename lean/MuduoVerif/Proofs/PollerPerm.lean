import MuduoVerif.Proofs.PollerSim
/-!
# Operations between polls only: the order in which the kernel reports does not matter

Without operations scripted inside callbacks an iteration only emits callbacks — those of each active
channel, determined by its `revents_` and interest —, so two loops whose pollers return the same channels
in any order run the same callbacks up to order and stay in step.
-/
namespace MuduoVerif.Poller
open MuduoVerif.Gen.Poller

def addOut (s : State) (l : List Ev) : State := { s with out := s.out ++ l }

theorem addOut_nil (s : State) : addOut s [] = s := by
  cases s; simp [addOut]

/-- the callback stage `k` of `handleEventWithGuard` runs on channel `c`, if any -/
def cbK (k : Kind) (s : State) (c : Nat) : List Ev :=
  if disp k (s.chans c).revents ∧ subscribed k (s.chans c).events then
    [.cb c k (s.chans c).revents (s.chans c).events] else []

/-- the callbacks `Channel::handleEventWithGuard` runs on channel `c`, in its fixed order -/
def cbsOf (s : State) (c : Nat) : List Ev :=
  cbK .close s c ++ cbK .error s c ++ cbK .read s c ++ cbK .write s c

theorem stage_nohooks (k : Kind) {s : State} (hh : s.hooks = []) (hd : s.dead = false) (c : Nat) (l : List Ev) :
    stage k (addOut s l) c = addOut s (l ++ cbK k s c) := by
  unfold stage cbK addOut
  rw [if_neg (by simp [hd])]
  split
  · simp [fire, runHooks, emit, hh]
  · simp

theorem handleEvent_nohooks {s : State} (hh : s.hooks = []) (hd : s.dead = false) (c : Nat) (l : List Ev) :
    handleEvent (addOut s l) c = addOut s (l ++ cbsOf s c) := by
  unfold handleEvent
  rw [stage_nohooks .close hh hd, stage_nohooks .error hh hd, stage_nohooks .read hh hd,
    stage_nohooks .write hh hd]
  simp only [cbsOf, List.append_assoc]

theorem dispatch_nohooks (act : List Nat) : ∀ {s : State} (l : List Ev) (x : Option Nat), s.hooks = [] →
    s.dead = false →
    { dispatch (addOut s l) act with cur := x } = { addOut s (l ++ act.flatMap (cbsOf s)) with cur := x } := by
  induction act with
  | nil => intro s l x _ _; simp [dispatch]
  | cons c rest ih =>
    intro s l x hh hd
    show { dispatch (handleEvent (addOut { s with cur := some c } l) c) rest with cur := x } = _
    rw [handleEvent_nohooks (s := { s with cur := some c }) hh hd c l, ih (s := { s with cur := some c }) _ x hh hd,
      List.flatMap_cons, List.append_assoc]
    rfl

theorem iter_nohooks {s : State} (hd : s.dead = false) (ready) (nret)
    (hd1 : (pollerPoll s ready nret).1.dead = false) (hh1 : (pollerPoll s ready nret).1.hooks = []) :
    iter s ready nret = { (pollerPoll s ready nret).1 with
      out := (pollerPoll s ready nret).1.out ++
        (pollerPoll s ready nret).2.flatMap (cbsOf (pollerPoll s ready nret).1)
      iteration := (pollerPoll s ready nret).1.iteration + 1
      active := (pollerPoll s ready nret).2
      handling := false
      cur := none } := by
  rw [iter_eq, if_neg (by simp [hd]), if_neg (by simp [hd1])]
  generalize pollerPoll s ready nret = p at hd1 hh1 ⊢
  obtain ⟨s1, act⟩ := p
  have h := dispatch_nohooks act (s := { s1 with iteration := s1.iteration + 1, active := act, handling := true })
    [] none hh1 hd1
  rw [addOut_nil] at h
  exact congrArg (fun t : State => { t with handling := false }) h

/-- executed and rejected operations, without the back-end's slot index: `Ev.strip` without the callbacks, so that
`opsOut` and `cbOut` are the two halves of `absOut` (`opsOut_absOut`, `cbOut_absOut`) -/
def Ev.stripOp : Ev → Option Ev
  | .op c k ev _ => some (.op c k ev 0)
  | .reject c k => some (.reject c k)
  | _ => none

def opsOut (out : List Ev) : List Ev := out.filterMap Ev.stripOp
def cbOut (out : List Ev) : List Ev := out.filter Ev.isCb

theorem opsOut_append (a b : List Ev) : opsOut (a ++ b) = opsOut a ++ opsOut b := by
  unfold opsOut; rw [List.filterMap_append]

theorem cbOut_append (a b : List Ev) : cbOut (a ++ b) = cbOut a ++ cbOut b := by
  unfold cbOut; rw [List.filter_append]

theorem opsOut_none (l : List Ev) (h : ∀ e ∈ l, e.stripOp = none) : opsOut l = [] := by
  unfold opsOut; rw [List.filterMap_eq_nil_iff]; exact h

theorem cbOut_all (l : List Ev) (h : ∀ e ∈ l, e.isCb = true) : cbOut l = l := by
  unfold cbOut; rw [List.filter_eq_self]; exact h

theorem opsOut_absOut (l : List Ev) : opsOut (absOut l) = opsOut l := by
  unfold opsOut absOut
  rw [List.filterMap_filterMap]
  congr; funext e; cases e <;> rfl

theorem cbOut_absOut (l : List Ev) : cbOut (absOut l) = cbOut l := by
  unfold cbOut absOut
  rw [← List.filterMap_eq_filter, List.filterMap_filterMap]
  congr; funext e; cases e <;> rfl

theorem cbsOf_isCb (s : State) (c : Nat) : ∀ e ∈ cbsOf s c, e.isCb = true ∧ e.stripOp = none := by
  have hk : ∀ k, ∀ e ∈ cbK k s c, e.isCb = true ∧ e.stripOp = none := by
    intro k e he
    unfold cbK at he
    split at he
    · rw [List.mem_singleton.1 he]; exact ⟨rfl, rfl⟩
    · nomatch he
  intro e he
  simp only [cbsOf, List.mem_append] at he
  rcases he with ((h | h) | h) | h
  · exact hk _ e h
  · exact hk _ e h
  · exact hk _ e h
  · exact hk _ e h

/-- a poll loop and an epoll loop, between two iterations of a history without scripted operations:
in step, same operations executed, same callbacks up to order -/
structure WSim (s t : State) : Prop where
  step : InStep s t
  hs : s.hooks = []
  ht : t.hooks = []
  hands : s.handling = false
  handt : t.handling = false
  ops : opsOut s.out = opsOut t.out
  cbs : (cbOut s.out).Perm (cbOut t.out)

theorem wsim_applyOp {s t : State} (h : WSim s t) (c : Nat) (k : OpKind) :
    WSim (applyOp s c k) (applyOp t c k) := by
  have hacc : accepts s c k ↔ accepts t c k := by
    cases k <;> simp [accepts, removeOk, recreateOk, h.step.ev c, h.step.added c, h.hands, h.handt]
  obtain ⟨h', g1, g2, o1, o2, e⟩ := inStep_applyOp h.step c k hacc
  have l1 := (applyOp_loop s c k).1
  have l2 := (applyOp_loop t c k).1
  refine ⟨h', l1.hooks.trans h.hs, l2.hooks.trans h.ht, l1.handling.trans h.hands, l2.handling.trans h.handt, ?_, ?_⟩
  · rw [o1, o2, opsOut_append, opsOut_append, h.ops, ← opsOut_absOut g1, e, opsOut_absOut]
  · rw [o1, o2, cbOut_append, cbOut_append, ← cbOut_absOut g1, e, cbOut_absOut]
    exact h.cbs.append (.refl _)

/-- what the order-free theorem asks of an iteration: a well-behaved kernel that reports each
descriptor once, and both pollers returning the same channels (in any order) -/
def permEnvOk (sp se : State) : In → Prop
  | .iter ready nret =>
    epEnvOk se (.iter ready nret) ∧ (ready.map (·.1)).Nodup ∧
      (pollerPoll sp ready nret).2.Perm (pollerPoll se ready nret).2
  | .hook _ => False
  | .op _ _ => True
instance : Decidable (permEnvOk sp se i) := by cases i <;> unfold permEnvOk <;> infer_instance

theorem wsim_iter {s t : State} (h : WSim s t) (ready) (nret) (henv : permEnvOk s t (.iter ready nret)) :
    WSim (iter s ready nret) (iter t ready nret) := by
  obtain ⟨he, hnd, hact⟩ := henv
  have h1 := inStep_poll h.step ready nret he hnd hact
  have bs := sameBook_pollerPoll s ready nret
  have bt := sameBook_pollerPoll t ready nret
  have ops1 : ∀ u : State, opsOut (pollerPoll u ready nret).1.out = opsOut u.out := fun u => by
    rw [← opsOut_absOut, absOut_frame (frame_pollerPoll u ready nret), opsOut_absOut]
  have cbs1 : ∀ u : State, cbOut (pollerPoll u ready nret).1.out = cbOut u.out := fun u => by
    rw [← cbOut_absOut, absOut_frame (frame_pollerPoll u ready nret), cbOut_absOut]
  have hcbs : cbsOf (pollerPoll s ready nret).1 = cbsOf (pollerPoll t ready nret).1 := by
    funext c
    unfold cbsOf cbK
    rw [h1.rev c, h1.ev c]
  have hcb : ∀ (S : State) (act : List Nat), ∀ e ∈ List.flatMap (cbsOf S) act, e.isCb = true ∧ e.stripOp = none := by
    intro S act e he
    obtain ⟨c, _, hc⟩ := List.mem_flatMap.1 he
    exact cbsOf_isCb _ c e hc
  -- either iteration is its poll followed by the callbacks of each active channel, so a permuted active list permutes them
  rw [iter_nohooks h.step.ps.2 ready nret h1.ps.2 (bs.hooks.trans h.hs),
    iter_nohooks h.step.es.2 ready nret h1.es.2 (bt.hooks.trans h.ht)]
  refine ⟨h1.same ⟨rfl, rfl, rfl, rfl, rfl, rfl⟩ ⟨rfl, rfl, rfl, rfl, rfl, rfl⟩, bs.hooks.trans h.hs,
    bt.hooks.trans h.ht, rfl, rfl, ?_, ?_⟩
  · show opsOut (_ ++ _) = opsOut (_ ++ _)
    simp only [opsOut_append, opsOut_none _ fun e he => (hcb _ _ e he).2, ops1, h.ops]
  · show (cbOut (_ ++ _)).Perm (cbOut (_ ++ _))
    simp only [cbOut_append, cbOut_all _ fun e he => (hcb _ _ e he).1, cbs1, hcbs]
    exact h.cbs.append (List.Perm.flatMap_right _ hact)

theorem wsim_run (ins : List In) : ∀ (s t : State), WSim s t → Along2 permEnvOk s t ins →
    WSim (run s ins) (run t ins) := by
  induction ins with
  | nil => intro s t h _; exact h
  | cons i rest ih =>
    intro s t h ha
    obtain ⟨hq, ha'⟩ := ha
    refine ih (step s i) (step t i) ?_ ha'
    cases i with
    | op c k => exact wsim_applyOp h c k
    | hook x => exact absurd hq (by simp [permEnvOk])
    | iter ready nret => exact wsim_iter h ready nret hq

theorem wsim_init : WSim (init .poll) (init .epoll) :=
  ⟨sim_init.step, rfl, rfl, rfl, rfl, rfl, .refl _⟩


/-- operations between polls only; the kernel lists the ready descriptors in another order than
`PollPoller` scans them -/
def sampleUnordered : List In :=
  [.op 2 .enableR, .op 3 .enableW, .op 4 .enableR, .iter [(4, 1), (2, 1), (3, 4)] 3, .op 3 .disableAll,
   .op 3 .remove, .iter [(4, 16), (2, 1)] 2]

/-! ### A further fact about a state without hooks; no proof uses it -/

theorem setHooks_nil {s : State} (h : s.hooks = []) : { s with hooks := [] } = s := by
  cases s; simp_all

end MuduoVerif.Poller
