import MuduoVerif.Proofs.TimerInv
/-! The structural invariant over all histories (`Top`, `run_top`) and the induction over histories for any further invariant:
`Stable.step` / `Stable.run` walk `step` once and carry `Top` along.  To carry an invariant `X` through the engine give
`X.kept : Kept B (X ..)` (callbacks and queued functors), `X.batchInv : BatchInv now R R'` (one `handleRead`: `X.handleRead` is
then `handleRead_eq`, the start state, `BatchInv.batch`, `rearm`) and `X.stable : Stable (X ..)` (the other steps);
`run_x := (X.stable.run X.handleRead init).2`.  The smallest instances are `runs_stable` (TimerBatch) and the one inside
`step_numCreated` (TimerProps). -/
namespace MuduoVerif.Timer
open MuduoVerif.Gen.Timer

abbrev WF (s : TQ) (B : List (Time × Addr)) : Prop := WFp s B (limbo s)

/-- what holds whenever the loop may go back to `poll` -/
structure Top (s : TQ) : Prop where
  wf : WF s []
  running : s.running = []
  calling : s.calling = false

theorem addAlloc_spec (s : TQ) (name : Nat) (m : Mode) :
    Frame s (addAlloc s name m) ∨
    (∃ s1 a c, Frame s s1 ∧ Fresh s1 a c ∧ c.name = name ∧
      addAlloc s name m = { allocCell s1 a c with pending := s1.pending ++ [.add a], parked := some (name, a, c.seq) }) := by
  unfold addAlloc
  split
  · exact Or.inl (Frame.refl s)
  · rcases allocTimer_spec s name m with ⟨s', h1, h2⟩ | ⟨s1, a, c, h1, h2, h3, h4⟩
    · left; rw [h1]; exact h2
    · right
      refine ⟨s1, a, c, h1, h2, h3, ?_⟩
      rw [h4]
      simp [cellAt, allocCell, hset_same]

variable {s s' : TQ}

theorem addFinish_none (h : s.parked = none) : addFinish s = s := by
  unfold addFinish; rw [h]

theorem addFinish_some {name : Nat} {a : Addr} {q : Nat} (h : s.parked = some (name, a, q)) :
    addFinish s = bindId { s with parked := none } name a q := by
  unfold addFinish; rw [h]; simp [addTimerDerefsAfterHandOver]

theorem runNext_nil (h : s.running = []) : runNext s = s := by unfold runNext; rw [h]
theorem runNext_cons {f : Functor} {r : List Functor} (h : s.running = f :: r) :
    runNext s = runFunctor { s with running := r } f := by unfold runNext; rw [h]

theorem Top.of_wf (h : Top s) (hw : WFp s' [] (limbo s)) (hp : s'.pending = s.pending)
    (hr : s'.running = s.running) (hc : s'.calling = s.calling) : Top s' :=
  ⟨by show WFp _ [] (addsOf _); rw [hp, hr]; exact hw, hr.trans h.running, hc.trans h.calling⟩

theorem Top.addL (h : Top s) (name : Nat) (m : Mode) : Top (Timer.addL s name m) :=
  have he := ((Kept.of_ext (Q := Ext s) fun he h => h.trans he).addL h.wf (Frame.refl s).ext name m)
  h.of_wf he.1 he.2.pending he.2.running he.2.calling

theorem Top.cancelInLoop {s : TQ} (h : Top s) (id : TimerId) : Top (Timer.cancelInLoop s id) :=
  have he := cancelInLoop_ext h.wf id
  h.of_wf (h.wf.cancelInLoop id) he.pending he.running he.calling

theorem Top.emit (h : Top s) (e : Ev) (he : ∀ a, e ≠ .uaf a) : Top (Timer.emit s e) :=
  ⟨WFp.emit h.wf e he, h.running, h.calling⟩

theorem Top.handleRead {s : TQ} (h : Top s) : Top (Timer.handleRead s) :=
  have he := handleRead_extW h.wf h.calling
  h.of_wf (WFp.handleRead h.wf) he.pending he.running he.calling

theorem Top.init : Top ({} : TQ) :=
  have nil : ∀ {α : Type} {x : α} {P : Prop}, x ∈ ([] : List α) → P := fun h => absurd h List.not_mem_nil
  ⟨⟨fun _ => nil, fun _ => nil, List.Pairwise.nil, List.nodup_nil, fun _ => nil, List.nodup_nil, fun _ => nil, List.nodup_nil,
    fun _ _ h => (nomatch (h : none = some _)), fun _ _ h => (nomatch (h : none = some _)),
    fun _ _ _ _ h => (nomatch (h : none = some _)), fun _ _ h => (nomatch (h : none = some _)), fun _ => nil⟩, rfl, rfl⟩

/-- `P` survives every step of the engine other than an expiry batch -/
structure Stable (P : TQ → Prop) : Prop extends Kept [] P where
  core : ∀ {s s' : TQ}, P s → s'.core = s.core → P s'
  processed : ∀ {s : TQ} (k : Nat), P s → P (emit s (.processed k))
  expire : ∀ {s : TQ}, P s → P { s with alarm := none, readable := true }

theorem Stable.trivial : Stable (fun _ => True) := ⟨Kept.trivial, fun _ _ => ⟨⟩, fun _ _ => ⟨⟩, fun _ => ⟨⟩⟩

variable {P : TQ → Prop}

theorem wf_pop {f : Functor} {r : List Functor} (h : WF s []) (hr : s.running = f :: r) :
    WFp { s with running := r } [] (addsOf [f] ++ limbo { s with running := r }) := by
  have hl : limbo s = addsOf [f] ++ limbo { s with running := r } := by
    show addsOf (s.running ++ s.pending) = addsOf [f] ++ addsOf (r ++ s.pending)
    rw [hr, ← addsOf_append]; rfl
  rw [← hl]; exact h.core rfl

theorem Stable.runNext (hP : Stable P) (hw : WF s []) (h : P s) :
    (WF (runNext s) [] ∧ (runNext s).running = s.running.tail ∧ (runNext s).calling = s.calling) ∧ P (runNext s) := by
  cases hr : s.running with
  | nil => rw [runNext_nil hr]; exact ⟨⟨hw, hr, rfl⟩, h⟩
  | cons f r =>
    rw [runNext_cons hr]
    have hp := wf_pop hw hr
    have h' : P { s with running := r } := hP.core h rfl
    have of_ext : ∀ {s' : TQ}, WFp s' [] (limbo { s with running := r }) → ExtW { s with running := r } s' →
        WF s' [] ∧ s'.running = r ∧ s'.calling = s.calling := fun hw' he =>
      ⟨by show WFp _ [] (addsOf _); rw [he.pending, he.running]; exact hw', he.running, he.calling⟩
    cases f with
    | add a =>
      obtain ⟨c, hc⟩ := Option.isSome_iff_exists.1 (hp.p_live a List.mem_cons_self).1
      exact ⟨of_ext (hp.addInLoop hc) (addInLoop_ext hc).toExtW, hP.addInLoop hp hc h'⟩
    | cancel id => exact ⟨of_ext (hp.cancelInLoop id) (cancelInLoop_ext hp id).toExtW, hP.cancelInLoop hp id h'⟩
    | marker k => exact ⟨of_ext (hp.emit _ (by intro x; simp)) (emit_extW _ _), hP.processed k h'⟩

theorem Stable.drain (hP : Stable P) (n : Nat) (s : TQ) (hw : WF s []) (hn : s.running.length = n) (h : P s) :
    (WF (drain n s) [] ∧ (drain n s).running = [] ∧ (drain n s).calling = s.calling) ∧ P (drain n s) := by
  induction n generalizing s with
  | zero => exact ⟨⟨hw, List.eq_nil_of_length_eq_zero hn, rfl⟩, h⟩
  | succ n ih =>
    obtain ⟨⟨h1, h2, h3⟩, h4⟩ := hP.runNext hw h
    obtain ⟨⟨g1, g2, g3⟩, g4⟩ := ih (Timer.runNext s) h1 (by rw [h2, List.length_tail, hn]; rfl) h4
    exact ⟨⟨g1, g2, g3.trans h3⟩, g4⟩

theorem Stable.addAlloc (hP : Stable P) (ht : Top s) (h : P s) (name : Nat) (m : Mode) :
    Top (addAlloc s name m) ∧ P (addAlloc s name m) := by
  rcases addAlloc_spec s name m with hf | ⟨s1, a, c, h1, h2, _, h4⟩
  · exact ⟨ht.of_wf (ht.wf.core hf.core) hf.pending hf.running hf.calling, hP.frame hf h⟩
  · rw [h4]
    refine ⟨⟨?_, h1.running.trans ht.running, h1.calling.trans ht.calling⟩,
      hP.core (hP.alloc (ht.wf.core h1.core) h2 (hP.frame h1 h)) rfl⟩
    have hw : WFp (allocCell s1 a c) [] (a :: limbo s) := (ht.wf.core h1.core).alloc h2
    have hl : limbo { allocCell s1 a c with pending := s1.pending ++ [.add a], parked := some (name, a, c.seq) }
        = limbo s ++ [a] := by
      show addsOf (s1.running ++ (s1.pending ++ [.add a])) = addsOf (s.running ++ s.pending) ++ [a]
      rw [h1.running, h1.pending, ← List.append_assoc, addsOf_append]; rfl
    show WFp _ [] (limbo _)
    rw [hl]
    exact (hw.perm (List.perm_append_singleton a _)).core rfl

theorem Stable.addFinish (hP : Stable P) (ht : Top s) (h : P s) : Top (addFinish s) ∧ P (addFinish s) := by
  cases hp : s.parked with
  | none => rw [addFinish_none hp]; exact ⟨ht, h⟩
  | some p =>
    obtain ⟨name, a, q⟩ := p
    rw [addFinish_some hp]
    have he := bindId_ext { s with parked := none } name a q
    exact ⟨ht.of_wf ((ht.wf.core (s' := { s with parked := none }) rfl).bindId _ _ _) he.pending he.running he.calling,
      hP.bindId _ _ _ (hP.core (s' := { s with parked := none }) h rfl)⟩

theorem Top.swap (h : Top s) : WF { s with running := s.pending, pending := [] } [] := by
  show WFp _ [] (addsOf (s.pending ++ []))
  rw [List.append_nil, ← List.nil_append s.pending, ← h.running]
  exact h.wf.core rfl

/-- one step; `handleRead` is the caller's, and asked for only when the step is `iter`, so that a statement about the other
steps (`step_runs`) needs none -/
theorem Stable.step (hP : Stable P) (i : In) (hread : i = .iter → ∀ {s : TQ}, Top s → P s → P (handleRead s))
    (ht : Top s) (h : P s) : Top (step s i) ∧ P (step s i) := by
  cases i with
  | now t => exact ⟨ht.of_wf (ht.wf.core rfl) rfl rfl rfl, hP.core h rfl⟩
  | addr a => exact ⟨ht.of_wf (ht.wf.core rfl) rfl rfl rfl, hP.core h rfl⟩
  | script name k a => exact ⟨ht.of_wf (ht.wf.core rfl) rfl rfl rfl, hP.core h rfl⟩
  | add who name m =>
    cases who with
    | loop => exact ⟨ht.addL name m, (hP.addL ht.wf h name m).2⟩
    | foreign =>
      show Top (if s.parked.isSome then s else Timer.addFinish (Timer.addAlloc s name m)) ∧ P (if s.parked.isSome then s else _)
      split
      · exact ⟨ht, h⟩
      · have h1 := hP.addAlloc ht h name m
        exact hP.addFinish h1.1 h1.2
  | addAlloc name m => exact hP.addAlloc ht h name m
  | addFinish => exact hP.addFinish ht h
  | cancel who v k =>
    cases who with
    | loop => exact ⟨(ht.cancelInLoop _).emit _ (by intro x; simp), hP.processed k (hP.cancelInLoop ht.wf _ h)⟩
    | foreign =>
      refine ⟨⟨?_, ht.running, ht.calling⟩, hP.core h rfl⟩
      show WFp _ [] (addsOf (s.running ++ (s.pending ++ [.cancel (lookupId s v), .marker k])))
      rw [← List.append_assoc, addsOf_append, show addsOf [.cancel (lookupId s v), .marker k] = [] from rfl, List.append_nil]
      exact ht.wf.core rfl
  | expire =>
    show Top (match s.alarm with | some _ => { s with alarm := none, readable := true } | none => s) ∧
      P (match s.alarm with | some _ => { s with alarm := none, readable := true } | none => s)
    split
    · exact ⟨ht.of_wf (ht.wf.congr rfl rfl rfl rfl ht.wf.no_uaf) rfl rfl rfl, hP.expire h⟩
    · exact ⟨ht, h⟩
  | iter =>
    show Top (Timer.iter s) ∧ P (Timer.iter s)
    unfold Timer.iter
    have h1 : Top (if s.readable then handleRead s else s) ∧ P (if s.readable then handleRead s else s) := by
      split
      · exact ⟨ht.handleRead, hread rfl ht h⟩
      · exact ⟨ht, h⟩
    generalize (if s.readable then handleRead s else s) = s1 at h1
    obtain ⟨⟨g1, g2, g3⟩, g4⟩ := hP.drain _ _ h1.1.swap rfl (hP.core h1.2 rfl)
    exact ⟨⟨g1, g2, g3.trans h1.1.calling⟩, g4⟩

theorem Top.step (h : Top s) (i : In) : Top (Timer.step s i) := (Stable.trivial.step i (fun _ _ _ _ => ⟨⟩) h ⟨⟩).1

theorem Stable.run (hP : Stable P) (hread : ∀ {s : TQ}, Top s → P s → P (handleRead s)) (h0 : P {}) (ins : List In) :
    Top (run ins) ∧ P (run ins) :=
  List.foldlRecOn (motive := fun s => Top s ∧ P s) ins Timer.step ⟨Top.init, h0⟩
    fun _ h i _ => hP.step i (fun _ => hread) h.1 h.2

theorem run_top (ins : List In) : Top (run ins) := (Stable.trivial.run (fun _ _ => ⟨⟩) ⟨⟩ ins).1

/-! ### A further relation between states; no proof uses it -/

/-- a step of a foreign thread / of the API wrapper that leaves the queue's own state alone -/
structure Quiet (s s' : TQ) : Prop where
  timers : s'.timers = s.timers
  active : s'.active = s.active
  alarm : s'.alarm = s.alarm
  readable : s'.readable = s.readable
  armedAt : s'.armedAt = s.armedAt
  calling : s'.calling = s.calling
  cancelling : s'.cancelling = s.cancelling
  running : s'.running = s.running
  scripts : s'.scripts = s.scripts
  numCreated : s.numCreated ≤ s'.numCreated
  trace : s'.trace = s.trace ∨ ∃ n a q, s'.trace = .added n a q :: s.trace

theorem Quiet.suffix {s s' : TQ} (h : Quiet s s') : s.trace <:+ s'.trace := by
  rcases h.trace with h | ⟨n, a, q, h⟩ <;> rw [h]
  · exact List.suffix_refl _
  · exact List.suffix_cons _ _

end MuduoVerif.Timer
