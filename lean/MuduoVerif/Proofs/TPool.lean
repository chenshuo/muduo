import MuduoVerif.Proofs.TPoolB
import MuduoVerif.Proofs.TPoolC
/-! The ThreadPool invariants together: initial state, reachability, states in which nobody can move. -/
namespace MuduoVerif.Monitor

variable {n0 maxq0 : Nat} {kind0 : Nat → TKind}

/-- the invariant of a pool started with `n0` threads, `setMaxQueueSize(maxq0)` and tasks of the kinds `kind0` -/
structure PInv (n0 maxq0 : Nat) (kind0 : Nat → TKind) (s : PState) : Prop where
  /-- the monitor discipline -/
  mon : PA s
  /-- the accounting of accepted tasks -/
  tasks : PB s
  /-- worker threads, joins, the time after `stop()` -/
  threads : PC s
  /-- a pool without threads never queues anything -/
  noq : s.n = 0 → s.q = []
  /-- only a task that waits for the gate keeps its worker inside `task()` -/
  gated : ∀ w x, s.pc w = .wGate x → s.kind x.2 = .waits
  nc : s.n = n0
  maxqc : s.maxq = maxq0
  kindc : s.kind = kind0

theorem gated_upd {s : PState} (h : ∀ w x, s.pc w = .wGate x → s.kind x.2 = .waits) {t : Nat} {p : PPc}
    (hp : ∀ x, p = .wGate x → s.kind x.2 = .waits) : ∀ w x, upd s.pc t p w = .wGate x → s.kind x.2 = .waits := by
  intro w x hw
  by_cases hwt : w = t
  · subst hwt; rw [upd_same] at hw; exact hp x hw
  · rw [upd_other _ _ _ _ hwt] at hw; exact h w x hw

theorem pstep_const {s s' : PState} (hs : PStep s s') : s'.n = s.n ∧ s'.maxq = s.maxq ∧ s'.kind = s.kind := by
  cases hs <;> exact ⟨rfl, rfl, rfl⟩

theorem pinv_step {s s' : PState} (h : PInv n0 maxq0 kind0 s) (hs : PStep s s') : PInv n0 maxq0 kind0 s' := by
  obtain ⟨c1, c2, c3⟩ := pstep_const hs
  refine ⟨pa_step h.mon hs, pb_step h.tasks hs, pc_step h.mon h.threads hs, ?_, ?_, c1.trans h.nc, c2.trans h.maxqc, c3.trans h.kindc⟩
  · cases hs with
    | takeSome t hpc ho hq => intro hn; have := h.noq hn; rw [hq] at this; cases this
    | runPush t hpc hp hn ho hroom hr => intro hn'; exact absurd hn' hn
    | _ => exact h.noq
  · cases hs with
    | mon hm => exact h.gated
    | test t hpc => exact gated_upd h.gated (by intro x hx; split at hx <;> cases hx)
    | exec t hpc p g hp =>
      refine gated_upd h.gated ?_
      intro y hy
      rcases hp with rfl | ⟨rfl, hk⟩
      · cases hy
      · cases hy; exact hk
    | _ => exact gated_upd h.gated (by intro x hx; cases hx)

theorem pinv_init (n maxq : Nat) (kind : Nat → TKind) (prog : Nat → List POp) (sched : List Nat) :
    PInv n maxq kind (pinit n maxq kind prog sched) := by
  have hpc : ∀ t, (pinit n maxq kind prog sched).pc t = .wTest ∨ (pinit n maxq kind prog sched).pc t = .idle := by
    intro t; simp only [pinit]; split <;> simp
  refine ⟨⟨.init sched, ?_, ?_, ?_, ?_, ?_, ?_, ?_⟩, ⟨⟨?_, ?_, List.nodup_nil, ?_⟩, rfl, rfl⟩, ⟨?_, ?_, ?_, ?_, ?_⟩, fun _ => rfl, ?_, rfl, rfl, rfl⟩
  · intro _ hW; exact absurd rfl hW
  · intro _ _ hW; exact absurd rfl hW
  · intro _; exact Nat.zero_le _
  · intro hr; cases hr
  · intro u hu; rcases hpc u with h1 | h1 <;> rw [h1] at hu <;> cases hu
  · intro u hu; rcases hpc u with h1 | h1 <;> rw [h1] at hu <;> cases hu
  · intro u hu; cases hu
  · intro x hx; cases hx
  · intro w x hw; rcases hpc w with h1 | h1 <;> rw [h1] at hw <;> cases hw
  · intro x hx; cases hx
  · intro t
    simp only [pinit]
    by_cases ht : 1 ≤ t ∧ t ≤ n
    · simp [ht, isWorkerPc]
    · simp [ht, isWorkerPc]
  · intro t ht; rcases hpc t with h1 | h1 <;> rw [h1] at ht <;> cases ht
  · intro u i hu; rcases hpc u with h1 | h1 <;> rw [h1] at hu <;> cases hu
  · rintro ⟨t, ht⟩; cases ht
  · intro e he; cases he
  · intro w x hw; rcases hpc w with h1 | h1 <;> rw [h1] at hw <;> cases hw

theorem pinv_reach {n maxq : Nat} {kind : Nat → TKind} {prog : Nat → List POp} {sched : List Nat} {s : PState}
    (hr : PReach (pinit n maxq kind prog sched) s) : PInv n maxq kind s := by
  induction hr with
  | refl => exact pinv_init n maxq kind prog sched
  | step a _ hs ih => exact pinv_step ih (pstep_sound hs)

theorem body_wTest {s : PState} {t : Nat} (h : s.pc t = .wTest) : pstep s (.body t) ≠ none := by
  simp [pstep, h]
theorem body_wExec {s : PState} {t : Nat} {x : Task} (h : s.pc t = .wExec x) : pstep s (.body t) ≠ none := by
  simp [pstep, h]

theorem body_wGate {s : PState} {t : Nat} {x : Task} (h : s.pc t = .wGate x) (hg : s.gate = true) :
    pstep s (.body t) ≠ none := by
  simp [pstep, h, hg]

theorem acq_enabled {s : PState} {t : Nat} (ho : s.owner = none) (hl : s.needsLock t = true) (hE : t ∉ s.ne.W)
    (hF : t ∉ s.nf.W) : pstep s (.acq t) ≠ none := by
  simp only [pstep]
  rw [if_pos ⟨ho, hl, hE, hF⟩]; simp

theorem p_blocked_owner {s : PState} (h : PInv n0 maxq0 kind0 s) (hb : PBlocked s) : s.owner = none := by
  cases ho : s.owner with
  | none => rfl
  | some u =>
    exfalso
    have hbody := (hb u).2
    rcases h.mon.ownOk u ho with h1 | h1 | ⟨h1, ⟨hn, id, rest, hp⟩ | ⟨rest, hp⟩⟩
    · simp [pstep, h1, ho] at hbody
    · simp [pstep, h1, ho] at hbody
    · simp [pstep, h1, hp, ho, PState.inline, PState.g_run_g1, hn] at hbody
    · simp [pstep, h1, hp, ho] at hbody

theorem p_blocked_S {s : PState} (h : PInv n0 maxq0 kind0 s) (hb : PBlocked s) : s.ne.S = [] ∧ s.nf.S = [] := by
  have key : ∀ c u, u ∉ (s.ws c).S := fun c u hu => by
    have hW := h.mon.st.S_not_W (fun _ _ _ => PRole.unique) hu
    have hl : s.needsLock u = true := by
      have := h.mon.st.role c u (.inr hu)
      cases c
      · simp [PState.needsLock, show s.pc u = .wTake from this]
      · obtain ⟨hpc, hn, id, rest, hp⟩ := this
        simp [PState.needsLock, hpc, hp, PState.inline, PState.g_run_g1, hn]
    exact acq_enabled (p_blocked_owner h hb) hl (hW .notEmpty) (hW .notFull) (hb u).1
  exact ⟨List.eq_nil_iff_forall_not_mem.mpr (key .notEmpty), List.eq_nil_iff_forall_not_mem.mpr (key .notFull)⟩

theorem p_blocked_worker {s : PState} (h : PInv n0 maxq0 kind0 s) (hb : PBlocked s) {w : Nat} (hw : 1 ≤ w ∧ w ≤ s.n) :
    s.pc w = .wDone ∨ (s.pc w = .wTake ∧ w ∈ s.ne.W) ∨ ((∃ x, s.pc w = .wGate x) ∧ s.gate = false) := by
  have hown := p_blocked_owner h hb
  have hwk := (h.threads.workers w).mpr hw
  cases hpc : s.pc w with
  | wDone => exact Or.inl rfl
  | wTest => exact absurd (hb w).2 (body_wTest hpc)
  | wExec x => exact absurd (hb w).2 (body_wExec hpc)
  | wGate x =>
    right; right
    refine ⟨⟨x, rfl⟩, ?_⟩
    cases hg : s.gate with
    | false => rfl
    | true => exact absurd (hb w).2 (body_wGate hpc hg)
  | wTake =>
    right; left
    refine ⟨rfl, ?_⟩
    by_cases hE : w ∈ s.ne.W
    · exact hE
    · exfalso
      have hF : w ∉ s.nf.W := by
        intro hx
        have : s.pc w = .idle := (h.mon.st.role .notFull w (Or.inl hx)).1
        rw [hpc] at this; cases this
      exact acq_enabled hown (by simp [PState.needsLock, hpc]) hE hF (hb w).1
  | idle => rw [hpc] at hwk; cases hwk
  | stopNotify => rw [hpc] at hwk; cases hwk
  | stopJoin i => rw [hpc] at hwk; cases hwk


/-! ### finished threads stay finished; concrete runs (for the non-vacuity examples) -/

theorem finished_stable {s s' : PState} (hs : PStep s s') {t : Nat} (hf : s.finished t) : s'.finished t := by
  have key : ∀ {u : Nat} {p : PPc} {prog' : Nat → List POp}, ¬ s.finished u → (∀ x, x ≠ u → prog' x = s.prog x) →
      (upd s.pc u p t = .wDone ∨ (upd s.pc u p t = .idle ∧ prog' t = [])) := by
    intro u p prog' hu hp
    have htu : t ≠ u := by rintro rfl; exact hu hf
    rw [upd_other _ _ _ _ htu, hp t htu]; exact hf
  cases hs with
  | mon hm => exact hf
  | openGate u hpc hp => exact key (by simp [PState.finished, hpc, hp]) (fun x hx => upd_other _ _ _ _ hx)
  | runInline u hpc hp => exact key (by simp [PState.finished, hpc, hp]) (fun x hx => upd_other _ _ _ _ hx)
  | runStopped u hpc hp => exact key (by simp [PState.finished, hpc, hp]) (fun x hx => upd_other _ _ _ _ hx)
  | runPush u hpc hp => exact key (by simp [PState.finished, hpc, hp]) (fun x hx => upd_other _ _ _ _ hx)
  | stopFlag u hpc hp => exact key (by simp [PState.finished, hpc, hp]) (fun _ _ => rfl)
  | stopNotify0 u hpc => exact key (by simp [PState.finished, hpc]) (fun x hx => upd_other _ _ _ _ hx)
  | joinLast u hpc => exact key (by simp [PState.finished, hpc]) (fun x hx => upd_other _ _ _ _ hx)
  | _ u hpc => exact key (by simp [PState.finished, hpc]) (fun _ _ => rfl)

theorem finished_reach {s0 s : PState} (hr : PReach s0 s) {t : Nat} (hf : s0.finished t) : s.finished t := by
  induction hr with
  | refl => exact hf
  | step a _ hs ih => exact finished_stable (pstep_sound hs) ih

theorem blocked_of_finished {s : PState} (h : ∀ t, s.finished t) : PBlocked s := by
  intro t
  rcases h t with h1 | ⟨h1, h2⟩
  · constructor
    · simp [pstep, PState.needsLock, h1]
    · simp [pstep, h1]
  · constructor
    · simp [pstep, PState.needsLock, h1, h2]
    · simp [pstep, h1, h2]

def runP (s : PState) : List Act → Option PState
  | [] => some s
  | a :: as => (pstep s a).bind fun s' => runP s' as

theorem runP_reach {s0 s : PState} {as : List Act} (h : runP s0 as = some s) : PReach s0 s :=
  run_inv (fun _ => rfl) (fun _ _ _ => rfl) (fun _ a _ hr hs => .step a hr hs) .refl h

/-- one worker, `maxQueueSize` 1, one caller: `run 7; run 8; stop` -/
def demoPool : Nat → List POp
  | 2 => [.run 7, .run 8, .stop]
  | _ => []

/-- the worker parks first; the caller's second `run` finds the queue full and waits; the worker takes
and runs 7, the caller is woken and queues 8, then stops the pool while 8 is still queued -/
def demoPoolActs : List Act :=
  [.body 1, .acq 1, .body 1,            -- worker: reads running_, take(): parks on notEmpty_
   .acq 2, .body 2,                      -- run 7: pushed, notify
   .acq 2, .body 2,                      -- run 8: queue full, parks on notFull_
   .acq 1, .body 1, .body 1,             -- worker: takes 7 (notifies notFull_), runs it
   .acq 2, .body 2,                      -- run 8: pushed
   .acq 2, .body 2, .body 2,             -- stop: flag, broadcasts
   .body 1,                              -- worker reads running_ == false and leaves
   .body 2]                              -- join returns

/-- two workers, unbounded queue, one caller: `run 7; run 8; stop` where task 7 waits for the gate and task 8 opens it -/
def demoDep : Nat → List POp
  | 3 => [.run 7, .run 8, .stop]
  | _ => []

def demoDepKind : Nat → TKind
  | 7 => .waits
  | 8 => .opens
  | _ => .plain

/-- both workers park; the caller queues 7 and 8 (each `run` wakes one worker); worker 1 takes 7 and blocks at the
gate inside the task, worker 2 takes 8 and opens the gate, worker 1 gets out; then the pool is stopped -/
def demoDepActs : List Act :=
  [.body 1, .acq 1, .body 1, .body 2, .acq 2, .body 2,
   .acq 3, .body 3, .acq 3, .body 3,
   .acq 1, .body 1, .body 1,             -- worker 1: takes 7, calls it: parked at the gate
   .acq 2, .body 2, .body 2,             -- worker 2: takes 8, calls it: the gate is open
   .body 1,                              -- worker 1 leaves task 7
   .acq 3, .body 3, .body 3,             -- stop: flag, broadcasts
   .body 1, .body 2,                     -- both workers read running_ == false and leave
   .body 3, .body 3]                     -- the two joins

end MuduoVerif.Monitor
