import MuduoVerif.Proofs.Timer
import MuduoVerif.Proofs.Fold
import Mathlib.Data.List.Nodup
/-! The structural invariant of the timer engine, `WFp s B L`: `timers_` and `activeTimers_` hold the same timers, every
`Timer*` the queue can still reach is live, sequence numbers are bounded by `s_numCreated_`, no step so far dereferenced a
freed `Timer`.  `B` is the expiry batch `handleRead` is working on (empty outside one); `L` lists the live timers that are in
neither set nor in `B`: handed to the loop with `addTimerInLoop` still to run (`limbo`), or just allocated / just taken
from the batch.  Under `WFp` every model function is a composition of seven record updates (the `*_eq` equations); `Kept`
and `BatchInv` say what a further invariant must survive inside one `handleRead`. -/
namespace MuduoVerif.Timer
open MuduoVerif.Gen.Timer
def addsOf : List Functor → List Addr
  | [] => []
  | .add a :: r => a :: addsOf r
  | .cancel _ :: r => addsOf r
  | .marker _ :: r => addsOf r

theorem addsOf_append (l r : List Functor) : addsOf (l ++ r) = addsOf l ++ addsOf r := by
  induction l with
  | nil => rfl
  | cons f l ih => cases f <;> simp [addsOf, ih]

/-- timers handed to the loop (`queueInLoop`) whose `addTimerInLoop` has not run yet -/
def limbo (s : TQ) : List Addr := addsOf (s.running ++ s.pending)

theorem chk_live {s : TQ} {a : Addr} (h : (s.heap a).isSome) : chk s a = s := by simp [chk, h]

theorem cellAt_eq {s : TQ} {a : Addr} {c : Cell} (h : s.heap a = some c) : cellAt s a = c := by simp [cellAt, h]

theorem mem_insEntry {e x : Time × Addr} {l : List (Time × Addr)} : x ∈ insEntry e l ↔ x = e ∨ x ∈ l := by
  induction l with
  | nil => simp [insEntry]
  | cons y ys ih =>
    unfold insEntry
    split
    · exact List.mem_cons
    · rw [List.mem_cons, ih, List.mem_cons]; exact or_left_comm

theorem entryLt_trans {a b c : Int × Nat} (h1 : entryLt a b) (h2 : entryLt b c) : entryLt a c := by
  obtain ⟨a1, a2⟩ := a; obtain ⟨b1, b2⟩ := b; obtain ⟨c1, c2⟩ := c
  simp only [entryLt, Time, Addr] at *
  omega

theorem entryLt_total {a b : Int × Nat} (h : ¬ entryLt a b) (hne : a ≠ b) : entryLt b a := by
  obtain ⟨a1, a2⟩ := a; obtain ⟨b1, b2⟩ := b
  have : ¬ (a1 = b1 ∧ a2 = b2) := by
    rintro ⟨rfl, rfl⟩; exact hne rfl
  simp only [entryLt, Time, Addr] at *
  omega

theorem entryLt_irrefl (a : Int × Nat) : ¬ entryLt a a := by
  obtain ⟨a1, a2⟩ := a
  simp only [entryLt, Time, Addr]; omega

theorem pairwise_insEntry {e : Time × Addr} {l : List (Time × Addr)} (h : l.Pairwise entryLt)
    (hne : ∀ x ∈ l, x ≠ e) : (insEntry e l).Pairwise entryLt := by
  induction l with
  | nil => simp [insEntry]
  | cons y ys ih =>
    unfold insEntry
    rw [List.pairwise_cons] at h
    split
    · rename_i hlt
      refine List.pairwise_cons.2 ⟨?_, List.pairwise_cons.2 h⟩
      intro x hx
      rcases List.mem_cons.1 hx with rfl | hx
      · exact hlt
      · exact entryLt_trans hlt (h.1 x hx)
    · rename_i hlt
      refine List.pairwise_cons.2 ⟨?_, ih h.2 (fun x hx => hne x (List.mem_cons_of_mem _ hx))⟩
      intro x hx
      rcases mem_insEntry.1 hx with rfl | hx
      · exact entryLt_total hlt (fun h' => hne y (List.mem_cons_self) h'.symm)
      · exact h.1 x hx

theorem hset_same (h : Addr → Option Cell) (a : Addr) (c : Cell) : hset h a c a = some c := by simp [hset]
theorem hset_other (h : Addr → Option Cell) {a x : Addr} (c : Cell) (hx : x ≠ a) : hset h a c x = h x := by simp [hset, hx]
theorem hset_some {h : Addr → Option Cell} {a x : Addr} {c cx : Cell} (hx : hset h a c x = some cx) :
    x = a ∧ c = cx ∨ x ≠ a ∧ h x = some cx := by
  unfold hset at hx; split at hx
  · exact Or.inl ⟨by assumption, Option.some.inj hx⟩
  · exact Or.inr ⟨by assumption, hx⟩
theorem hfree_same (h : Addr → Option Cell) (a : Addr) : hfree h a a = none := by simp [hfree]
theorem hfree_other (h : Addr → Option Cell) {a x : Addr} (hx : x ≠ a) : hfree h a x = h x := by simp [hfree, hx]
theorem hfree_some {h : Addr → Option Cell} {a x : Addr} {c : Cell} (hx : hfree h a x = some c) : x ≠ a ∧ h x = some c := by
  unfold hfree at hx; split at hx
  · cases hx
  · exact ⟨by assumption, hx⟩

/-- `insert`: into both sets -/
def ins (s : TQ) (a : Addr) (c : Cell) : TQ :=
  { s with timers := insEntry (c.exp, a) s.timers, active := (a, c.seq) :: s.active }
def allocCell (s : TQ) (a : Addr) (c : Cell) : TQ := { s with heap := hset s.heap a c, numCreated := c.seq }
def eraseT (s : TQ) (a : Addr) (q : Nat) (c : Cell) : TQ :=
  { s with timers := s.timers.filter (fun e => e ≠ (c.exp, a)), active := s.active.filter (fun p => p ≠ (a, q)),
           heap := hfree s.heap a }
def remember (s : TQ) (a : Addr) (q : Nat) : TQ := { s with cancelling := (a, q) :: s.cancelling }
def takeB (s : TQ) (p : Time × Addr → Bool) : TQ :=
  { s with timers := s.timers.dropWhile p,
           active := s.active.filter (fun x => ¬ ∃ e ∈ s.timers.takeWhile p, x = (e.2, (cellAt s e.2).seq)) }
def setCell (s : TQ) (a : Addr) (c : Cell) : TQ := { s with heap := hset s.heap a c }
def freeCell (s : TQ) (a : Addr) : TQ := { s with heap := hfree s.heap a }

/-- what the invariants of the queue read: all of the state but the functor queues, the user's variables and scripts, and
what the environment supplies.  A step that leaves `s.core` alone is a `rfl`; a field is read off by `congrArg (·.heap)`. -/
structure Core where
  heap : Addr → Option Cell
  timers : List (Time × Addr)
  active : List (Addr × Nat)
  numCreated : Nat
  calling : Bool
  cancelling : List (Addr × Nat)
  alarm : Option Time
  readable : Bool
  armedAt : Time
  trace : List Ev

def TQ.core (s : TQ) : Core :=
  ⟨s.heap, s.timers, s.active, s.numCreated, s.calling, s.cancelling, s.alarm, s.readable, s.armedAt, s.trace⟩

/-- `s'` differs from `s` at most in `started` and in what the environment supplies or was consumed of it (`nows`, `addrs`,
`clock`, `starved`, `badEnv`) -/
structure Frame (s s' : TQ) : Prop where
  heap : s'.heap = s.heap
  timers : s'.timers = s.timers
  active : s'.active = s.active
  numCreated : s'.numCreated = s.numCreated
  calling : s'.calling = s.calling
  cancelling : s'.cancelling = s.cancelling
  alarm : s'.alarm = s.alarm
  readable : s'.readable = s.readable
  armedAt : s'.armedAt = s.armedAt
  pending : s'.pending = s.pending
  running : s'.running = s.running
  vars : s'.vars = s.vars
  scripts : s'.scripts = s.scripts
  parked : s'.parked = s.parked
  trace : s'.trace = s.trace

theorem Frame.of_eq {s s' : TQ}
    (h : s' = { s with started := s'.started, nows := s'.nows, addrs := s'.addrs, clock := s'.clock, starved := s'.starved,
                       badEnv := s'.badEnv }) : Frame s s' := by
  constructor <;> rw [h]
theorem Frame.refl (s : TQ) : Frame s s := Frame.of_eq rfl
theorem Frame.trans {s s' s'' : TQ} (h : Frame s s') (h' : Frame s' s'') : Frame s s'' :=
  ⟨h'.heap.trans h.heap, h'.timers.trans h.timers, h'.active.trans h.active, h'.numCreated.trans h.numCreated,
   h'.calling.trans h.calling, h'.cancelling.trans h.cancelling, h'.alarm.trans h.alarm, h'.readable.trans h.readable,
   h'.armedAt.trans h.armedAt, h'.pending.trans h.pending, h'.running.trans h.running, h'.vars.trans h.vars,
   h'.scripts.trans h.scripts, h'.parked.trans h.parked, h'.trace.trans h.trace⟩
theorem Frame.core {s s' : TQ} (h : Frame s s') : s'.core = s.core := by
  simp only [TQ.core, h.heap, h.timers, h.active, h.numCreated, h.calling, h.cancelling, h.alarm, h.readable, h.armedAt,
    h.trace]

theorem readNow_frame (s : TQ) : Frame s (readNow s).2 := by
  unfold readNow; split <;> exact Frame.of_eq rfl

theorem deadlineOf_frame (s : TQ) (m : Mode) : Frame s (deadlineOf s m).2 := by
  cases m <;> simp only [deadlineOf]
  · exact Frame.refl s
  · exact readNow_frame s
  · exact readNow_frame s

@[simp] theorem armFd_eq (s : TQ) (w : Time) :
    armFd s w =
      { s with alarm := some ((readNow s).1 + howMuchUs w (readNow s).1), readable := false, armedAt := (readNow s).1,
               trace := .arm ((howMuchTimeFromNow w (readNow s).1).1 * 1000000000 + (howMuchTimeFromNow w (readNow s).1).2)
                 (readNow s).1 :: s.trace,
               nows := (readNow s).2.nows, clock := (readNow s).2.clock, starved := (readNow s).2.starved } := by
  unfold armFd readNow; cases s.nows <;> rfl
@[simp] theorem armFd_vars (s : TQ) (w : Time) : (armFd s w).vars = s.vars := (readNow_frame s).vars
theorem armFd_trace (s : TQ) (w : Time) :
    (armFd s w).trace = .arm ((howMuchTimeFromNow w (readNow s).1).1 * 1000000000 + (howMuchTimeFromNow w (readNow s).1).2)
      (readNow s).1 :: s.trace := by
  rw [armFd_eq]
theorem armFd_alarm (s : TQ) (w : Time) : (armFd s w).alarm = some (max w ((readNow s).1 + 100)) := by
  show some ((readNow s).1 + howMuchUs w (readNow s).1) = _
  rw [alarm_eq]
theorem armFd_armedAt (s : TQ) (w : Time) : (armFd s w).armedAt = (readNow s).1 := rfl

/-- `t_`/`a_`: `timers_` and `activeTimers_` hold the same live timers; `b_`: the entries of the batch `B` that `handleRead` took
out of both sets are live and in neither; `p_`: so are the timers at the addresses `L`, created and not yet inserted (over
histories `L = limbo s`); every live `Timer` is in one of the three (`owned`); sequence numbers and addresses are sound -/
structure WFp (s : TQ) (B : List (Time × Addr)) (L : List Addr) : Prop where
  t_live : ∀ e ∈ s.timers, ∃ c, s.heap e.2 = some c ∧ c.exp = e.1 ∧ (e.2, c.seq) ∈ s.active
  a_live : ∀ p ∈ s.active, ∃ c, s.heap p.1 = some c ∧ c.seq = p.2 ∧ (c.exp, p.1) ∈ s.timers
  sorted : s.timers.Pairwise entryLt
  a_nodup : s.active.Nodup
  b_live : ∀ e ∈ B, (∃ c, s.heap e.2 = some c ∧ c.exp = e.1) ∧ ∀ q, (e.2, q) ∉ s.active
  b_nodup : (B.map (·.2)).Nodup
  p_live : ∀ a ∈ L, (s.heap a).isSome ∧ (∀ q, (a, q) ∉ s.active) ∧ a ∉ B.map (·.2)
  p_nodup : L.Nodup
  owned : ∀ a c, s.heap a = some c → (a, c.seq) ∈ s.active ∨ a ∈ B.map (·.2) ∨ a ∈ L
  seq_le : ∀ a c, s.heap a = some c → 0 < c.seq ∧ c.seq ≤ s.numCreated
  seq_inj : ∀ a a' c c', s.heap a = some c → s.heap a' = some c' → c.seq = c'.seq → a = a'
  addr_ok : ∀ a c, s.heap a = some c → 0 < a ∧ a < sentinelAddr
  no_uaf : ∀ a, Ev.uaf a ∉ s.trace

theorem WFp.congr {s s' : TQ} {B : List (Time × Addr)} {L : List Addr} (h : WFp s B L) (hh : s'.heap = s.heap)
    (ht : s'.timers = s.timers) (ha : s'.active = s.active) (hn : s'.numCreated = s.numCreated)
    (hu : ∀ a, Ev.uaf a ∉ s'.trace) : WFp s' B L := by
  cases s; cases s'
  simp only at hh ht ha hn
  subst hh ht ha hn
  exact ⟨h.t_live, h.a_live, h.sorted, h.a_nodup, h.b_live, h.b_nodup, h.p_live, h.p_nodup, h.owned, h.seq_le, h.seq_inj,
    h.addr_ok, hu⟩

variable {s : TQ} {B : List (Time × Addr)} {L : List Addr} {a : Addr} {c : Cell} {e : Time × Addr}

theorem WFp.core {s' : TQ} (h : WFp s B L) (hc : s'.core = s.core) : WFp s' B L :=
  h.congr (congrArg (·.heap) hc) (congrArg (·.timers) hc) (congrArg (·.active) hc) (congrArg (·.numCreated) hc)
    ((congrArg (·.trace) hc : s'.trace = s.trace) ▸ h.no_uaf)

theorem WFp.not_active_of_none (h : WFp s B L) (hn : s.heap a = none) (q : Nat) : (a, q) ∉ s.active := by
  intro hm
  obtain ⟨c, h1, _⟩ := h.a_live _ hm
  rw [hn] at h1; cases h1

theorem WFp.ins (h : WFp s B (a :: L)) (hc : s.heap a = some c) : WFp (ins s a c) B L := by
  obtain ⟨-, hna, haB⟩ := h.p_live a List.mem_cons_self
  have hnd := List.nodup_cons.1 h.p_nodup
  refine ⟨?_, ?_, ?_, List.nodup_cons.2 ⟨hna _, h.a_nodup⟩, ?_, h.b_nodup, ?_, hnd.2, ?_, h.seq_le, h.seq_inj, h.addr_ok,
    h.no_uaf⟩
  · intro e he
    rcases mem_insEntry.1 he with rfl | he
    · exact ⟨c, hc, rfl, List.mem_cons_self⟩
    · obtain ⟨c', h1, h2, h3⟩ := h.t_live e he
      exact ⟨c', h1, h2, List.mem_cons_of_mem _ h3⟩
  · intro p hp'
    rcases List.mem_cons.1 hp' with rfl | hp'
    · exact ⟨c, hc, rfl, mem_insEntry.2 (Or.inl rfl)⟩
    · obtain ⟨c', h1, h2, h3⟩ := h.a_live p hp'
      exact ⟨c', h1, h2, mem_insEntry.2 (Or.inr h3)⟩
  · refine pairwise_insEntry h.sorted (fun x hx hxe => ?_)
    obtain ⟨c', _, _, h3⟩ := h.t_live x hx
    subst hxe
    exact hna _ h3
  · intro e he
    obtain ⟨h1, h2⟩ := h.b_live e he
    refine ⟨h1, fun q hq => ?_⟩
    rcases List.mem_cons.1 hq with heq | hq
    · exact haB (List.mem_map.2 ⟨e, he, (Prod.mk.inj heq).1⟩)
    · exact h2 q hq
  · intro x hx
    obtain ⟨h1, h2, h3⟩ := h.p_live x (List.mem_cons_of_mem _ hx)
    refine ⟨h1, fun q hq => ?_, h3⟩
    rcases List.mem_cons.1 hq with heq | hq
    · exact hnd.1 ((Prod.mk.inj heq).1 ▸ hx)
    · exact h2 q hq
  · intro x cx hx
    rcases h.owned x cx hx with h1 | h1 | h1
    · exact Or.inl (List.mem_cons_of_mem _ h1)
    · exact Or.inr (Or.inl h1)
    · rcases List.mem_cons.1 h1 with rfl | h1
      · have hx : s.heap x = some cx := hx
        rw [hc] at hx; cases hx; exact Or.inl List.mem_cons_self
      · exact Or.inr (Or.inr h1)

/-- a cell is written at `a`, an address neither set mentions, and the timer floats: a new `Timer` (`a` was free) or the
head of the batch (taken out of it: `B'`), its sequence number kept -/
structure WFp.Put (s : TQ) (B B' : List (Time × Addr)) (L : List Addr) (a : Addr) (c : Cell) (n : Nat) : Prop where
  sub : ∀ e ∈ B', e ∈ B
  b_nodup : (B'.map (·.2)).Nodup
  not_b : a ∉ B'.map (·.2)
  not_l : a ∉ L
  not_active : ∀ q, (a, q) ∉ s.active
  rest : ∀ x ∈ B.map (·.2), x ≠ a → x ∈ B'.map (·.2)
  addr : 0 < a ∧ a < sentinelAddr
  seq : 0 < c.seq ∧ c.seq ≤ n
  numCreated : s.numCreated ≤ n
  seq_new : ∀ x cx, x ≠ a → s.heap x = some cx → cx.seq ≠ c.seq

theorem WFp.put {n : Nat} {B' : List (Time × Addr)} (h : WFp s B L) (w : WFp.Put s B B' L a c n) :
    WFp { s with heap := hset s.heap a c, numCreated := n } B' (a :: L) := by
  have ne_act : ∀ {x : Addr} {q : Nat}, (x, q) ∈ s.active → x ≠ a := fun hm hx => w.not_active _ (hx ▸ hm)
  refine ⟨?_, ?_, h.sorted, h.a_nodup, ?_, w.b_nodup, ?_, List.nodup_cons.2 ⟨w.not_l, h.p_nodup⟩, ?_, ?_, ?_, ?_, h.no_uaf⟩
  · intro e he
    obtain ⟨c', h1, h2, h3⟩ := h.t_live e he
    exact ⟨c', (hset_other _ _ (ne_act h3)).trans h1, h2, h3⟩
  · intro p hp
    obtain ⟨c', h1, h2, h3⟩ := h.a_live p hp
    exact ⟨c', (hset_other _ _ (ne_act hp)).trans h1, h2, h3⟩
  · intro e he
    obtain ⟨⟨c', h1, h2⟩, h3⟩ := h.b_live e (w.sub e he)
    exact ⟨⟨c', (hset_other _ _ (fun hh => w.not_b (List.mem_map.2 ⟨e, he, hh⟩))).trans h1, h2⟩, h3⟩
  · intro x hx
    rcases List.mem_cons.1 hx with rfl | hx
    · exact ⟨Option.isSome_of_eq_some (hset_same _ _ _), w.not_active, w.not_b⟩
    · obtain ⟨h1, h2, h3⟩ := h.p_live x hx
      refine ⟨(congrArg Option.isSome (hset_other _ _ (fun hh : x = a => w.not_l (hh ▸ hx)))).trans h1, h2, fun hm => h3 ?_⟩
      obtain ⟨e, he, rfl⟩ := List.mem_map.1 hm
      exact List.mem_map.2 ⟨e, w.sub e he, rfl⟩
  · intro x cx hx
    rcases hset_some hx with ⟨rfl, _⟩ | ⟨hxa, hx'⟩
    · exact Or.inr (Or.inr List.mem_cons_self)
    · rcases h.owned x cx hx' with h1 | h1 | h1
      · exact Or.inl h1
      · exact Or.inr (Or.inl (w.rest x h1 hxa))
      · exact Or.inr (Or.inr (List.mem_cons_of_mem _ h1))
  · intro x cx hx
    rcases hset_some hx with ⟨_, rfl⟩ | ⟨_, hx'⟩
    · exact w.seq
    · exact ⟨(h.seq_le x cx hx').1, Nat.le_trans (h.seq_le x cx hx').2 w.numCreated⟩
  · intro x x' cx cx' hx hx' he
    rcases hset_some hx with ⟨rfl, rfl⟩ | ⟨hxa, g⟩ <;> rcases hset_some hx' with ⟨rfl, rfl⟩ | ⟨hxa', g'⟩
    · rfl
    · exact absurd he.symm (w.seq_new x' cx' hxa' g')
    · exact absurd he (w.seq_new x cx hxa g)
    · exact h.seq_inj x x' cx cx' g g' he
  · intro x cx hx
    rcases hset_some hx with ⟨rfl, _⟩ | ⟨_, hx'⟩
    · exact w.addr
    · exact h.addr_ok x cx hx'

/-- `new Timer` returned the free address `a`; `c` is the cell the constructor fills in -/
structure Fresh (s : TQ) (a : Addr) (c : Cell) : Prop where
  free : s.heap a = none
  addr : 0 < a ∧ a < sentinelAddr
  seq : c.seq = s.numCreated + 1
  runs : c.runs = 0
  exp : c.exp = c.first

theorem WFp.alloc (h : WFp s B L) (hn : Fresh s a c) : WFp (allocCell s a c) B (a :: L) := by
  have hf := hn.free
  have hs := hn.seq
  refine h.put
    { sub := fun _ he => he, b_nodup := h.b_nodup, not_b := ?_, not_l := ?_, not_active := h.not_active_of_none hf,
      rest := fun _ hx _ => hx, addr := hn.addr, seq := ⟨hs ▸ Nat.succ_pos _, Nat.le_refl _⟩,
      numCreated := hs ▸ Nat.le_succ _, seq_new := ?_ }
  · intro hm
    obtain ⟨e, he, rfl⟩ := List.mem_map.1 hm
    obtain ⟨⟨c', h1, _⟩, _⟩ := h.b_live e he
    rw [hf] at h1; cases h1
  · intro hm
    have := (h.p_live a hm).1
    rw [hf] at this; cases this
  · intro x cx _ hx he
    have := h.seq_le x cx hx; omega

theorem WFp.perm {L' : List Addr} (h : WFp s B L) (hp : L'.Perm L) : WFp s B L' :=
  ⟨h.t_live, h.a_live, h.sorted, h.a_nodup, h.b_live, h.b_nodup, fun a ha => h.p_live a (hp.mem_iff.1 ha),
    hp.nodup_iff.2 h.p_nodup, fun a c hc => (h.owned a c hc).imp_right (Or.imp_right hp.mem_iff.2),
    h.seq_le, h.seq_inj, h.addr_ok, h.no_uaf⟩

theorem WFp.b_to_l {c' : Cell} (h : WFp s (e :: B) L) (hc : s.heap e.2 = some c)
    (hs : c'.seq = c.seq) : WFp (setCell s e.2 c') B (e.2 :: L) := by
  have hnd := List.nodup_cons.1 h.b_nodup
  exact h.put
    { sub := fun _ he => List.mem_cons_of_mem _ he, b_nodup := hnd.2, not_b := hnd.1,
      not_l := fun hm => (h.p_live _ hm).2.2 List.mem_cons_self, not_active := (h.b_live e List.mem_cons_self).2,
      rest := fun x hx hxe => (List.mem_cons.1 hx).resolve_left hxe, addr := h.addr_ok _ _ hc,
      seq := hs ▸ h.seq_le _ _ hc, numCreated := Nat.le_refl _,
      seq_new := fun x cx hxe hx he => hxe (h.seq_inj x e.2 cx c hx hc (he.trans hs)) }

theorem WFp.drop (h : WFp s (e :: B) L) : WFp (freeCell s e.2) B L := by
  have hbe := h.b_live e List.mem_cons_self
  have hnd := List.nodup_cons.1 h.b_nodup
  have ne_act : ∀ {x : Addr} {q : Nat}, (x, q) ∈ s.active → x ≠ e.2 := fun hm hx => hbe.2 _ (hx ▸ hm)
  refine ⟨?_, ?_, h.sorted, h.a_nodup, ?_, hnd.2, ?_, h.p_nodup, ?_, ?_, ?_, ?_, h.no_uaf⟩
  · intro x hx
    obtain ⟨cx, h1, h2, h3⟩ := h.t_live x hx
    exact ⟨cx, (hfree_other _ (ne_act h3)).trans h1, h2, h3⟩
  · intro p hp
    obtain ⟨cx, h1, h2, h3⟩ := h.a_live p hp
    exact ⟨cx, (hfree_other _ (ne_act hp)).trans h1, h2, h3⟩
  · intro x hx
    obtain ⟨⟨cx, h1, h2⟩, h3⟩ := h.b_live x (List.mem_cons_of_mem _ hx)
    exact ⟨⟨cx, (hfree_other _ (fun hh => hnd.1 (List.mem_map.2 ⟨x, hx, hh⟩))).trans h1, h2⟩, h3⟩
  · intro x hx
    obtain ⟨h1, h2, h3⟩ := h.p_live x hx
    have hxe : x ≠ e.2 := fun hh => h3 (hh ▸ List.mem_cons_self)
    exact ⟨(congrArg Option.isSome (hfree_other _ hxe)).trans h1, h2, fun hm => h3 (List.mem_cons_of_mem _ hm)⟩
  · intro x cx hx
    obtain ⟨hxa, hx'⟩ := hfree_some hx
    exact (h.owned x cx hx').imp_right (Or.imp_left fun h1 => (List.mem_cons.1 h1).resolve_left hxa)
  · intro x cx hx; exact h.seq_le x cx (hfree_some hx).2
  · intro x x' cx cx' hx hx' he; exact h.seq_inj x x' cx cx' (hfree_some hx).2 (hfree_some hx').2 he
  · intro x cx hx; exact h.addr_ok x cx (hfree_some hx).2

theorem WFp.erase {q : Nat} (h : WFp s B L) (hm : (a, q) ∈ s.active) (hc : s.heap a = some c) :
    WFp (eraseT s a q c) B L := by
  have hq : c.seq = q := by
    obtain ⟨c', h1, h2, _⟩ := h.a_live _ hm
    rw [hc] at h1; cases h1; exact h2
  have keep : ∀ {p : Addr × Nat}, p ∈ s.active → p.1 ≠ a → p ∈ s.active.filter (fun p => p ≠ (a, q)) := fun hp hpa =>
    List.mem_filter.2 ⟨hp, decide_eq_true fun hh => hpa (congrArg Prod.fst hh)⟩
  refine ⟨?_, ?_, h.sorted.filter _, h.a_nodup.filter _, ?_, h.b_nodup, ?_, h.p_nodup, ?_, ?_, ?_, ?_, h.no_uaf⟩
  · intro x hx
    obtain ⟨hx1, hx2⟩ := List.mem_filter.1 hx
    obtain ⟨cx, h1, h2, h3⟩ := h.t_live x hx1
    have hxa : x.2 ≠ a := by
      intro hh
      rw [hh, hc] at h1; cases h1
      exact of_decide_eq_true hx2 (Prod.ext h2.symm hh)
    exact ⟨cx, (hfree_other _ hxa).trans h1, h2, keep h3 hxa⟩
  · intro p hp
    obtain ⟨hp1, hp2⟩ := List.mem_filter.1 hp
    obtain ⟨cx, h1, h2, h3⟩ := h.a_live p hp1
    have hpa : p.1 ≠ a := by
      intro hh
      rw [hh, hc] at h1; cases h1
      exact of_decide_eq_true hp2 (Prod.ext hh (h2.symm.trans hq))
    exact ⟨cx, (hfree_other _ hpa).trans h1, h2, List.mem_filter.2 ⟨h3, decide_eq_true fun hh => hpa (Prod.mk.inj hh).2⟩⟩
  · intro x hx
    obtain ⟨⟨cx, h1, h2⟩, h3⟩ := h.b_live x hx
    exact ⟨⟨cx, (hfree_other _ (fun hh : x.2 = a => h3 q (hh ▸ hm))).trans h1, h2⟩, fun q' hq' => h3 q' (List.mem_filter.1 hq').1⟩
  · intro x hx
    obtain ⟨h1, h2, h3⟩ := h.p_live x hx
    exact ⟨(congrArg Option.isSome (hfree_other _ (fun hh : x = a => h2 q (hh ▸ hm)))).trans h1,
      fun q' hq' => h2 q' (List.mem_filter.1 hq').1, h3⟩
  · intro x cx hx
    obtain ⟨hxa, hx'⟩ := hfree_some hx
    exact (h.owned x cx hx').imp_left fun h1 => keep h1 hxa
  · intro x cx hx; exact h.seq_le x cx (hfree_some hx).2
  · intro x x' cx cx' hx hx' he; exact h.seq_inj x x' cx cx' (hfree_some hx).2 (hfree_some hx').2 he
  · intro x cx hx; exact h.addr_ok x cx (hfree_some hx).2

theorem WFp.timers_nodup (h : WFp s B L) : s.timers.Nodup :=
  h.sorted.imp (fun {a b} hab heq => by subst heq; exact entryLt_irrefl _ hab)

theorem WFp.timers_addr_inj (h : WFp s B L) {x y : Time × Addr} (hx : x ∈ s.timers) (hy : y ∈ s.timers)
    (he : x.2 = y.2) : x = y := by
  obtain ⟨cx, h1, h2, _⟩ := h.t_live x hx
  obtain ⟨cy, g1, g2, _⟩ := h.t_live y hy
  rw [he, g1] at h1; cases h1
  exact Prod.ext (by rw [← h2, ← g2]) he

theorem WFp.take (h : WFp s [] L) (p : Time × Addr → Bool) : WFp (takeB s p) (s.timers.takeWhile p) L := by
  have hsplit : s.timers.takeWhile p ++ s.timers.dropWhile p = s.timers := List.takeWhile_append_dropWhile
  have hT : ∀ {x}, x ∈ s.timers.takeWhile p → x ∈ s.timers := fun hx => (List.takeWhile_sublist p).subset hx
  have hD : ∀ {x}, x ∈ s.timers.dropWhile p → x ∈ s.timers := fun hx => (List.dropWhile_sublist p).subset hx
  have hnd : (s.timers.takeWhile p ++ s.timers.dropWhile p).Nodup := by rw [hsplit]; exact h.timers_nodup
  refine ⟨?_, ?_, h.sorted.sublist (List.dropWhile_sublist p), h.a_nodup.filter _, ?_, ?_, ?_, h.p_nodup, ?_,
    h.seq_le, h.seq_inj, h.addr_ok, h.no_uaf⟩
  · intro x hx
    obtain ⟨cx, h1, h2, h3⟩ := h.t_live x (hD hx)
    refine ⟨cx, h1, h2, List.mem_filter.2 ⟨h3, decide_eq_true ?_⟩⟩
    rintro ⟨e, he, heq⟩
    have := h.timers_addr_inj (hD hx) (hT he) (Prod.mk.inj heq).1
    exact List.disjoint_of_nodup_append hnd (this ▸ he) hx
  · intro q hq
    obtain ⟨hq1, hq2⟩ := List.mem_filter.1 hq
    have hq2 := of_decide_eq_true hq2
    obtain ⟨cx, h1, h2, h3⟩ := h.a_live q hq1
    refine ⟨cx, h1, h2, (List.mem_append.1 (hsplit ▸ h3)).resolve_left fun h4 => ?_⟩
    exact hq2 ⟨(cx.exp, q.1), h4, Prod.ext rfl (by show q.2 = (cellAt s q.1).seq; rw [cellAt_eq h1, h2])⟩
  · intro e he
    obtain ⟨ce, h1, h2, h3⟩ := h.t_live e (hT he)
    refine ⟨⟨ce, h1, h2⟩, fun q hq => ?_⟩
    obtain ⟨hq1, hq2⟩ := List.mem_filter.1 hq
    have hq2 := of_decide_eq_true hq2
    obtain ⟨cx, g1, g2, _⟩ := h.a_live _ hq1
    exact hq2 ⟨e, he, Prod.ext rfl (by show q = (cellAt s e.2).seq; rw [cellAt_eq g1]; exact g2.symm)⟩
  · exact List.Nodup.map_on (fun x hx y hy hxy => h.timers_addr_inj (hT hx) (hT hy) hxy) hnd.of_append_left
  · intro a ha
    obtain ⟨h1, h2, _⟩ := h.p_live a ha
    refine ⟨h1, fun q hq => h2 q (List.mem_filter.1 hq).1, fun hm => ?_⟩
    obtain ⟨e, he, rfl⟩ := List.mem_map.1 hm
    obtain ⟨ce, _, _, g3⟩ := h.t_live e (hT he)
    exact h2 _ g3
  · intro x cx hx
    rcases h.owned x cx hx with h1 | h1 | h1
    · by_cases hex : ∃ e ∈ s.timers.takeWhile p, (x, cx.seq) = (e.2, (cellAt s e.2).seq)
      · obtain ⟨e, he, heq⟩ := hex
        exact Or.inr (Or.inl (List.mem_map.2 ⟨e, he, (Prod.mk.inj heq).1.symm⟩))
      · exact Or.inl (List.mem_filter.2 ⟨h1, decide_eq_true hex⟩)
    · cases h1
    · exact Or.inr (Or.inr h1)

theorem WFp.emit (h : WFp s B L) (e : Ev) (he : ∀ a, e ≠ .uaf a) : WFp (emit s e) B L :=
  h.congr rfl rfl rfl rfl (fun a hm => (List.mem_cons.1 hm).elim (fun h1 => he a h1.symm) (h.no_uaf a))

theorem WFp.armFd (h : WFp s B L) (w : Time) : WFp (armFd s w) B L := by
  rw [armFd_eq]
  exact h.congr rfl rfl rfl rfl fun a hm => (List.mem_cons.1 hm).elim (fun h1 => by cases h1) (h.no_uaf a)

theorem WFp.bindId (h : WFp s B L) (name : Nat) (a : Addr) (q : Nat) : WFp (bindId s name a q) B L :=
  WFp.emit (s := { s with vars := (name, ⟨a, q⟩) :: s.vars }) (h.core rfl) _ (by intro x; simp)

theorem WFp.readClock (h : WFp s B L) : WFp { (readNow s).2 with readable := false } B L :=
  (h.core (readNow_frame s).core).congr rfl rfl rfl rfl (h.core (readNow_frame s).core).no_uaf

theorem insertTimer_eq (hc : s.heap a = some c) :
    insertTimer s a = (ins s a c, decide (insertEarliestChanged s.timers.isEmpty c.exp (firstExp s.timers))) := by
  simp [insertTimer, chk, cellAt, hc, ins]

theorem addInLoop_eq (hc : s.heap a = some c) :
    addInLoop s a =
      if insertEarliestChanged s.timers.isEmpty c.exp (firstExp s.timers)
      then armFd (ins (emit s (.registered a c.seq c.exp)) a c) c.exp
      else ins (emit s (.registered a c.seq c.exp)) a c := by
  simp [addInLoop, insertTimer, chk, cellAt, emit, hc, ins, addRearms]

theorem addInLoop_heap (hc : s.heap a = some c) : (addInLoop s a).heap = s.heap := by
  rw [addInLoop_eq hc]; split
  · rw [armFd_eq]; rfl
  · rfl

theorem cancelInLoop_eq (h : WFp s B L) (id : TimerId) :
    cancelInLoop s id =
      if (id.addr, id.seq) ∈ s.active then eraseT (emit s (.cancel id.addr id.seq s.calling (decide ((id.addr, id.seq) ∈ s.active)))) id.addr id.seq (cellAt s id.addr)
      else if s.calling = true then remember (emit s (.cancel id.addr id.seq s.calling (decide ((id.addr, id.seq) ∈ s.active)))) id.addr id.seq
      else emit s (.cancel id.addr id.seq s.calling (decide ((id.addr, id.seq) ∈ s.active))) := by
  by_cases hm : (id.addr, id.seq) ∈ s.active
  · obtain ⟨c, hc, _⟩ := h.a_live _ hm
    have hc : s.heap id.addr = some c := hc
    simp [cancelInLoop, chk, cellAt, emit, hc, hm, cancelErases, eraseT]
  · simp [cancelInLoop, emit, hm, cancelErases, cancelRemembers, remember]

theorem runTimer_eq {now : Time} (hc : s.heap e.2 = some c) :
    runTimer now s e = (scriptFor s.scripts c.name (c.runs + 1)).foldl execAct
      (emit s (.run c.name c.seq (c.runs + 1) e.2 c.rep c.first c.delta e.1 now s.clock)) := by
  simp only [runTimer, chk_live (Option.isSome_of_eq_some hc), cellAt_eq hc]
  rfl

theorem foldl_chk_live (l : List (Time × Addr)) (s : TQ) (h : ∀ e ∈ l, (s.heap e.2).isSome) :
    l.foldl (fun s e => chk s e.2) s = s :=
  foldl_inv (P := (· = s)) l (fun _ e he hs => by subst hs; exact chk_live (h e he)) s rfl

theorem getExpired_eq (h : WFp s B L) (now : Time) :
    getExpired s now = (s.timers.takeWhile (isExpired now), takeB s (isExpired now)) := by
  unfold getExpired
  simp only []
  rw [foldl_chk_live]
  · rfl
  · intro e he
    obtain ⟨c, h1, _⟩ := h.t_live e ((List.takeWhile_sublist _).subset he)
    exact Option.isSome_of_eq_some h1

/-- the cell of a repeating timer after `restart(now)` -/
def restarted (c : Cell) (now : Time) : Cell := { c with exp := restart c.rep now c.delta, runs := c.runs + 1 }

theorem resetOne_eq {now : Time} (hc : s.heap e.2 = some c) :
    resetOne now s e =
      if resetRestarts c.rep (decide ((e.2, c.seq) ∈ s.cancelling))
      then ins (emit (setCell s e.2 (restarted c now)) (.restarted e.2 c.seq (restarted c now).exp)) e.2 (restarted c now)
      else freeCell s e.2 := by
  simp only [resetOne, chk_live (Option.isSome_of_eq_some hc), cellAt_eq hc]
  split
  · rw [insertTimer_eq (c := restarted c now) (hset_same _ _ _)]; rfl
  · rfl

theorem rearm_eq (h : WFp s B L) :
    rearm s = match s.timers with
      | [] => s
      | e :: _ => if 0 < e.1 then armFd s e.1 else s := by
  unfold rearm
  cases ht : s.timers with
  | nil => simp [resetHasNext, resetRearms, timestampValid, timestampInvalid]
  | cons e r =>
    obtain ⟨c, h1, h2, _⟩ := h.t_live e (by rw [ht]; exact List.mem_cons_self)
    simp only [resetHasNext, List.isEmpty_cons, Bool.false_eq_true, not_false_eq_true, if_true, resetRearms,
      timestampValid, chk_live (Option.isSome_of_eq_some h1), cellAt_eq h1, h2]

/-- the state in which the callbacks of a batch start: the clock read, the timerfd drained, the expired prefix taken out of
both sets, `callingExpiredTimers_` set -/
def batchStart (s : TQ) : TQ :=
  { takeB { (readNow s).2 with readable := false } (isExpired (readNow s).1) with calling := true, cancelling := [] }

theorem expired_drained (s : TQ) :
    List.takeWhile (isExpired (readNow s).1) ({ (readNow s).2 with readable := false } : TQ).timers =
      s.timers.takeWhile (isExpired (readNow s).1) := congrArg _ (readNow_frame s).timers

theorem handleRead_eq (h : WFp s [] L) :
    handleRead s = rearm ((s.timers.takeWhile (isExpired (readNow s).1)).foldl (resetOne (readNow s).1)
      { (s.timers.takeWhile (isExpired (readNow s).1)).foldl (runTimer (readNow s).1) (batchStart s) with
        calling := false }) := by
  unfold handleRead reset
  simp only [getExpired_eq h.readClock]
  rw [expired_drained s]
  rfl

theorem allocTimer_spec (s : TQ) (name : Nat) (m : Mode) :
    (∃ s', allocTimer s name m = (none, s') ∧ Frame s s') ∨
    (∃ s1 a c, Frame s s1 ∧ Fresh s1 a c ∧ c.name = name ∧ allocTimer s name m = (some a, allocCell s1 a c)) := by
  unfold allocTimer
  by_cases h1 : name ∈ s.started
  · rw [if_pos h1]; exact Or.inl ⟨s, rfl, Frame.refl s⟩
  · rw [if_neg h1]
    have hf : Frame s (deadlineOf { s with started := name :: s.started } m).2 :=
      Frame.trans (s' := { s with started := name :: s.started })
        (Frame.of_eq rfl) (deadlineOf_frame _ m)
    simp only []
    generalize deadlineOf { s with started := name :: s.started } m = r at hf ⊢
    cases ha : r.2.addrs with
    | nil => exact Or.inl ⟨_, rfl, hf.trans (Frame.of_eq rfl)⟩
    | cons a rest =>
      simp only []
      by_cases hok : (r.2.heap a).isSome = true ∨ a = 0 ∨ ¬ a < sentinelAddr
      · rw [if_pos hok]
        exact Or.inl ⟨_, rfl, hf.trans (Frame.of_eq rfl)⟩
      · rw [if_neg hok]
        simp only [not_or, not_not, Bool.not_eq_true, Option.isSome_eq_false_iff, Option.isNone_iff_eq_none] at hok
        exact Or.inr ⟨{ r.2 with addrs := rest }, a,
          ⟨nextSequence r.2.numCreated, r.1.1, r.1.2.1, r.1.2.2, name, r.1.1, 0⟩,
          hf.trans (Frame.of_eq rfl),
          ⟨hok.1, ⟨Nat.pos_of_ne_zero hok.2.1, hok.2.2⟩, rfl, rfl, rfl⟩, rfl, rfl⟩
theorem allocCell_heap (s : TQ) (a : Addr) (c : Cell) : (allocCell s a c).heap a = some c := hset_same _ _ _

theorem addL_spec (s : TQ) (name : Nat) (m : Mode) :
    Frame s (addL s name m) ∨
    (∃ s1 a c, Frame s s1 ∧ Fresh s1 a c ∧ c.name = name ∧
      addL s name m = bindId (addInLoop (allocCell s1 a c) a) name a c.seq) := by
  rcases allocTimer_spec s name m with ⟨s', h1, h2⟩ | ⟨s1, a, c, h1, h2, h3, h4⟩
  · left; unfold addL; rw [h1]; exact h2
  · right
    refine ⟨s1, a, c, h1, h2, h3, ?_⟩
    unfold addL; rw [h4]
    simp [addTimerDerefsAfterHandOver, cellAt, allocCell, hset_same]

theorem WFp.addInLoop (h : WFp s B (a :: L)) (hc : s.heap a = some c) : WFp (addInLoop s a) B L := by
  rw [addInLoop_eq hc]
  have h1 : WFp (Timer.ins (Timer.emit s (.registered a c.seq c.exp)) a c) B L :=
    WFp.ins (h.emit _ (by intro x; simp)) hc
  split
  · exact h1.armFd _
  · exact h1

theorem WFp.cancelInLoop (h : WFp s B L) (id : TimerId) : WFp (cancelInLoop s id) B L := by
  rw [cancelInLoop_eq h id]
  have he : WFp (Timer.emit s (.cancel id.addr id.seq s.calling (decide ((id.addr, id.seq) ∈ s.active)))) B L := h.emit _ (by intro x; simp)
  split
  · rename_i hm
    obtain ⟨c, h1, _⟩ := h.a_live _ hm
    rw [cellAt_eq h1]
    exact he.erase hm h1
  · split
    · exact he.congr rfl rfl rfl rfl he.no_uaf
    · exact he

theorem WFp.resetOne (h : WFp s (e :: B) L) (now : Time) : WFp (resetOne now s e) B L := by
  obtain ⟨⟨c, hc, _⟩, _⟩ := h.b_live e List.mem_cons_self
  rw [resetOne_eq hc]
  split
  · exact WFp.ins ((h.b_to_l (c' := restarted c now) hc rfl).emit _ (by intro x; simp)) (hset_same _ _ _)
  · exact h.drop

theorem WFp.rearm (h : WFp s B L) : WFp (rearm s) B L := by
  rw [rearm_eq h]
  split
  · exact h
  · split
    · exact h.armFd _
    · exact h

theorem WFp.batchStart (h : WFp s [] L) : WFp (batchStart s) (s.timers.takeWhile (isExpired (readNow s).1)) L := by
  have h1 := h.readClock.take (isExpired (readNow s).1)
  rw [expired_drained s] at h1
  exact h1.congr rfl rfl rfl rfl h1.no_uaf

theorem batch_due (now : Time) (he : e ∈ s.timers.takeWhile (isExpired now)) : e.1 ≤ now := by
  have := List.all_eq_true.1 (List.all_takeWhile (p := isExpired now) (l := s.timers)) e he
  exact entryExpired_le (by simpa [isExpired] using this)

/-- `Q` survives whatever a timer callback or a queued functor does while the batch is `B` -/
structure Kept (B : List (Time × Addr)) (Q : TQ → Prop) : Prop where
  frame : ∀ {s s' : TQ}, Frame s s' → Q s → Q s'
  alloc : ∀ {s : TQ} {L : List Addr} {a : Addr} {c : Cell}, WFp s B L → Fresh s a c → Q s → Q (allocCell s a c)
  addInLoop : ∀ {s : TQ} {L : List Addr} {a : Addr} {c : Cell}, WFp s B (a :: L) → s.heap a = some c → Q s → Q (addInLoop s a)
  cancelInLoop : ∀ {s : TQ} {L : List Addr}, WFp s B L → ∀ id, Q s → Q (cancelInLoop s id)
  bindId : ∀ {s : TQ} (name : Nat) (a : Addr) (q : Nat), Q s → Q (bindId s name a q)

variable {Q : TQ → Prop}

theorem Kept.addL (hQ : Kept B Q) (hw : WFp s B L) (h : Q s) (name : Nat) (m : Mode) :
    WFp (Timer.addL s name m) B L ∧ Q (Timer.addL s name m) := by
  rcases addL_spec s name m with hf | ⟨s1, a, c, h1, h2, _, h4⟩
  · exact ⟨hw.core hf.core, hQ.frame hf h⟩
  · rw [h4]
    have hw1 := (hw.core h1.core).alloc h2
    exact ⟨(hw1.addInLoop (allocCell_heap s1 a c)).bindId _ _ _, hQ.bindId _ _ _
      (hQ.addInLoop hw1 (allocCell_heap s1 a c) (hQ.alloc (hw.core h1.core) h2 (hQ.frame h1 h)))⟩

theorem Kept.execAct (hQ : Kept B Q) (hw : WFp s B L) (h : Q s) (act : Act) :
    WFp (Timer.execAct s act) B L ∧ Q (Timer.execAct s act) := by
  cases act with
  | add name m => exact hQ.addL hw h name m
  | cancel v => exact ⟨hw.cancelInLoop _, hQ.cancelInLoop hw _ h⟩

theorem Kept.script (hQ : Kept B Q) (acts : List Act) (hw : WFp s B L) (h : Q s) :
    WFp (acts.foldl Timer.execAct s) B L ∧ Q (acts.foldl Timer.execAct s) :=
  List.foldlRecOn (motive := fun s => WFp s B L ∧ Q s) acts _ ⟨hw, h⟩ fun _ hs act _ => hQ.execAct hs.1 hs.2 act

/-- an invariant of the expiry batch fired with the reading `now`: `R done todo` holds while the callbacks run (`done`: the
entries whose callback ran, `todo`: those still to run; the batch is `done ++ todo`), `R' B` while `reset` walks over the
entries `B` that are left -/
structure BatchInv (now : Time) (R : List (Time × Addr) → List (Time × Addr) → TQ → Prop)
    (R' : List (Time × Addr) → TQ → Prop) : Prop where
  kept : ∀ {done todo : List (Time × Addr)}, Kept (done ++ todo) (R done todo)
  run : ∀ {s : TQ} {L : List Addr} {e : Time × Addr} {c : Cell} {done todo : List (Time × Addr)},
    WFp s (done ++ e :: todo) L → s.heap e.2 = some c → e.1 ≤ now → e.2 ∉ done.map (·.2) → R done (e :: todo) s →
    R (done ++ [e]) todo (emit s (.run c.name c.seq (c.runs + 1) e.2 c.rep c.first c.delta e.1 now s.clock))
  flag : ∀ {s : TQ} {B : List (Time × Addr)}, R B [] s → R' B { s with calling := false }
  resetOne : ∀ {s : TQ} {e : Time × Addr} {B : List (Time × Addr)} {L : List Addr}, WFp s (e :: B) L → e.1 ≤ now →
    R' (e :: B) s → R' B (resetOne now s e)

variable {now : Time} {R : List (Time × Addr) → List (Time × Addr) → TQ → Prop} {R' : List (Time × Addr) → TQ → Prop}

theorem BatchInv.runFold (hR : BatchInv now R R') (todo : List (Time × Addr)) :
    ∀ (done : List (Time × Addr)) (s : TQ), (∀ e ∈ done ++ todo, e.1 ≤ now) → WFp s (done ++ todo) L → R done todo s →
      WFp (todo.foldl (Timer.runTimer now) s) (done ++ todo) L ∧ R (done ++ todo) [] (todo.foldl (Timer.runTimer now) s) := by
  induction todo with
  | nil =>
    intro done s _ hw h
    rw [List.append_nil] at hw ⊢
    exact ⟨hw, h⟩
  | cons e t ih =>
    intro done s hB hw h
    have he : e ∈ done ++ e :: t := List.mem_append_right _ List.mem_cons_self
    have hnd : e.2 ∉ done.map (·.2) := by
      have := hw.b_nodup
      rw [List.map_append, List.map_cons] at this
      exact fun hm => (List.nodup_append.1 this).2.2 _ hm _ List.mem_cons_self rfl
    obtain ⟨⟨c, hc, _⟩, _⟩ := hw.b_live e he
    have h1 := hR.run hw hc (hB e he) hnd h
    rw [List.append_cons] at hB hw ⊢
    have h' := hR.kept.script (scriptFor s.scripts c.name (c.runs + 1)) (hw.emit _ (by intro x; simp)) h1
    rw [← runTimer_eq hc] at h'
    exact ih (done ++ [e]) _ hB h'.1 h'.2

theorem resetFold_inv (hR : ∀ {s : TQ} {e : Time × Addr} {B : List (Time × Addr)}, WFp s (e :: B) L → e.1 ≤ now →
      R' (e :: B) s → R' B (resetOne now s e))
    (l : List (Time × Addr)) (s : TQ) (hw : WFp s l L) (hl : ∀ e ∈ l, e.1 ≤ now) (h : R' l s) :
    WFp (l.foldl (resetOne now) s) [] L ∧ R' [] (l.foldl (resetOne now) s) := by
  induction l generalizing s with
  | nil => exact ⟨hw, h⟩
  | cons x xs ih =>
    exact ih _ (hw.resetOne now) (fun e he => hl e (List.mem_cons_of_mem _ he)) (hR hw (hl x List.mem_cons_self) h)

theorem BatchInv.batch (hR : BatchInv now R R') (hB : ∀ e ∈ B, e.1 ≤ now) (hw : WFp s B L) (h : R [] B s) :
    WFp (B.foldl (Timer.resetOne now) { B.foldl (Timer.runTimer now) s with calling := false }) [] L ∧
    R' [] (B.foldl (Timer.resetOne now) { B.foldl (Timer.runTimer now) s with calling := false }) := by
  obtain ⟨hw1, h1⟩ := hR.runFold B [] s hB hw h
  exact resetFold_inv hR.resetOne B { B.foldl (Timer.runTimer now) s with calling := false }
    (hw1.congr rfl rfl rfl rfl hw1.no_uaf) hB (hR.flag h1)

theorem Kept.trivial : Kept B (fun _ => True) := ⟨fun _ _ => ⟨⟩, fun _ _ _ => ⟨⟩, fun _ _ _ => ⟨⟩, fun _ _ _ => ⟨⟩,
  fun _ _ _ _ => ⟨⟩⟩

theorem WFp.execAct (h : WFp s B L) (act : Act) : WFp (execAct s act) B L := (Kept.trivial.execAct h ⟨⟩ act).1

theorem WFp.handleRead (h : WFp s [] L) : WFp (Timer.handleRead s) [] L := by
  rw [handleRead_eq h]
  have hR : BatchInv (readNow s).1 (fun _ _ _ => True) (fun _ _ => True) :=
    ⟨Kept.trivial, fun _ _ _ _ _ => ⟨⟩, fun _ => ⟨⟩, fun _ _ _ => ⟨⟩⟩
  exact (hR.batch (fun _ => batch_due _) h.batchStart ⟨⟩).1.rearm

/-- what a `run` event records (all but the clock) -/
structure RunRec where
  name : Nat
  seq : Nat
  k : Nat
  addr : Addr
  rep : Bool
  first : Time
  delta : Int
  exp : Time
  now : Time
deriving DecidableEq, Repr

def runRec : Ev → Option RunRec
  | .run name seq k addr rep first delta exp now _ => some ⟨name, seq, k, addr, rep, first, delta, exp, now⟩
  | _ => none

/-- the callback runs a trace records, newest first -/
def runRecs (t : List Ev) : List RunRec := t.filterMap runRec

theorem runRecs_cons (e : Ev) (t : List Ev) : runRecs (e :: t) = (runRec e).toList ++ runRecs t := by
  unfold runRecs; rw [List.filterMap_cons]; cases runRec e <;> rfl

/-- `s'` is a later state reached without queueing anything: same functor queues, same batch flag, the trace only grew -/
structure ExtW (s s' : TQ) : Prop where
  pending : s'.pending = s.pending
  running : s'.running = s.running
  calling : s'.calling = s.calling
  scripts : s'.scripts = s.scripts
  parked : s'.parked = s.parked
  trace : s.trace <:+ s'.trace
  numCreated : s.numCreated ≤ s'.numCreated

/-- ... and without running a callback -/
structure Ext (s s' : TQ) : Prop extends ExtW s s' where
  runs : runRecs s'.trace = runRecs s.trace

theorem ExtW.trans {s s' s'' : TQ} (h : ExtW s s') (h' : ExtW s' s'') : ExtW s s'' :=
  ⟨h'.pending.trans h.pending, h'.running.trans h.running, h'.calling.trans h.calling, h'.scripts.trans h.scripts,
   h'.parked.trans h.parked, h.trace.trans h'.trace, Nat.le_trans h.numCreated h'.numCreated⟩
theorem Ext.trans {s s' s'' : TQ} (h : Ext s s') (h' : Ext s' s'') : Ext s s'' :=
  ⟨h.toExtW.trans h'.toExtW, h'.runs.trans h.runs⟩
theorem Ext.same {s s' : TQ} (h1 : s'.pending = s.pending) (h2 : s'.running = s.running) (h3 : s'.calling = s.calling)
    (h4 : s'.scripts = s.scripts) (h5 : s'.parked = s.parked) (h6 : s'.trace = s.trace)
    (h7 : s.numCreated ≤ s'.numCreated) : Ext s s' :=
  ⟨⟨h1, h2, h3, h4, h5, by rw [h6]; exact List.suffix_refl _, h7⟩, by rw [h6]⟩
theorem Frame.ext {s s' : TQ} (h : Frame s s') : Ext s s' :=
  Ext.same h.pending h.running h.calling h.scripts h.parked h.trace (Nat.le_of_eq h.numCreated.symm)

theorem emit_extW (s : TQ) (e : Ev) : ExtW s (emit s e) := ⟨rfl, rfl, rfl, rfl, rfl, List.suffix_cons _ _, Nat.le_refl _⟩
theorem emit_ext (s : TQ) (e : Ev) (he : runRec e = none) : Ext s (emit s e) :=
  ⟨emit_extW s e, by show runRecs (e :: s.trace) = _; rw [runRecs_cons, he]; rfl⟩
theorem armFd_ext (s : TQ) (w : Time) : Ext s (armFd s w) := by
  rw [armFd_eq]
  exact ⟨⟨rfl, rfl, rfl, rfl, rfl, List.suffix_cons _ _, Nat.le_refl _⟩, by rw [runRecs_cons]; rfl⟩
theorem bindId_ext (s : TQ) (name : Nat) (a : Addr) (q : Nat) : Ext s (bindId s name a q) :=
  Ext.trans (s' := { s with vars := (name, ⟨a, q⟩) :: s.vars }) (Ext.same rfl rfl rfl rfl rfl rfl (Nat.le_refl _))
    (emit_ext _ _ rfl)

theorem addInLoop_ext (hc : s.heap a = some c) : Ext s (addInLoop s a) := by
  rw [addInLoop_eq hc]
  have h1 : Ext s (ins (emit s (.registered a c.seq c.exp)) a c) :=
    (emit_ext s _ rfl).trans (Ext.same rfl rfl rfl rfl rfl rfl (Nat.le_refl _))
  split
  · exact h1.trans (armFd_ext _ _)
  · exact h1

theorem cancelInLoop_ext (h : WFp s B L) (id : TimerId) : Ext s (cancelInLoop s id) := by
  rw [cancelInLoop_eq h id]
  split
  · exact (emit_ext s _ rfl).trans (Ext.same rfl rfl rfl rfl rfl rfl (Nat.le_refl _))
  · split
    · exact (emit_ext s _ rfl).trans (Ext.same rfl rfl rfl rfl rfl rfl (Nat.le_refl _))
    · exact emit_ext s _ rfl

theorem resetOne_ext (h : WFp s (e :: B) L) (now : Time) : Ext s (resetOne now s e) := by
  obtain ⟨⟨c, hc, _⟩, _⟩ := h.b_live e List.mem_cons_self
  rw [resetOne_eq hc]
  split
  · exact Ext.trans (s' := setCell s e.2 (restarted c now)) (Ext.same rfl rfl rfl rfl rfl rfl (Nat.le_refl _))
      ((emit_ext _ _ rfl).trans (Ext.same rfl rfl rfl rfl rfl rfl (Nat.le_refl _)))
  · exact Ext.same rfl rfl rfl rfl rfl rfl (Nat.le_refl _)

theorem rearm_ext (h : WFp s B L) : Ext s (rearm s) := by
  rw [rearm_eq h]
  split
  · exact (Frame.refl s).ext
  · split
    · exact armFd_ext _ _
    · exact (Frame.refl s).ext

theorem Kept.of_ext (hQ : ∀ {s s' : TQ}, Ext s s' → Q s → Q s') : Kept B Q :=
  ⟨fun f => hQ f.ext, fun {s _ _ c} _ hn => hQ (Ext.same rfl rfl rfl rfl rfl rfl (by show s.numCreated ≤ c.seq; have := hn.seq; omega)),
    fun _ hc => hQ (addInLoop_ext hc), fun hw id => hQ (cancelInLoop_ext hw id), fun _ _ _ => hQ (bindId_ext _ _ _ _)⟩

/-- `handleRead` (the batch flag is cleared at the end) -/
theorem handleRead_extW (h : WFp s [] L) (hc : s.calling = false) : ExtW s (handleRead s) := by
  have hR : BatchInv (readNow s).1 (fun _ _ s' => ExtW { s with calling := true } s') (fun _ s' => ExtW s s') :=
    ⟨Kept.of_ext fun he h => h.trans he.toExtW, fun _ _ _ _ h => h.trans (emit_extW _ _),
      fun h => ⟨h.pending, h.running, hc.symm, h.scripts, h.parked, h.trace, h.numCreated⟩,
      fun hw _ h => h.trans (resetOne_ext hw _).toExtW⟩
  have f := readNow_frame s
  rw [handleRead_eq h]
  obtain ⟨hw, he⟩ := hR.batch (fun _ => batch_due _) h.batchStart
    ⟨f.pending, f.running, rfl, f.scripts, f.parked, by rw [← f.trace]; exact List.suffix_refl _, Nat.le_of_eq f.numCreated.symm⟩
  exact he.trans (rearm_ext hw).toExtW

/-! ### Two more facts about `readNow` and `armFd`; no proof uses them -/

theorem readNow_fst_mem (s : TQ) : (readNow s).1 = (readNow s).2.clock := by
  unfold readNow; split <;> rfl

theorem armFd_readable (s : TQ) (w : Time) : (armFd s w).readable = false := rfl

end MuduoVerif.Timer
