import MuduoVerif.Proofs.ConnStream
/-! No data is dropped as long as the environment never supplies a fatal `write` result:
`NoDisc` is preserved by every transition of the connection model. -/
namespace MuduoVerif.Conn
open MuduoVerif.Gen.Conn

/-- a `write` result that is not a fatal error (EPIPE / ECONNRESET) -/
def WriteRes.nonFatal : WriteRes → Prop
  | .took _ => True
  | .err e => ¬ writeErrFatal e

/-- no data has been dropped, and no queued `write` result can make the code drop data -/
def NoDisc (c : Conn) : Prop := c.discarded = false ∧ ∀ r ∈ c.writes, r.nonFatal

def Input.nonFatal : Input → Prop
  | .envWrite r => r.nonFatal
  | _ => True

theorem NoDisc.frame {c c' : Conn} (hi : NoDisc c) (h : SameData c c') : NoDisc c' := by
  obtain ⟨_, _, _, h4, h5⟩ := h; unfold NoDisc; rw [h4, h5]; exact hi

theorem WriteRes.nonFatal.drops {r : WriteRes} (h : r.nonFatal) : r.drops = false := by
  cases r with
  | took n => rfl
  | err e => simp [WriteRes.drops, show ¬ writeErrFatal e from h]

/-- a missing result counts as `EAGAIN` -/
theorem peekWrite_nonFatal (c : Conn) (h : NoDisc c) : (peekWrite c).nonFatal := by
  unfold peekWrite
  cases hw : c.writes with
  | nil => simp [WriteRes.nonFatal, writeErrFatal]
  | cons x rest => exact h.2 x (by rw [hw]; exact List.mem_cons_self ..)

theorem sendInLoop_nd (c : Conn) (data : Bytes) (q : Bool) (h : NoDisc c) : NoDisc (sendInLoop c data q) := by
  by_cases hu : c.st = .kDisconnected
  · rw [sendInLoop_down hu]; exact h.frame ⟨rfl, rfl, rfl, rfl, rfl⟩
  · have hd := (sendInLoop_data c data q hu).direct
    split at hd
    · refine ⟨by rw [hd.discarded, h.1, (peekWrite_nonFatal c h).drops]; rfl, ?_⟩
      rw [hd.writes]; exact fun r hr => h.2 r (List.mem_of_mem_tail hr)
    · exact ⟨hd.discarded.trans h.1, by rw [hd.writes]; exact h.2⟩

theorem handleWrite_nd (c : Conn) (h : NoDisc c) : NoDisc (handleWrite c) := by
  obtain ⟨_, _, h3, h4⟩ := handleWrite_data c
  refine ⟨h3.trans h.1, ?_⟩
  rcases h4 with h4 | h4 <;> rw [h4]
  · exact h.2
  · exact fun r hr => h.2 r (List.mem_of_mem_tail hr)

theorem nodisc_pres : Preserves (fun _ => True) WriteRes.nonFatal NoDisc :=
  Preserves.ofData NoDisc.frame sendInLoop_nd handleWrite_nd
    (fun _ _ hr h => ⟨h.1, fun x hx => (List.mem_append.mp hx).elim (h.2 x) (fun e => List.mem_singleton.mp e ▸ hr)⟩)

/-- every input, a repeated hand-over included -/
theorem step_nodisc (c : Conn) (i : Input) (hi : i.nonFatal) (h : NoDisc c) : NoDisc (step c i) := by
  cases i with
  | establish =>
    simp only [step]; split
    · exact h
    · unfold connectEstablished; split
      · exact abort_pres nodisc_pres c _ rfl h
      · exact callback_pres nodisc_pres _ _ _ (h.frame ⟨rfl, rfl, rfl, rfl, rfl⟩)
  | _ => exact step_pres nodisc_pres Side.none c _ trivial (fun r e => by cases e <;> exact hi) trivial h

theorem run_nodisc (ins : List Input) (c : Conn) (hi : ∀ i ∈ ins, i.nonFatal) (h : NoDisc c) :
    NoDisc (run c ins) :=
  foldl_inv ins (fun c i hm => step_nodisc c i (hi i hm)) c h

end MuduoVerif.Conn
