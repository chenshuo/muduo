import MuduoVerif.Proofs.Loop
/-!
# `no_lost_wakeup` (C04): the wake-up invariant
-/
namespace MuduoVerif.Loop
open MuduoVerif.Gen.Loop

/-- somebody is about to write the eventfd, or has done so and the loop has not read it yet -/
def Woken (s : St) : Prop := 0 < s.ev ∨ s.lpc = .appended ∨ inflightF s.thr s.L .appended

/-- The property is `woken` (C04 `no_lost_wakeup`, `queued_is_woken`): in every phase from which the loop thread gets to
`poll` before it swaps the queue out again (`needsWake`), a queued functor has its wake-up pending.  `callingDrain`
(`callingPendingFunctors_` is set from `doPendingFunctors:beforeSwap` until the batch has run and its functor objects have
died) and `notLooping` (`looping_` is false outside `loop()`) are why the wake-up test of a `queueInLoop` made on the loop
thread succeeds wherever a wake-up is needed (`WakeInv.guard`).  `idleOutside` (outside the phases in which task bodies
run, the loop thread is in no body and in no call of its own: `busy s = false`) carries the induction, and in `poll`
rules out the middle case of `Woken`. -/
structure WakeInv (s : St) : Prop where
  woken : needsWake s.phase = true → s.pending ≠ [] → Woken s
  callingDrain : s.phase = .draining ∨ s.phase = .preSwap → s.calling = true
  notLooping : beforeLoop s.phase = true → s.looping = false
  idleOutside : taskPhase s.phase = false → s.lpc = .idle ∧ s.stack = []

theorem Woken.keep {s s' : St} (h : Woken s) (hev : s.ev ≤ s'.ev) (hl : s.lpc = .appended → s'.lpc = .appended)
    (hi : inflightF s.thr s.L .appended → inflightF s'.thr s'.L .appended) : Woken s' :=
  h.imp (fun h => Nat.lt_of_lt_of_le h hev) (Or.imp hl hi)

/-- inside a task body, wherever a queued functor needs a wake-up, the wake-up test of `queueInLoop` succeeds on the
loop thread: a drain is in progress (`callingPendingFunctors_`) or `loop()` has not been entered -/
theorem WakeInv.guard {s : St} (h : WakeInv s) (ht : taskPhase s.phase = true) (hn : needsWake s.phase = true) :
    s.calling = true ∨ s.looping = false := by
  cases hp : s.phase <;> simp [hp, taskPhase, needsWake] at ht hn
  case draining => exact .inl (h.callingDrain (.inl hp))
  all_goals exact .inr (h.notLooping (by simp [hp, beforeLoop]))

section
variable {fd : FinalDrain} {s s' : St} {k : Nat}

theorem TopStep.wakeInv (hs : TopStep s s') (h : WakeInv s) (ht : taskPhase s.phase = true) : WakeInv s' := by
  have idle {α : Prop} (hf : taskPhase s.phase = false) : α := by simp [ht] at hf
  induction hs
  case wake => exact ⟨fun _ _ => .inl (Nat.succ_pos _), h.callingDrain, h.notLooping, idle⟩
  case noWake hc hl => exact ⟨fun hn _ => by simpa [hc, hl] using h.guard ht hn, h.callingDrain, h.notLooping, idle⟩
  case queue => exact ⟨fun _ _ => .inr (.inl rfl), h.callingDrain, h.notLooping, idle⟩
  case quitDone hl =>
    exact ⟨fun hn hp => (h.woken hn hp).keep (Nat.le_refl _) (fun ha => by simp [hl] at ha) id, h.callingDrain,
      h.notLooping, idle⟩
  case quit hl _ =>
    exact ⟨fun hn hp => (h.woken hn hp).keep (Nat.le_refl _) (fun ha => absurd ha hl) id, h.callingDrain,
      h.notLooping, idle⟩
  all_goals exact ⟨h.woken, h.callingDrain, h.notLooping, idle⟩

/-- needs the batch destroyed before the reset (`bd = true`: otherwise the flag is down while destructor bodies of the
batch run, `C04.batch_destroyed_after_reset_strands_witness`) and some drain after the `while` (`fd ≠ .none`: otherwise
what is queued at `loop:exit` is still there, unannounced, when `loop()` has returned) -/
theorem LoopStep.wakeInv (hs : LoopStep fd true s s') (hfd : fd ≠ .none) (h : WakeInv s) : WakeInv s' := by
  induction hs
  case nop => exact ⟨h.woken, h.callingDrain, h.notLooping, h.idleOutside⟩
  case task hp _ ht => exact ht.wakeInv h (by rcases hp with hp | hp | hp <;> simp [hp, taskPhase])
  case noDrain hn => exact absurd hn hfd
  case wakeRead hp _ _ =>
    exact ⟨fun hn => by simp [hp, needsWake] at hn, h.callingDrain, h.notLooping, h.idleOutside⟩
  case again hp _ _ =>
    exact ⟨fun _ => h.woken (by simp [hp, needsWake]), fun hd => by simp [relaunch] at hd,
      fun _ => h.notLooping (by simp [hp, beforeLoop]), fun ht => by simp [relaunch, taskPhase] at ht⟩
  -- the other steps: `busy s = false` says the loop thread is outside a task body, the rest is read off the phases
  all_goals
    have hb : busy s = false → s.lpc = .idle ∧ s.stack = [] := fun hb => by simpa [busy] using hb
    exact ⟨fun hn hp => h.woken (by simp_all [needsWake]) (by simp_all), fun hd => by simp_all [h.callingDrain],
      fun hl => by simp_all [beforeLoop, h.notLooping], fun ht => by simp_all [taskPhase, h.idleOutside]⟩

theorem OtherStep.wakeInv (hs : OtherStep s k s') (hk : k ≠ s.L) (h : WakeInv s) : WakeInv s' := by
  induction hs
  case nop => exact ⟨h.woken, h.callingDrain, h.notLooping, h.idleOutside⟩
  case append => exact ⟨fun _ _ => .inr (.inr (inflightF_new hk rfl)), h.callingDrain, h.notLooping, h.idleOutside⟩
  case wake | dWake => exact ⟨fun _ _ => .inl (Nat.succ_pos _), h.callingDrain, h.notLooping, h.idleOutside⟩
  case start hpc _ _ hu =>
    exact ⟨fun _ hp => (h.woken (by simp [hu, needsWake]) hp).keep (Nat.le_refl _) id
        (fun hi => inflightF_keep hi (by simp [hpc])),
      fun hd => by simp at hd, fun _ => h.notLooping (by simp [hu, beforeLoop]), fun ht => by simp [taskPhase] at ht⟩
  -- the other steps move a thread that does not stand between its append and its `wakeup()`
  all_goals
    exact ⟨fun hn hp => (h.woken hn hp).keep (Nat.le_refl _) id (fun hi => inflightF_keep hi (by simp [*])),
      h.callingDrain, h.notLooping, h.idleOutside⟩

end

theorem step_wake {s : St} (k : Nat) (h : WakeInv s) : WakeInv (step s k) := by
  rcases step_rel s k with ⟨_, hs⟩ | ⟨hk, hs⟩
  · rw [batchDestroyedBeforeReset_tie, finalDrain_tie] at hs
    exact hs.wakeInv (by decide) h
  · exact hs.wakeInv hk h

theorem init_wake (elt wl : Bool) (tbl) (dtbl) (pre) (again) (progs) : WakeInv (init elt wl tbl dtbl pre again progs) := by
  refine ⟨?_, ?_, ?_, ?_⟩
  · intro _ hp; simp [init] at hp
  · intro h; cases elt <;> simp [init] at h
  · intro _; simp [init]
  · intro h; cases elt <;> simp [init, taskPhase] at h

theorem Reachable.wake {s : St} (h : Reachable s) : WakeInv s :=
  reachable_invariant init_wake (fun _ k h => step_wake k h) h

/-! ### `WakeInv` along a schedule; no proof uses it -/

theorem run_wake {s : St} (sched : List Nat) (h : WakeInv s) : WakeInv (run s sched) :=
  run_invariant (fun _ k h => step_wake k h) h sched

end MuduoVerif.Loop
