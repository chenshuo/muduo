import MuduoVerif.Proofs.ConnLife
import MuduoVerif.Proofs.ConnCb
/-!
C01, receive direction: what the peer wrote reaches the input buffer complete and in order, and
the message callback is shown exactly the unconsumed tail of it.
-/
namespace MuduoVerif.Conn
open MuduoVerif.Gen.Conn

structure ReadInv (c : Conn) : Prop where
  /-- nothing the peer wrote is lost, duplicated or reordered on its way into the input buffer -/
  all : c.delivered ++ c.peerPending = c.peerAll
  /-- what the message callback sees is exactly the not yet retrieved tail of what was delivered -/
  tail : c.inBuf <:+ c.delivered

structure SameRd (c c' : Conn) : Prop where
  delivered : c'.delivered = c.delivered
  peerPending : c'.peerPending = c.peerPending
  peerAll : c'.peerAll = c.peerAll
  inBuf : c'.inBuf = c.inBuf

theorem ReadInv.frame {c c' : Conn} (hi : ReadInv c) (h : SameRd c c' := by exact ⟨rfl, rfl, rfl, rfl⟩) :
    ReadInv c' := by
  constructor
  · rw [h.delivered, h.peerPending, h.peerAll]; exact hi.all
  · rw [h.delivered, h.inBuf]; exact hi.tail

theorem deliver_read (c : Conn) (n : Nat) (hi : ReadInv c) : ReadInv (deliver c n) := by
  constructor
  · show (c.delivered ++ c.peerPending.take n) ++ c.peerPending.drop n = c.peerAll
    rw [List.append_assoc, List.take_append_drop]; exact hi.all
  · show c.inBuf ++ c.peerPending.take n <:+ c.delivered ++ c.peerPending.take n
    obtain ⟨t, ht⟩ := hi.tail
    exact ⟨t, by rw [← List.append_assoc, ht]⟩

theorem consume_read (c : Conn) (hi : ReadInv c) : ReadInv (consume c) :=
  ⟨hi.all, List.IsSuffix.trans (List.drop_suffix _ _) hi.tail⟩

/-- only `deliver` and `consume` touch the receive side; they keep the invariant, so every operation does -/
theorem read_frame : Frame (fun c c' => ReadInv c → ReadInv c') where
  refl _ hi := hi
  trans f g hi := g (f hi)
  data _ _ h := (·.frame ⟨(congrArg Conn.delivered h :), (congrArg Conn.peerPending h :),
    (congrArg Conn.peerAll h :), (congrArg Conn.inBuf h :)⟩)
  emits _ _ _ := (·.frame)
  enqueues _ _ _ := (·.frame)
  updates _ _ _ _ := (·.frame)
  closing _ _ := (·.frame)
  shut _ := (·.frame)
  timer _ _ := (·.frame)
  dead _ := (·.frame)
  delivers := deliver_read
  consumes := consume_read
  unregister _ := (·.frame)

theorem sendInLoop_read (c : Conn) (d : Bytes) (q : Bool) (hi : ReadInv c) : ReadInv (sendInLoop c d q) :=
  sendInLoop_frame read_frame (fun _ => (·.frame)) c d q hi

theorem send_read (c : Conn) (d : Bytes) (_ : c.st = .kConnected) : ReadInv c → ReadInv (sendInLoop c d false) :=
  sendInLoop_read c d false

theorem handleClose_read (c : Conn) (hi : ReadInv c) : ReadInv (handleClose c) :=
  handleClose_frame read_frame send_read (fun _ => (·.frame)) (fun _ => (·.frame)) c hi

theorem connectDestroyed_read (c : Conn) (hi : ReadInv c) : ReadInv (connectDestroyed c) :=
  connectDestroyed_frame read_frame send_read (fun _ => (·.frame)) c hi

theorem maybeDestroy_read (c : Conn) (hi : ReadInv c) : ReadInv (maybeDestroy c) := by
  obtain ⟨_, _, _, _, e⟩ := maybeDestroy_eq c
  rw [e]; exact hi.frame

theorem iter_read (c : Conn) (a : List Src) (hi : ReadInv c) : ReadInv (iter c a) :=
  iter_inv
    (dispatch_frame read_frame send_read handleClose_read (fun _ _ => (·.frame)))
    (fun _ => (·.frame))
    (fun _ t _ _ _ hi => runTask_frame read_frame send_read _ t handleClose_read
      (fun d _ => sendInLoop_read _ d true) (fun _ => connectDestroyed_read _)
      (fun _ _ => (·.frame)) (fun _ _ _ => (·.frame))
      hi.frame)
    maybeDestroy_read c a hi

theorem step_read (c : Conn) (i : Input) (hi : ReadInv c) : ReadInv (step c i) := by
  cases i with
  | establish =>
    simp only [step, connectEstablished]; split
    · exact hi
    · split
      · exact hi.frame
      · exact callback_frame read_frame send_read _ _ _ (·.frame) hi.frame
  | act f a =>
    simp only [step]; split
    · exact hi
    · split <;> exact act_frame read_frame send_read _ _ _ hi
  | iter a => exact iter_read _ _ hi
  | ownerDestroy =>
    simp only [step]; split
    · exact hi
    · exact maybeDestroy_read _ (connectDestroyed_read c hi).frame
  | peerWrite d =>
    constructor
    · show c.delivered ++ (c.peerPending ++ d) = c.peerAll ++ d
      rw [← List.append_assoc, hi.all]
    · exact hi.tail
  | _ => exact hi.frame

theorem fresh_read (c : Conn) (h : Fresh c) : ReadInv c := by
  constructor
  · rw [h.delivered, h.peerPending, h.peerAll]; rfl
  · rw [h.inBuf]; exact List.nil_suffix

/-- C01 (receive): in every reachable state the bytes appended to the input buffer so far,
followed by what the kernel still holds, are exactly what the peer wrote; and the input buffer
is a suffix of what was appended -/
theorem read_inv (c0 : Conn) (h0 : Fresh c0) (ins : List Input) (_hne : ∀ i ∈ ins, i.notEstablish) :
    let c := run (step c0 .establish) ins
    c.delivered ++ c.peerPending = c.peerAll ∧ c.inBuf <:+ c.delivered := by
  intro c
  have := foldl_inv ins (fun c i _ => step_read c i) _ (step_read c0 .establish (fresh_read c0 h0))
  exact ⟨this.all, this.tail⟩

/-- what `stopRead` / `startRead` leave alone: the bytes of both directions, the functor queues and timers, the state
word, the trace, the ownership flags and the write interest (the configuration and the scripts are not listed) -/
structure SameButInterest (c c' : Conn) : Prop where
  inBuf : c'.inBuf = c.inBuf
  outBuf : c'.outBuf = c.outBuf
  delivered : c'.delivered = c.delivered
  peerPending : c'.peerPending = c.peerPending
  peerAll : c'.peerAll = c.peerAll
  accepted : c'.accepted = c.accepted
  blocks : c'.blocks = c.blocks
  wrote : c'.wrote = c.wrote
  pending : c'.pending = c.pending
  batch : c'.batch = c.batch
  timers : c'.timers = c.timers
  st : c'.st = c.st
  trace : c'.trace = c.trace
  discarded : c'.discarded = c.discarded
  shutWr : c'.shutWr = c.shutWr
  alive : c'.alive = c.alive
  owner : c'.owner = c.owner
  dead : c'.dead = c.dead
  evWrite : c'.ch.evWrite = c.ch.evWrite

theorem stopStart_only_read_interest (c : Conn) :
    SameButInterest c (stopReadInLoop c) ∧ SameButInterest c (startReadInLoop c) := by
  constructor
  · unfold stopReadInLoop; split
    · exact ⟨rfl, rfl, rfl, rfl, rfl, rfl, rfl, rfl, rfl, rfl, rfl, rfl, rfl, rfl, rfl, rfl, rfl, rfl,
        chanUpdate_evWrite _ _⟩
    · exact ⟨rfl, rfl, rfl, rfl, rfl, rfl, rfl, rfl, rfl, rfl, rfl, rfl, rfl, rfl, rfl, rfl, rfl, rfl, rfl⟩
  · unfold startReadInLoop; split
    · exact ⟨rfl, rfl, rfl, rfl, rfl, rfl, rfl, rfl, rfl, rfl, rfl, rfl, rfl, rfl, rfl, rfl, rfl, rfl,
        chanUpdate_evWrite _ _⟩
    · exact ⟨rfl, rfl, rfl, rfl, rfl, rfl, rfl, rfl, rfl, rfl, rfl, rfl, rfl, rfl, rfl, rfl, rfl, rfl, rfl⟩

theorem stopStart_read_interest (c : Conn) (hu : c.st = .kConnected ∨ c.st = .kDisconnecting) :
    (stopReadInLoop c).ch.evRead = false ∧ (stopReadInLoop c).reading = false ∧
    (startReadInLoop c).ch.evRead = true ∧ (startReadInLoop c).reading = true := by
  refine ⟨?_, ?_, ?_, ?_⟩
  · unfold stopReadInLoop; split
    · exact chanUpdate_evRead _ _
    · rename_i hg; exact Bool.eq_false_iff.mpr fun h => hg ⟨hu, Or.inr h⟩
  · unfold stopReadInLoop; split
    · rfl
    · rename_i hg; exact Bool.eq_false_iff.mpr fun h => hg ⟨hu, Or.inl h⟩
  · unfold startReadInLoop; split
    · exact chanUpdate_evRead _ _
    · rename_i hg; exact Decidable.byContradiction fun h => hg ⟨hu, Or.inr h⟩
  · unfold startReadInLoop; split
    · rfl
    · rename_i hg; exact Decidable.byContradiction fun h => hg ⟨hu, Or.inl h⟩

/-- the message callback is shown the whole unconsumed input, the new bytes included: its
`readable` and content hash are those of `inBuf ++` the bytes just read -/
theorem msg_sees_tail (c : Conn) (n : Nat) :
    let seen := c.inBuf ++ c.peerPending.take (n+1)
    c.trace ++ [Ev.msg seen.length (fnv64 seen)] <+: (handleReadRes c (.got (n+1))).trace := by
  intro seen
  simp only [handleReadRes]
  obtain ⟨s, hs, -⟩ := callback_trace (deliver c (n+1)) .msg (.msg (deliver c (n+1)).inBuf.length (fnv64 (deliver c (n+1)).inBuf))
  show _ <+: (callback (deliver c (n+1)) .msg (.msg (deliver c (n+1)).inBuf.length (fnv64 (deliver c (n+1)).inBuf))).trace
  rw [hs]
  exact ⟨s, by simp [deliver, seen]⟩

example : Fresh ({} : Conn) := fresh_default .epoll true true true (64 * 1024 * 1024) (1 <<< 40) [] [] []

/-- the peer writes 5 bytes in two pieces, one `readv` gets 4, the callback retrieves 2 -/
example :
    let c := run (step {} .establish) [.setRetrieve 2, .peerWrite [1,2,3], .peerWrite [4,5], .envRead (.got 4), .iter [.conn 1]]
    c.delivered = [1,2,3,4] ∧ c.peerPending = [5] ∧ c.peerAll = [1,2,3,4,5] ∧ c.inBuf = [3,4]
      ∧ c.trace = [.up, .sysReadv (.got 4), .msg 4 (fnv64 [1,2,3,4])] := by decide

end MuduoVerif.Conn
