import MuduoVerif.Proofs.ConnStream
/-!
What a transient fault at the socket boundary does to a connection (C11): handler by handler,
for **every** state (no reachability hypothesis), and iteration by iteration for a connection
whose loop is otherwise idle.
-/
namespace MuduoVerif.Conn.Fault
open MuduoVerif.Conn MuduoVerif.Gen.Conn

theorem handleWrite_fault (c : Conn) (r : WriteRes) (hw : c.ch.evWrite = true) (hp : peekWrite c = r)
    (hr : (∃ e, r = .err e) ∨ r = .took 0) :
    handleWrite c = emit (popWrite c) (.sysWrite c.outBuf.length r) := by
  rw [handleWrite_eq, if_pos hw, popWrite_eq]
  rcases hr with ⟨e, rfl⟩ | rfl <;> simp [drainsNow, hp, emit, WriteRes.taken]

theorem handleRead_fault (c : Conn) (e : Nat) (hp : peekRead c = .err e) :
    handleRead c = emit (popRead c) (.sysReadv (.err e)) := by
  unfold handleRead
  rw [hp]; rfl

theorem sendInLoop_rest (c : Conn) (data : Bytes) (q : Bool) (r : WriteRes)
    (hst : c.st ≠ .kDisconnected) (hw : c.ch.evWrite = false) (ho : c.outBuf = []) (hp : peekWrite c = r)
    (hr : r.drops = false) (hk : r.taken < data.length) :
    let c' := sendInLoop c data q
    c'.outBuf = data.drop r.taken ∧ c'.ch.evWrite = true ∧ c'.wrote = c.wrote ++ data.take r.taken ∧
    c'.discarded = c.discarded ∧ c'.accepted = c.accepted ++ data ∧ c'.st = c.st ∧
    c'.trace = c.trace ++ [.sysWrite data.length r] := by
  subst hp
  have hd : directWrite c.ch.evWrite c.outBuf.length := by simp [directWrite, hw, ho]
  have hu : unsent c data = data.drop (peekWrite c).taken := by rw [unsent, if_neg hst, if_pos hd, hr]; rfl
  have hs := sendInLoop_data c data q hst
  have h3 := hs.direct
  rw [if_pos hd] at h3
  exact ⟨by rw [hs.outBuf, hu, ho]; rfl, hs.evWrite.mpr (Or.inr (by rw [hu, Ne, List.drop_eq_nil_iff]; omega)), h3.wrote,
    by rw [h3.discarded, hr]; simp, hs.accepted, hs.st, h3.trace⟩

/-- the loop has nothing else to do for this connection: no queued functor, no unconsumed environment result,
the owner holds the connection -/
structure Quiet (c : Conn) : Prop where
  notDead : c.dead = false
  alive : c.alive = true
  owner : c.owner = true
  noPending : c.pending = []
  noBatch : c.batch = []
  noWrites : c.writes = []
  noReads : c.reads = []

theorem drainPending_quiet (c : Conn) (h1 : c.pending = []) (h2 : c.batch = []) : drainPending c = c := by
  unfold drainPending
  rw [h1, h2]
  simp only [List.append_nil, List.length_nil, runBatch]
  cases c; simp_all

theorem maybeDestroy_owned (c : Conn) (h : c.owner = true) : maybeDestroy c = c := by
  unfold maybeDestroy; simp [h]

/-- **an interrupted poll** (`EINTR`: no active channel) on an idle loop is the identity -/
theorem iter_eintr (c : Conn) (h1 : c.pending = []) (h2 : c.batch = []) (h3 : c.owner = true ∨ c.alive = false) :
    iter c [] = c := by
  unfold iter
  split
  · rfl
  · simp only [List.foldl_nil, drainPending_quiet c h1 h2]
    split
    · rfl
    · rcases h3 with h | h
      · exact maybeDestroy_owned c h
      · unfold maybeDestroy; simp [h]

/-- one loop iteration hit by a transient fault -/
inductive FaultIter
  | write (errno : Nat)   -- the socket is reported writable, `write` fails
  | read (errno : Nat)    -- the socket is reported readable, `readv` fails
  | eintr                 -- `poll`/`epoll_wait` itself is interrupted
deriving DecidableEq, Repr

def FaultIter.inputs : FaultIter → List Input
  | .write e => [.envWrite (.err e), .iter [.conn 4]]
  | .read e => [.envRead (.err e), .iter [.conn 1]]
  | .eintr => [.iter []]

/-- what the iteration records (system calls only: no callback, no abort, no close) -/
def FaultIter.evs (c : Conn) : FaultIter → List Ev
  | .write e => [.sysWrite c.outBuf.length (.err e)]
  | .read e => [.sysReadv (.err e)]
  | .eintr => []

/-- the poller reports writability / readability only to a channel that asked for it -/
def FaultIter.applicable (c : Conn) : FaultIter → Prop
  | .write _ => c.ch.evWrite = true
  | .read _ => c.ch.evRead = true
  | .eintr => True

theorem handleEvent_pollin (c : Conn) (ha : c.alive = true) (hd : c.dead = false) (hr : c.ch.evRead = true) :
    handleEvent c 1 = handleRead c := by
  unfold handleEvent
  rw [if_neg (by simp [ha])]
  have h1 : ¬ dispClose 1 := by decide
  have h2 : dispRead 1 := by decide
  have h3 : ¬ dispWrite 1 := by decide
  simp only [guarded, h1, h2, h3, false_and, if_false, true_and]
  rw [if_pos ⟨by simp [dispReadSub, hr], hd⟩]

theorem iter_quiet {c1 c : Conn} {e : Ev} {r : Nat} (hd : c1.dead = false) (hq : Quiet c)
    (he : handleEvent c1 r = emit c e) : iter c1 [.conn r] = emit c e := by
  unfold iter
  rw [if_neg (by simp [hd])]
  simp only [List.foldl, dispatch, if_neg (show ¬ (c1.dead = true) by simp [hd]), he]
  rw [drainPending_quiet (emit c e) hq.noPending hq.noBatch, if_neg (by simp [emit, hq.notDead]),
    maybeDestroy_owned (emit c e) hq.owner]

theorem faultIter_run (c : Conn) (hq : Quiet c) (f : FaultIter) (ha : f.applicable c) :
    run c f.inputs = { c with trace := c.trace ++ f.evs c } := by
  cases f with
  | write e =>
    have e4 : peekWrite { c with writes := c.writes ++ [WriteRes.err e] } = .err e := by
      simp [peekWrite, hq.noWrites]
    -- `Quiet`: no result was queued before, so the one the environment appends is the one the handler consumes
    have e5 : popWrite { c with writes := c.writes ++ [WriteRes.err e] } = c := by
      have := hq.noWrites; simp only [popWrite]; cases c; simp_all
    simp only [FaultIter.inputs, FaultIter.evs, run, List.foldl, step]
    refine iter_quiet (c1 := { c with writes := c.writes ++ [WriteRes.err e] }) (c := c) hq.notDead hq ?_
    rw [handleEvent_pollout { c with writes := c.writes ++ [WriteRes.err e] } hq.notDead (by simp [hq.alive]),
      handleWrite_fault { c with writes := c.writes ++ [WriteRes.err e] } _ ha e4 (Or.inl ⟨e, rfl⟩), e5]
  | read e =>
    have e4 : peekRead { c with reads := c.reads ++ [ReadRes.err e] } = .err e := by
      simp [peekRead, hq.noReads]
    have e5 : popRead { c with reads := c.reads ++ [ReadRes.err e] } = c := by
      have := hq.noReads; simp only [popRead]; cases c; simp_all
    simp only [FaultIter.inputs, FaultIter.evs, run, List.foldl, step]
    refine iter_quiet (c1 := { c with reads := c.reads ++ [ReadRes.err e] }) (c := c) hq.notDead hq ?_
    rw [handleEvent_pollin { c with reads := c.reads ++ [ReadRes.err e] } hq.alive hq.notDead ha,
      handleRead_fault _ e e4, e5]
  | eintr =>
    simp only [FaultIter.inputs, FaultIter.evs, run, List.foldl, step, List.append_nil]
    exact iter_eintr c hq.noPending hq.noBatch (Or.inl hq.owner)

theorem quiet_trace (c : Conn) (t : List Ev) (h : Quiet c) : Quiet { c with trace := t } :=
  ⟨h.notDead, h.alive, h.owner, h.noPending, h.noBatch, h.noWrites, h.noReads⟩

/-- **fault_cost**: `k` consecutive fault iterations on an idle loop cost exactly `k` iterations and change
nothing: every field of the connection (state word, both buffers, interest set, queues, ghost history) is as
before; the trace gains one record per failed system call — no callback, no close, no abort -/
theorem fault_cost (c : Conn) (hq : Quiet c) (fs : List FaultIter) (ha : ∀ f ∈ fs, f.applicable c) :
    run c (fs.flatMap FaultIter.inputs) = { c with trace := c.trace ++ fs.flatMap (FaultIter.evs c) } := by
  induction fs generalizing c with
  | nil => simp [run]
  | cons f fs ih =>
    rw [List.flatMap_cons, run_append, faultIter_run c hq f (ha f (by simp))]
    rw [ih _ (quiet_trace c _ hq)]
    · simp only [List.flatMap_cons, List.append_assoc]
      congr 2
    · intro g hg
      have := ha g (List.mem_cons_of_mem _ hg)
      cases g <;> exact this

theorem faultIter_evs_quiet (c : Conn) (f : FaultIter) :
    ∀ e ∈ f.evs c, (∃ n r, e = .sysWrite n r) ∨ (∃ r, e = .sysReadv r) := by
  intro e he
  cases f with
  | write x => simp [FaultIter.evs] at he; exact Or.inl ⟨_, _, he⟩
  | read x => simp [FaultIter.evs] at he; exact Or.inr ⟨_, he⟩
  | eintr => simp [FaultIter.evs] at he

/-! ### The write handler without write interest; no proof uses it -/

theorem handleWrite_idle (c : Conn) (hw : c.ch.evWrite = false) : handleWrite c = c := by
  rw [handleWrite_eq, if_neg (by simp [hw])]

end MuduoVerif.Conn.Fault
