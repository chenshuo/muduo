import MuduoVerif.Model.Codec
/-!
Lemmas for `delivered_messages_are_fresh` (C18): with a message object per parsed frame (`perFrame = true`) every
pointer the consumer was handed refers to an object of its own, and no later frame of the same `onMessage` call writes
to it.  Invariant: the handed-out objects are distinct and older than the allocation counter; a new frame is parsed
into object number `allocs`, which nobody holds.
-/
namespace MuduoVerif.Codec
open MuduoVerif.Gen.Codec

/-- the pointers handed out so far are distinct and were all allocated before now -/
structure Heap.Inv (h : Heap) : Prop where
  handed_lt : ∀ o ∈ h.handed, o < h.allocs
  nodup : h.handed.Nodup

theorem content_parseFrame_old (h : Heap) (c : Option Bytes) (dl : Bool) (o : Nat) (ho : o < h.allocs) :
    (h.parseFrame true c dl).content o = h.content o := by
  have hne : (h.allocs == o) = false := by
    simp only [beq_eq_false_iff_ne, ne_eq]; omega
  simp [Heap.content, Heap.parseFrame, hne]

theorem content_parseFrame_new (h : Heap) (c : Option Bytes) (dl : Bool) :
    (h.parseFrame true c dl).content h.allocs = c := by
  simp [Heap.content, Heap.parseFrame]

theorem inv_parseFrame (h : Heap) (hI : h.Inv) (c : Option Bytes) (dl : Bool) : (h.parseFrame true c dl).Inv := by
  constructor
  · intro o ho
    cases dl <;> simp [Heap.parseFrame] at ho ⊢
    · have := hI.handed_lt o ho; omega
    · rcases ho with ho | ho
      · have := hI.handed_lt o ho; omega
      · omega
  · cases dl <;> simp [Heap.parseFrame]
    · exact hI.nodup
    · rw [List.nodup_append]
      refine ⟨hI.nodup, by simp, ?_⟩
      intro a ha b hb
      simp at hb; subst hb
      have := hI.handed_lt a ha; omega

theorem held_parseFrame (h : Heap) (hI : h.Inv) (c : Option Bytes) (dl : Bool) :
    (h.parseFrame true c dl).held.map (·.2) = h.held.map (·.2) ++ (if dl then [c] else []) := by
  have hold : ∀ o ∈ h.handed, (h.parseFrame true c dl).content o = h.content o :=
    fun o ho => content_parseFrame_old h c dl o (hI.handed_lt o ho)
  have hnew := content_parseFrame_new h c dl
  have hmap : h.handed.map (fun o => (h.parseFrame true c dl).content o) = h.handed.map (fun o => h.content o) :=
    List.map_congr_left hold
  cases dl
  · have hh : (h.parseFrame true c false).handed = h.handed := by simp [Heap.parseFrame]
    simp only [Heap.held, List.map_map, hh, Bool.false_eq_true, if_false, List.append_nil]
    exact hmap
  · have hh : (h.parseFrame true c true).handed = h.handed ++ [h.allocs] := by simp [Heap.parseFrame]
    simp only [Heap.held, List.map_map, hh, List.map_append, if_true, List.map_cons, List.map_nil]
    show List.map (fun o => (h.parseFrame true c true).content o) h.handed ++ [(h.parseFrame true c true).content h.allocs] = _
    rw [hmap, hnew]
    rfl

theorem heapOf_perFrame (evs : List Event) : ∀ (h : Heap), h.Inv →
    (heapOf true h evs).Inv ∧
    (heapOf true h evs).held.map (·.2) = h.held.map (·.2) ++ (delivered evs).map some := by
  induction evs with
  | nil => intro h hI; exact ⟨hI, by simp [heapOf, delivered]⟩
  | cons e es ih =>
    intro h hI
    cases e with
    | msg p =>
      have := ih _ (inv_parseFrame h hI (some p) true)
      refine ⟨this.1, ?_⟩
      simp only [heapOf, delivered]
      rw [this.2, held_parseFrame h hI]
      simp
    | err e =>
      simp only [heapOf, delivered]
      split
      · have := ih _ (inv_parseFrame h hI none false)
        refine ⟨this.1, ?_⟩
        rw [this.2, held_parseFrame h hI]
        simp
      · exact ih h hI

theorem Heap.inv_empty : ({} : Heap).Inv := ⟨by simp, by simp⟩

theorem held_fst (h : Heap) : h.held.map (·.1) = h.handed := by
  simp only [Heap.held, List.map_map]
  exact (List.map_congr_left (fun _ _ => rfl)).trans (List.map_id _)

end MuduoVerif.Codec
