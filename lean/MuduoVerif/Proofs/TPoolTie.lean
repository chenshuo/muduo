import MuduoVerif.Model.TPool
/-!
# T1 tie for `ThreadPool` (C15)

`Declared.pool_*` is the statement skeleton each method is modelled with; `tie_pool_*` show that the
skeleton extracted from /repo's current `ThreadPool.cc` is exactly that one (see Proofs/MonitorTie.lean
for the conventions).  Below them: what `Model/TPool.lean` reads off the skeletons, and the generated
guards in the form the proofs use.
-/
namespace MuduoVerif.Monitor
open MuduoVerif.MonitorSkel
open MuduoVerif.Generated.Monitor

namespace Declared
def pool_stop : List Stmt :=
  [.lock, .act "operator= running_", .notifyAll "notEmpty_", .notifyAll "notFull_", .unlock, .forBegin, .act "join", .forEnd]
def pool_run : List Stmt :=
  [.ifBegin, .act "operator()", .elseBegin, .lock, .whileWait "notFull_", .ifBegin, .ret, .ifEnd,
   .act "push_back queue_", .notify "notEmpty_", .unlock, .ifEnd]
def pool_take : List Stmt :=
  [.lock, .whileWait "notEmpty_", .ifBegin, .act "operator= queue_", .act "pop_front queue_", .ifBegin,
   .notify "notFull_", .ifEnd, .ifEnd, .ret, .unlock]
def pool_isFull : List Stmt := [.act "assertLocked mutex_", .act "return maxQueueSize_ queue_", .ret]
def pool_runInThread : List Stmt :=
  [.ifBegin, .act "operator() threadInitCallback_", .ifEnd, .point, .whileBegin, .act "decl task take",
   .ifBegin, .act "operator()", .ifEnd, .point, .whileEnd]
end Declared

theorem tie_pool_stop : pool_stop = Declared.pool_stop := rfl
theorem tie_pool_run : pool_run = Declared.pool_run := rfl
theorem tie_pool_take : pool_take = Declared.pool_take := rfl
theorem tie_pool_isFull : pool_isFull = Declared.pool_isFull := rfl
theorem tie_pool_runInThread : pool_runInThread = Declared.pool_runInThread := rfl


theorem pool_runW : waitOf pool_run = some ⟨true, .notFull⟩ := by rw [tie_pool_run]; decide
theorem pool_runN : notifsOf pool_run = [⟨false, .notEmpty⟩] := by rw [tie_pool_run]; decide
theorem pool_takeW : waitOf pool_take = some ⟨true, .notEmpty⟩ := by rw [tie_pool_take]; decide
theorem pool_takeN : notifsOf pool_take = [⟨false, .notFull⟩] := by rw [tie_pool_take]; decide
theorem pool_stopN : notifsOf pool_stop = [⟨true, .notEmpty⟩, ⟨true, .notFull⟩] := by rw [tie_pool_stop]; decide

theorem pool_isFull_iff (size maxq : Nat) : pool_isFull_ret size maxq ↔ 0 < maxq ∧ maxq ≤ size := by
  unfold pool_isFull_ret; omega


namespace PState
variable (s : PState)
theorem g_run_g1 : s.g pool_run_g1 = decide (s.n = 0) := by simp [PState.g, pool_run_g1]
theorem g_run_g2 : s.g pool_run_g2 = decide ((0 < s.maxq ∧ s.maxq ≤ s.q.length) ∧ s.running = true) := by
  simp [PState.g, pool_run_g2, pool_isFull_ret]
theorem g_run_g3 : s.g pool_run_g3 = !s.running := by cases h : s.running <;> simp [PState.g, pool_run_g3, h]
theorem g_take_g1 : s.g pool_take_g1 = decide (s.q.length = 0 ∧ s.running = true) := by simp [PState.g, pool_take_g1]
theorem g_take_g2 : s.g pool_take_g2 = decide (s.q.length ≠ 0) := by simp [PState.g, pool_take_g2]
theorem g_take_g3 : s.g pool_take_g3 = decide (0 < s.maxq) := by simp [PState.g, pool_take_g3]
theorem g_loop_g2 : s.g pool_runInThread_g2 = s.running := by cases h : s.running <;> simp [PState.g, pool_runInThread_g2, h]
theorem g_loop_g3 : s.g pool_runInThread_g3 (taskValid := true) = true := by simp [PState.g, pool_runInThread_g3]
end PState

end MuduoVerif.Monitor
