import MuduoVerif.Model.Monitor
/-!
# T1 tie for the blocking queues and the latch (C14; the ThreadPool part is Proofs/TPoolTie.lean)

`Declared.*` is the statement skeleton each method is *modelled* with; the theorems `tie_*` show that
the skeleton extracted from /repo's current sources (`Generated/Monitor.lean`) is exactly that one
(lock scope, `while` vs `if` around the wait, the condition waited on, `notify` vs `notifyAll`, the
position of every notification relative to the mutation, reads outside the lock).  Below them: what the
transition systems read off the skeletons (`waitOf`, `notifsOf`) and the generated guards in the form the proofs
use.  A source change that alters any of it breaks this file and with it every theorem of `Props/C14.lean`.
-/
namespace MuduoVerif.Monitor
open MuduoVerif.MonitorSkel
open MuduoVerif.Generated.Monitor

namespace Declared
def bq_put : List Stmt := [.lock, .act "push_back queue_", .notify "notEmpty_", .unlock]
def bq_take : List Stmt :=
  [.lock, .whileWait "notEmpty_", .act "decl front queue_", .act "pop_front queue_", .ret, .unlock]
def bq_drain : List Stmt := [.lock, .act "operator= queue_", .unlock, .ret]
def q_size : List Stmt := [.lock, .act "return size queue_", .ret, .unlock]
def bbq_put : List Stmt := [.lock, .whileWait "notFull_", .act "push_back queue_", .notify "notEmpty_", .unlock]
def bbq_take : List Stmt :=
  [.lock, .whileWait "notEmpty_", .act "decl front queue_", .act "pop_front queue_", .notify "notFull_", .ret, .unlock]
def bbq_empty : List Stmt := [.lock, .act "return empty queue_", .ret, .unlock]
def bbq_full : List Stmt := [.lock, .act "return full queue_", .ret, .unlock]
def bbq_capacity : List Stmt := [.lock, .act "return capacity queue_", .ret, .unlock]
def latch_wait : List Stmt := [.lock, .whileWait "condition_", .unlock]
def latch_countDown : List Stmt := [.lock, .act "-- count_", .ifBegin, .notifyAll "condition_", .ifEnd, .unlock]
def latch_getCount : List Stmt := [.lock, .act "return count_", .ret, .unlock]
end Declared

theorem tie_bq_put_copy : bq_put_copy = Declared.bq_put := rfl
theorem tie_bq_put_move : bq_put_move = Declared.bq_put := rfl
theorem tie_bq_take : bq_take = Declared.bq_take := rfl
theorem tie_bq_drain : bq_drain = Declared.bq_drain := rfl
theorem tie_bq_size : bq_size = Declared.q_size := rfl
theorem tie_bbq_put_copy : bbq_put_copy = Declared.bbq_put := rfl
theorem tie_bbq_put_move : bbq_put_move = Declared.bbq_put := rfl
theorem tie_bbq_take : bbq_take = Declared.bbq_take := rfl
theorem tie_bbq_empty : bbq_empty = Declared.bbq_empty := rfl
theorem tie_bbq_full : bbq_full = Declared.bbq_full := rfl
theorem tie_bbq_size : bbq_size = Declared.q_size := rfl
theorem tie_bbq_capacity : bbq_capacity = Declared.bbq_capacity := rfl
theorem tie_latch_wait : latch_wait = Declared.latch_wait := rfl
theorem tie_latch_countDown : latch_countDown = Declared.latch_countDown := rfl
theorem tie_latch_getCount : latch_getCount = Declared.latch_getCount := rfl


theorem putF_bounded (v : Nat) : methF (putSkel true v) = ⟨some ⟨true, .notFull⟩, [⟨false, .notEmpty⟩]⟩ := by
  simp only [putSkel, if_true, tie_bbq_put_copy, tie_bbq_put_move, ite_self]; decide
theorem putF_unbounded (v : Nat) : methF (putSkel false v) = ⟨none, [⟨false, .notEmpty⟩]⟩ := by
  simp only [putSkel, Bool.false_eq_true, if_false, tie_bq_put_copy, tie_bq_put_move, ite_self]; decide
theorem takeF_bounded : methF (takeSkel true) = ⟨some ⟨true, .notEmpty⟩, [⟨false, .notFull⟩]⟩ := by
  simp [takeSkel, tie_bbq_take]; decide
theorem takeF_unbounded : methF (takeSkel false) = ⟨some ⟨true, .notEmpty⟩, []⟩ := by
  simp [takeSkel, tie_bq_take]; decide
theorem latch_waitF : waitOf latch_wait = some ⟨true, .notEmpty⟩ := by rw [tie_latch_wait]; decide
theorem latch_countDownF : notifsOf latch_countDown = [⟨true, .notEmpty⟩] := by rw [tie_latch_countDown]; decide


theorem putGuard_some (c v n : Nat) : putGuard (some c) v n = decide (n = c) := by
  simp only [putGuard, bbq_put_copy_g1, bbq_put_move_g1, ite_self]
theorem putGuard_none (v n : Nat) : putGuard none v n = false := rfl
theorem takeGuard_eq (cap : Option Nat) (n : Nat) : takeGuard cap n = decide (n = 0) := by
  unfold takeGuard; cases cap <;> simp [bq_take_g1, bbq_take_g1]
theorem latch_wait_guard (c : Int) : latch_wait_g1 c ↔ 0 < c := by unfold latch_wait_g1; omega
theorem latch_countDown_guard (c : Int) : latch_countDown_g1 c ↔ c = 0 := by unfold latch_countDown_g1; omega
end MuduoVerif.Monitor
