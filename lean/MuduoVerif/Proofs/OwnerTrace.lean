import MuduoVerif.Proofs.OwnerInv
import MuduoVerif.Proofs.Fold
import Mathlib.Data.List.Induction
/-! What the per-connection automaton (`life`) implies about a trace it accepts: event counts and the position of
each event. -/
namespace MuduoVerif.Owner

theorem autoStep_some {q a : Auto} {k : Kind} (h : autoStep q k = some a) :
    match (generalizing := false) k with
    | .new => a = { q with born := true } ∧ q.born = false
    | .up => a = { q with cb := .up } ∧ q.born = true ∧ q.cb = .init ∧ q.dead = false
    | .msg => a = q ∧ q.cb = .up ∧ q.dead = false
    | .down => a = { q with cb := .down } ∧ q.cb = .up ∧ q.dead = false
    | .closeCb => a = q ∧ q.cb = .down ∧ q.dead = false
    | .erase => a = { q with erased := true } ∧ q.cb = .down ∧ q.erased = false
    | .destroyed => a = { q with destroyed := true } ∧ q.cb = .down ∧ q.destroyed = false ∧ q.dead = false
    | .dtor => a = { q with dead := true } ∧ q.destroyed = true ∧ q.dead = false
    | .uaf | .eraseMiss | .abort => False := by
  cases k <;> simp [autoStep] at h <;> simp [← h.2, h.1]

theorem autoStep_ne_init (a : Auto) (k : Kind) : autoStep a k ≠ some {} := by
  intro h
  cases k <;> simp [autoStep] at h <;> simp [h.2] at h

theorem life_induction {c : Nat} {P : List Ev → Auto → Prop} (h0 : P [] {})
    (hstep : ∀ tr q a k l, P tr q → autoStep q k = some a → P (tr ++ [⟨c, k, l⟩]) a)
    (hskip : ∀ tr a e, P tr a → e.conn ≠ c → P (tr ++ [e]) a) : ∀ tr a, life c tr = some a → P tr a := by
  intro tr
  induction tr using List.reverseRecOn with
  | nil => rintro a ⟨⟩; exact h0
  | append_singleton tr e ih =>
    intro a h
    rw [life_snoc, lifeStep] at h
    split at h
    · next hc =>
      cases hq : life c tr with
      | none => rw [hq] at h; cases h
      | some q => rw [hq] at h; subst hc; exact hstep tr q a e.kind e.loop (ih q hq) h
    · next hc => exact hskip tr a e (ih a h) hc

theorem no_event_of_life_init (c : Nat) (tr : List Ev) (h : life c tr = some {}) : ∀ e ∈ tr, e.conn ≠ c := by
  refine life_induction (P := fun tr a => a = {} → ∀ e ∈ tr, e.conn ≠ c) ?_ ?_ ?_ tr _ h rfl
  · intro _ e he; cases he
  · intro _ q _ k _ _ hs ha; exact absurd (ha ▸ hs) (autoStep_ne_init q k)
  · exact fun tr a x ih hx ha => List.forall_mem_append.mpr ⟨ih ha, List.forall_mem_singleton.mpr hx⟩

def cntK (c : Nat) (k : Kind) (tr : List Ev) : Nat := (tr.filter (fun e => e.conn == c && e.kind == k)).length

theorem cntK_snoc (c : Nat) (k : Kind) (tr : List Ev) (e : Ev) :
    cntK c k (tr ++ [e]) = cntK c k tr + (if e.conn = c ∧ e.kind = k then 1 else 0) := by
  simp only [cntK, List.filter_append, List.length_append, List.filter_cons, List.filter_nil, Bool.and_eq_true, beq_iff_eq]
  split <;> rfl

/-- what it means, in counts of the events of `c`, that `life` accepts `tr` and ends in `a` -/
structure LifeCounts (c : Nat) (tr : List Ev) (a : Auto) : Prop where
  new : cntK c .new tr = a.born.toNat
  up : cntK c .up tr = (if a.cb = .init then 0 else 1)
  down : cntK c .down tr = (if a.cb = .down then 1 else 0)
  erase : cntK c .erase tr = a.erased.toNat
  destroyed : cntK c .destroyed tr = a.destroyed.toNat
  dtor : cntK c .dtor tr = a.dead.toNat
  destroyed_down : a.destroyed = true → a.cb = .down

theorem life_counts {c : Nat} : ∀ tr a, life c tr = some a → LifeCounts c tr a := by
  refine life_induction ?_ ?_ ?_
  · constructor <;> simp [cntK]
  · intro tr q a k l ih hs
    have := autoStep_some hs
    obtain ⟨h1, h2, h3, h4, h5, h6, hw⟩ := ih
    cases k <;> obtain ⟨rfl, hg⟩ := this <;> constructor <;> simp_all [cntK_snoc]
  · intro tr a e ih hc
    have hk : ∀ k, cntK c k (tr ++ [e]) = cntK c k tr := fun k => by simp only [cntK_snoc, hc, false_and, if_false, Nat.add_zero]
    refine ⟨?_, ?_, ?_, ?_, ?_, ?_, ih.destroyed_down⟩ <;> rw [hk]
    exacts [ih.new, ih.up, ih.down, ih.erase, ih.destroyed, ih.dtor]

theorem life_letter {c : Nat} {pre post : List Ev} {e : Ev} {x : Auto} (h : life c (pre ++ e :: post) = some x) (hc : e.conn = c) :
    ∃ q q', life c pre = some q ∧ autoStep q e.kind = some q' := by
  obtain ⟨q, q', hq, hs⟩ := foldl_letter (f := lifeStep c) (fun e => by simp [lifeStep]) h
  exact ⟨q, q', hq, by simpa [lifeStep, hc] using hs⟩

/-- where an event stands in an accepted trace: the guard of `autoStep`, in terms of what came before; the kind is a
hypothesis of its own, so that at a given kind the `match` reduces -/
theorem life_guard {c : Nat} {pre post : List Ev} {e : Ev} {x : Auto} (h : life c (pre ++ e :: post) = some x)
    (hc : e.conn = c) {k : Kind} (hk : e.kind = k) :
    match (generalizing := false) k with
    | .new => cntK c .new pre = 0
    | .up => cntK c .new pre = 1 ∧ cntK c .up pre = 0
    | .msg | .down => cntK c .up pre = 1 ∧ cntK c .down pre = 0
    | .closeCb => cntK c .down pre = 1 ∧ cntK c .dtor pre = 0
    | .erase => cntK c .down pre = 1 ∧ cntK c .erase pre = 0
    | .destroyed => cntK c .down pre = 1 ∧ cntK c .destroyed pre = 0
    | .dtor => cntK c .down pre = 1 ∧ cntK c .destroyed pre = 1 ∧ cntK c .dtor pre = 0
    | .uaf | .eraseMiss | .abort => False := by
  obtain ⟨q, q', hq, hs⟩ := life_letter h hc
  have hn := life_counts _ _ hq
  rw [hn.new, hn.up, hn.down, hn.erase, hn.destroyed, hn.dtor]
  rw [hk] at hs
  have := autoStep_some hs
  cases k <;> obtain ⟨-, hg⟩ := this <;> simp [hg, hn.destroyed_down]

theorem cntK_eq_zero {c : Nat} {k : Kind} {tr : List Ev} (h : ∀ e ∈ tr, e.conn = c → e.kind ≠ k) : cntK c k tr = 0 := by
  unfold cntK; rw [List.length_eq_zero_iff, List.filter_eq_nil_iff]
  intro e he; simpa using h e he

theorem life_never {c : Nat} {tr : List Ev} {a : Auto} (h : life c tr = some a) {k : Kind} (hk : ∀ q, autoStep q k = none) :
    cntK c k tr = 0 :=
  cntK_eq_zero fun e he hc hek => by
    obtain ⟨pre, post, rfl⟩ := List.append_of_mem he
    obtain ⟨q, q', _, hs⟩ := life_letter h hc
    rw [hek, hk] at hs; cases hs

end MuduoVerif.Owner
