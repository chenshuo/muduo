import MuduoVerif.Proofs.OwnerConn
import MuduoVerif.Proofs.OwnerTrace
import MuduoVerif.Proofs.Pool
/-! Every step keeps the invariant.  It is carried together with the configuration the run started from (`GInvC`, `Same`); a
step that concerns one connection goes through `GInvC.local` / `GInvC.eff`: its own `CInv` from `OwnerConn.lean`, everything
else by `Agree`.  `~TcpServer` is a fold with the intermediate invariant `DInv`.  `ginv_step` and `ginv_run` ask that
`~EventLoop` never drops an `est`/`des` functor (`StrandOK`, `GoodSched`; shown to hold for every schedule in
`OwnerStrand.lean`). -/
namespace MuduoVerif.Owner
open MuduoVerif.Gen.Owner
open MuduoVerif.Gen.Conn (StateE forceCloseAccepts shutdownAccepts forceCloseInLoopActs destroyedWhileConnected)

theorem GRest.ext {s s' : Srv} (h : GRest s) (he : Ext s s') : GRest s' := by
  obtain ⟨evs, htr, haff⟩ := he.trace
  refine ⟨h.mapOK.ext he, ?_, ?_, ?_, ?_, ?_⟩
  · rw [he.nextId, he.n]; exact h.nextId
  · rw [he.pool, he.L, he.n]; exact h.pool
  · intro c hc; rw [he.n] at hc; rw [he.loop, he.L]; exact h.assigned c hc
  · intro e hem
    rw [htr] at hem
    rw [affOK_loop he.loop]
    rcases List.mem_append.mp hem with h1 | h1
    · exact h.aff e h1
    · exact haff e h1
  · intro ha
    rw [he.alive] at ha
    exact List.sublist_nil.mp (h.mapDead ha ▸ he.map)

theorem agree_fresh {s s' : Srv} {c : Nat} (h : AgreeC s s' c)
    (hf : (∀ l, ∀ t ∈ s.q l, about c t = false) ∧ life c s.trace = some {} ∧ s.conn c = {}) :
    (∀ l, ∀ t ∈ s'.q l, about c t = false) ∧ life c s'.trace = some {} ∧ s'.conn c = {} := by
  refine ⟨fun l t ht => Bool.eq_false_iff.mpr fun hab => ?_, h.life.trans hf.2.1, by rw [h.conn]; exact hf.2.2⟩
  simp [hf.1 l t ((agree_mem h hab l).mp ht)] at hab

theorem GInv.lt_of_mem {s : Srv} (h : GInv s) {c l : Nat} {t : Task} (hm : t ∈ s.q l) (hab : about c t = true) : c < s.n := by
  apply Decidable.byContradiction; intro hge
  have := (h.fresh c (by omega)).1 l t hm
  rw [hab] at this; cases this

structure Same (s s' : Srv) : Prop where
  L : s'.L = s.L
  nameOf : s'.nameOf = s.nameOf
  drain : s'.drain = s.drain
  drainRepeats : s'.drainRepeats = s.drainRepeats

theorem Same.refl (s : Srv) : Same s s := ⟨rfl, rfl, rfl, rfl⟩

theorem Same.trans {s s' s'' : Srv} (h1 : Same s s') (h2 : Same s' s'') : Same s s'' :=
  ⟨h2.L.trans h1.L, h2.nameOf.trans h1.nameOf, h2.drain.trans h1.drain, h2.drainRepeats.trans h1.drainRepeats⟩

theorem Ext.same {s s' : Srv} (h : Ext s s') : Same s s' := ⟨h.L, h.nameOf, h.drain, h.drainRepeats⟩

/-- the invariant, for a run that started with the configuration (`L`, `nameOf`, the two drain flags) of `g`: no step
assigns these fields (`EventLoopThreadPool::setThreadNum` before `start()`, the name format, the shape of
`EventLoop::loop`) -/
structure GInvC (g s : Srv) : Prop extends GInv s where
  same : Same g s

/-- a step that concerns (at most) one connection `c0` -/
theorem GInvC.local {g s s' : Srv} (h : GInvC g s) (he : Ext s s') (c0 : Nat)
    (hc0 : c0 < s.n → CInv s' c0) (hf0 : s.n ≤ c0 → AgreeC s s' c0)
    (hother : ∀ c, c ≠ c0 → Agree s s' c) : GInvC g s' := by
  refine ⟨⟨?_, ?_, h.rest.ext he⟩, h.same.trans he.same⟩
  · intro c hc
    rw [he.n] at hc
    by_cases h0 : c = c0
    · subst h0; exact hc0 hc
    · exact (h.conns c hc).agree (hother c h0)
  · intro c hc
    rw [he.n] at hc
    by_cases h0 : c = c0
    · subst h0; exact agree_fresh (hf0 hc) (h.fresh c hc)
    · exact agree_fresh (hother c h0).c (h.fresh c hc)

theorem GInvC.frame {g s s' : Srv} (h : GInvC g s) (he : Ext s s') (hag : ∀ c, Agree s s' c) : GInvC g s' :=
  h.local he 0 (fun h0 => (h.conns 0 h0).agree (hag 0)) (fun _ => (hag 0).c) (fun c _ => hag c)

theorem GInvC.eff {g s s' : Srv} (h : GInvC g s) {al : Bool} {thr c0 : Nat} (he : Eff al thr c0 s s') (hc0 : c0 < s.n)
    (hc : CInv s' c0) : GInvC g s' :=
  h.local he.ext c0 (fun _ => hc) (fun hge => absurd hc0 (by omega)) (he.others h.mapOK hc0)

variable {g : Srv}

/-- a step took references to `c0` away, at most; then the connection is destroyed if that was the last one -/
theorem ginv_reap_after {s s' : Srv} (h : GInvC g s) (he : Ext s s') (l c0 : Nat) (hmono : s'.held c0 = true → s.held c0 = true)
    (hw : c0 < s.n → ((s.conn c0).alive = false → s'.held c0 = false) → CInvW s' c0)
    (hfr : s.n ≤ c0 → AgreeC s s' c0) (hother : ∀ c, c ≠ c0 → Agree s s' c) : GInvC g (reapOne s' l c0) := by
  refine h.local (he.trans (ext_reapOne _ l c0)) c0 (fun h0 => cinv_reapOne _ _ _ (hw h0 fun hal => ?_)) (fun h0 => ?_)
    (fun c hne => (hother c hne).trans (agree_reapOne _ l (Ne.symm hne)))
  · exact Bool.eq_false_iff.mpr fun h2 =>
      absurd ((hal.symm.trans (h.conns c0 h0).alive_held).trans (hmono h2)) Bool.false_ne_true
  · -- not a connection (cannot happen): its record is not alive, nothing is destroyed
    have : reapOne s' l c0 = s' := by unfold reapOne; simp [(hfr h0).conn, h.conn_fresh h0]
    rw [this]; exact hfr h0

theorem ginv_releaseHead (s : Srv) (h : GInvC g s) (l : Nat) : GInvC g (releaseHead s l) := by
  cases hd : s.done l with
  | nil => simp [releaseHead, hd]; exact h
  | cons t rest =>
    rw [releaseHead_cons s l t rest hd]
    cases ht : t.conn? with
    | none => exact h.frame (ext_queues s _ _) fun c => agree_undone s l t rest hd c (by simp [about, ht])
    | some c0 =>
      exact ginv_reap_after h (ext_queues s _ _) l c0
        (fun h2 => held_mono h2 (fun _ _ m => m) (fun l' _ m => (sublist_tail_update hd l').subset m) rfl rfl rfl)
        (fun h0 hdf => ⟨ccore_agree (h.conns c0 h0).core { (Agree.refl s c0).c with }, hdf, (h.conns c0 h0).cause⟩)
        (fun _ => { (Agree.refl s c0).c with })
        (fun c hne => agree_undone s l t rest hd c (by simp [about, ht, Ne.symm hne]))

theorem ginv_endBatch (s : Srv) (h : GInvC g s) (l : Nat) : GInvC g (endBatch s l) :=
  iterate_inv (fun s hs => ginv_releaseHead s hs l) _ s h

theorem GInv.lt_of_alive {s : Srv} (h : GInv s) {c : Nat} (ha : (s.conn c).alive = true) : c < s.n := by
  apply Decidable.byContradiction; intro hge
  rw [h.conn_fresh (by omega)] at ha; cases ha

theorem evReady_iff {s : Srv} {c : Nat} : evReady s c = true ↔
    (s.conn c).alive = true ∧ (s.conn c).registered = true ∧ isUp (s.conn c).st = true ∧ s.exited (s.conn c).loop = false := by
  simp [evReady, and_assoc]

theorem ginv_msg (s : Srv) (h : GInvC g s) (c : Nat) : GInvC g (step s (.msg c)) := by
  simp only [step]
  split
  · rename_i hr
    obtain ⟨hal, -, hup, -⟩ := evReady_iff.mp hr
    have hcn := h.lt_of_alive hal
    obtain ⟨er, ha, -⟩ := (h.conns c hcn).core.life'
    -- the message callback leaves the automaton where it is
    have hag : Agree s (s.emit c .msg (s.conn c).loop) c :=
      { Agree.refl s c with life := by rw [life_emit_self, ha]; simp [autoStep, autoOf, clsOf_up.mpr hup, hal] }
    exact h.eff (al := true) (thr := 0) (eff_emit s .msg _ rfl) hcn ((h.conns c hcn).agree hag)
  · exact h

theorem ginv_close (s : Srv) (h : GInvC g s) (c : Nat) : GInvC g (step s (.close c)) := by
  simp only [step]
  split
  · rename_i hr
    obtain ⟨hal, -, hup, -⟩ := evReady_iff.mp hr
    have hcn := h.lt_of_alive hal
    exact h.eff ((eff_handleClose s _ c rfl).trans (eff_reapOne _ _ _ _ c)) hcn
      (cinv_reapOne _ _ c (cinv_handleClose s h.mapOK _ c hcn (h.conns c hcn).core rfl hup hal).weak)
  · exact h

theorem forceCloseDispatch_queue : MuduoVerif.Gen.Conn.forceCloseDispatch = .queue := rfl

theorem shutdownDispatch_queue : MuduoVerif.Gen.Conn.shutdownDispatch = .queue := rfl

theorem isUp_of_accepts {st : StateE} (h : forceCloseAccepts st) : isUp st = true := by
  rcases h with h1 | h1 <;> simp [isUp, h1]

/-- `forceClose()` / `shutdown()` on a connection that is up: the state becomes `kDisconnecting` and a functor `t` is queued on
the connection's loop; `z` is the ghost `cause` afterwards -/
theorem ginv_call (s : Srv) (h : GInvC g s) (c : Nat) (hal : (s.conn c).alive = true) (hup : isUp (s.conn c).st = true)
    (t : Task) (ht : t = .fcl c ∨ t = .shut c) (z : Bool) (hz : z = true → (s.conn c).cause = true ∨ t = .fcl c) :
    GInvC g ((s.setConn c { s.conn c with st := .kDisconnecting, cause := z }).enq (s.conn c).loop t) := by
  have hcn := h.lt_of_alive hal
  have hc := h.conns c hcn
  have hab : about c t = true := by rcases ht with rfl | rfl <;> simp
  refine h.eff (al := true) (thr := 1) ((eff_setConn s _ (by rfl) (by rfl)).trans (eff_enq _ _ hab
    (fun hle => .inr ⟨rfl, by simpa using hle⟩) (fun _ => by rcases ht with rfl | rfl <;> rfl))) hcn ⟨?_, ?_, ?_⟩
  · have hs : clsOf .kDisconnecting = clsOf (s.conn c).st := (clsOf_up.mpr hup).symm
    exact (hc.core.setConn hs _ z).enq (by simp) ht (fun _ => by simp)
  · have hh : (s.setConn c { s.conn c with st := .kDisconnecting, cause := z }).held c = true :=
      (held_setConn _ _ _ (by rfl)).trans (hc.alive_held.symm.trans hal)
    rw [enq_conn, setConn_conn_self]
    exact hal.trans (held_mono hh (fun _ _ m => mem_enq.mpr (.inl m)) (fun _ _ m => m) rfl rfl rfl).symm
  · intro hz'
    rw [enq_conn, setConn_conn_self] at hz' ⊢
    rcases hz hz' with h1 | rfl
    · rcases hc.cause h1 with h2 | h2 | h2
      · simp [h2, isUp] at hup
      · exact Or.inr (Or.inl (mem_enq.mpr (Or.inl h2)))
      · exact Or.inr (Or.inr (mem_enq.mpr (Or.inl h2)))
    · exact Or.inr (Or.inl (mem_enq.mpr (Or.inr ⟨rfl, rfl⟩)))

theorem ginv_forceClose (s : Srv) (h : GInvC g s) (c thr : Nat) : GInvC g (step s (.forceClose c thr)) := by
  simp only [step, forceCloseDispatch_queue, reduceCtorEq, false_and, if_false]
  split
  · rename_i hg
    exact ginv_call s h c hg.1 (isUp_of_accepts hg.2) _ (Or.inl rfl) true (fun _ => Or.inr rfl)
  · exact h

theorem ginv_shutdown (s : Srv) (h : GInvC g s) (c thr : Nat) : GInvC g (step s (.shutdown c thr)) := by
  simp only [step, shutdownDispatch_queue, reduceCtorEq, false_and, if_false]
  split
  · rename_i hg
    exact ginv_call s h c hg.1 (isUp_of_accepts (.inl hg.2)) _ (Or.inr rfl) (s.conn c).cause Or.inl
  · exact h

theorem ginv_hold (s : Srv) (h : GInvC g s) (c : Nat) : GInvC g (step s (.hold c)) := by
  simp only [step]
  split
  · rename_i hal
    have hcn := h.lt_of_alive hal
    have hc := h.conns c hcn
    refine h.eff (al := true) (thr := 0) (eff_setConn s _ (by rfl) (by rfl)) hcn ⟨hc.core.setConn rfl _ _, ?_, ?_⟩
    · unfold Srv.held; simp [hal]
    · simpa using hc.cause
  · exact h

theorem ginv_drop (s : Srv) (h : GInvC g s) (c thr : Nat) : GInvC g (step s (.drop c thr)) := by
  simp only [step]
  split
  · rename_i hu
    have hcn : c < s.n := by
      -- a record that is not a connection's has no user references
      apply Decidable.byContradiction; intro hge
      rw [h.conn_fresh (by omega)] at hu
      exact absurd hu (by decide)
    have hc := h.conns c hcn
    have hal : (s.conn c).alive = true := by
      rw [hc.alive_held]; unfold Srv.held; simp [hu]
    refine h.eff ((eff_setConn s _ (by rfl) (by rfl)).trans (eff_reapOne true 0 _ thr c)) hcn (cinv_reapOne _ _ _ ⟨hc.core.setConn rfl _ _, ?_, ?_⟩)
    · intro h1; simp [hal] at h1
    · simpa using hc.cause
  · exact h

theorem ginv_postDestroy (s : Srv) (h : GInvC g s) : GInvC g (step s .postDestroy) := by
  simp only [step]
  split
  · exact h.frame (ext_queues s _ _) (fun c => agree_enq s 0 (by simp [about, Task.conn?]))
  · exact h

/-- the record `newConnection` constructs -/
def newConn (l nm : Nat) : Conn := { loop := l, name := nm, st := .kConnecting, alive := true, fdOpen := true }

/-- the state after `newConnection` has inserted the connection into the map, before the hand-off -/
def accepted (s : Srv) (l : Nat) : Srv :=
  { s with n := s.n + 1, pool := (Pool.getNextLoop s.pool).2, nextId := s.nextId + idStep,
           conn := fun i => if i = s.n then newConn l (s.nameOf s.nextId) else s.conn i,
           map := mapInsert s.map (s.nameOf s.nextId) s.n, trace := s.trace ++ [⟨s.n, .new, 0⟩] }

theorem accept_nf (s : Srv) (ha : s.alive = true) (he : s.exited 0 = false) (hfind : mapFind s.map (s.nameOf s.nextId) = none) :
    accept s =
      (if loopIndex (Pool.getNextLoop s.pool).1 = 0 then connectEstablished (accepted s 0) 0 s.n
       else (accepted s (loopIndex (Pool.getNextLoop s.pool).1)).enq (loopIndex (Pool.getNextLoop s.pool).1) (.est s.n)) := by
  unfold accept
  simp only [ha, he, Bool.not_true, Bool.or_self, Bool.false_eq_true, if_false, hfind, establishDispatch, establishTarget, target,
    true_and, if_true, eq_comm (a := 0)]
  split
  · rename_i h'
    simp only [accepted, newConn, h', ha]
  · simp only [accepted, newConn, ha]

theorem accept_off (s : Srv) (h : ¬(s.alive = true ∧ s.exited 0 = false)) : accept s = s := by
  unfold accept
  cases ha : s.alive <;> cases he : s.exited 0 <;> simp_all

theorem picked_loop (s : Srv) (h : GInv s) : loopIndex (Pool.getNextLoop s.pool).1 = (if s.L = 0 then 0 else s.n % s.L + 1) ∧
    (Pool.getNextLoop s.pool).2 = Pool.afterNext (Pool.start s.L) (s.n + 1) := by
  rw [h.rest.pool, Pool.afterNext_start, Pool.afterNext_start, Pool.getNextLoop_state]
  exact ⟨apply_ite loopIndex _ _ _, rfl⟩

theorem picked_loop_le (s : Srv) (h : GInv s) : loopIndex (Pool.getNextLoop s.pool).1 ≤ s.L := by
  rw [(picked_loop s h).1]; split
  · omega
  · rename_i hL; have := Nat.mod_lt s.n (Nat.pos_of_ne_zero hL); omega

section accept

variable (s : Srv) (h : GInv s) (hinj : Function.Injective s.nameOf)

include h hinj

theorem name_fresh : ∀ e ∈ s.map, e.1 ≠ s.nameOf s.nextId := by
  intro e he heq
  have hlt := h.mapOK.lt e he
  rw [h.mapOK.keys e he, (h.conns e.2 hlt).core.name, h.rest.nextId] at heq
  have := Nat.eq_of_mul_eq_mul_right (by decide : 0 < idStep) (Nat.add_left_cancel (hinj heq))
  omega

theorem mapFind_fresh : mapFind s.map (s.nameOf s.nextId) = none := by
  unfold mapFind
  rw [Option.map_eq_none_iff, List.find?_eq_none]
  intro e he
  simpa using name_fresh s h hinj e he

theorem mapInsert_fresh : mapInsert s.map (s.nameOf s.nextId) s.n = (s.nameOf s.nextId, s.n) :: s.map := by
  unfold mapInsert
  congr 1
  rw [List.filter_eq_self]
  intro e he
  simpa using name_fresh s h hinj e he

theorem agree_accepted (l c : Nat) (hc : c ≠ s.n) : Agree s (accepted s l) c :=
  { Agree.refl s c with
    conn := by simp [accepted, hc]
    inMap := by
      simp only [accepted, Srv.inMap, mapInsert_fresh s h hinj, List.any_cons]
      have : (s.n == c) = false := by simpa using Ne.symm hc
      simp [this]
    life := life_emit_other s .new 0 (Ne.symm hc) }

theorem grest_accepted (l : Nat) (hl : l = if s.L = 0 then 0 else s.n % s.L + 1) (ha : s.alive = true) : GRest (accepted s l) := by
  have hm := h.mapOK
  have lt : ∀ i, i < s.n + 1 → i ≠ s.n → i < s.n := fun i a b => Nat.lt_of_le_of_ne (Nat.le_of_lt_succ a) b
  exact {
    mapOK := {
      keys := by
        intro e he
        simp only [accepted, mapInsert_fresh s h hinj, List.mem_cons] at he ⊢
        rcases he with he | he
        · subst he; simp [newConn]
        · simp only [Nat.ne_of_lt (hm.lt e he), if_false]
          exact hm.keys e he
      nodup := by
        simp only [accepted, mapInsert_fresh s h hinj, List.map_cons, List.nodup_cons]
        refine ⟨?_, hm.nodup⟩
        intro hmem
        obtain ⟨e, he, heq⟩ := List.mem_map.mp hmem
        exact name_fresh s h hinj e he heq
      lt := by
        intro e he
        simp only [accepted, mapInsert_fresh s h hinj, List.mem_cons] at he ⊢
        rcases he with he | he
        · subst he; simp
        · exact Nat.lt_succ_of_lt (hm.lt e he)
      names := by
        -- every record, the new one too, carries the name of its id
        intro c c' hc hc' heq
        have key : ∀ i, i < s.n + 1 → ((accepted s l).conn i).name = s.nameOf (idInitial + i * idStep) := fun i hi => by
          by_cases hn : i = s.n
          · simp [accepted, newConn, hn, h.rest.nextId]
          · simpa [accepted, hn] using (h.conns i (lt i hi hn)).core.name
        rw [key c hc, key c' hc'] at heq
        exact Nat.eq_of_mul_eq_mul_right (by decide : 0 < idStep) (Nat.add_left_cancel (hinj heq)) }
    nextId := by simp only [accepted]; rw [h.rest.nextId]; simp [Nat.add_mul]; omega
    pool := by simp only [accepted]; exact (picked_loop s h).2
    assigned := by
      intro c hc
      simp only [accepted] at hc ⊢
      by_cases h1 : c = s.n
      · simp [h1, newConn, hl]
      · simp only [h1, if_false]; exact h.rest.assigned c (lt c hc h1)
    aff := by
      intro e he
      simp only [accepted, List.mem_append, List.mem_singleton] at he
      rcases he with he | he
      · have hlt : e.conn < s.n := by
          apply Decidable.byContradiction; intro hge
          have hf := (h.fresh e.conn (by omega)).2.1
          exact no_event_of_life_init _ _ hf e he rfl
        have := h.rest.aff e he
        unfold AffOK at this ⊢
        simpa [accepted, Nat.ne_of_lt hlt] using this
      · subst he; simp [AffOK]
    mapDead := by intro hd; simp [accepted, ha] at hd }

end accept

/-- the hand-off that follows `newConnection`'s map insert is a handler of the new connection -/
theorem ginv_accepted (s : Srv) (h : GInvC g s) (hinj : Function.Injective s.nameOf) (l : Nat)
    (hl : l = if s.L = 0 then 0 else s.n % s.L + 1) (ha : s.alive = true) {s' : Srv} {al : Bool} {thr : Nat}
    (he : Eff al thr s.n (accepted s l) s') (hnew : CInv s' s.n) : GInvC g s' := by
  have hr := grest_accepted s h.toGInv hinj l hl ha
  have hag : ∀ c, c ≠ s.n → Agree s s' c := fun c hcn =>
    (agree_accepted s h.toGInv hinj l c hcn).trans (he.others hr.mapOK (Nat.lt_succ_self _) c hcn)
  have hn : s'.n = s.n + 1 := he.ext.n
  refine ⟨⟨fun c hc => ?_, fun c hc => agree_fresh (hag c (by omega)).c (h.fresh c (by omega)), hr.ext he.ext⟩,
    (h.same.trans (s'' := accepted s l) ⟨rfl, rfl, rfl, rfl⟩).trans he.ext.same⟩
  by_cases hcn : c = s.n
  · exact hcn ▸ hnew
  · exact (h.conns c (by omega)).agree (hag c hcn)

theorem ginv_accept (s : Srv) (h : GInvC g s) (hinj : Function.Injective s.nameOf) : GInvC g (accept s) := by
  by_cases hgo : s.alive = true ∧ s.exited 0 = false
  swap
  · rw [accept_off s hgo]; exact h
  obtain ⟨ha, he⟩ := hgo
  rw [accept_nf s ha he (mapFind_fresh s h.toGInv hinj)]
  obtain ⟨hpick, _⟩ := picked_loop s h.toGInv
  -- nobody has heard of the new connection yet
  obtain ⟨hfr, hlf, _⟩ := h.fresh s.n (Nat.le_refl _)
  have hnoq : ∀ l, ioQ (accepted s l) s.n = [] := fun l =>
    List.filter_eq_nil_iff.mpr fun t ht hio => absurd (isIo_about hio) (by simp [hfr _ t ht])
  have hlife : ∀ l, life s.n (accepted s l).trace = some { born := true } := fun l => by
    simp [accepted, life_append, lifeStep, hlf, autoStep]
  have hinm : ∀ l, (accepted s l).inMap s.n = true := by
    intro l; simp [accepted, Srv.inMap, mapInsert_fresh s h.toGInv hinj]
  have hname : s.nameOf s.nextId = s.nameOf (idInitial + s.n * idStep) := by rw [h.rest.nextId]
  have hal : ∀ l, (accepted s l).alive = true := fun _ => ha
  split
  · -- the base loop serves the connection: `connectEstablished` runs inside `newConnection`
    rename_i hl0
    have hL : s.L = 0 := by
      rw [hpick] at hl0; split at hl0 <;> omega
    have hce : connectEstablished (accepted s 0) 0 s.n =
        ((accepted s 0).setConn s.n { newConn 0 (s.nameOf s.nextId) with st := .kConnected, registered := true }).emit s.n .up 0 := by
      simp [connectEstablished, accepted, newConn]
    refine ginv_accepted s h hinj 0 (by simp [hL]) ha (eff_connectEstablished true 0 _ 0 _) ?_
    rw [hce]
    refine cinv_new (reg := true) (by simp [newConn]) (.inr ⟨rfl, rfl⟩) (Nat.zero_le _) hname (hinm 0) (hal 0) ?_
      (fun l t ht hab => by simp [hfr l t ht] at hab) ?_
    · simp [life_append, lifeStep, hlife, autoStep, clsOf]
    · simpa [ioQ, accepted, newConn] using hnoq 0
  · -- an io loop serves it: `connectEstablished` is queued there
    rename_i hl0
    have hlL := picked_loop_le s h.toGInv
    generalize hl : loopIndex (Pool.getNextLoop s.pool).1 = l at *
    refine ginv_accepted s h hinj l hpick ha
      (eff_enq (al := true) (thr := 1) _ l (by simp) (fun _ => .inr ⟨rfl, hlL⟩) (fun h0 => absurd h0 hl0))
      (cinv_new (reg := false) (by simp [accepted, newConn]) (.inl ⟨rfl, rfl, hl0⟩) hlL hname (hinm l) (hal l) (hlife l) ?_ ?_)
    · intro l' t ht hab
      rcases mem_enq.mp ht with h1 | ⟨rfl, rfl⟩
      · simp [hfr l' t h1] at hab
      · exact ⟨rfl, rfl, rfl⟩
    · rw [ioQ_enq, hnoq]; simp [accepted, newConn, isIo]

/-- in the middle of `~TcpServer`: the entries of `todo` have been reset but not yet been handed their `connectDestroyed` -/
structure DInv (s : Srv) (todo : List Nat) : Prop where
  alive : s.alive = false
  map : s.map = []
  pre : ∀ c ∈ todo, c < s.n ∧ CPre s c
  inv : ∀ c, c < s.n → c ∉ todo → CInv s c
  fresh : ∀ c, s.n ≤ c → (∀ l, ∀ t ∈ s.q l, about c t = false) ∧ life c s.trace = some {} ∧ s.conn c = {}
  rest : GRest s
  nodup : todo.Nodup

theorem dinv_step (s : Srv) (c : Nat) (todo : List Nat) (h : DInv s (c :: todo)) : DInv (dtorOne s c) todo := by
  have he := eff_dtorOne 0 s c
  have hnd := List.nodup_cons.mp h.nodup
  have hc := h.pre c List.mem_cons_self
  have hag := he.others h.rest.mapOK hc.1
  refine ⟨he.ext.alive.trans h.alive, List.sublist_nil.mp (h.map ▸ he.ext.map), ?_, ?_, ?_, h.rest.ext he.ext, hnd.2⟩
  · intro c' hc'
    obtain ⟨h1, h2⟩ := h.pre c' (List.mem_cons_of_mem _ hc')
    exact ⟨by rw [he.ext.n]; exact h1, h2.agree (hag c' (fun heq => hnd.1 (heq ▸ hc')))⟩
  · intro c' hlt hnt
    rw [he.ext.n] at hlt
    by_cases heq : c' = c
    · subst heq
      exact cinv_dtorOne s c' hc.2 h.alive (by simp [Srv.inMap, h.map])
    · exact (h.inv c' hlt (by simp [heq, hnt])).agree (hag c' heq)
  · intro c' hge
    rw [he.ext.n] at hge
    exact agree_fresh (hag c' (by omega)).c (h.fresh c' hge)

theorem dinv_fold (todo : List Nat) : ∀ s, DInv s todo → GInv (todo.foldl dtorOne s) := by
  induction todo with
  | nil => intro s h; exact ⟨fun c hc => h.inv c hc (by simp), h.fresh, h.rest⟩
  | cons c todo ih => intro s h; exact ih _ (dinv_step s c todo h)

theorem insertKey_perm (e : Nat × Nat) (l : List (Nat × Nat)) : (insertKey e l).Perm (e :: l) := by
  induction l with
  | nil => rfl
  | cons x xs ih =>
    simp only [insertKey]; split
    · rfl
    · exact (ih.cons x).trans (.swap e x xs)

theorem mapOrder_perm (m : List (Nat × Nat)) : (mapOrder m).Perm m := by
  induction m with
  | nil => rfl
  | cons e m ih => exact (insertKey_perm e _).trans (ih.cons e)

theorem same_destroyServer (s : Srv) : Same s (destroyServer s) :=
  destroyServer_inv (P := Same s) (.refl s) (fun _ => ⟨rfl, rfl, rfl, rfl⟩)
    (fun s' c h => h.trans (eff_dtorOne 0 s' c).ext.same)

theorem ginv_destroyServer (s : Srv) (h : GInvC g s) : GInvC g (destroyServer s) := by
  refine ⟨?_, h.same.trans (same_destroyServer s)⟩
  unfold destroyServer
  split
  · exact h.toGInv
  rename_i ha
  have ha : s.alive = true := by simpa using ha
  apply dinv_fold
  have hperm := (mapOrder_perm s.map).map (·.2)
  have hmem : ∀ c, c ∈ (mapOrder s.map).map (·.2) ↔ s.inMap c = true := fun c => by
    rw [inMap_iff, hperm.mem_iff, List.mem_map]
  have hagc : ∀ c, AgreeC s { s with map := [], alive := false } c := fun c => { (Agree.refl s c).c with }
  -- map reset, server marked gone: its former entries are still configured as mapped (`CPre`), the others lose the server
  exact {
    alive := rfl
    map := rfl
    pre := by
      intro c hc
      have him := (hmem c).mp hc
      have hlt : c < s.n := Nat.lt_of_not_le fun hge => Bool.false_ne_true ((inMap_ge s h.mapOK c hge).symm.trans him)
      have hci := h.conns c hlt
      exact ⟨hlt, {
        core := by have := hci.core; rw [him, ha] at this; exact ccore_agree this (hagc c)
        alive := by
          show (s.conn c).alive = true
          simp [hci.alive_held, Srv.held, him]
        cause := hci.cause }⟩
    inv := by
      intro c hlt hnt
      have him : s.inMap c = false := Bool.eq_false_iff.mpr fun hi => hnt ((hmem c).mpr hi)
      have hci := h.conns c hlt
      exact {
        core := by
          have := hci.core; rw [him, ha] at this
          exact ccore_unmapped this (hagc c)
        alive_held := by
          show (s.conn c).alive = (false || _ || _)
          simp [hci.alive_held, Srv.held, him]; rfl
        cause := hci.cause }
    fresh := h.fresh
    rest := { h.rest with
      mapOK := { h.rest.mapOK with keys := fun _ => nofun, nodup := List.nodup_nil, lt := fun _ => nofun }
      mapDead := fun _ => rfl }
    nodup := by
      -- equal connections have equal keys (`MapOK.keys`), and the keys are distinct
      refine hperm.nodup_iff.mpr (List.pairwise_map.mpr ((List.pairwise_map.mp h.mapOK.nodup).imp_of_mem ?_))
      intro a b ha' hb hne heq
      exact hne (by rw [h.mapOK.keys a ha', h.mapOK.keys b hb, heq]) }

theorem ginv_exited (s : Srv) (h : GInvC g s) (f : Nat → Bool) : GInvC g { s with exited := f } := by
  have hag : ∀ c, Agree s { s with exited := f } c := fun c => { Agree.refl s c with }
  refine ⟨⟨fun c hc => (h.conns c hc).agree (hag c), fun c hc => agree_fresh (hag c).c (h.fresh c hc), ?_⟩,
    h.same.trans ⟨rfl, rfl, rfl, rfl⟩⟩
  exact { h.rest with mapOK := { h.rest.mapOK with } }

theorem ginv_runHead (s : Srv) (h : GInvC g s) (l : Nat) : GInvC g (runHead s l) := by
  refine runHead_inv (P := GInvC g) h fun t rest hq => ?_
  cases ht : t.conn? with
  | none =>
    cases conn?_eq_none ht
    exact ginv_destroyServer _ (h.frame (ext_queues s _ _) fun c => agree_pop s l _ rest hq (by simp [about, ht]))
  | some c0 =>
    have hc0 : c0 < s.n := h.lt_of_mem (l := l) (hq ▸ List.mem_cons_self) (by simp [about, ht])
    have he := eff_runTask (pop s l t rest) l t c0 ht
    refine h.local ((ext_queues s _ _).trans he.ext) c0 (fun _ => ?_) (fun hge => absurd hc0 (by omega)) fun c hcne =>
      (agree_pop s l t rest hq (by simp [about, ht, Ne.symm hcne])).trans (he.others (h.mapOK.ext (ext_queues s _ _)) hc0 c hcne)
    have hc := h.conns c0 hc0
    cases t <;> simp only [Task.conn?, Option.some.injEq, reduceCtorEq] at ht <;> subst ht
    · exact cinv_est s l _ rest hq hc
    · exact cinv_rem s h.mapOK l _ rest hq hc hc0
    · exact cinv_des s l _ rest hq hc
    · exact cinv_fcl s h.mapOK l _ hc0 rest hq hc
    · exact cinv_shut s l _ rest hq hc

/-- no functor that still has to run for the protocol to complete is stranded in queue `l` -/
def StrandOK (s : Srv) (l : Nat) : Prop := ∀ t ∈ s.q l, ∀ c, t ≠ .est c ∧ t ≠ .des c

theorem strandOK_dropHead {s : Srv} {l : Nat} (hok : StrandOK s l) : StrandOK (dropHead s l) l :=
  dropHead_inv (P := fun s => StrandOK s l) hok (fun _ _ hq u hu => hok u ((sublist_tail_update hq _).subset hu))
    (fun s' c h u hu => h u (reapOne_q s' l c ▸ hu))

theorem ginv_dropHead (s : Srv) (h : GInvC g s) (hsa : s.alive = false) (l : Nat) (hok : StrandOK s l) :
    GInvC g (dropHead s l) := by
  cases hq : s.q l with
  | nil => simp only [dropHead, hq]; exact h
  | cons t rest =>
    rw [dropHead_cons s l t rest hq]
    cases ht : t.conn? with
    | none => exact h.frame (ext_queues s _ _) fun c => agree_dropq s l t rest hq c (by simp [about, ht])
    | some c0 =>
      simp only
      have hc0 : c0 < s.n := h.lt_of_mem (hq ▸ List.mem_cons_self) (by simp [about, ht])
      refine ginv_reap_after h (ext_queues s _ _) l c0
        (fun h2 => held_mono h2 (fun _ _ m => (sublist_tail_update hq _).subset m) (fun _ _ m => m) rfl rfl rfl) (fun _ hdf => ?_)
        (fun hge => absurd hc0 (by omega))
        (fun c hne => agree_dropq s l t rest hq c (by simp [about, ht, Ne.symm hne]))
      have hc := h.conns c0 hc0
      have hnot := hok t (hq ▸ List.mem_cons_self) c0
      -- to `c0` it makes no difference whether the functor ran: `forceCloseInLoop` and `shutdownInLoop` never change the
      -- configuration when they are taken off the queue, `removeConnectionIfAlive` finds the server gone
      have hcore : CCore (pop s l t rest) c0 (s.inMap c0) s.alive := by
        cases t <;> simp only [Task.conn?, Option.some.injEq, reduceCtorEq] at ht <;> subst ht
        · exact absurd rfl hnot.1
        · have := cinv_rem s h.mapOK l _ rest hq hc hc0
          simp only [runTask, removeInLoop, pop_alive, hsa, removeGuarded, dtorExpiresToken] at this
          exact this.core
        · exact absurd rfl hnot.2
        · exact (ccore_pop_light s l _ _ rest hq (Or.inl rfl) hc).1
        · exact (ccore_pop_light s l _ _ rest hq (Or.inr rfl) hc).1
      have hcore' : CCore (dropq s l rest) c0 (s.inMap c0) s.alive := ccore_agree hcore { (Agree.refl _ c0).c with }
      exact ⟨hcore', hdf, fun _ => (down_or_des (hsa ▸ hcore')).imp id Or.inr⟩

theorem ginv_loopGone (l : Nat) (k : Nat) (s : Srv) (h : GInvC g s) (hsa : s.alive = false) (hok : StrandOK s l) :
    GInvC g (iterate (fun s => dropHead s l) k s) :=
  (iterate_inv (P := fun s => GInvC g s ∧ s.alive = false ∧ StrandOK s l) (fun s ⟨h, hsa, hok⟩ =>
    ⟨ginv_dropHead s h hsa l hok,
      dropHead_inv (P := fun s' => s'.alive = false) hsa (fun _ _ _ => hsa) (fun s' c h => (ext_reapOne s' l c).alive.trans h),
      strandOK_dropHead hok⟩) k s ⟨h, hsa, hok⟩).1

/-- `Action.loopGone l` is enabled -/
def goneReady (s : Srv) (l : Nat) : Bool := s.exited l && (s.done l).isEmpty && !s.alive

theorem ginv_drainBatch (s : Srv) (h : GInvC g s) (l : Nat) : GInvC g (drainBatch s l) :=
  ginv_endBatch _ (iterate_inv (fun s hs => ginv_runHead s hs l) _ _ h) l

theorem ginv_drainAll (l : Nat) (f : Nat) (s : Srv) (h : GInvC g s) : GInvC g (drainAll l f s) :=
  drainAll_inv (fun s h => ginv_drainBatch s h l) f s h

theorem ginv_step (s : Srv) (h : GInvC g s) (hinj : Function.Injective g.nameOf) (a : Action)
    (hg : ∀ l, a = .loopGone l → goneReady s l = true → StrandOK s l) : GInvC g (step s a) := by
  cases a with
  | accept => exact ginv_accept s h (h.same.nameOf ▸ hinj)
  | run l => exact ite_inv (P := GInvC g) (fun _ => h) (fun _ => ginv_runHead s h l)
  | endBatch l => exact ginv_endBatch s h l
  | msg c => exact ginv_msg s h c
  | close c => exact ginv_close s h c
  | forceClose c thr => exact ginv_forceClose s h c thr
  | shutdown c thr => exact ginv_shutdown s h c thr
  | hold c => exact ginv_hold s h c
  | drop c thr => exact ginv_drop s h c thr
  | destroy => exact ginv_destroyServer s h
  | postDestroy => exact ginv_postDestroy s h
  | exit l =>
    exact ite_inv (P := GInvC g) (fun _ => h) (fun _ => ite_inv (fun _ => ite_inv (fun _ => ginv_drainAll l 3 _ (ginv_exited s h _))
      (fun _ => ginv_drainBatch _ (ginv_exited s h _) l)) (fun _ => ginv_exited s h _))
  | loopGone l =>
    refine ite_inv (P := GInvC g) (fun hc => ?_) (fun _ => h)
    have hsa : s.alive = false := by
      cases hs : s.alive <;> simp_all
    exact ginv_loopGone l _ s h hsa (hg l rfl hc)

/-- the schedule never destroys an `EventLoop` object while a `connectEstablished` / `connectDestroyed` functor is
stranded in its queue -/
def GoodSched (s : Srv) : List Action → Prop
  | [] => True
  | a :: as => (∀ l, a = .loopGone l → goneReady s l = true → StrandOK s l) ∧ GoodSched (step s a) as

/-- executable form of `GoodSched` -/
def goodB (s : Srv) : List Action → Bool
  | [] => true
  | a :: as =>
    (match a with
     | .loopGone l => !goneReady s l || (s.q l).all (fun t => !t.mustRun)
     | _ => true) && goodB (step s a) as

theorem strandOK_of_mustRun {s : Srv} {l : Nat} (h : ∀ t ∈ s.q l, t.mustRun = false) : StrandOK s l := by
  intro t ht c
  have := h t ht
  constructor <;> (intro heq; subst heq; simp [Task.mustRun] at this)

theorem goodSched_of_goodB (as : List Action) : ∀ s, goodB s as = true → GoodSched s as := by
  induction as with
  | nil => intro s _; trivial
  | cons a as ih =>
    intro s h
    simp only [goodB, Bool.and_eq_true] at h
    refine ⟨fun l hl hr => ?_, ih _ h.2⟩
    subst hl
    exact strandOK_of_mustRun (by simpa [hr] using h.1)

theorem ginv_init (L : Nat) (nameOf : Nat → Nat) : GInv (init L nameOf) :=
  ⟨fun _ => nofun, fun _ _ => ⟨fun _ _ => nofun, rfl, rfl⟩,
    ⟨⟨fun _ => nofun, List.nodup_nil, fun _ => nofun, fun _ _ => nofun⟩, rfl, rfl, fun _ => nofun, fun _ => nofun, nofun⟩⟩

theorem ginv_runC (hinj : Function.Injective g.nameOf) (as : List Action) : ∀ s, GInvC g s → GoodSched s as → GInvC g (run s as) := by
  induction as with
  | nil => intro s h _; exact h
  | cons a as ih => intro s h hg; exact ih (step s a) (ginv_step s h hinj a hg.1) hg.2

theorem ginv_run (as : List Action) : ∀ s, GInv s → Function.Injective s.nameOf → GoodSched s as → GInv (run s as) :=
  fun s h hinj hg => (ginv_runC hinj as s ⟨h, .refl s⟩ hg).toGInv

end MuduoVerif.Owner
