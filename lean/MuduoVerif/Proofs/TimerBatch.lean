import MuduoVerif.Proofs.TimerStep
/-! What one expiry batch runs (C06 `batch_order`, `fires_due`): `handleRead` runs exactly the timers whose deadline has
been reached, each once, in (deadline, address) order; no other step runs a callback.  The loop invariant (`runs_batchInv`):
the runs recorded so far are those of the entries whose callback ran, in that order, each with the cell the batch started with. -/
namespace MuduoVerif.Timer
open MuduoVerif.Gen.Timer

variable {s : TQ} {B : List (Time × Addr)} {L : List Addr}

/-- the record of the run of entry `e` whose cell is `c`, in a batch fired with the reading `now` -/
def recOf (c : Cell) (e : Time × Addr) (now : Time) : RunRec :=
  ⟨c.name, c.seq, c.runs + 1, e.2, c.rep, c.first, c.delta, e.1, now⟩

theorem cancelInLoop_keep (hw : WFp s B L) (id : TimerId) {e : Time × Addr} (he : e ∈ B) :
    (cancelInLoop s id).heap e.2 = s.heap e.2 := by
  rw [cancelInLoop_eq hw id]
  split
  · rename_i hm
    exact hfree_other _ fun hh : e.2 = id.addr => (hw.b_live e he).2 id.seq (hh ▸ hm)
  · split <;> rfl

theorem runs_batchInv (now : Time) (s0 : TQ) :
    BatchInv now (fun done todo s => (∀ e ∈ todo, s.heap e.2 = s0.heap e.2) ∧
      runRecs s.trace = (done.map fun e => recOf (cellAt s0 e.2) e now).reverse ++ runRecs s0.trace)
      (fun _ _ => True) where
  kept :=
    { frame := fun f h => ⟨fun e he => by rw [f.heap]; exact h.1 e he, f.ext.runs.trans h.2⟩
      alloc := fun {_ _ a c} hw hn h => ⟨fun e he => by
        have : e.2 ≠ a := fun hh => by
          obtain ⟨⟨c', hc', _⟩, _⟩ := hw.b_live e (List.mem_append_right _ he)
          rw [hh, hn.free] at hc'; cases hc'
        show hset _ a c e.2 = _
        rw [hset_other _ _ this]; exact h.1 e he, h.2⟩
      addInLoop := fun _ hc h => ⟨fun e he => by rw [addInLoop_heap hc]; exact h.1 e he, (addInLoop_ext hc).runs.trans h.2⟩
      cancelInLoop := fun hw id h => ⟨fun e he => by
        rw [cancelInLoop_keep hw id (List.mem_append_right _ he)]; exact h.1 e he, (cancelInLoop_ext hw id).runs.trans h.2⟩
      bindId := fun _ _ _ h => ⟨h.1, (bindId_ext _ _ _ _).runs.trans h.2⟩ }
  run {s _ e c _ _} _ hc _ _ h := ⟨fun x hx => h.1 x (List.mem_cons_of_mem _ hx), by
    show runRecs (_ :: s.trace) = _
    rw [runRecs_cons, h.2, List.map_append, List.reverse_append, List.append_assoc]
    show _ = [recOf (cellAt s0 e.2) e now] ++ _
    rw [cellAt_eq ((h.1 e List.mem_cons_self) ▸ hc)]; rfl⟩
  flag _ := ⟨⟩
  resetOne _ _ _ := ⟨⟩

/-- **what a batch runs**: `handleRead` with the clock reading `now` runs exactly the entries of `timers_` ordered before
the sentry `(now, UINTPTR_MAX)`, in the order of `timers_`, each with the cell it has when the batch starts -/
theorem handleRead_runs (hw : WFp s [] L) :
    runRecs (handleRead s).trace =
      ((s.timers.takeWhile (isExpired (readNow s).1)).map (fun e => recOf (cellAt s e.2) e (readNow s).1)).reverse
        ++ runRecs s.trace := by
  have f := readNow_frame s
  rw [handleRead_eq hw]
  obtain ⟨hw3, -, h3⟩ := (runs_batchInv (readNow s).1 s).runFold _ [] _ (fun _ => batch_due _) hw.batchStart
    ⟨fun e _ => congrFun f.heap e.2, congrArg runRecs f.trace⟩
  rw [List.nil_append] at hw3 h3
  generalize List.foldl (runTimer (readNow s).1) (batchStart s) _ = s3 at hw3 h3 ⊢
  -- `reset` and `rearm` run no callback
  have h4 := resetFold_inv (R' := fun _ s' => Ext { s3 with calling := false } s')
    (fun hw _ h => h.trans (resetOne_ext hw _)) _ { s3 with calling := false } (hw3.congr rfl rfl rfl rfl hw3.no_uaf)
    (fun _ => batch_due _) (Frame.refl _).ext
  rw [(rearm_ext h4.1).runs, h4.2.runs]
  exact h3

theorem isExpired_down {now : Time} {x y : Time × Addr} (hxy : entryLt x y) (hy : isExpired now y = true) :
    isExpired now x = true := by
  have hy' : entryExpired y.1 y.2 now := by simpa [isExpired] using hy
  have : entryExpired x.1 x.2 now := by
    unfold entryExpired at *; unfold entryLt at hxy; unfold Time Addr at *; omega
  simpa [isExpired] using this

theorem mem_takeWhile_expired {now : Time} {l : List (Time × Addr)} (hs : l.Pairwise entryLt) {x : Time × Addr}
    (hx : x ∈ l) (hp : isExpired now x = true) : x ∈ l.takeWhile (isExpired now) := by
  induction l with
  | nil => cases hx
  | cons y ys ih =>
    rw [List.pairwise_cons] at hs
    rcases List.mem_cons.1 hx with rfl | hx
    · rw [List.takeWhile_cons, hp]; exact List.mem_cons_self
    · rw [List.takeWhile_cons, isExpired_down (hs.1 x hx) hp]; exact List.mem_cons_of_mem _ (ih hs.2 hx)

theorem mem_batch_of_due (hw : WFp s B L) {now : Time} {e : Time × Addr} (he : e ∈ s.timers) (hle : e.1 ≤ now) :
    e ∈ s.timers.takeWhile (isExpired now) := by
  obtain ⟨c, hc, _⟩ := hw.t_live e he
  refine mem_takeWhile_expired hw.sorted he ?_
  simp only [isExpired, decide_eq_true_eq]
  exact entryExpired_of_le hle (hw.addr_ok _ _ hc).2

theorem runs_stable (r : List RunRec) : Stable (fun s => runRecs s.trace = r) where
  toKept := Kept.of_ext fun he h => he.runs.trans h
  core h hc := (congrArg (runRecs ·.trace) hc).trans h
  processed _ h := (emit_ext _ _ rfl).runs.trans h
  expire h := h

theorem iter_runs (ht : Top s) :
    runRecs (iter s).trace =
      (if s.readable then
        ((s.timers.takeWhile (isExpired (readNow s).1)).map (fun e => recOf (cellAt s e.2) e (readNow s).1)).reverse
       else []) ++ runRecs s.trace := by
  unfold iter
  have h1 : Top (if s.readable then handleRead s else s) := by
    split
    · exact ht.handleRead
    · exact ht
  rw [((runs_stable _).drain _ _ h1.swap rfl rfl).2]
  show runRecs (if s.readable = true then handleRead s else s).trace = _
  split
  · exact handleRead_runs ht.wf
  · rfl

theorem step_runs (ht : Top s) (i : In) (hi : i ≠ .iter) : runRecs (step s i).trace = runRecs s.trace :=
  ((runs_stable _).step i (fun h => absurd h hi) ht rfl).2

end MuduoVerif.Timer
