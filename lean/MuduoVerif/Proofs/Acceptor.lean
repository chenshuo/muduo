import MuduoVerif.Model.Acceptor
import MuduoVerif.Proofs.Fold
/-! Lemmas about the listener model (`Model/Acceptor.lean`) for C11. -/
namespace MuduoVerif.Acceptor
open MuduoVerif.Gen.Acceptor

/-- errnos `sockets::accept` returns to its caller (no `LOG_FATAL`) -/
def Benign : AcceptRes → Prop
  | .ok => True
  | .err e => classifyAccept e = .expected

/-- errnos after which `Acceptor::handleRead` does nothing at all -/
def Silent (e : Nat) : Prop := classifyAccept e = .expected ∧ ¬ emfileTest e

theorem silent_of_fault {e : Nat} (he : e = 11 ∨ e = 103 ∨ e = 4) : Silent e := by
  rcases he with h | h | h <;> subst h <;> exact ⟨by decide, by decide⟩

def Ev.isAbort : Ev → Bool
  | .abort _ => true
  | _ => false

theorem pop_eq (a : Acc) :
    pop a = { a with results := a.results.tail, starved := a.results.isEmpty || a.starved } := by
  obtain ⟨_, _, _, _, _, _, _, _, _, rs, _, _, _⟩ := a
  cases rs <;> rfl

theorem pop_cons (a : Acc) (r : AcceptRes) (rest : List AcceptRes) (h : a.results = r :: rest) :
    pop a = { a with results := rest } := by
  unfold pop; rw [h]

theorem peek_cons (a : Acc) (r : AcceptRes) (rest : List AcceptRes) (h : a.results = r :: rest) : peek a = r := by
  unfold peek; rw [h]; rfl

theorem runIdle_emfile (a : Acc) (hi : a.idle = .devnull) :
    runIdle a emfileSeq =
      match peek a with
      | .ok =>
        { pop a with naccepted := a.naccepted + 1, opened := a.opened + 2, closedN := a.closedN + 2,
                     trace := a.trace ++ [.idleClosed, .accepted (a.naccepted + 1), .closed (a.naccepted + 1), .idleOpened] }
      | .err _ =>
        { pop a with opened := a.opened + 1, closedN := a.closedN + 1, trace := a.trace ++ [.idleClosed, .idleOpened] } := by
  have h1 : closeIdle a = emit { a with idle := .closed, closedN := a.closedN + 1 } .idleClosed := by
    rw [closeIdle, hi]
  rw [show runIdle a emfileSeq = openIdle (closeIdle (acceptIntoIdle (closeIdle a))) from rfl, h1, acceptIntoIdle,
    show peek (emit { a with idle := .closed, closedN := a.closedN + 1 } .idleClosed) = peek a from rfl]
  cases peek a <;> simp [openIdle, closeIdle, setIdle, emit, idleCount, pop_eq, hi]

theorem handleRead_silent (a : Acc) (e : Nat) (rest : List AcceptRes) (hr : a.results = .err e :: rest) (hs : Silent e) :
    handleRead a = { a with results := rest } := by
  unfold handleRead
  rw [peek_cons a _ _ hr]
  simp only [hs.1, failed, if_neg hs.2]
  exact pop_cons a _ _ hr

theorem handleRead_emfile_pending (a : Acc) (e : Nat) (rest : List AcceptRes) (hr : a.results = .err e :: .ok :: rest)
    (hc : classifyAccept e = .expected) (hm : emfileTest e) (hi : a.idle = .devnull) :
    handleRead a = { a with results := rest, naccepted := a.naccepted + 1, opened := a.opened + 2, closedN := a.closedN + 2,
                            trace := a.trace ++ [.idleClosed, .accepted (a.naccepted + 1), .closed (a.naccepted + 1), .idleOpened] } := by
  unfold handleRead
  rw [peek_cons a _ _ hr]
  simp only [hc, failed, if_pos hm]
  rw [pop_cons a _ _ hr, runIdle_emfile { a with results := .ok :: rest } hi]
  simp [peek, pop]

theorem handleRead_emfile_none (a : Acc) (e e2 : Nat) (rest : List AcceptRes) (hr : a.results = .err e :: .err e2 :: rest)
    (hc : classifyAccept e = .expected) (hm : emfileTest e) (hi : a.idle = .devnull) :
    handleRead a = { a with results := rest, opened := a.opened + 1, closedN := a.closedN + 1,
                            trace := a.trace ++ [.idleClosed, .idleOpened] } := by
  unfold handleRead
  rw [peek_cons a _ _ hr]
  simp only [hc, failed, if_pos hm]
  rw [pop_cons a _ _ hr, runIdle_emfile { a with results := .err e2 :: rest } hi]
  simp [peek, pop]

theorem handleRead_ok (a : Acc) (rest : List AcceptRes) (hr : a.results = .ok :: rest) :
    handleRead a = accepted { a with results := rest } := by
  unfold handleRead
  rw [peek_cons a _ _ hr, pop_cons a _ _ hr]

/-- the descriptor accounting invariant: nothing the acceptor obtained is lost track of -/
structure AccInv (a : Acc) : Prop where
  noLeak : a.leaked = 0
  account : a.opened = a.closedN + a.held.length + idleCount a.idle
  idleOk : a.idle = if a.alive then .devnull else .closed
  noStale : Ev.staleClose ∉ a.trace

theorem inv_init (cb : Bool) : AccInv { hasCb := cb } :=
  ⟨rfl, rfl, rfl, by simp⟩

theorem pop_inv (a : Acc) (h : AccInv a) : AccInv (pop a) := by
  rw [pop_eq]; exact ⟨h.noLeak, h.account, h.idleOk, h.noStale⟩

theorem accepted_inv (a : Acc) (h : AccInv a) : AccInv (accepted a) := by
  unfold accepted
  cases hc : a.hasCb <;> simp [callbackGetsFd, noCallbackCloses, emit]
  · exact ⟨h.noLeak, by simp [h.account]; omega, h.idleOk, by simp [h.noStale]⟩
  · exact ⟨h.noLeak, by simp [h.account]; omega, h.idleOk, by simp [h.noStale]⟩

theorem failed_inv (a : Acc) (e : Nat) (h : AccInv a) (ha : a.alive = true) : AccInv (failed a e) := by
  unfold failed
  split
  · have hi : a.idle = .devnull := by rw [h.idleOk, ha]; rfl
    rw [runIdle_emfile a hi]
    split
    · exact ⟨by simp [pop_eq, h.noLeak], by simp [pop_eq, h.account, hi, idleCount]; omega, by simp [pop_eq, hi, ha],
        by simp [h.noStale]⟩
    · exact ⟨by simp [pop_eq, h.noLeak], by simp [pop_eq, h.account, hi, idleCount]; omega, by simp [pop_eq, hi, ha],
        by simp [h.noStale]⟩
  · exact h

theorem handleRead_inv (a : Acc) (h : AccInv a) (ha : a.alive = true) : AccInv (handleRead a) := by
  have hp := pop_inv a h
  unfold handleRead
  split
  · exact accepted_inv _ hp
  · split
    · exact failed_inv _ _ hp (by rw [pop_eq]; exact ha)
    · exact ⟨hp.noLeak, hp.account, hp.idleOk, by simp [emit, hp.noStale]⟩
    · exact ⟨hp.noLeak, hp.account, hp.idleOk, by simp [emit, hp.noStale]⟩

theorem step_inv (a : Acc) (i : Input) (h : AccInv a) : AccInv (step a i) := by
  cases i with
  | listen => simp only [step]; split <;> exact ⟨h.noLeak, h.account, h.idleOk, h.noStale⟩
  | setCallback b => exact ⟨h.noLeak, h.account, h.idleOk, h.noStale⟩
  | envAccept r => exact ⟨h.noLeak, h.account, h.idleOk, h.noStale⟩
  | iter r =>
    simp only [step]; split
    · exact h
    · next hc => exact handleRead_inv a h (by cases hh : a.alive <;> simp_all)
  | userClose k =>
    simp only [step]; split
    · next hk =>
      have hl := List.length_erase_of_mem hk
      have hp : 0 < a.held.length := List.length_pos_of_mem hk
      exact ⟨h.noLeak, by simp [emit, h.account, hl]; omega, h.idleOk, by simp [emit, h.noStale]⟩
    · exact h
  | destroy =>
    simp only [step]; split
    · exact h
    · next hc =>
      have ha : a.alive = true := by cases hh : a.alive <;> simp_all
      have hi : a.idle = .devnull := by rw [h.idleOk, ha]; rfl
      unfold destroy closeIdle
      rw [hi]
      exact ⟨h.noLeak, by simp [emit, h.account, hi, idleCount]; omega, by simp [emit], by simp [emit, h.noStale]⟩

theorem run_inv (ins : List Input) (a : Acc) (h : AccInv a) : AccInv (run a ins) :=
  foldl_inv ins (fun a i _ => step_inv a i) a h

/-- nothing has aborted and no queued accept result can make it abort -/
structure Safe (a : Acc) : Prop where
  notDead : a.dead = false
  benign : ∀ r ∈ a.results, Benign r
  noAbort : ∀ e ∈ a.trace, e.isAbort = false

theorem Safe.of_eq {a b : Acc} (h : Safe a) (hd : b.dead = a.dead) (hr : b.results = a.results)
    (ht : b.trace = a.trace) : Safe b :=
  ⟨hd ▸ h.notDead, hr ▸ h.benign, ht ▸ h.noAbort⟩

theorem Safe.emit {a : Acc} {e : Ev} (h : Safe a) (he : e.isAbort = false) : Safe (emit a e) := by
  refine ⟨h.notDead, h.benign, fun x hx => ?_⟩
  rcases List.mem_append.mp hx with hx | hx
  · exact h.noAbort x hx
  · rw [List.mem_singleton.mp hx]; exact he

theorem Safe.pop {a : Acc} (h : Safe a) : Safe (pop a) := by
  rw [pop_eq]; exact ⟨h.notDead, fun r hr => h.benign r (List.mem_of_mem_tail hr), h.noAbort⟩

theorem idleOp_safe {a : Acc} (h : Safe a) (o : IdleOp) : Safe (idleOp a o) := by
  cases o with
  | closeIdle =>
    show Safe (closeIdle a)
    unfold closeIdle
    split
    · exact Safe.emit (h.of_eq rfl rfl rfl) rfl
    · exact Safe.emit (h.of_eq rfl rfl rfl) rfl
    · exact Safe.emit h rfl
    · exact h
  | acceptIntoIdle =>
    show Safe (acceptIntoIdle a)
    unfold acceptIntoIdle setIdle
    split
    · exact Safe.emit (h.pop.of_eq rfl rfl rfl) rfl
    · exact h.pop.of_eq rfl rfl rfl
  | openIdle => exact Safe.emit (h.of_eq rfl rfl rfl) rfl

theorem runIdle_safe (ops : List IdleOp) {a : Acc} (h : Safe a) : Safe (runIdle a ops) :=
  foldl_inv (P := Safe) ops (fun _ o _ h => idleOp_safe h o) a h

theorem accepted_safe {a : Acc} (h : Safe a) : Safe (accepted a) := by
  have h1 : Safe (emit { a with naccepted := a.naccepted + 1, opened := a.opened + 1 } (.accepted (a.naccepted + 1))) :=
    Safe.emit (h.of_eq rfl rfl rfl) rfl
  unfold accepted
  simp only [callbackGetsFd, noCallbackCloses, if_true]
  split
  · exact Safe.emit (h1.of_eq rfl rfl rfl) rfl
  · exact Safe.emit (h1.of_eq rfl rfl rfl) rfl

theorem benign_peek (a : Acc) (h : ∀ r ∈ a.results, Benign r) : Benign (peek a) := by
  unfold peek
  cases hr : a.results with
  | nil => show classifyAccept 11 = .expected; decide
  | cons r rest => exact h r (by rw [hr]; simp)

theorem handleRead_safe (a : Acc) (h : Safe a) : Safe (handleRead a) := by
  have hb := benign_peek a h.benign
  unfold handleRead
  split
  · exact accepted_safe h.pop
  · next e hp =>
    rw [hp] at hb
    simp only [show classifyAccept e = .expected from hb]
    unfold failed
    split
    · exact runIdle_safe _ h.pop
    · exact h.pop

theorem step_safe (a : Acc) (i : Input) (h : Safe a) (hb : ∀ r, i = .envAccept r → Benign r) : Safe (step a i) := by
  cases i with
  | listen => simp only [step]; split <;> exact h.of_eq rfl rfl rfl
  | setCallback b => exact h.of_eq rfl rfl rfl
  | envAccept r =>
    refine ⟨h.notDead, fun x hx => ?_, h.noAbort⟩
    rcases List.mem_append.mp hx with hx | hx
    · exact h.benign x hx
    · rw [List.mem_singleton.mp hx]; exact hb r rfl
  | iter r => simp only [step]; split; exact h; exact handleRead_safe a h
  | userClose k =>
    simp only [step]; split
    · exact Safe.emit (h.of_eq rfl rfl rfl) rfl
    · exact h
  | destroy =>
    simp only [step]; split
    · exact h
    · exact (idleOp_safe h .closeIdle).of_eq rfl rfl rfl

theorem run_safe (ins : List Input) (a : Acc) (h : Safe a) (hb : ∀ r, .envAccept r ∈ ins → Benign r) : Safe (run a ins) :=
  foldl_inv ins (fun a i hi h => step_safe a i h fun r e => hb r (e ▸ hi)) a h

theorem idleOp_listening (a : Acc) (o : IdleOp) : (idleOp a o).listening = a.listening := by
  cases o with
  | closeIdle => show (closeIdle a).listening = _; unfold closeIdle; split <;> rfl
  | acceptIntoIdle => show (acceptIntoIdle a).listening = _; unfold acceptIntoIdle; split <;> simp [setIdle, emit, pop_eq]
  | openIdle => rfl

theorem runIdle_listening (ops : List IdleOp) (a : Acc) : (runIdle a ops).listening = a.listening :=
  foldl_inv (P := fun b => b.listening = a.listening) ops (fun b o _ h => (idleOp_listening b o).trans h) a rfl

theorem handleRead_listening (a : Acc) : (handleRead a).listening = a.listening := by
  have hp : (pop a).listening = a.listening := by rw [pop_eq]
  unfold handleRead
  split
  · unfold accepted
    simp only [callbackGetsFd, noCallbackCloses, if_true]
    split <;> exact hp
  · split
    · unfold failed; split
      · exact (runIdle_listening _ _).trans hp
      · exact hp
    · exact hp
    · exact hp

theorem step_listening (a : Acc) (i : Input) (hl : a.listening = true) (hd : i ≠ .destroy) : (step a i).listening = true := by
  cases i with
  | listen => simp only [step]; split; exact hl; rfl
  | setCallback b => exact hl
  | envAccept r => exact hl
  | iter r => simp only [step]; split; exact hl; rw [handleRead_listening a]; exact hl
  | userClose k => simp only [step]; split <;> exact hl
  | destroy => exact absurd rfl hd

/-- the listener is in service and no accept result is left over -/
structure Ready (a : Acc) : Prop where
  notDead : a.dead = false
  alive : a.alive = true
  listening : a.listening = true
  noResults : a.results = []

theorem Ready.results_nil {a : Acc} (h : Ready a) : { a with results := [] } = a := by
  have := h.noResults
  cases a; simp_all

/-- one iteration in which `accept` fails with errno `e` -/
def faultIter (e : Nat) : List Input := [.envAccept (.err e), .iter true]

theorem run_accept_iter (a : Acc) (h : Ready a) (r : AcceptRes) :
    run a [.envAccept r, .iter true] = handleRead { a with results := [r] } := by
  simp [run, step, h.notDead, h.alive, h.listening, h.noResults]

theorem faultIter_noop (a : Acc) (h : Ready a) (e : Nat) (hs : Silent e) : run a (faultIter e) = a := by
  rw [faultIter, run_accept_iter a h, handleRead_silent _ e [] rfl hs]
  exact h.results_nil

theorem run_append (a : Acc) (xs ys : List Input) : run a (xs ++ ys) = run (run a xs) ys := by
  simp [run, List.foldl_append]

theorem silent_faults_oblivious (a : Acc) (h : Ready a) (es : List Nat) (hs : ∀ e ∈ es, Silent e) (rest : List Input) :
    run a (es.flatMap faultIter ++ rest) = run a rest := by
  induction es with
  | nil => rfl
  | cons e es ih =>
    rw [List.flatMap_cons, List.append_assoc, run_append, faultIter_noop a h e (hs e (by simp))]
    exact ih (fun x hx => hs x (List.mem_cons_of_mem _ hx))

theorem interrupted_poll_noop (a : Acc) (rest : List Input) : run a (.iter false :: rest) = run a rest := by
  simp [run, step]

end MuduoVerif.Acceptor
