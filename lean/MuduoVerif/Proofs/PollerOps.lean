import MuduoVerif.Proofs.PollerReach
/-! generic facts about the back-end calls and `applyOp` of the dispatch-engine model (C09) -/
namespace MuduoVerif.Poller
open MuduoVerif.Gen.Poller

@[simp] theorem fdOf_eq_iff {a b : Nat} : fdOf a = fdOf b ↔ a = b :=
  ⟨fun h => by unfold fdOf at h; omega, congrArg fdOf⟩

/-- what `Poller::updateChannel/removeChannel` may change: the poller's own bookkeeping, the slot
index of channels, back-end output, and whether the process is alive -/
structure BackStep (s t : State) : Prop where
  be : t.be = s.be
  ev : ∀ c, (t.chans c).events = (s.chans c).events
  rev : ∀ c, (t.chans c).revents = (s.chans c).revents
  added : ∀ c, (t.chans c).added = (s.chans c).added
  hooks : t.hooks = s.hooks
  handling : t.handling = s.handling
  cur : t.cur = s.cur
  active : t.active = s.active
  iteration : t.iteration = s.iteration
  evsize : t.evsize = s.evsize
  out : ∃ l, t.out = s.out ++ l ∧ (∀ e ∈ l, e.isBack = true) ∧
    (t.dead = false → s.dead = false ∧ ∀ e ∈ l, e.isFatal = false)

theorem BackStep.trans {a b c : State} (f : BackStep a b) (g : BackStep b c) : BackStep a c := by
  obtain ⟨l1, h1, n1, d1⟩ := f.out
  obtain ⟨l2, h2, n2, d2⟩ := g.out
  exact ⟨g.be.trans f.be, fun x => (g.ev x).trans (f.ev x), fun x => (g.rev x).trans (f.rev x),
    fun x => (g.added x).trans (f.added x), g.hooks.trans f.hooks, g.handling.trans f.handling,
    g.cur.trans f.cur, g.active.trans f.active, g.iteration.trans f.iteration,
    g.evsize.trans f.evsize, l1 ++ l2, by rw [h2, h1, List.append_assoc], List.forall_mem_append.2 ⟨n1, n2⟩,
    fun hd => ⟨(d1 (d2 hd).1).1, List.forall_mem_append.2 ⟨(d1 (d2 hd).1).2, (d2 hd).2⟩⟩⟩

theorem backStep_book (s : State) (chans : Nat → Chan) (cmap) (pollfds) (kernel)
    (h : ∀ x, (chans x).events = (s.chans x).events ∧ (chans x).revents = (s.chans x).revents ∧
      (chans x).added = (s.chans x).added) :
    BackStep s { s with chans := chans, cmap := cmap, pollfds := pollfds, kernel := kernel } :=
  ⟨rfl, fun x => (h x).1, fun x => (h x).2.1, fun x => (h x).2.2, rfl, rfl, rfl, rfl, rfl, rfl, [],
    by simp, by simp, by simp⟩

theorem BackStep.rfl' (s : State) : BackStep s s :=
  backStep_book s s.chans s.cmap s.pollfds s.kernel (fun _ => ⟨rfl, rfl, rfl⟩)

theorem backStep_setIndex (s : State) (c : Nat) (i : Int) : BackStep s (setIndex s c i) := by
  refine backStep_book s _ s.cmap s.pollfds s.kernel ?_
  intro x; by_cases hx : x = c <;> simp [hx]

theorem backStep_setCmap (s : State) (fd : Int) (v) : BackStep s (setCmap s fd v) :=
  backStep_book s s.chans _ s.pollfds s.kernel (fun _ => ⟨rfl, rfl, rfl⟩)

theorem backStep_out (s : State) (e : Ev) (d : Bool) (hb : e.isBack = true)
    (hd : d = false → s.dead = false ∧ e.isFatal = false) :
    BackStep s { s with out := s.out ++ [e], dead := d } :=
  ⟨rfl, fun _ => rfl, fun _ => rfl, fun _ => rfl, rfl, rfl, rfl, rfl, rfl, rfl, [e], rfl,
    by simpa using hb, by simpa using hd⟩

theorem backStep_abort (s : State) (w : String) : BackStep s (abort s w) :=
  backStep_out s (.abort w) true rfl nofun

theorem backStep_emit (s : State) (e : Ev) (hb : e.isBack = true) (hf : e.isFatal = false) :
    BackStep s (emit s e) :=
  backStep_out s e s.dead hb fun h => ⟨h, hf⟩

theorem backStep_die (s : State) (e : Ev) (hb : e.isBack = true) :
    BackStep s { emit s e with dead := true } :=
  backStep_out s e true hb nofun

theorem backStep_kernel (s : State) (k : Int → Option Nat) : BackStep s { s with kernel := k } :=
  backStep_book s s.chans s.cmap s.pollfds k (fun _ => ⟨rfl, rfl, rfl⟩)

theorem BackStep.ite {s a b : State} {p : Prop} [Decidable p] (ha : BackStep s a) (hb : BackStep s b) :
    BackStep s (if p then a else b) := by
  split <;> assumption

/-- an assertion of the C++ code -/
theorem BackStep.guard {s b : State} {p : Prop} [Decidable p] {w : String} (hb : BackStep s b) :
    BackStep s (if p then abort s w else b) :=
  .ite (backStep_abort s w) hb

theorem backStep_ctl (s : State) (op c : Nat) : BackStep s (ctl s op c) := by
  have call := fun res => backStep_emit s (.ctl op c (s.chans c).events res) rfl rfl
  have syserr := fun res => (call res).trans (backStep_emit _ .syserr rfl rfl)
  have fatal := fun res => (call res).trans (backStep_die _ .fatal rfl)
  have ok := fun k => (call .ok).trans (backStep_kernel _ k)
  exact .ite (.ite (.ite (syserr _) (fatal _)) (ok _))
    (.ite (.ite (syserr _) (fatal _)) (.ite (ok _) (ok _)))

theorem backStep_pollUpdate (s : State) (c : Nat) : BackStep s (pollUpdate s c) := by
  unfold pollUpdate
  refine .ite (.guard (backStep_book s _ _ _ s.kernel fun x => ?_)) (.guard ?_)
  · by_cases hx : x = c <;> simp [hx]
  · cases s.pollfds[(s.chans c).index.toNat]? with
    | none => exact backStep_abort _ _
    | some pfd =>
      exact .guard (backStep_book s s.chans s.cmap _ s.kernel fun _ => ⟨rfl, rfl, rfl⟩)

theorem backStep_pollRemove (s : State) (c : Nat) : BackStep s (pollRemove s c) := by
  unfold pollRemove
  refine .guard (.guard (.guard ?_))
  cases s.pollfds[(s.chans c).index.toNat]? with
  | none => exact backStep_abort _ _
  | some pfd =>
    refine .guard (.ite (backStep_book s _ _ _ s.kernel fun x => ?_) ?_)
    · by_cases hx : x = c <;> simp [hx]
    · cases s.pollfds.getLast? with
      | none => exact backStep_abort _ _
      | some last =>
        dsimp only
        split
        · exact backStep_abort _ _
        · rename_i m _
          refine backStep_book s _ _ _ s.kernel fun x => ?_
          by_cases hx : x = c
          · simp [hx]
          · by_cases hm : x = m
            · subst hm; simp [hx]
            · simp [hx, hm]

theorem backStep_epollUpdate (s : State) (c : Nat) : BackStep s (epollUpdate s c) :=
  .ite
    (.ite
      (.guard (.ite ((backStep_setCmap s _ _).trans (backStep_setIndex _ _ _))
        (((backStep_setCmap s _ _).trans (backStep_setIndex _ _ _)).trans (backStep_ctl _ _ _))))
      (.guard (.ite (BackStep.rfl' s) ((backStep_setIndex _ _ _).trans (backStep_ctl _ _ _)))))
    (.guard (.guard (.ite ((backStep_ctl _ _ _).trans (backStep_setIndex _ _ _)) (backStep_ctl _ _ _))))

theorem backStep_epollRemove (s : State) (c : Nat) : BackStep s (epollRemove s c) :=
  .guard (.guard (.guard
    (.ite (((backStep_setCmap s _ _).trans (backStep_ctl _ _ _)).trans (backStep_setIndex _ _ _))
      ((backStep_setCmap s _ _).trans (backStep_setIndex _ _ _)))))

theorem backStep_updateChannel (s : State) (c : Nat) : BackStep s (updateChannel s c) := by
  unfold updateChannel
  split
  · exact backStep_pollUpdate s c
  · exact backStep_epollUpdate s c

theorem backStep_removeChannel (s : State) (c : Nat) : BackStep s (removeChannel s c) := by
  unfold removeChannel
  split
  · exact backStep_pollRemove s c
  · exact backStep_epollRemove s c

def OpKind.isUpdate : OpKind → Bool
  | .remove => false
  | .recreate => false
  | _ => true

/-- the documented preconditions, as the model tests them -/
def accepts (s : State) (c : Nat) : OpKind → Prop
  | .remove => removeOk s c
  | .recreate => recreateOk s c
  | _ => True
instance : Decidable (accepts s c k) := by cases k <;> unfold accepts <;> infer_instance

theorem applyOp_dead {s : State} (h : s.dead = true) (c k) : applyOp s c k = s := by
  simp [applyOp, h]

theorem applyOp_reject {s : State} (hd : s.dead = false) {c k} (h : ¬ accepts s c k) :
    applyOp s c k = emit s (.reject c k) := by
  cases k <;> simp_all [applyOp, accepts]

theorem applyOp_update {s : State} (hd : s.dead = false) {c k} (h : k.isUpdate = true) :
    applyOp s c k = report (updateChannel (setInterest s c k) c) c k := by
  cases k <;> simp_all [applyOp, OpKind.isUpdate]

theorem applyOp_remove {s : State} (hd : s.dead = false) {c} (h : removeOk s c) :
    applyOp s c .remove =
      report (removeChannel (setChan s c { s.chans c with added := false }) c) c .remove := by
  simp [applyOp, hd, h]

theorem applyOp_recreate {s : State} (hd : s.dead = false) {c} (h : recreateOk s c) :
    applyOp s c .recreate = report (setChan s c {}) c .recreate := by
  simp [applyOp, hd, h]

/-- the channel's interest word after an accepted operation -/
def opEvents : OpKind → Nat → Nat
  | .recreate, _ => 0
  | k, e => newEvents k e

def opRevents : OpKind → Nat → Nat
  | .recreate, _ => 0
  | _, r => r

def opAdded : OpKind → Bool
  | .remove => false
  | .recreate => false
  | _ => true

/-- the effect of an accepted operation `k` on channel `c`, whatever the back-end: the spec-level
fields of the channels, the rest of the loop's state untouched, and the output: back-end events, then
— unless the process died — the operation's report -/
structure OpStep (s t : State) (c : Nat) (k : OpKind) : Prop where
  be : t.be = s.be
  hooks : t.hooks = s.hooks
  handling : t.handling = s.handling
  cur : t.cur = s.cur
  active : t.active = s.active
  iteration : t.iteration = s.iteration
  evsize : t.evsize = s.evsize
  ev : ∀ x, (t.chans x).events = if x = c then opEvents k (s.chans c).events else (s.chans x).events
  rev : ∀ x, (t.chans x).revents = if x = c then opRevents k (s.chans c).revents else (s.chans x).revents
  added : ∀ x, (t.chans x).added = if x = c then opAdded k else (s.chans x).added
  out : ∃ l, (∀ e ∈ l, e.isBack = true) ∧
    (t.dead = false → (∀ e ∈ l, e.isFatal = false) ∧
      t.out = s.out ++ l ++ [.op c k (t.chans c).events (t.chans c).index]) ∧
    (t.dead = true → t.out = s.out ++ l)

theorem report_eq (b : State) (c : Nat) (k : OpKind) :
    report b c k =
      { b with out := b.out ++ if b.dead then [] else [.op c k (b.chans c).events (b.chans c).index] } := by
  unfold report emit
  by_cases hd : b.dead = true
  · rw [if_pos hd, if_pos hd, List.append_nil]
  · rw [if_neg hd, if_neg hd]

theorem opStep_of {s b : State} {c : Nat} {k : OpKind} (ch : Chan)
    (hev : opEvents k (s.chans c).events = ch.events) (hrev : opRevents k (s.chans c).revents = ch.revents)
    (hadd : opAdded k = ch.added) (hb : BackStep (setChan s c ch) b) : OpStep s (report b c k) c k := by
  obtain ⟨l, hl, hlb, hla⟩ := hb.out
  rw [report_eq]
  exact ⟨hb.be, hb.hooks, hb.handling, hb.cur, hb.active, hb.iteration, hb.evsize,
    fun x => by rw [hb.ev, hev]; exact apply_ite ..,
    fun x => by rw [hb.rev, hrev]; exact apply_ite ..,
    fun x => by rw [hb.added, hadd]; exact apply_ite ..,
    l, hlb, fun hd => ⟨(hla hd).2, by rw [show b.dead = false from hd, hl]; rfl⟩,
    fun hd => by rw [show b.dead = true from hd, hl]; exact List.append_nil _⟩

theorem applyOp_opStep {s : State} (hd : s.dead = false) {c : Nat} {k : OpKind} (hacc : accepts s c k) :
    OpStep s (applyOp s c k) c k := by
  cases k with
  | remove =>
    rw [applyOp_remove hd hacc]
    exact opStep_of { s.chans c with added := false } rfl rfl rfl (backStep_removeChannel _ c)
  | recreate => rw [applyOp_recreate hd hacc]; exact opStep_of {} rfl rfl rfl (BackStep.rfl' _)
  | _ =>
    rw [applyOp_update hd rfl]
    exact opStep_of { s.chans c with events := newEvents _ (s.chans c).events, added := true } rfl rfl rfl
      (backStep_updateChannel (setInterest s c _) c)

theorem applyOp_cases (s : State) (c : Nat) (k : OpKind) :
    (s.dead = true ∧ applyOp s c k = s) ∨
    (s.dead = false ∧ ¬ accepts s c k ∧ applyOp s c k = emit s (.reject c k)) ∨
    (s.dead = false ∧ accepts s c k ∧ OpStep s (applyOp s c k) c k) := by
  cases hd : s.dead with
  | true => exact .inl ⟨rfl, applyOp_dead hd c k⟩
  | false =>
    by_cases h : accepts s c k
    · exact .inr (.inr ⟨rfl, h, applyOp_opStep hd h⟩)
    · exact .inr (.inl ⟨rfl, h, applyOp_reject hd h⟩)

theorem applyOp_out (s : State) (c k) :
    ∃ l, (applyOp s c k).out = s.out ++ l ∧ (∀ e ∈ l, e.isUser = true) ∧
      ((applyOp s c k).dead = false → ∀ e ∈ l, e.isFatal = false) := by
  rcases applyOp_cases s c k with ⟨_, h⟩ | ⟨_, _, h⟩ | ⟨_, _, h⟩
  · exact ⟨[], by rw [h, List.append_nil], List.forall_mem_nil _, fun _ => List.forall_mem_nil _⟩
  · exact ⟨[.reject c k], by rw [h]; rfl, List.forall_mem_singleton.2 rfl, fun _ => List.forall_mem_singleton.2 rfl⟩
  · obtain ⟨l, hlb, halive, hdead⟩ := h.out
    have hu : ∀ e ∈ l, e.isUser = true := fun e he => isUser_of_isBack (hlb e he)
    cases hd : (applyOp s c k).dead with
    | true => exact ⟨l, hdead hd, hu, nofun⟩
    | false =>
      exact ⟨l ++ [_], by rw [(halive hd).2, List.append_assoc],
        List.forall_mem_append.2 ⟨hu, List.forall_mem_singleton.2 rfl⟩,
        fun _ => List.forall_mem_append.2 ⟨(halive hd).1, List.forall_mem_singleton.2 rfl⟩⟩

theorem applyOp_loop (s : State) (c k) :
    SameBook s (applyOp s c k) ∧ (applyOp s c k).be = s.be ∧ (applyOp s c k).evsize = s.evsize := by
  rcases applyOp_cases s c k with ⟨_, h⟩ | ⟨_, _, h⟩ | ⟨_, _, h⟩
  · rw [h]; exact ⟨⟨rfl, rfl, rfl, rfl, rfl⟩, rfl, rfl⟩
  · rw [h]; exact ⟨⟨rfl, rfl, rfl, rfl, rfl⟩, rfl, rfl⟩
  · exact ⟨⟨h.hooks, h.handling, h.cur, h.active, h.iteration⟩, h.be, h.evsize⟩

theorem applyOp_be (s : State) (c k) : (applyOp s c k).be = s.be := (applyOp_loop s c k).2.1

/-! ### A further projection of `applyOp_loop`; no proof uses it -/

theorem applyOp_handling (s : State) (c k) : (applyOp s c k).handling = s.handling := (applyOp_loop s c k).1.handling

end MuduoVerif.Poller
