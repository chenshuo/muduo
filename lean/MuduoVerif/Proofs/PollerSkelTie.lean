import MuduoVerif.Generated.PollerSkel
/-!
# T1 tie for the statement order of the dispatch engine (C09)

`Gen.PollerSkel.<fn>` is the statement skeleton `vlib/gen/pollerskel.py` extracts from /repo's current `EPollPoller.cc`,
`PollPoller.cc`, `Channel.cc` and `EventLoop.cc` on every run; `Decl.<fn>` (`Model/PollerSkelDecl.lean`) is the
skeleton the corresponding definition of `Model/Poller.lean` implements.  Each conjunct of `skeletons_agree` is closed by `rfl`:
it holds exactly as long as the source performs the same significant actions, in the same order, under the same
nesting of the same (generated) guards and loops as the model.  The guards themselves are tied by
`Generated/Poller.lean`.  `Props/C09` re-exports `skeletons_agree`, so a change of statement order in one of these
functions breaks that property module.
-/
namespace MuduoVerif.PollerSkel

theorem skeletons_agree :
    Gen.PollerSkel.epollPoll = Decl.epollPoll ∧
    Gen.PollerSkel.epollFillActiveChannels = Decl.epollFillActiveChannels ∧
    Gen.PollerSkel.epollUpdateChannel = Decl.epollUpdateChannel ∧
    Gen.PollerSkel.epollRemoveChannel = Decl.epollRemoveChannel ∧
    Gen.PollerSkel.epollUpdate = Decl.epollUpdate ∧
    Gen.PollerSkel.pollPoll = Decl.pollPoll ∧
    Gen.PollerSkel.pollFillActiveChannels = Decl.pollFillActiveChannels ∧
    Gen.PollerSkel.pollUpdateChannel = Decl.pollUpdateChannel ∧
    Gen.PollerSkel.pollRemoveChannel = Decl.pollRemoveChannel ∧
    Gen.PollerSkel.channelUpdate = Decl.channelUpdate ∧
    Gen.PollerSkel.channelRemove = Decl.channelRemove ∧
    Gen.PollerSkel.channelHandleEvent = Decl.channelHandleEvent ∧
    Gen.PollerSkel.channelHandleEventWithGuard = Decl.channelHandleEventWithGuard ∧
    Gen.PollerSkel.loopIteration = Decl.loopIteration ∧
    Gen.PollerSkel.loopUpdateChannel = Decl.loopUpdateChannel ∧
    Gen.PollerSkel.loopRemoveChannel = Decl.loopRemoveChannel ∧
    Gen.PollerSkel.loopHasChannel = Decl.loopHasChannel :=
  by and_intros <;> rfl

end MuduoVerif.PollerSkel
