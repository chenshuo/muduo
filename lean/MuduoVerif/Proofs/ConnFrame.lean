import MuduoVerif.Model.Conn
import MuduoVerif.Proofs.Fold
/-!
Every operation of the connection model is composed of a few elementary updates of the state.  A reflexive,
transitive relation between the state before and the state after that contains these updates (`Frame`) therefore
contains every operation: the lemmas `…_frame` walk through the call graph of `Model/Conn.lean` once, for all such
relations.  The second part does the same for the loop (`dispatch`, `runBatch`, `maybeDestroy`, `iter`) and a predicate on states.
-/
namespace MuduoVerif.Conn
open MuduoVerif.Gen.Conn

/-- the state without what the send path buffers and records, the `reading_` flag, the callbacks installed (and the
mark) and the scripts of the environment and of the user: two states with the same `control` differ in these fields
only -/
def Conn.control (c : Conn) : Conn :=
  { c with reading := true, outBuf := [], mark := 0, hasWC := true, hasHWM := true, wcId := 0, hwmId := 0, writes := [],
           reads := [], hooks := [], starved := false, accepted := [], blocks := [], offeredL := [], offeredF := [],
           wrote := [], discarded := false }

/-- the two notifications (write-complete, high-water mark): the user's callback is never run inside the operation
that causes it, only by the loop when it reaches the queued functor (C13); a `Frame` need not contain their recording -/
def Ev.isQueuedCb : Ev → Bool
  | .wc _ | .hwm _ _ => true
  | _ => false

/-- `R` contains the elementary updates out of which the operations of a connection are composed -/
structure Frame (R : Conn → Conn → Prop) : Prop where
  refl : ∀ c, R c c
  trans : ∀ {a b c}, R a b → R b c → R a c
  data : ∀ c c', c'.control = c.control → R c c'
  /-- any event but the two notifications that only the loop delivers -/
  emits : ∀ c e, e.isQueuedCb = false → R c (emit c e)
  /-- any functor but the one the owner queues when it lets go of the connection -/
  enqueues : ∀ c t, t ≠ .connectDestroyed → R c (enqueue c t)
  /-- a change of the channel's interest that does not turn write interest on (only `sendInLoop` does) -/
  updates : ∀ c r w, (w = true → c.ch.evWrite = true) → R c (setEvents c r w)
  /-- `setState(kDisconnecting)`: `shutdown`, `forceClose`, `forceCloseWithDelay` do it to a connection that is up -/
  closing : ∀ c, c.st = .kConnected ∨ c.st = .kDisconnecting → R c { c with st := .kDisconnecting }
  shut : ∀ c, R c { c with shutWr := true }
  timer : ∀ c d, R c { c with timers := c.timers ++ [d] }
  dead : ∀ c, R c { c with dead := true }
  delivers : ∀ c n, R c (deliver c n)
  consumes : ∀ c, R c (consume c)
  unregister : ∀ c, R c { c with ch := chanRemove c.be c.ch, registered := false }

section
variable {R : Conn → Conn → Prop} (h : Frame R)
include h

theorem popWrite_frame (c : Conn) : R c (popWrite c) := by
  unfold popWrite; split <;> exact h.data _ _ rfl

theorem popRead_frame (c : Conn) : R c (popRead c) := by
  unfold popRead; split <;> exact h.data _ _ rfl

theorem shutdownInLoop_frame (c : Conn) : R c (shutdownInLoop c) := by
  unfold shutdownInLoop; split
  · exact h.trans (h.shut c) (h.emits _ _ rfl)
  · exact h.refl c

theorem startReadInLoop_frame (c : Conn) : R c (startReadInLoop c) := by
  unfold startReadInLoop; split
  · exact h.trans (h.updates c _ _ id) (h.data _ _ rfl)
  · exact h.refl c

theorem stopReadInLoop_frame (c : Conn) : R c (stopReadInLoop c) := by
  unfold stopReadInLoop; split
  · exact h.trans (h.updates c _ _ id) (h.data _ _ rfl)
  · exact h.refl c

theorem handOff_frame (c : Conn) (f : Bool) (d : Dispatch) (t : Task) (g : Conn → Conn)
    (ht : t ≠ .connectDestroyed) (hg : R c (g c)) : R c (handOff c f d t g) := by
  unfold handOff; split
  · exact h.enqueues _ _ ht
  · exact hg

theorem afterDrain_frame (c : Conn) : R c (afterDrain c) := by
  have h1 : R c (disableWriting c) := h.updates _ _ _ nofun
  unfold afterDrain
  simp only
  split
  · split
    · exact h.trans (h.trans h1 (h.enqueues _ _ (by nofun))) (handOff_frame h _ _ _ _ _ (by nofun) (shutdownInLoop_frame h _))
    · exact h.trans h1 (h.enqueues _ _ (by nofun))
  · split
    · exact h.trans h1 (handOff_frame h _ _ _ _ _ (by nofun) (shutdownInLoop_frame h _))
    · exact h1

theorem handleWriteRes_frame (c : Conn) (r : WriteRes) : R c (handleWriteRes c r) := by
  unfold handleWriteRes
  split
  · rename_i n
    have b := h.data c { c with wrote := c.wrote ++ c.outBuf.take (n + 1), outBuf := c.outBuf.drop (n + 1) } rfl
    simp only
    split
    · exact h.trans b (afterDrain_frame h _)
    · exact b
  · exact h.refl c

theorem handleWrite_frame (c : Conn) : R c (handleWrite c) := by
  unfold handleWrite; split
  · exact h.trans (h.trans (popWrite_frame h c) (h.emits _ _ rfl)) (handleWriteRes_frame h _ _)
  · exact h.refl c

theorem guarded_frame (f : Conn → Conn) (hf : ∀ c, R c (f c)) (rev : Prop) [Decidable rev]
    (sub : Bool → Bool → Bool → Prop) [∀ a b c, Decidable (sub a b c)] (c : Conn) : R c (guarded f rev sub c) := by
  unfold guarded; split
  · exact hf c
  · exact h.refl c

theorem removeChannel_frame (c : Conn) : R c (removeChannel c) := by
  unfold removeChannel; split
  · exact h.trans (h.dead c) (h.emits _ _ rfl)
  · exact h.unregister c

/-! `sendInLoop`, for a relation that also contains the one update that turns write interest on -/
section
variable (hw : ∀ c, R c (enableWriting c))
include hw

theorem queueRemainder_frame (c : Conn) (data : Bytes) (n : Nat) (fault : Bool) :
    R c (queueRemainder c data n fault) := by
  have key : ∀ c1 : Conn, R c c1 →
      R c (if sendEnablesWriting ({ c1 with outBuf := c1.outBuf ++ data.drop n } : Conn).ch.evWrite
        then enableWriting { c1 with outBuf := c1.outBuf ++ data.drop n }
        else { c1 with outBuf := c1.outBuf ++ data.drop n }) := by
    intro c1 h1
    have h2 := h.trans h1 (h.data c1 { c1 with outBuf := c1.outBuf ++ data.drop n } rfl)
    split
    · exact h.trans h2 (hw _)
    · exact h2
  unfold queueRemainder
  split
  · simp only
    split
    · exact key _ (h.enqueues _ _ (by nofun))
    · exact key _ (h.refl c)
  · split
    · exact h.data _ _ rfl
    · exact h.refl c

theorem sendDirect_frame (c : Conn) (data : Bytes) (r : WriteRes) : R c (sendDirect c data r) := by
  cases r with
  | took n =>
    simp only [sendDirect]
    have b := h.data c { c with wrote := c.wrote ++ data.take n } rfl
    split
    · exact h.trans (h.trans b (h.enqueues _ _ (by nofun))) (queueRemainder_frame h hw _ _ _ _)
    · exact h.trans b (queueRemainder_frame h hw _ _ _ _)
  | err e => exact queueRemainder_frame h hw _ _ _ _

theorem sendInLoop_frame (c : Conn) (data : Bytes) (q : Bool) : R c (sendInLoop c data q) := by
  have b := h.data c (accept c data q) rfl
  unfold sendInLoop
  split
  · exact h.emits _ _ rfl
  · split
    · exact h.trans (h.trans (h.trans b (popWrite_frame h _)) (h.emits _ _ rfl)) (sendDirect_frame h hw _ _ _)
    · exact h.trans b (queueRemainder_frame h hw _ _ _ _)

end

/-! what runs user code: `hs` covers `send()` called on the loop thread, which gets as far as `sendInLoop` only on a
connection that is `kConnected` -/
variable (hs : ∀ c d, c.st = .kConnected → R c (sendInLoop c d false))
include hs

theorem act_frame (c : Conn) (f : Bool) (a : Act) : R c (act c f a) := by
  cases a with
  | send d =>
    simp only [act]; split
    · rename_i hg
      split
      · exact h.trans (h.data c { c with offeredF := c.offeredF ++ [d] } rfl) (h.enqueues _ _ (by nofun))
      · exact h.trans (h.data c { c with offeredL := c.offeredL ++ [d] } rfl) (hs _ d hg)
    · exact h.refl c
  | shutdown =>
    simp only [act]; split
    · rename_i hg
      exact h.trans (h.closing c (Or.inl hg)) (handOff_frame h _ _ _ _ _ (by nofun) (shutdownInLoop_frame h _))
    · exact h.refl c
  | forceClose =>
    simp only [act]; split
    · rename_i hg
      exact h.trans (h.closing c hg) (handOff_frame h _ _ _ _ _ (by nofun) (h.refl _))
    · exact h.refl c
  | forceCloseDelay us =>
    simp only [act]; split
    · rename_i hg
      split
      · exact h.trans (h.closing c hg) (h.enqueues _ _ (by nofun))
      · exact h.trans (h.closing c hg) (h.timer _ _)
    · exact h.refl c
  | stopRead => exact handOff_frame h _ _ _ _ _ (by nofun) (stopReadInLoop_frame h _)
  | startRead => exact handOff_frame h _ _ _ _ _ (by nofun) (startReadInLoop_frame h _)
  | setWc k => exact h.data _ _ rfl
  | setHwm k m => exact h.data _ _ rfl

theorem callback_frame (c : Conn) (k : Cb) (e : Ev) (he : R c (emit c e)) : R c (callback c k e) := by
  unfold callback; split
  · exact h.trans (h.trans he (h.data _ { emit c e with hooks := dropHook k c.hooks } rfl)) (act_frame h hs _ _ _)
  · exact he

/-- `handleClose`, for a relation that also contains `setState(kDisconnected)` and the owner's reaction to the
close callback (it drops the connection and queues `connectDestroyed`) -/
theorem handleClose_frame (hdown : ∀ c, R c { c with st := .kDisconnected })
    (hrel : ∀ c, R c (enqueue { c with owner := false } .connectDestroyed)) (c : Conn) : R c (handleClose c) := by
  unfold handleClose; split
  · exact h.trans (h.dead c) (h.emits _ _ rfl)
  · exact h.trans (h.trans (h.trans (h.trans (hdown c) (h.updates _ _ _ (by nofun)))
      (callback_frame h hs _ _ _ (h.emits _ _ rfl))) (h.emits _ _ rfl)) (hrel _)

theorem handleReadRes_frame (hc : ∀ c, R c (handleClose c)) (c : Conn) (r : ReadRes) :
    R c (handleReadRes c r) := by
  unfold handleReadRes; split
  · exact hc c
  · exact h.trans (h.trans (h.delivers c _) (callback_frame h hs _ _ _ (h.emits _ _ rfl))) (h.consumes _)
  · exact h.refl c

theorem handleRead_frame (hc : ∀ c, R c (handleClose c)) (c : Conn) : R c (handleRead c) := by
  unfold handleRead
  exact h.trans (h.trans (popRead_frame h c) (h.emits _ _ rfl)) (handleReadRes_frame h hs hc _ _)

theorem handleEvent_frame (hc : ∀ c, R c (handleClose c)) (c : Conn) (r : Nat) : R c (handleEvent c r) := by
  unfold handleEvent; split
  · exact h.refl c
  · exact h.trans (h.trans (guarded_frame h _ hc _ _ c) (guarded_frame h _ (handleRead_frame h hs hc) _ _ _))
      (guarded_frame h _ (handleWrite_frame h) _ _ _)

theorem connectDestroyed_frame (hdown : ∀ c, R c { c with st := .kDisconnected }) (c : Conn) :
    R c (connectDestroyed c) := by
  unfold connectDestroyed; split
  · exact h.trans (h.trans (h.trans (hdown c) (h.updates _ _ _ (by nofun))) (callback_frame h hs _ _ _ (h.emits _ _ rfl)))
      (removeChannel_frame h _)
  · exact removeChannel_frame h c

theorem fireDelay_frame (c : Conn) : R c (fireDelay c) := by
  unfold fireDelay; split
  · exact act_frame h hs _ _ _
  · split
    · exact h.refl c
    · exact h.trans (h.dead c) (h.emits _ _ rfl)

theorem fireN_frame (n : Nat) (c : Conn) : R c (fireN c n) := by
  induction n generalizing c with
  | zero => exact h.refl c
  | succ n ih => exact h.trans (fireDelay_frame h hs c) (ih _)

/-- a functor of the loop's queue runs; what a relation may lack is asked for where `t` needs it -/
theorem runTask_frame (c : Conn) (t : Task) (hc : ∀ c, R c (handleClose c))
    (hsq : ∀ d, t = .sendInLoop d → R c (sendInLoop c d true))
    (hcd : t = .connectDestroyed → R c (connectDestroyed c))
    (hwc : ∀ b, t = .writeComplete b → R c (emit c (.wc (b.resolve c.wcId))))
    (hhw : ∀ b n, t = .highWater b n → R c (emit c (.hwm (b.resolve c.hwmId) n))) : R c (runTask c t) := by
  unfold runTask
  split
  · split
    · exact h.timer _ _
    · split
      · exact h.refl c
      · exact h.trans (h.dead c) (h.emits _ _ rfl)
  · cases t with
    | sendInLoop d => exact hsq d rfl
    | shutdownInLoop => exact shutdownInLoop_frame h _
    | drainShutdownInLoop => exact shutdownInLoop_frame h _
    | forceCloseInLoop => simp only; split; exact hc c; exact h.refl c
    | connectDestroyed => exact hcd rfl
    | writeComplete b => exact callback_frame h hs _ _ _ (hwc b rfl)
    | highWater b n => exact callback_frame h hs _ _ _ (hhw b n rfl)
    | startReadInLoop => exact startReadInLoop_frame h _
    | stopReadInLoop => exact stopReadInLoop_frame h _
    | addDelayTimer d => exact h.timer _ _

/-- `TimerQueue::handleRead`: the expired deadlines leave the list, their callbacks run -/
theorem fireTimers_frame (hl : ∀ c l, R c { c with timers := l }) (c : Conn) : R c (fireTimers c) := by
  unfold fireTimers; exact h.trans (hl c _) (fireN_frame h hs _ _)

omit h hs in
theorem dispatch_inv {P : Conn → Prop} (c : Conn) (s : Src) (hp : P c) (hev : ∀ r, P (handleEvent c r))
    (hft : P (fireTimers c)) : P (dispatch c s) := by
  cases s with
  | conn r => simp only [dispatch]; split; exact hp; exact hev r
  | timer => simp only [dispatch]; split; exact hp; exact hft

theorem dispatch_frame (hc : ∀ c, R c (handleClose c)) (hl : ∀ c l, R c { c with timers := l }) (c : Conn) (s : Src) :
    R c (dispatch c s) :=
  dispatch_inv c s (h.refl c) (handleEvent_frame h hs hc c) (fireTimers_frame h hs hl c)

theorem foldl_dispatch_frame (hc : ∀ c, R c (handleClose c)) (hl : ∀ c l, R c { c with timers := l }) (l : List Src)
    (c : Conn) : R c (l.foldl dispatch c) :=
  foldl_inv (P := R c) l (fun c' s _ hr => h.trans hr (dispatch_frame h hs hc hl c' s)) c (h.refl c)

end

section
variable {P : Conn → Prop}

theorem runBatch_inv (hrun : ∀ c t rest, c.dead = false → c.batch = t :: rest → P c → P (runTask { c with batch := rest } t))
    (n : Nat) (c : Conn) (hp : P c) : P (runBatch n c) := by
  induction n generalizing c with
  | zero => exact hp
  | succ n ih =>
    unfold runBatch; split
    · exact hp
    · rename_i hd
      split
      · exact hp
      · rename_i t rest hb
        exact ih _ (hrun c t rest (by simpa using hd) hb hp)

/-- the queue of functors as the loop will run them -/
def Conn.queue (c : Conn) : List Task := c.batch ++ c.pending

theorem queue_enqueue (c : Conn) (t : Task) : (enqueue c t).queue = c.queue ++ [t] := by
  simp [Conn.queue, enqueue, List.append_assoc]

theorem queue_pop {c : Conn} {t : Task} {rest : List Task} (hb : c.batch = t :: rest) :
    c.queue = t :: ({ c with batch := rest } : Conn).queue := by simp [Conn.queue, hb]

theorem queue_swap (c : Conn) : ({ c with pending := [], batch := c.batch ++ c.pending } : Conn).queue = c.queue := by
  simp [Conn.queue]

/-- the last reference has gone: the owner has let go and no queued functor holds one -/
def Conn.unheld (c : Conn) : Prop :=
  c.alive = true ∧ c.owner = false ∧ c.queue.any Task.strong = false

theorem maybeDestroy_inv {P : Conn → Prop} (c : Conn) (hp : ¬ c.unheld → P c)
    (hab : ∀ s, c.unheld → c.st ≠ .kDisconnected ∨ c.registered = true → P (emit { c with dead := true } (.abort s)))
    (hgo : c.unheld → P (emit (emit { c with alive := false } .sysClose) .destroyed)) : P (maybeDestroy c) := by
  unfold maybeDestroy
  split
  · rename_i hg
    simp only [Bool.and_eq_true, Bool.not_eq_true'] at hg
    have hu : c.unheld := ⟨hg.1.1, hg.1.2, hg.2⟩
    split
    · rename_i h; exact hab _ hu (Or.inl (of_decide_eq_true (Bool.and_eq_true _ _ ▸ h).2))
    · split
      · rename_i h; exact hab _ hu (Or.inr (Bool.and_eq_true _ _ ▸ h).2)
      · exact hgo hu
  · rename_i hg
    simp only [Bool.and_eq_true, Bool.not_eq_true'] at hg
    exact hp fun hu => hg ⟨⟨hu.1, hu.2.1⟩, hu.2.2⟩

theorem maybeDestroy_eq (c : Conn) : ∃ a d s, (a = true → c.alive = true) ∧
    maybeDestroy c = { c with alive := a, dead := d, trace := c.trace ++ s } :=
  maybeDestroy_inv (P := fun c' => ∃ a d s, (a = true → c.alive = true) ∧
      c' = { c with alive := a, dead := d, trace := c.trace ++ s }) c
    (fun _ => ⟨c.alive, c.dead, [], id, by rw [List.append_nil]⟩) (fun _ _ _ => ⟨_, _, _, id, rfl⟩)
    fun _ => ⟨false, c.dead, [.sysClose, .destroyed], nofun, by simp only [emit, List.append_assoc]; rfl⟩

theorem iter_inv (hd : ∀ c s, P c → P (dispatch c s))
    (hswap : ∀ c, P c → P { c with pending := [], batch := c.batch ++ c.pending })
    (hrun : ∀ c t rest, c.dead = false → c.batch = t :: rest → P c → P (runTask { c with batch := rest } t))
    (hm : ∀ c, P c → P (maybeDestroy c)) (c : Conn) (a : List Src) (hp : P c) : P (iter c a) := by
  have h1 : P (drainPending (a.foldl dispatch c)) :=
    runBatch_inv hrun _ _ (hswap _ (foldl_inv a (fun c s _ => hd c s) c hp))
  unfold iter; split
  · exact hp
  · simp only; split
    · exact h1
    · exact hm _ h1

end

end MuduoVerif.Conn
