import MuduoVerif.Proofs.RpcCall
/-! `CallInv` through the RESPONSE branch and the completion, through everything else (which is foreign to it:
`SameCalls`), and so in every reachable state. -/
namespace MuduoVerif.Rpc
open MuduoVerif.Gen.Rpc

theorem CallInv.found {s : Chan} (inv : CallInv s) {m : Msg} {k : Nat} (hp : s.pending = none)
    (hl : lookup m.id s.outstanding = some k) :
    CallInv { s with outstanding := eraseKey m.id s.outstanding, pending := some (k, m), log := .arrived m :: s.log } := by
  -- `k` moves from `out` to `pend`; the erased key is `idOf k`, which no other registered call has (`inj`)
  obtain ⟨hid, hreg, hr0, hf0, _⟩ := inv.out m.id k hl
  have hr : ∀ j, ranCount j (Ev.arrived m :: s.log) = ranCount j s.log := fun j => ranCount_cons_of_false j _ _ rfl
  have hf : ∀ j, freeCount j (Ev.arrived m :: s.log) = freeCount j s.log := fun j => freeCount_cons_of_false j _ _ rfl
  have hpk : ∀ {j : Nat} {m' : Msg}, some (k, m) = some (j, m') → k = j ∧ m = m' := fun h => by cases h; exact ⟨rfl, rfl⟩
  constructor <;> simp only [hr, hf, Registered]
  · exact inv.born
  · exact inv.alive
  · exact inv.idpos
  · exact inv.inj
  · exact inv.noSentOnly
  · intro i j hlj
    rw [lookup_eraseKey] at hlj
    split at hlj
    · cases hlj
    next hne =>
      obtain ⟨a, b, c, d, _⟩ := inv.out i j hlj
      exact ⟨a, b, c, d, fun m' h => hne (a.symm.trans ((hpk h).1 ▸ hid))⟩
  · intro j m' hpj
    obtain ⟨rfl, rfl⟩ := hpk hpj
    exact ⟨hid.symm, hreg, List.mem_cons_self, hr0, hf0⟩
  · exact inv.once
  · intro j hj
    obtain ⟨a, b, _⟩ := inv.fresh j hj
    exact ⟨a, b, fun m' h => hj ((hpk h).1 ▸ hreg)⟩
  · intro j i v he
    obtain ⟨a, m', b, c⟩ := inv.own j i v (by simpa using he)
    exact ⟨a, m', List.mem_cons_of_mem _ b, c⟩
  · intro j hj hrj hpj
    have hjk : j ≠ k := fun h => hpj m (h ▸ rfl)
    rw [lookup_eraseKey, if_neg (fun h => hjk (inv.inj j k (inv.lt_of_registered hj) (inv.lt_of_registered hreg) (h.trans hid.symm)))]
    exact inv.reg j hj hrj (by simp [hp])
  · exact fun i j he => inv.wire i j (by simpa using he)

theorem CallInv.completion {s : Chan} (inv : CallInv s) {k : Nat} {m : Msg} (hp : s.pending = some (k, m)) :
    CallInv { s with pending := none
                     log := .free (.resp k) :: .ran k m.id (view m) ::
                              ((if m.payload.isSome then [.parse k] else []) ++ s.log) } := by
  obtain ⟨hid, hreg, harr, hr0, hf0⟩ := inv.pend k m hp
  -- the counts of `k` go from 0 (`pend`) to 1, those of every other call stay
  have hc := fun j => counts_finish k j m.id (view m) m.payload.isSome s.log
  have hmem : ∀ e, e ∈ s.log → e ∈ Ev.free (.resp k) :: Ev.ran k m.id (view m) ::
      ((if m.payload.isSome then [Ev.parse k] else []) ++ s.log) := fun e he => by simp [he]
  constructor <;> simp only [fun j => (hc j).1, fun j => (hc j).2]
  · exact inv.born
  · exact inv.alive
  · exact inv.idpos
  · exact inv.inj
  · exact inv.noSentOnly
  · intro i j hl
    obtain ⟨a, b, c, d, e⟩ := inv.out i j hl
    have hjk : j ≠ k := fun h => e m (h ▸ hp)
    exact ⟨a, b, by simp [hjk, c], by simp [hjk, d], by simp⟩
  · intro j m' h; cases h
  · intro j
    by_cases h : j = k
    · subst h; simp [hr0, hf0]
    · simpa [h] using inv.once j
  · intro j hj
    have hjk : j ≠ k := fun h => hj (h ▸ hreg)
    obtain ⟨a, b, _⟩ := inv.fresh j hj
    exact ⟨by simp [hjk, a], by simp [hjk, b], by simp⟩
  · intro j i v he
    have : (j = k ∧ i = m.id ∧ v = view m) ∨ Ev.ran j i v ∈ s.log := by
      cases h : m.payload.isSome <;> simpa [h] using he
    rcases this with ⟨rfl, rfl, rfl⟩ | h
    · exact ⟨hid, m, hmem _ harr, rfl, rfl⟩
    · obtain ⟨a, m', b, c⟩ := inv.own j i v h
      exact ⟨a, m', hmem _ b, c⟩
  · intro j hj hrj _
    have hjk : j ≠ k := by intro h; subst h; simp at hrj
    refine inv.reg j hj (by simpa [hjk] using hrj) (fun m' e => ?_)
    rw [hp] at e; cases e; exact hjk rfl
  · intro i j he
    exact inv.wire i j (by cases h : m.payload.isSome <;> simpa [h] using he)

/-- what a step may do that is none of the caller side's business -/
structure SameCalls (s s' : Chan) : Prop where
  log : ∃ evs, s'.log = evs ++ s.log ∧ ∀ e ∈ evs, e.foreign = true
  counter : s'.counter = s.counter
  outstanding : s'.outstanding = s.outstanding
  stage : s'.stage = s.stage
  idOf : s'.idOf = s.idOf
  pending : s'.pending = s.pending
  nextCall : s'.nextCall = s.nextCall

theorem CallInv.same {s s' : Chan} (inv : CallInv s) (h : SameCalls s s') : CallInv s' := by
  obtain ⟨⟨evs, hlog, hev⟩, h1, h2, h3, h4, h5, h6⟩ := h
  have hr : ∀ k, ranCount k s'.log = ranCount k s.log := fun k => by
    rw [hlog]; exact countP_append_of_false _ (fun e he => isRan_foreign k (hev e he)) _
  have hf : ∀ k, freeCount k s'.log = freeCount k s.log := fun k => by
    rw [hlog]; exact countP_append_of_false _ (fun e he => isFreeResp_foreign k (hev e he)) _
  have hmem : ∀ e, e ∈ s.log → e ∈ s'.log := fun e he => by rw [hlog]; exact List.mem_append_right _ he
  have hmem' : ∀ e, e.foreign = false → e ∈ s'.log → e ∈ s.log := fun e hfe he => by
    rw [hlog] at he
    exact (List.mem_append.mp he).resolve_left (fun h => by simp [hev e h] at hfe)
  constructor <;> simp only [Registered, h1, h2, h3, h4, h5, h6, hr, hf]
  · exact inv.born
  · exact inv.alive
  · exact inv.idpos
  · exact inv.inj
  · exact inv.noSentOnly
  · exact inv.out
  · exact fun k m hp => let ⟨a, b, c, d⟩ := inv.pend k m hp; ⟨a, b, hmem _ c, d⟩
  · exact inv.once
  · exact inv.fresh
  · exact fun k i v he => let ⟨a, m, b, c⟩ := inv.own k i v (hmem' _ rfl he); ⟨a, m, hmem _ b, c⟩
  · exact inv.reg
  · exact fun i k he => inv.wire i k (hmem' _ rfl he)

theorem SameCalls.logs {s : Chan} (evs : List Ev) (h : ∀ e ∈ evs, e.foreign = true) (cl : List (Nat × Nat × Nat))
    (rq : Nat → Option Msg) (n : Nat) (hl : Bool) :
    SameCalls s { s with closures := cl, reqs := rq, nextReq := n, halted := hl, log := evs ++ s.log } :=
  ⟨⟨evs, rfl, h⟩, rfl, rfl, rfl, rfl, rfl, rfl⟩

theorem CallInv.trans {s s' : Chan} {a : Act} (inv : CallInv s) (h : Trans s a s') : CallInv s' := by
  cases h with
  | callBegin => exact inv.callBegin
  | callInsert k hst => exact inv.callInsert hst
  | callSend k hst => exact inv.callSend hst
  | abort m => exact inv.same (.logs [.abort, .arrived m] (by simp [Ev.foreign]) _ _ _ _)
  | ignore m => exact inv.same (.logs [.arrived m] (by simp [Ev.foreign]) _ _ _ _)
  | found m k hp _ hl => exact inv.found hp hl
  | request m _ ht =>
    rw [List.append_cons]
    exact inv.same (.logs _ (fun e he => foreign_of_srvSide (served_srvSide ht e he)) _ _ _ _)
  | finish k m hp => exact inv.completion hp
  | fire r c => exact inv.same (.logs [.free (.srvResp r), .reply r c.2.1 (some c.2.2) none] (by simp [Ev.foreign]) _ _ _ _)
  | stale r => exact inv.same (.logs [.uaf (.closure r)] (by simp [Ev.foreign]) _ _ _ _)

theorem CallInv.run (asserts hs : Bool) (acts : List Act) : CallInv (run asserts hs acts) :=
  run_induct asserts hs (CallInv.init asserts hs) CallInv.trans acts

/-! ### `CallInv` across the function `finish` (the proofs go by the relation `Trans`); no proof uses it -/

theorem CallInv.finish {s : Chan} (inv : CallInv s) : CallInv (finish s) := by
  rcases finish_trans s with h | h
  · rw [h]; exact inv
  · exact inv.trans h

end MuduoVerif.Rpc
