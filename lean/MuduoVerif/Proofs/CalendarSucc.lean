import MuduoVerif.Proofs.CalendarE
/-!
Consecutive days: `nextDay` (the calendar's own successor rule) corresponds to `+ 1` on day
numbers, so `ymdE` enumerates the proleptic Gregorian calendar day by day — for every
integer day number (core Lean only).
-/
namespace MuduoVerif.CalendarE

theorem daysInMonth_ge (y m : Int) : 28 ≤ daysInMonth y m := by
  unfold daysInMonth
  repeat' split
  all_goals omega

theorem nextDay_valid (x : Civil) (hv : x.valid) : (nextDay x).valid := by
  obtain ⟨h1, h2, h3, h4⟩ := hv
  unfold nextDay
  split
  · exact ⟨h1, h2, by simp only; omega, by simp only; omega⟩
  · split
    · have := daysInMonth_ge x.year (x.month + 1)
      exact ⟨by simp only; omega, by simp only; omega, Int.le_refl 1, by simp only; omega⟩
    · have := daysInMonth_ge (x.year + 1) 1
      exact ⟨by simp only; omega, by simp only; omega, Int.le_refl 1, by simp only; omega⟩

theorem jdnE_day_step (y m d : Int) : jdnE y m (d + 1) = jdnE y m d + 1 := by
  simp only [jdnE]; omega

theorem jdnE_year_step (y : Int) : jdnE (y + 1) 1 1 = jdnE y 12 31 + 1 := by
  simp only [jdnE]; omega

theorem jdnE_month_step (y m : Int) (h1 : 1 ≤ m) (h2 : m < 12) :
    jdnE y (m + 1) 1 = jdnE y m (daysInMonth y m) + 1 := by
  obtain ⟨Y, M, h0, h11, rfl, rfl⟩ := march_coords y m h1 (by omega)
  rw [jdnE_march Y M _ h0 h11]
  by_cases hM : M = 11
  · -- February to March: the next year of the algorithm begins
    subst hM
    have := jdnE_march (Y + 1) 0 1 (by decide) (by decide)
    have f := feb_length Y
    simp only [Int.reduceDiv, Int.reduceMul, Int.reduceAdd, Int.reduceSub, Int.add_zero, monthStart] at this f ⊢
    rw [show Y - 4800 + 1 = Y + 1 - 4800 by omega, this, show Y + 1 - 4800 = Y - 4799 by omega]
    omega
  · have := jdnE_march Y (M + 1) 1 (by omega) (by omega)
    rw [show (M + 1) / 10 = M / 10 by omega] at this
    rw [show M + 3 - 12 * (M / 10) + 1 = M + 1 + 3 - 12 * (M / 10) by omega, this, month_length _ M h0 (by omega)]
    omega

theorem jdnE_nextDay (x : Civil) (hv : x.valid) : (nextDay x).jdn = x.jdn + 1 := by
  obtain ⟨y, m, d⟩ := x
  simp only [Civil.valid, validDate] at hv
  simp only [Civil.jdn, nextDay]
  split
  · exact jdnE_day_step y m d
  · split
    · have : d = daysInMonth y m := by omega
      subst this
      exact jdnE_month_step y m hv.1 (by assumption)
    · have hm : m = 12 := by omega
      subst hm
      have : d = 31 := by
        have := hv.2.2.2
        simp (decide := true) only [daysInMonth, if_false] at this
        rename_i h _
        simp (decide := true) only [daysInMonth, if_false] at h
        omega
      subst this
      exact jdnE_year_step y

theorem ymdE_succ (j : Int) : ymdE (j + 1) = nextDay (ymdE j) := by
  obtain ⟨hv, hj⟩ := jdn_ymd_all j
  have h1 := jdnE_nextDay (ymdE j) hv
  have h2 := nextDay_valid (ymdE j) hv
  have h3 := ymd_jdn_all _ _ _ h2
  rw [hj] at h1
  simp only [Civil.jdn] at h1
  rw [h1] at h3
  exact h3

theorem ymdE_civilFrom (j : Int) (n : Nat) : ymdE (j + n) = civilFrom (ymdE j) n := by
  induction n with
  | zero => simp [civilFrom]
  | succ n ih =>
    have : j + ((n + 1 : Nat) : Int) = (j + n) + 1 := by omega
    rw [this, ymdE_succ, ih, civilFrom]

theorem jdnE_injective (y m d y' m' d' : Int) (h : validDate y m d) (h' : validDate y' m' d')
    (he : jdnE y m d = jdnE y' m' d') : y = y' ∧ m = m' ∧ d = d' := by
  have h1 := ymd_jdn_all y m d h
  have h2 := ymd_jdn_all y' m' d' h'
  rw [he, h2] at h1
  simp only [Civil.mk.injEq] at h1
  omega

end MuduoVerif.CalendarE
