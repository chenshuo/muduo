import MuduoVerif.Model.Zone
/-!
Lemmas about the zone look-ups (C20): the libstdc++ binary search returns the partition point of a
sorted key, the UTC look-up returns the record of the last transition `≤ t`, and the local look-up
finds that record again (on the right side of a repeated hour) for well-formed zone data.

The generated guards (`Gen.Zone.*`) are unfolded here, so these proofs are re-checked against
whatever /repo's `findLocalTime` says now.
-/
namespace MuduoVerif.Zone
open MuduoVerif.Gen.Zone

theorem searchLoop_upper (key : Nat → Int) (less : Int → Int → Bool) (v : Int) (r : Nat) :
    ∀ fuel first len, len ≤ fuel → first ≤ r → r ≤ first + len → (∀ i, first ≤ i → i < r → less v (key i) = false) →
      (∀ i, r ≤ i → i < first + len → less v (key i) = true) → searchLoop true key less v fuel first len = r := by
  intro fuel
  induction fuel with
  | zero => intro first len hl h1 h2 _ _; simp only [searchLoop]; omega
  | succ fuel ih =>
    intro first len hl h1 h2 lo hi
    simp only [searchLoop, if_true]
    by_cases h0 : len = 0
    · rw [if_pos h0]; omega
    · rw [if_neg h0]
      by_cases hm : first + len / 2 < r
      · rw [lo _ (by omega) hm]
        exact ih (first + len / 2 + 1) (len - len / 2 - 1) (by omega) (by omega) (by omega)
          (fun i a b => lo i (by omega) b) (fun i a b => hi i a (by omega))
      · rw [hi (first + len / 2) (by omega) (by omega)]
        exact ih first (len / 2) (by omega) h1 (by omega) lo (fun i a b => hi i a (by omega))

theorem mono_of_step (key : Nat → Int) (n : Nat) (h : ∀ i, i + 1 < n → key i ≤ key (i + 1)) :
    ∀ i j, i ≤ j → j < n → key i ≤ key j := by
  intro i j hij hj
  induction hij with
  | refl => exact Int.le_refl _
  | step _ ih => exact Int.le_trans (ih (by omega)) (h _ hj)

theorem search_upper_eq (key : Nat → Int) (v : Int) (n k : Nat)
    (hs : ∀ i, i + 1 < n → key i ≤ key (i + 1)) (hk : k < n) (h1 : key k ≤ v)
    (h2 : k + 1 < n → v < key (k + 1)) :
    search true key (fun a b => decide (a < b)) v n = k + 1 := by
  have hm := mono_of_step key n hs
  exact searchLoop_upper key _ v (k + 1) n 0 n (Nat.le_refl _) (by omega) (by omega)
    (fun i _ hi => decide_eq_false (by have := hm i k (by omega) hk; omega))
    (fun i hi hn => decide_eq_true (by have := hm (k + 1) i hi (by omega); have := h2 (by omega); omega))

theorem oPrev_pos (d : Data) (i : Nat) (hi : 0 < i) : d.oPrev i = d.o (i - 1) := by
  unfold Data.oPrev; rw [if_neg (by omega)]

theorem oPrev_zero (d : Data) : d.oPrev 0 = (d.lt 0).utcOffset := rfl

theorem oPrev_succ (d : Data) (k : Nat) : d.oPrev (k + 1) = d.o k := rfl

theorem prevRec_zero (d : Data) : d.prevRec 0 = d.lt 0 := rfl

theorem prevRec_succ (d : Data) (k : Nat) : d.prevRec (k + 1) = d.lrec k := rfl

theorem prevRec_offset (d : Data) (i : Nat) : (d.prevRec i).utcOffset = d.oPrev i := by
  unfold Data.prevRec Data.oPrev; split <;> rfl

theorem chg_bounds (d : Data) (i : Nat) : 0 ≤ d.chg i ∧ d.o i - d.oPrev i ≤ d.chg i ∧ d.oPrev i - d.o i ≤ d.chg i := by
  unfold Data.chg; split <;> omega

theorem WF.gap {d : Data} (h : WF d) (i : Nat) (hi : i + 1 < d.n) :
    d.chg i + d.chg (i + 1) < d.u (i + 1) - d.u i ∧ 0 ≤ d.chg i ∧ d.o i - d.oPrev i ≤ d.chg i ∧ d.oPrev i - d.o i ≤ d.chg i ∧
      0 ≤ d.chg (i + 1) ∧ d.o (i + 1) - d.o i ≤ d.chg (i + 1) ∧ d.o i - d.o (i + 1) ≤ d.chg (i + 1) := by
  have := chg_bounds d (i + 1)
  rw [oPrev_pos d (i + 1) (by omega), Nat.add_sub_cancel] at this
  have := chg_bounds d i
  have := h.2 i (by omega)
  omega

theorem WF.fixed {d : Data} (hn : d.n = 0) : WF d :=
  ⟨fun i hi => absurd hi (by omega), fun i hi => absurd hi (by omega)⟩

theorem WF.u_lt {d : Data} (h : WF d) (i : Nat) (hi : i + 1 < d.n) : d.u i < d.u (i + 1) := by
  have := h.gap i hi; omega

theorem WF.loc {d : Data} (h : WF d) (i : Nat) (hi : i < d.n) : (d.tr i).localtime = d.u i + d.o i := h.1 i hi

theorem WF.l_lt {d : Data} (h : WF d) (i : Nat) (hi : i + 1 < d.n) :
    d.u i + d.o i < d.u (i + 1) + d.o (i + 1) := by
  have := h.gap i hi; omega

theorem WF.u_mono {d : Data} (h : WF d) : ∀ i j, i ≤ j → j < d.n → d.u i ≤ d.u j :=
  mono_of_step d.u d.n (fun i hi => Int.le_of_lt (h.u_lt i hi))

theorem WF.l_mono {d : Data} (h : WF d) : ∀ i j, i ≤ j → j < d.n → d.u i + d.o i ≤ d.u j + d.o j :=
  mono_of_step (fun i => d.u i + d.o i) d.n (fun i hi => Int.le_of_lt (h.l_lt i hi))

/-- the index of the transition in force at `t`: the last one with `u k ≤ t` -/
def InEra (d : Data) (k : Nat) (t : Int) : Prop := k < d.n ∧ d.u k ≤ t ∧ (k + 1 < d.n → t < d.u (k + 1))

instance (d : Data) (k : Nat) (t : Int) : Decidable (InEra d k t) := by unfold InEra; infer_instance

/-- `t` lies in era `e` of `0 .. n`: not before transition `e - 1` and before transition `e`, as far as there are such;
`oPrev e` / `prevRec e` are in force there.  Era 0 is the time before the first transition (all time, for a table without
transitions: `TimeZone(eastOfUtc, name)`, `Etc/GMT+5`, …), era `k + 1` is `InEra d k`. -/
def Era (d : Data) (e : Nat) (t : Int) : Prop := e ≤ d.n ∧ (0 < e → d.u (e - 1) ≤ t) ∧ (e < d.n → t < d.u e)

theorem InEra.era {d : Data} {k : Nat} {t : Int} (h : InEra d k t) : Era d (k + 1) t := ⟨h.1, fun _ => h.2.1, h.2.2⟩

theorem Era.zero {d : Data} {t : Int} (h : 0 < d.n → t < d.u 0) : Era d 0 t :=
  ⟨Nat.zero_le _, fun h0 => absurd h0 (Nat.lt_irrefl 0), h⟩

theorem Era.inEra {d : Data} {k : Nat} {t : Int} (h : Era d (k + 1) t) : InEra d k t := ⟨h.1, h.2.1 (Nat.succ_pos k), h.2.2⟩

theorem utcBound_eq {d : Data} (h : WF d) {k : Nat} {t : Int} (hk : InEra d k t) : utcBound d t = k + 1 := by
  obtain ⟨h1, h2, h3⟩ := hk
  have hu : utcSearchUpper = true := by decide
  simp only [utcBound, hu, cmpUtc]
  exact search_upper_eq (fun i => (d.tr i).utctime) t d.n k
    (fun i hi => Int.le_of_lt (h.u_lt i hi)) h1 h2 h3

theorem findUtc_era {d : Data} (h : WF d) {e : Nat} {t : Int} (he : Era d e t) : findUtc d t = d.prevRec e := by
  cases e with
  | zero =>
    have : d.n = 0 ∨ t < (d.tr 0).utctime := (Nat.eq_zero_or_pos d.n).imp_right he.2.2
    simp only [findUtc, utcUseFirst, this, if_true, prevRec_zero]
  | succ k =>
    have hb := utcBound_eq h he.inEra
    obtain ⟨h1, h2, h3⟩ := he.inEra
    have h0 : d.u 0 ≤ t := Int.le_trans (h.u_mono 0 k (Nat.zero_le _) h1) h2
    have hn : ¬ (d.n = 0 ∨ t < (d.tr 0).utctime) := by
      have : (d.tr 0).utctime = d.u 0 := rfl
      omega
    simp only [findUtc, utcUseFirst, hn, if_false, hb, utcInside, prevRec_succ]
    by_cases he : k + 1 = d.n
    · have : d.n - 1 = k := by omega
      simp only [he, ne_eq, not_true_eq_false, if_false, this]
    · simp only [ne_eq, he, not_false_eq_true, if_true, Nat.add_sub_cancel]

theorem exists_era {d : Data} (t : Int) (hn : 0 < d.n) (ht : d.u 0 ≤ t) : ∃ k, InEra d k t := by
  -- the last index whose transition is ≤ t
  have key : ∀ m, m < d.n → ∃ k, k ≤ m ∧ d.u k ≤ t ∧ (k < m → t < d.u (k + 1)) := by
    intro m
    induction m with
    | zero => intro _; exact ⟨0, Nat.le_refl _, ht, fun hh => absurd hh (Nat.lt_irrefl _)⟩
    | succ m ih =>
      intro hm
      obtain ⟨k, a, b, c⟩ := ih (by omega)
      by_cases hc : d.u (m + 1) ≤ t
      · exact ⟨m + 1, Nat.le_refl _, hc, fun hh => absurd hh (Nat.lt_irrefl _)⟩
      · refine ⟨k, by omega, b, ?_⟩
        intro hk
        by_cases hkm : k < m
        · exact c hkm
        · have : k = m := by omega
          subst this; omega
  obtain ⟨k, a, b, c⟩ := key (d.n - 1) (by omega)
  exact ⟨k, by omega, b, fun hh => c (by omega)⟩

theorem era_unique {d : Data} (h : WF d) {k k' : Nat} {t : Int} (hk : InEra d k t) (hk' : InEra d k' t) : k = k' := by
  obtain ⟨a1, a2, a3⟩ := hk
  obtain ⟨b1, b2, b3⟩ := hk'
  by_cases h1 : k < k'
  · have := h.u_mono (k + 1) k' (by omega) b1
    have := a3 (by omega)
    omega
  · by_cases h2 : k' < k
    · have := h.u_mono (k' + 1) k (by omega) a1
      have := b3 (by omega)
      omega
    · omega

theorem localBound_eq {d : Data} (h : WF d) {k : Nat} {L : Int} (hk : k < d.n) (h1 : d.u k + d.o k ≤ L)
    (h2 : k + 1 < d.n → L < d.u (k + 1) + d.o (k + 1)) : localBound d L = k + 1 := by
  have hu : localSearchUpper = true := by decide
  simp only [localBound, hu, cmpLocal]
  refine search_upper_eq (fun i => (d.tr i).localtime) L d.n k ?_ hk ?_ ?_
  · intro i hi
    simp only [h.loc i (by omega), h.loc (i + 1) hi]
    exact Int.le_of_lt (h.l_lt i hi)
  · simp only [h.loc k hk]; exact h1
  · intro hh; simp only [h.loc (k + 1) hh]; exact h2 hh

/-- **what `findLocal` does**, all generated guards unfolded, for a local time `L` between the local starts of the eras
`e - 1` and `e` (so the upper bound of the local search is `e`): `L` was skipped by transition `e`, or repeated by
transition `e - 1`, or is plain. -/
theorem findLocal_at {d : Data} (h : WF d) {e : Nat} {L : Int} (post : Bool) (he : e ≤ d.n)
    (h1 : 0 < e → d.u (e - 1) + d.o (e - 1) ≤ L) (h2 : e < d.n → L < d.u e + d.o e) :
    findLocal d L post =
      if e < d.n ∧ d.u e - 1 + d.oPrev e < L then (if post then d.lrec e else d.prevRec e)
      else if 0 < e ∧ L ≤ d.u (e - 1) - 1 + d.oPrev (e - 1) then (if post then d.prevRec e else d.prevRec (e - 1))
      else d.prevRec e := by
  have eu : ∀ i, (d.tr i).utctime = d.u i := fun _ => rfl
  cases e with
  | zero =>
    -- before the first transition's own local start the code does not search
    have hf : d.n = 0 ∨ L < (d.tr 0).localtime :=
      (Nat.eq_zero_or_pos d.n).imp_right fun hn => by rw [h.loc 0 hn]; exact h2 hn
    simp only [findLocal, localUseFirst, hf, if_true, firstSkipPost, eu, Nat.lt_irrefl, false_and, if_false, prevRec_zero,
      oPrev_zero, Nat.pos_iff_ne_zero]
    cases post <;> simp
  | succ k =>
    have hk : k < d.n := he
    have h1 := h1 (Nat.succ_pos k)
    simp only [Nat.add_sub_cancel] at h1 ⊢
    have hb := localBound_eq h hk h1 h2
    have hf : ¬ (d.n = 0 ∨ L < (d.tr 0).localtime) := by
      have := h.l_mono 0 k (Nat.zero_le _) hk
      have := h.loc 0 (by omega)
      omega
    have eo : ∀ i, (d.lrec i).utcOffset = d.o i := fun _ => rfl
    simp only [findLocal, localUseFirst, hf, if_false, hb, localAfterLast, Nat.add_sub_cancel, priorSecond,
      priorSecond2, priorSecondFirst, priorIdxFirst, isSkip, isRepeat, hasPrior, eu, eo, decide_eq_true_eq, prevRec_succ,
      oPrev_succ, Nat.succ_pos, true_and]
    by_cases he : k + 1 = d.n
    · simp only [he, if_true, not_true_eq_false, false_and, if_false, Nat.lt_irrefl]
      by_cases hk0 : k = 0
      · subst hk0
        simp only [ne_eq, not_true_eq_false, if_false, Data.oPrev, Data.prevRec, if_true]
      · simp only [ne_eq, hk0, not_false_eq_true, if_true, Data.oPrev, Data.prevRec, if_false]
    · have hlt : k + 1 < d.n := by omega
      simp only [he, if_false, not_false_eq_true, true_and, hlt]
      by_cases hs : d.u (k + 1) - 1 + d.o k < L
      · simp only [hs, if_true]
      · simp only [hs, if_false]
        by_cases hk0 : k = 0
        · subst hk0
          simp only [ne_eq, not_true_eq_false, if_false, Data.oPrev, Data.prevRec, if_true]
        · simp only [ne_eq, hk0, not_false_eq_true, if_true, Data.oPrev, Data.prevRec, if_false]

/-- `t` (in era `k`) lies in the local period that transition `k` made occur a second time: it is the
**later** of the two instants with this local time -/
def LaterCopy (d : Data) (k : Nat) (t : Int) : Prop := t + d.o k < d.u k + d.oPrev k

/-- `t` (in era `k`) lies in the local period that transition `k+1` will repeat: it is the
**earlier** of the two instants with this local time -/
def EarlierCopy (d : Data) (k : Nat) (t : Int) : Prop := k + 1 < d.n ∧ d.u (k + 1) + d.o (k + 1) ≤ t + d.o k

instance (d : Data) (k : Nat) (t : Int) : Decidable (LaterCopy d k t) := by unfold LaterCopy; infer_instance
instance (d : Data) (k : Nat) (t : Int) : Decidable (EarlierCopy d k t) := by unfold EarlierCopy; infer_instance

/-- the same two notions for an instant of era `e` of `0 .. n`: transition `e` will repeat its local time / transition
`e - 1` has made it occur a second time (`Early d (k + 1) t` is `EarlierCopy d k t`, `Late d (k + 1) t` is `LaterCopy d k t`) -/
def Early (d : Data) (e : Nat) (t : Int) : Prop := e < d.n ∧ d.u e + d.o e ≤ t + d.oPrev e

def Late (d : Data) (e : Nat) (t : Int) : Prop := 0 < e ∧ t + d.oPrev e < d.u (e - 1) + d.oPrev (e - 1)

instance (d : Data) (e : Nat) (t : Int) : Decidable (Early d e t) := by unfold Early; infer_instance
instance (d : Data) (e : Nat) (t : Int) : Decidable (Late d e t) := by unfold Late; infer_instance

theorem early_succ {d : Data} {k : Nat} {t : Int} : Early d (k + 1) t ↔ EarlierCopy d k t := Iff.rfl

theorem late_succ {d : Data} {k : Nat} {t : Int} : Late d (k + 1) t ↔ LaterCopy d k t := and_iff_right (Nat.succ_pos k)

/-- under well-formedness no local time occurs three times -/
theorem not_early_and_late {d : Data} (h : WF d) {e : Nat} {t : Int} (he : Era d e t) : ¬ (Early d e t ∧ Late d e t) := by
  rintro ⟨⟨a1, a2⟩, b1, b2⟩
  obtain ⟨k, rfl⟩ : ∃ k, e = k + 1 := ⟨e - 1, by omega⟩
  have := h.gap k a1
  have := he.2.2 a1
  rw [oPrev_succ, Nat.add_sub_cancel] at *
  omega

/-- **the local look-up finds the era again**: for the local time of an instant `t` of era `e`,
`findLocalTime(local, post)` returns the record of era `e` — on side `post = false` when `t` is the
earlier instant of a repeated period (side `true` gives the era after it), on side `post = true` when
it is the later one (side `false` gives the era before it), on both sides otherwise. -/
theorem findLocal_era {d : Data} (h : WF d) {e : Nat} {t : Int} (he : Era d e t) (post : Bool) :
    findLocal d (t + d.oPrev e) post =
      if Early d e t then (if post then d.lrec e else d.prevRec e)
      else if Late d e t then (if post then d.prevRec e else d.prevRec (e - 1))
      else d.prevRec e := by
  obtain ⟨h1, h2, h3⟩ := he
  by_cases hc : Early d e t
  · -- the local time belongs to the range of era `e + 1`, where transition `e` repeats it
    obtain ⟨e1, e2⟩ := hc
    have := h3 e1
    have g := h.gap e
    have hx : ¬ (e + 1 < d.n ∧ d.u (e + 1) - 1 + d.o e < t + d.oPrev e) := fun ⟨hh, _⟩ => by have := g hh; omega
    have hy : t + d.oPrev e ≤ d.u e - 1 + d.oPrev e := by omega
    rw [findLocal_at (e := e + 1) h post e1 (fun _ => e2) (fun hh => by have := g hh; omega)]
    simp only [Nat.add_sub_cancel, oPrev_succ, prevRec_succ, hx, if_false, Nat.succ_pos, hy, and_self, if_true, Early, e1, e2]
  · have hb : e < d.n → t + d.oPrev e < d.u e + d.o e := fun hh => by unfold Early at hc; omega
    have hx : ¬ (e < d.n ∧ d.u e - 1 + d.oPrev e < t + d.oPrev e) := fun ⟨hh, _⟩ => by have := h3 hh; omega
    have hl : (0 < e ∧ t + d.oPrev e ≤ d.u (e - 1) - 1 + d.oPrev (e - 1)) ↔ Late d e t := by unfold Late; omega
    rw [findLocal_at h post h1 (fun h0 => by have := h2 h0; rw [oPrev_pos d e h0]; omega) hb]
    simp only [hx, if_false, hc, hl]

/-- **skipped local times**: a local time that transition `e` jumped over (it lies between the last local second before
the transition and the first one after it) is resolved with the offset of the requested side of that transition. -/
theorem findLocal_skipped {d : Data} (h : WF d) {e : Nat} {L : Int} (he : e < d.n)
    (hL1 : d.u e + d.oPrev e ≤ L) (hL2 : L < d.u e + d.o e) (post : Bool) :
    findLocal d L post = if post then d.lrec e else d.prevRec e := by
  rw [findLocal_at h post (Nat.le_of_lt he) (fun h0 => by
    obtain ⟨k, rfl⟩ : ∃ k, e = k + 1 := ⟨e - 1, by omega⟩
    have := h.u_lt k he
    rw [oPrev_succ] at hL1; rw [Nat.add_sub_cancel]; omega) (fun _ => hL2)]
  rw [if_pos ⟨he, by omega⟩]

/-! ### conversion to local time and back

The calendar enters through one hypothesis: breaking the local second down and putting it together again gives it back
(`C20.break_roundtrip` supplies it from -4800-03-01 on). -/
open MuduoVerif.Gen.Calendar

theorem fromLocal_toLocal_of (d : Data) (t : Int) (post : Bool) {o : Int} (ho : (findUtc d t).utcOffset = o)
    (hbr : fromUtcTime (BreakTime (t + o)) = t + o) :
    fromLocalTime d (toLocalTime d t).1 post = t + o - (findLocal d (t + o) post).utcOffset := by
  subst ho
  simp only [fromLocalTime, toLocalTime, toLocalShift, fromLocalShift]
  rw [hbr]

/-- the round trip for an instant of any era `e` of `0 .. n` (`Era`, `Early`, `Late`): an era behind a transition, the
time before the first, a table without any -/
theorem era_roundtrip (d : Data) (h : WF d) (e : Nat) (t : Int) (he : Era d e t)
    (hbr : fromUtcTime (BreakTime (t + d.oPrev e)) = t + d.oPrev e) :
    let back := fun post => fromLocalTime d (toLocalTime d t).1 post
    (Early d e t → back false = t ∧ back true = t + d.oPrev e - d.o e ∧ d.u e ≤ back true) ∧
    (Late d e t → back true = t ∧ back false = t + d.oPrev e - d.oPrev (e - 1) ∧ back false < d.u (e - 1)) ∧
    (¬ Early d e t → ¬ Late d e t → ∀ post, back post = t) := by
  intro back
  -- both look-ups are known by the era (`findUtc_era`, `findLocal_era`); what is left is arithmetic on the offsets
  have hb : ∀ post, back post = t + d.oPrev e - (findLocal d (t + d.oPrev e) post).utcOffset := fun post =>
    fromLocal_toLocal_of d t post ((congrArg _ (findUtc_era h he)).trans (prevRec_offset d e)) hbr
  have eo : (d.lrec e).utcOffset = d.o e := rfl
  refine ⟨fun hc => ?_, fun hl => ?_, fun hc hl post => ?_⟩
  · have hl : ¬ Late d e t := fun hl => not_early_and_late h he ⟨hc, hl⟩
    simp only [hb, findLocal_era h he, hc, if_true, Bool.false_eq_true, if_false, eo, prevRec_offset]
    have := hc.2
    refine ⟨?_, ?_, ?_⟩ <;> first | trivial | omega
  · have hc : ¬ Early d e t := fun hc => not_early_and_late h he ⟨hc, hl⟩
    simp only [hb, findLocal_era h he, hc, hl, if_true, Bool.false_eq_true, if_false, prevRec_offset]
    have := hl.2
    refine ⟨?_, ?_, ?_⟩ <;> first | trivial | omega
  · simp only [hb, findLocal_era h he, hc, hl, if_false, prevRec_offset]
    omega

theorem era_skipped (d : Data) (h : WF d) (e : Nat) (dt : DateTime) (he : e < d.n)
    (h1 : d.u e + d.oPrev e ≤ fromUtcTime dt) (h2 : fromUtcTime dt < d.u e + d.o e) :
    fromLocalTime d dt true = fromUtcTime dt - d.o e ∧ fromLocalTime d dt true < d.u e ∧
    fromLocalTime d dt false = fromUtcTime dt - d.oPrev e ∧ d.u e ≤ fromLocalTime d dt false := by
  have eo : (d.lrec e).utcOffset = d.o e := rfl
  simp only [fromLocalTime, fromLocalShift, findLocal_skipped h he h1 h2, if_true,
    Bool.false_eq_true, if_false, eo, prevRec_offset]
  refine ⟨?_, ?_, ?_, ?_⟩ <;> first | trivial | omega

end MuduoVerif.Zone
