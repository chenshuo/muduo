import MuduoVerif.Proofs.ConnLife
import Mathlib.Data.List.Induction
/-! What the life-cycle automaton of `Proofs/ConnLife.lean` (`runLife`) implies about a trace it
accepts: event counts and the position of each letter (read by `Proofs/ConnClose.lean` and `Props/C02.lean`, `C03`,
`C11`). -/
namespace MuduoVerif.C02
open MuduoVerif.Conn MuduoVerif.Gen.Conn

def isUpEv : Ev → Bool | .up => true | _ => false
def isDownEv : Ev → Bool | .down => true | _ => false
def isMsgEv : Ev → Bool | .msg _ _ => true | _ => false
def isCloseEv : Ev → Bool | .sysClose => true | _ => false
def isBadEv : Ev → Bool | .abort _ => true | .uaf _ => true | _ => false

def cnt (p : Ev → Bool) (tr : List Ev) : Nat := (tr.filter p).length

theorem cnt_snoc (p : Ev → Bool) (tr : List Ev) (e : Ev) : cnt p (tr ++ [e]) = cnt p tr + (if p e then 1 else 0) := by
  unfold cnt; rw [List.filter_append]; cases h : p e <;> simp [List.filter, h]

theorem lifeStep_cases {q p : Phase} {e : Ev} (h : lifeStep q e = some p) :
    (q = .init ∧ p = .up ∧ e = .up) ∨ (q = .up ∧ p = .down ∧ e = .down) ∨ (q = .down ∧ p = .closed ∧ e = .sysClose) ∨
    (p = q ∧ isUpEv e = false ∧ isDownEv e = false ∧ isCloseEv e = false ∧ isBadEv e = false ∧
      (q = .init → isMsgEv e = false)) := by
  cases e <;> cases q <;> simp [lifeStep] at h <;> subst h <;> simp [isUpEv, isDownEv, isCloseEv, isBadEv, isMsgEv]

theorem life_counts (tr : List Ev) : ∀ p, runLife tr = some p →
    cnt isUpEv tr = (if p = .init then 0 else 1) ∧
    cnt isDownEv tr = (if p = .down ∨ p = .closed then 1 else 0) ∧
    cnt isCloseEv tr = (if p = .closed then 1 else 0) ∧
    cnt isBadEv tr = 0 ∧
    (p = .init → cnt isMsgEv tr = 0) := by
  -- from the right: `runLife` is a `foldl`, so the last letter is the one `lifeStep_cases` speaks of
  induction tr using List.reverseRecOn with
  | nil =>
    intro p h
    have : p = .init := by simpa [runLife] using h.symm
    subst this; simp [cnt]
  | append_singleton tr e ih =>
    intro p h
    rw [runLife_snoc] at h
    cases hq : runLife tr with
    | none => rw [hq] at h; simp at h
    | some q =>
      rw [hq] at h
      obtain ⟨h1, h2, h3, h4, h5⟩ := ih q hq
      simp only [cnt_snoc, h1, h2, h3, h4]
      rcases lifeStep_cases h with ⟨rfl, rfl, rfl⟩ | ⟨rfl, rfl, rfl⟩ | ⟨rfl, rfl, rfl⟩ | ⟨rfl, s1, s2, s3, s4, s5⟩
      · simp [isUpEv, isDownEv, isCloseEv, isBadEv]
      · simp [isUpEv, isDownEv, isCloseEv, isBadEv]
      · simp [isUpEv, isDownEv, isCloseEv, isBadEv]
      · simp only [s1, s2, s3, s4, Bool.false_eq_true, if_false, Nat.add_zero, true_and]
        intro hp; rw [h5 hp, s5 hp]; rfl

/-- where a letter stands in an accepted trace: the guard of `lifeStep`, in terms of what came before -/
theorem life_before {pre post : List Ev} {e : Ev} {p : Phase} (h : runLife (pre ++ e :: post) = some p) :
    match e with
    | .msg _ _ | .down => cnt isUpEv pre = 1 ∧ cnt isDownEv pre = 0
    | .sysClose => cnt isDownEv pre = 1 ∧ cnt isCloseEv pre = 0
    | _ => True := by
  obtain ⟨q, q', hq, hs⟩ : ∃ q q', runLife pre = some q ∧ lifeStep q e = some q' := foldl_letter (fun _ => rfl) h
  obtain ⟨h1, h2, h3, -⟩ := life_counts _ _ hq
  rw [h1, h2, h3]
  cases e with
  | msg _ _ | down | sysClose => cases q <;> simp [lifeStep] at hs ⊢
  | _ => trivial

/-- the counts of an accepted trace read off the state: `phaseOf` is not needed beyond this point -/
structure Counts (c : Conn) : Prop where
  up : cnt isUpEv c.trace = 1
  down : cnt isDownEv c.trace = (if c.st = .kDisconnected then 1 else 0)
  close : cnt isCloseEv c.trace = (if c.alive = true then 0 else 1)
  bad : cnt isBadEv c.trace = 0

theorem _root_.MuduoVerif.Conn.LifeInv.counts {c : Conn} (hl : LifeInv c) : Counts c := by
  obtain ⟨h1, h2, h3, h4, -⟩ := life_counts _ _ hl.life
  unfold phaseOf at h1 h2 h3
  cases ha : c.alive
  · have hd := hl.goneDown ha
    constructor <;> simp_all
  · have := hl.established
    cases hs : c.st <;> constructor <;> simp_all

end MuduoVerif.C02
