import MuduoVerif.Proofs.TimerArmed
import MuduoVerif.Proofs.TimerGhost
import MuduoVerif.Proofs.TimerBatch
import MuduoVerif.Proofs.TimerCancel
import Mathlib.Data.List.Perm.Basic
/-! Glue between the invariants of the timer engine and the property statements of C06 / C07. -/
namespace MuduoVerif.Timer
open MuduoVerif.Gen.Timer

theorem run_append (ins l : List In) : run (ins ++ l) = l.foldl step (run ins) := by
  unfold run; rw [List.foldl_append]

theorem run_snoc (ins : List In) (i : In) : run (ins ++ [i]) = step (run ins) i := by
  rw [run_append]; rfl

theorem mem_runRecs {t : List Ev} {ev : Ev} {r : RunRec} (he : ev ∈ t) (hr : runRec ev = some r) : r ∈ runRecs t :=
  List.mem_filterMap.2 ⟨ev, he, hr⟩

theorem WFp.length_eq {s : TQ} {B : List (Time × Addr)} {L : List Addr} (h : WFp s B L) :
    s.timers.length = s.active.length := by
  -- `e ↦ (e.2, seq of the cell at e.2)` maps `timers_` one-to-one onto `activeTimers_`
  have hnd : (s.timers.map (fun e => (e.2, (cellAt s e.2).seq))).Nodup := by
    refine List.Nodup.map_on ?_ h.timers_nodup
    intro x hx y hy hxy
    exact h.timers_addr_inj hx hy (Prod.mk.inj hxy).1
  have hperm : (s.timers.map (fun e => (e.2, (cellAt s e.2).seq))).Perm s.active := by
    rw [List.perm_ext_iff_of_nodup hnd h.a_nodup]
    intro p
    constructor
    · intro hp
      obtain ⟨e, he, rfl⟩ := List.mem_map.1 hp
      obtain ⟨c, h1, _, h3⟩ := h.t_live e he
      rw [cellAt_eq h1]; exact h3
    · intro hp
      obtain ⟨c, h1, h2, h3⟩ := h.a_live p hp
      refine List.mem_map.2 ⟨(c.exp, p.1), h3, ?_⟩
      show (p.1, (cellAt s p.1).seq) = p
      rw [cellAt_eq h1, h2]
  rw [← hperm.length_eq, List.length_map]

theorem k_le_cnt {l : List RunRec} (hn : NumOK l) {r : RunRec} (hr : r ∈ l) : r.k ≤ cnt r.seq l := by
  induction l with
  | nil => cases hr
  | cons x xs ih =>
    rw [cnt_cons]
    rcases List.mem_cons.1 hr with rfl | hr
    · have := hn.1; simp; omega
    · have := ih hn.2 hr; omega

theorem step_numCreated {s : TQ} (ht : Top s) (i : In) : s.numCreated ≤ (step s i).numCreated :=
  have hP : Stable (fun s' => s.numCreated ≤ s'.numCreated) :=
    { toKept := Kept.of_ext fun he h => Nat.le_trans h he.numCreated
      core := fun h hc => Nat.le_trans h (Nat.le_of_eq (congrArg (·.numCreated) hc).symm)
      processed := fun _ h => h
      expire := fun h => h }
  (hP.step i (fun _ => fun ht' h => Nat.le_trans h (handleRead_extW ht'.wf ht'.calling).numCreated) ht (Nat.le_refl _)).2

theorem fires_due {s : TQ} (ht : Top s) (hr : s.readable = true) {e : Time × Addr} (he : e ∈ s.timers)
    (hle : e.1 ≤ (readNow s).1) : recOf (cellAt s e.2) e (readNow s).1 ∈ runRecs (iter s).trace := by
  rw [iter_runs ht, if_pos hr]
  refine List.mem_append_left _ (List.mem_reverse.2 (List.mem_map.2 ⟨e, ?_, rfl⟩))
  exact mem_batch_of_due ht.wf he hle

theorem eventually_runs_aux {s : TQ} (ht : Top s) (ha : ArmedB false s) (hv : ValidTr s.trace) (hn : s.nows = [])
    {e : Time × Addr} (he : e ∈ s.timers) {t : Time} (hle : e.1 ≤ t) :
    recOf (cellAt s e.2) e t ∈ runRecs (step (step (step s (.now t)) .expire) .iter).trace := by
  have ht1 : Top (step s (.now t)) := ht.step _
  have ht2 : Top (step (step s (.now t)) .expire) := ht1.step _
  have hne : s.timers ≠ [] := fun h0 => by rw [h0] at he; cases he
  have hac := (ha hv).2 rfl hne
  -- the state after `now t; expire`
  have key : ∃ s2, step (step s (.now t)) .expire = s2 ∧ s2.readable = true ∧ s2.timers = s.timers ∧ s2.heap = s.heap ∧
      s2.nows = [t] := by
    show ∃ s2, (match (step s (.now t)).alarm with
      | some _ => { step s (.now t) with alarm := none, readable := true } | none => step s (.now t)) = s2 ∧ _
    have hal : (step s (.now t)).alarm = s.alarm := rfl
    rw [hal]
    cases hs : s.alarm with
    | some x => exact ⟨_, rfl, rfl, rfl, rfl, by show s.nows ++ [t] = [t]; rw [hn]; rfl⟩
    | none =>
      rcases hac with h1 | ⟨x, h1, _⟩
      · exact ⟨_, rfl, h1, rfl, rfl, by show s.nows ++ [t] = [t]; rw [hn]; rfl⟩
      · rw [hs] at h1; cases h1
  obtain ⟨s2, h2, k1, k2, k3, k4⟩ := key
  rw [h2] at ht2 ⊢
  have hrn : (readNow s2).1 = t := by unfold readNow; rw [k4]
  have := fires_due ht2 k1 (e := e) (by rw [k2]; exact he) (by rw [hrn]; exact hle)
  rw [hrn] at this
  have hcell : cellAt s2 e.2 = cellAt s e.2 := by unfold cellAt; rw [k3]
  rw [hcell] at this
  exact this

end MuduoVerif.Timer
