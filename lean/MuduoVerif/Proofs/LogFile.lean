import MuduoVerif.Model.LogFile
import Mathlib.Data.List.Basic
/-! Lemmas about the `LogFile` / `AppendFile` model (C16, sequential half). -/
namespace MuduoVerif.LogFile
open MuduoVerif.Gen.LogFile

/-- what one walk of the write loop, standing at `w`, establishes about its outcome `o` -/
structure LoopOk (rec : Bytes) (w : Nat) (fws : List FwRes) (o : AppendOut) : Prop where
  /-- a contiguous piece of the record, starting where the loop stands, reaches the stream -/
  pre : o.out <+: rec.drop w
  le : o.counted ≤ o.out.length + w
  /-- when the loop is not left through `break`, `written == len` -/
  all : w ≤ rec.length → o.failed = false → o.counted = rec.length
  /-- each request starts where the accepted bytes end -/
  calls : o.out = (o.calls.map fun c => (rec.drop c.1).take c.2.2).flatten
  /-- `break` only when the environment raised the error flag -/
  err : (∀ r ∈ fws, r.err = false) → o.failed = false

theorem chunk_eq (rec : Bytes) (w n : Nat) : chunk rec w n = (rec.drop w).take n := by
  rw [chunk, appendOffset, Nat.zero_add]

theorem appendLoop_ok (rec : Bytes) (w : Nat) (fws : List FwRes) : LoopOk rec w fws (appendLoop rec w fws) := by
  fun_induction appendLoop rec w fws with
  | case1 w hc remain =>
    refine ⟨?_, ?_, fun _ _ => ?_, ?_, fun _ => rfl⟩
    all_goals simp only [chunk_eq, appendOffset, appendAdvance, appendRequest, appendRemain, remain, Nat.zero_add]
    · exact List.take_prefix ..
    · rw [List.length_take, List.length_drop]; omega
    · omega
    · simp
  | case2 w hc => exact ⟨List.nil_prefix, Nat.le_add_left .., fun _ _ => not_not.1 hc, rfl, fun _ => rfl⟩
  | case3 w r rs hc remain n he =>
    refine ⟨?_, Nat.le_add_left .., fun _ => nofun, ?_, fun h => ?_⟩
    · rw [chunk_eq]; exact List.take_prefix ..
    · simp [chunk_eq, appendOffset]
    · cases (h r (.head _)).symm.trans he.2
  | case4 w r rs hc remain n he o ih =>
    have ih : LoopOk rec (w + n) rs o := ih
    have hn : n = min r.n (rec.length - w) := rfl
    refine ⟨?_, ?_, fun hw => ih.all (by omega), ?_, fun h => ih.err fun x hx => h x (.tail _ hx)⟩
    · have := (List.prefix_append_right_inj ((rec.drop w).take n)).2 ih.pre
      rwa [← List.drop_drop, List.take_append_drop, ← chunk_eq] at this
    · have := ih.le
      simp only [chunk_eq, List.length_append, List.length_take, List.length_drop]
      omega
    · rw [List.map_cons, List.flatten_cons, ← ih.calls]; rfl
  | case5 w r rs hc => exact ⟨List.nil_prefix, Nat.le_add_left .., fun _ _ => not_not.1 hc, rfl, fun _ => rfl⟩

theorem appendFile_all (rec : Bytes) (fws : List FwRes) (h : (appendFile rec fws).failed = false) :
    (appendFile rec fws).out = rec ∧ (appendFile rec fws).counted = rec.length :=
  have ok := appendLoop_ok rec 0 fws
  have hc := ok.all (Nat.zero_le _) h
  ⟨ok.pre.eq_of_length_le (show rec.length ≤ _ by have := ok.le; omega), hc⟩

theorem rollFile_closed (clk : Nat → Int) (s : St) :
    (rollFile clk s).1.closed = if s.lastRoll < clk s.tick then s.closed ++ [s.cur.flush] else s.closed := by
  by_cases h : s.lastRoll < clk s.tick <;> simp [rollFile, rollAllowed, h]

theorem rollFile_flushedAt (clk : Nat → Int) (s : St) :
    (rollFile clk s).1.cur.flushedAt = if s.lastRoll < clk s.tick then [] else s.cur.flushedAt := by
  by_cases h : s.lastRoll < clk s.tick <;> simp [rollFile, rollAllowed, h]

/-- `t` has the files of `s`, the current one longer by the pieces `o`; `count_`, the clock, the flush marks and the
event log are free.  Every operation does this and then, possibly, calls `rollFile` (`step_grown`): what an invariant
of the files has to survive is these two things. -/
structure Grown (s : St) (o : List Bytes) (t : St) : Prop where
  closed : t.closed = s.closed
  name : t.cur.name = s.cur.name
  lastRoll : t.lastRoll = s.lastRoll
  content : t.cur.content = s.cur.content ++ o.flatten

theorem step_grown (cfg : Cfg) (clk : Nat → Int) (s : St) (op : Op) :
    ∃ t, (step cfg clk s op = t ∨ step cfg clk s op = (rollFile clk t).1) ∧ Grown s (delivered [op]) t := by
  cases op with
  | flush => exact ⟨_, .inl rfl, rfl, rfl, rfl, by simp [delivered, step, File.flush]⟩
  | roll => exact ⟨s, .inr rfl, rfl, rfl, rfl, by simp [delivered]⟩
  | append rec fws =>
    have g : ∀ {t : St}, t.closed = s.closed → t.cur.name = s.cur.name → t.lastRoll = s.lastRoll →
        t.cur.content = s.cur.content ++ (appendFile rec fws).out → Grown s (delivered [.append rec fws]) t :=
      fun a b c d => ⟨a, b, c, by simpa [delivered] using d⟩
    simp only [step]
    unfold afterAppend
    split
    · exact ⟨_, .inr rfl, g rfl rfl rfl rfl⟩
    · split
      · split
        · exact ⟨_, .inr rfl, g rfl rfl rfl rfl⟩
        · split <;> exact ⟨_, .inl rfl, g rfl rfl rfl rfl⟩
      · exact ⟨_, .inl rfl, g rfl rfl rfl rfl⟩

theorem delivered_cons (op : Op) (rest : List Op) : delivered (op :: rest) = delivered [op] ++ delivered rest := by
  cases op <;> rfl

theorem run_inv {P : St → List Bytes → Prop} (cfg : Cfg) (clk : Nat → Int)
    (grow : ∀ {s o t outs}, P s outs → Grown s o t → P t (outs ++ o))
    (roll : ∀ {s outs}, P s outs → P (rollFile clk s).1 outs) (ops : List Op) :
    ∀ {s outs}, P s outs → P (run cfg clk s ops) (outs ++ delivered ops) := by
  induction ops with
  | nil => intro s outs h; simpa [run, delivered] using h
  | cons op rest ih =>
    intro s outs h
    rw [delivered_cons, ← List.append_assoc]
    obtain ⟨t, e | e, ht⟩ := step_grown cfg clk s op
    · exact show P (run cfg clk (step cfg clk s op) rest) _ from e ▸ ih (grow h ht)
    · exact show P (run cfg clk (step cfg clk s op) rest) _ from e ▸ ih (roll (grow h ht))

/-- ghost view: the closed files are whole groups of delivered pieces, the current file holds the
last group -/
def FilesInv (s : St) (outs : List Bytes) : Prop :=
  ∃ groups : List (List Bytes), ∃ cg : List Bytes,
    s.closed.map File.content = groups.map List.flatten ∧ s.cur.content = cg.flatten ∧ groups.flatten ++ cg = outs

theorem FilesInv.grow {s t : St} {o outs : List Bytes} (h : FilesInv s outs) (g : Grown s o t) :
    FilesInv t (outs ++ o) := by
  obtain ⟨groups, cg, h1, h2, h3⟩ := h
  exact ⟨groups, cg ++ o, g.closed ▸ h1, by simp [g.content, h2], by simp [← h3]⟩

theorem FilesInv.roll {clk : Nat → Int} {s : St} {outs : List Bytes} (h : FilesInv s outs) :
    FilesInv (rollFile clk s).1 outs := by
  obtain ⟨groups, cg, h1, h2, h3⟩ := h
  unfold rollFile
  split
  · exact ⟨groups ++ [cg], [], by simp [h1, h2, File.flush], rfl, by simp [← h3]⟩
  · exact ⟨groups, cg, h1, h2, h3⟩

theorem init_FilesInv {clk : Nat → Int} {s : St} (h : init clk = some s) : FilesInv s [] := by
  unfold init at h
  split at h
  · cases h; exact ⟨[], [], rfl, rfl, rfl⟩
  · cases h

theorem delivered_eq_records (ops : List Op) (h : noError ops) : delivered ops = records ops := by
  induction ops with
  | nil => rfl
  | cons op rest ih =>
    cases op with
    | append rec fws =>
      simp only [noError] at h
      simp [delivered, records, ih h.2, (appendFile_all rec fws h.1).1]
    | flush => simpa [delivered, records, noError] using ih h
    | roll => simpa [delivered, records, noError] using ih h

/-- the names (creation seconds) are strictly increasing and the current file is the one created at `lastRoll_` -/
def NamesInv (s : St) : Prop :=
  (s.files.map File.name).Pairwise (· < ·) ∧ s.cur.name = s.lastRoll

theorem NamesInv.grow {s t : St} {o : List Bytes} (h : NamesInv s) (g : Grown s o t) : NamesInv t := by
  refine ⟨?_, by rw [g.name, g.lastRoll, h.2]⟩
  have := h.1
  simp only [St.files, List.map_append, List.map_cons, List.map_nil] at this ⊢
  rw [g.closed, g.name]; exact this

theorem NamesInv.roll (clk : Nat → Int) {s : St} (h : NamesInv s) : NamesInv (rollFile clk s).1 := by
  unfold rollFile
  by_cases ha : rollAllowed (clk s.tick) s.lastRoll
  · simp only [ha, if_true]
    obtain ⟨h1, h2⟩ := h
    refine ⟨?_, rfl⟩
    simp only [St.files, File.flush, List.map_append, List.map_cons, List.map_nil] at h1 ⊢
    rw [List.pairwise_append]
    refine ⟨h1, by simp, ?_⟩
    intro a ha' b hb
    simp only [List.mem_singleton] at hb
    subst hb
    -- every earlier name is at most `cur.name = lastRoll`, and the roll is allowed only when `lastRoll < now`
    have hmax : a ≤ s.cur.name := by
      rw [List.pairwise_append] at h1
      simp only [List.mem_append, List.mem_singleton] at ha'
      rcases ha' with ha' | ha'
      · exact Int.le_of_lt (h1.2.2 a ha' _ (by simp))
      · exact Int.le_of_eq ha'
    unfold rollAllowed at ha
    omega
  · simp only [ha, if_false]
    exact h

theorem init_NamesInv {clk : Nat → Int} {s : St} (h : init clk = some s) : NamesInv s := by
  unfold init at h
  split at h
  · cases h; exact ⟨by simp [St.files], rfl⟩
  · cases h

/-! ### What `delivered` does on a sequence extended at its end; no proof uses it -/

theorem delivered_append (ops : List Op) (op : Op) :
    delivered (ops ++ [op]) = delivered ops ++ (match op with | .append rec fws => [(appendFile rec fws).out] | _ => []) := by
  induction ops with
  | nil => cases op <;> simp [delivered]
  | cons o rest ih => cases o <;> simp [delivered, ih]

end MuduoVerif.LogFile
