import MuduoVerif.Proofs.RpcOnce
import MuduoVerif.Proofs.RpcServe
/-! What a halt means (`HaltInv`), the done-callbacks under the hypothesis on the service, the channel
destructor, and `RpcServer`'s channels as reachable channel states. -/
namespace MuduoVerif.Rpc
open MuduoVerif.Gen.Rpc

/-- only a RESPONSE that violates the `assert` of an asserts-on build halts the process, and only a halt logs `abort` -/
structure HaltInv (s : Chan) : Prop where
  halt : s.halted = true → ∃ m : Msg, m.type = .RESPONSE ∧ ¬ respAssert m.payload.isSome m.err.isSome
  noAbort : s.halted = false → .abort ∉ s.log

theorem HaltInv.trans {s s' : Chan} {a : Act} (hi : HaltInv s) (h : Trans s a s') : HaltInv s' := by
  cases h with
  | abort m _ ht _ hw => exact ⟨fun _ => ⟨m, ht, hw⟩, fun h => by cases h⟩
  | request m =>
    exact ⟨hi.halt, fun hn ha => hi.noAbort hn ((List.mem_append.mp ha).elim (fun h => nomatch mem_served h) (by simp))⟩
  | finish k m => exact ⟨hi.halt, fun hn ha => hi.noAbort hn (by cases h : m.payload.isSome <;> simpa [h] using ha)⟩
  | _ => exact ⟨hi.halt, fun hn ha => hi.noAbort hn (by simpa using ha)⟩

theorem HaltInv.run (asserts hs : Bool) (acts : List Act) : HaltInv (run asserts hs acts) :=
  run_induct asserts hs ⟨by simp [init], by simp [init]⟩ HaltInv.trans acts

theorem step_halted (s : Chan) (a : Act) (h : s.halted = true) : step s a = s := by
  simp [step, h]

/-- the hypothesis on the service: it invokes a done-callback only while it holds it - so at most once,
    and never one it was not given -/
def ServiceDoneOnce (asserts hs : Bool) (acts : List Act) : Prop :=
  ∀ pre r post, acts = pre ++ .fireDone r :: post → 0 < held r (run asserts hs pre).closures

theorem Trans.no_uaf {s s' : Chan} {a : Act} (h : Trans s a s') (h0 : ∀ c, Ev.uaf c ∉ s.log)
    (ha : ∀ r, a = .fireDone r → 0 < held r s.closures) : ∀ c, Ev.uaf c ∉ s'.log := by
  intro c hc
  cases h with
  | stale r hf =>
    obtain ⟨c', hc', hr⟩ := List.countP_pos_iff.mp (ha r rfl)
    exact absurd hr (List.find?_eq_none.mp hf c' hc')
  | request m => exact h0 c ((List.mem_append.mp hc).elim (fun h => nomatch mem_served h) (by simp))
  | finish k m => exact h0 c (by cases h : m.payload.isSome <;> simpa [h] using hc)
  | _ => exact h0 c (by simpa using hc)

theorem no_uaf_foldl (acts : List Act) : ∀ (s : Chan), (∀ c, Ev.uaf c ∉ s.log) →
    (∀ pre r post, acts = pre ++ .fireDone r :: post → 0 < held r (pre.foldl step s).closures) →
    ∀ c, Ev.uaf c ∉ (acts.foldl step s).log := by
  induction acts with
  | nil => intro s h _; exact h
  | cons a rest ih =>
    intro s h0 H
    refine ih (step s a) ?_ (fun pre r post hp => H (a :: pre) r post (by rw [hp]; rfl))
    rcases step_trans s a with h | h
    · rw [h]; exact h0
    · exact h.no_uaf h0 (fun r hr => by subst hr; exact H [] r rest rfl)

theorem freeCount_destroy (k : Nat) (l : List (Nat × Nat)) :
    freeCount k (l.flatMap (fun e => [Ev.free (.resp e.2), Ev.free (.done e.2)])) = l.countP (fun e => decide (e.2 = k)) := by
  induction l with
  | nil => rfl
  | cons e rest ih =>
    rw [List.flatMap_cons, List.countP_cons]
    unfold freeCount at ih ⊢
    rw [List.countP_append, ih]
    simp [List.countP_cons, isFreeResp]
    omega

theorem countP_val (k i : Nat) (l : List (Nat × Nat)) (hk : (l.map Prod.fst).Nodup)
    (hall : ∀ e ∈ l, e.2 = k → e.1 = i) :
    l.countP (fun e => decide (e.2 = k)) = if (i, k) ∈ l then 1 else 0 := by
  rw [← List.Nodup.count (List.Pairwise.of_map Prod.fst (fun _ _ h e => h (e ▸ rfl)) hk), List.count_eq_countP]
  exact List.countP_congr fun e he => by
    simpa using ⟨fun h => Prod.ext (hall e he h) h, fun h => h ▸ rfl⟩

theorem destroy_frees_once {s : Chan} (inv : CallInv s) (ti : TraceInv s) (hp : s.pending = none) (k : Nat) :
    freeCount k (destroyEvents s) + freeCount k s.log = if Registered s k then 1 else 0 := by
  have hmem : (s.idOf k, k) ∈ s.outstanding ↔ Registered s k ∧ ranCount k s.log = 0 :=
    ⟨fun hm => let ⟨_, b, c, _⟩ := inv.out _ _ (lookup_of_mem _ ti.keys _ _ hm); ⟨b, c⟩,
     fun ⟨b, c⟩ => mem_of_lookup _ _ _ (inv.reg k b c (by simp [hp]))⟩
  have hall : ∀ e ∈ s.outstanding, e.2 = k → e.1 = s.idOf k := fun e he hek =>
    hek ▸ (inv.out e.1 e.2 (lookup_of_mem _ ti.keys e.1 e.2 he)).1.symm
  rw [destroyEvents, freeCount_destroy, countP_val k (s.idOf k) _ ti.keys hall, ti.freeEq k]
  by_cases hreg : Registered s k
  · by_cases hr : ranCount k s.log = 0
    · simp [hmem, hreg, hr]
    · have := (inv.once k).1
      simp [hmem, hreg, hr]; omega
  · simp [hmem, hreg, (inv.fresh k hreg).1]

/-- what can happen to an `RpcServer`: `RpcServer::onConnection` is called for connection `c` coming UP or going DOWN,
    or the channel that `onConnection` stored in `c`'s context takes a step (`onMessage`, bound to that channel, or
    any other step of `Act`) -/
inductive SrvOp
  | up (c : Nat) | down (c : Nat) | act (c : Nat) (a : Act)

/-- the two branches of `RpcServer::onConnection` (`Server.up`: new channel, `setServices`, `setContext`;
    `Server.down`: `setContext` of an empty pointer) and a step of one connection's channel (`Server.act`) -/
def Server.apply (sv : Server) : SrvOp → Server
  | .up c => sv.up c
  | .down c => sv.down c
  | .act c a => sv.act c a

/-- a history of an `RpcServer`: it starts without connections (the constructor only installs `onConnection`) -/
def Server.runOps (asserts : Bool) (ops : List SrvOp) : Server := ops.foldl Server.apply { asserts := asserts }

/-- every channel is a reachable channel state of a channel with services, and a connection has one channel -/
structure ServerInv (asserts : Bool) (sv : Server) : Prop where
  flavour : sv.asserts = asserts
  reach : ∀ e ∈ sv.chans, ∃ acts, e.2 = run asserts true acts
  one : (sv.chans.map Prod.fst).Nodup

theorem ServerInv.apply {asserts : Bool} {sv : Server} (h : ServerInv asserts sv) (op : SrvOp) :
    ServerInv asserts (sv.apply op) := by
  -- dropping a connection keeps the others as they are
  have hfilt : ∀ c, (∀ e ∈ sv.chans.filter (fun e => e.1 ≠ c), ∃ acts, e.2 = run asserts true acts) ∧
      ((sv.chans.filter (fun e => e.1 ≠ c)).map Prod.fst).Nodup := fun c =>
    ⟨fun e he => h.reach e (List.mem_filter.mp he).1, h.one.sublist (List.filter_sublist.map _)⟩
  cases op with
  | up c =>
    show ServerInv asserts (sv.up c)
    rw [Server.up, if_pos (by decide)]
    exact ⟨h.flavour,
      fun e he => (List.mem_cons.mp he).elim (fun h1 => ⟨[], by rw [h1, h.flavour]; rfl⟩) ((hfilt c).1 e),
      List.nodup_cons.mpr ⟨by simp, (hfilt c).2⟩⟩
  | down c =>
    show ServerInv asserts (sv.down c)
    rw [Server.down, if_pos (by decide)]
    exact ⟨h.flavour, (hfilt c).1, (hfilt c).2⟩
  | act c a =>
    refine ⟨h.flavour, fun e he => ?_, ?_⟩
    · obtain ⟨e0, he0, rfl⟩ := List.mem_map.mp he
      obtain ⟨acts, hacts⟩ := h.reach e0 he0
      split
      · exact ⟨acts ++ [a], by rw [run_append, ← hacts]; rfl⟩
      · exact ⟨acts, hacts⟩
    · show ((sv.chans.map (fun e => if e.1 = c then (e.1, step e.2 a) else e)).map Prod.fst).Nodup
      rw [List.map_map, List.map_congr_left (g := Prod.fst) fun e _ => by simp only [Function.comp]; split <;> rfl]
      exact h.one

theorem ServerInv.runOps (asserts : Bool) (ops : List SrvOp) : ServerInv asserts (Server.runOps asserts ops) :=
  foldl_inv ops (fun _ op _ h => h.apply op) _ ⟨rfl, (fun _ he => nomatch he), List.nodup_nil⟩

theorem Server.act_other (sv : Server) (c c' : Nat) (a : Act) (h : c' ≠ c) : (sv.act c a).chan? c' = sv.chan? c' := by
  unfold Server.chan? Server.act
  show ((sv.chans.map (fun e => if e.1 = c then (e.1, step e.2 a) else e)).find? (fun e => e.1 = c')).map (·.2) = _
  induction sv.chans with
  | nil => rfl
  | cons e rest ih =>
    by_cases he : e.1 = c <;> by_cases hc : e.1 = c' <;> simp_all

/-! ### A halted channel under a run, and the `assert` of the RESPONSE branch; no proof uses them -/

theorem foldl_halted (acts : List Act) (s : Chan) (h : s.halted = true) : acts.foldl step s = s :=
  foldl_fix _ acts s fun a _ => step_halted s a h

/-- what an `assert` in the RESPONSE branch does (whatever it demands - `respAssert` is extracted from the
    source; `True` when there is none): with `assert` compiled in, a RESPONSE that violates it stops the process -/
theorem bare_response_halts (s : Chan) (m : Msg) (hn : s.halted = false) (hp : s.pending = none)
    (ha : s.asserts = true) (ht : m.type = .RESPONSE) (hw : ¬ respAssert m.payload.isSome m.err.isSome) :
    (step s (.recv m)).halted = true ∧ (step s (.recv m)).log = .abort :: .arrived m :: s.log ∧
    (step s (.recv m)).outstanding = s.outstanding := by
  have hc : s.asserts = true ∧ ¬ respAssert m.payload.isSome m.err.isSome := ⟨ha, hw⟩
  simp [step, hn, recv, hp, (typeSwitch_response _).mpr ht, recvResponse, hc]

end MuduoVerif.Rpc
