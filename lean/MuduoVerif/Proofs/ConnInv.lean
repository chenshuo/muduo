import MuduoVerif.Proofs.ConnLife
/-!
The invariants of the send direction (stream, no-discard, per-thread order, write-complete
counting, flow control) are preserved by the same transitions for the same structural reasons;
they differ in what they say about a handful of moves.  `Preserves` lists those moves, and the
theorems below walk the model once, for all of them.

Which walk to take.  `Frame` (ConnFrame) is for a relation between the state before and after an operation that is
closed under composition: it contains every elementary update unconditionally, so it cannot use the guard under
which an update happens, nor anything that holds only between operations.  `Preserves` is for a predicate on states
that is broken and restored inside an operation (`sendInLoop`, `handleWrite` are single moves here), that needs the
position of a functor in the queue (`pop`, `runSend`, `runShut`, `runWc`) or another invariant already proved (`G`).
`LifeInv` fits neither: its abort branches are not preserved but unreachable, for reasons (`isUp`, `quiet`, `reg`) that
it supplies itself at the entry of each handler; ConnLife walks the model for it by hand and hands the result to
`Preserves` as `Side.life`.
-/
namespace MuduoVerif.Conn
open MuduoVerif.Gen.Conn

/-- the fields these invariants read; the configuration, the clock, the timers, the callback scripts,
the receive direction and the ownership flags are not among them -/
structure Core where
  st : StateE
  evWrite : Bool
  outBuf : Bytes
  shutWr : Bool
  batch : List Task
  pending : List Task
  trace : List Ev
  accepted : Bytes
  blocks : List (Bool × Bytes)
  offeredL : List Bytes
  offeredF : List Bytes
  wrote : Bytes
  discarded : Bool
  writes : List WriteRes

def Conn.core (c : Conn) : Core :=
  ⟨c.st, c.ch.evWrite, c.outBuf, c.shutWr, c.batch, c.pending, c.trace, c.accepted, c.blocks, c.offeredL,
   c.offeredF, c.wrote, c.discarded, c.writes⟩

theorem setRead_core (c : Conn) (r : Bool) : (setEvents c r c.ch.evWrite).core = c.core := by
  simp only [Conn.core, setEvents, chanUpdate_evWrite]

theorem popRead_core (c : Conn) : (popRead c).core = c.core := by
  unfold popRead; split <;> rfl

/-- `G` holds of every state in which the loop starts a functor, given that it held before the input -/
structure Side (G : Conn → Prop) : Prop where
  dispatch : ∀ (c : Conn) (s : Src), G c → G (dispatch c s)
  swap : ∀ c : Conn, G c → G { c with pending := [], batch := c.batch ++ c.pending }
  task : ∀ (c : Conn) (t : Task) (rest : List Task), c.batch = t :: rest → G c → G (runTask { c with batch := rest } t)
  destroy : ∀ c : Conn, G c → G (maybeDestroy c)
  step : ∀ (c : Conn) (i : Input), i.notEstablish → G c → G (step c i)

theorem Side.none : Side (fun _ => True) :=
  ⟨fun _ _ _ => trivial, fun _ _ => trivial, fun _ _ _ _ _ => trivial, fun _ _ => trivial, fun _ _ _ _ => trivial⟩

theorem Side.life : Side LifeInv := ⟨dispatch_life, swap_life, runTask_life, maybeDestroy_life, step_life⟩

/-- What `P` has to survive.  Everything else a transition does is one of these moves, a change outside
`Conn.core`, or a composition.  `G` is what may be assumed where a functor leaves the queue, `okW` what
is assumed of the `write` results the environment supplies. -/
structure Preserves (G : Conn → Prop) (okW : WriteRes → Prop) (P : Conn → Prop) : Prop where
  frame : ∀ {c c' : Conn}, P c → c'.core = c.core → P c'
  event : ∀ (c : Conn) (e : Ev), e.isWc = false → P c → P (emit c e)
  queued : ∀ (c : Conn) (t : Task), t.isSend = false → t.isShut = false → t.isWc = false → P c → P (enqueue c t)
  /-- `setState(kDisconnecting)` -/
  disconnecting : ∀ c : Conn, c.isUp → P c → P { c with st := .kDisconnecting }
  /-- `shutdown()` -/
  shutdown : ∀ c : Conn, c.st = .kConnected → P c → P (enqueue { c with st := .kDisconnecting } .shutdownInLoop)
  /-- `send()` on another thread -/
  sendForeign : ∀ (c : Conn) (d : Bytes), c.st = .kConnected → P c →
    P (enqueue { c with offeredF := c.offeredF ++ [d] } (.sendInLoop d))
  /-- `send()` on the loop thread -/
  sendLoop : ∀ (c : Conn) (d : Bytes), c.st = .kConnected → P c → P (sendInLoop { c with offeredL := c.offeredL ++ [d] } d false)
  /-- `setState(kDisconnected); channel_->disableAll()` -/
  down : ∀ c : Conn, P c → P (disableAll { c with st := .kDisconnected })
  write : ∀ c : Conn, P c → P (handleWrite c)
  /-- the swap of `doPendingFunctors` -/
  swap : ∀ c : Conn, P c → P { c with pending := [], batch := c.batch ++ c.pending }
  /-- the functor at the head of the batch leaves the queue; a `send` only when it finds the object gone -/
  pop : ∀ (c : Conn) (t : Task) (rest : List Task), c.batch = t :: rest → G c → (c.alive = true → t.isSend = false) →
    P c → P { c with batch := rest }
  runSend : ∀ (c : Conn) (d : Bytes) (rest : List Task), c.batch = .sendInLoop d :: rest → P c →
    P (sendInLoop { c with batch := rest } d true)
  runShut : ∀ (c : Conn) (t : Task) (rest : List Task), c.batch = t :: rest → t.isShut = true → P c →
    P (shutdownInLoop { c with batch := rest })
  /-- a write-complete functor leaves the queue and its callback is reported -/
  runWc : ∀ (c : Conn) (b : Bound) (rest : List Task) (k : Nat), c.batch = .writeComplete b :: rest → P c →
    P (emit { c with batch := rest } (.wc k))
  envWrite : ∀ (c : Conn) (r : WriteRes), okW r → P c → P { c with writes := c.writes ++ [r] }

section
variable {G P : Conn → Prop} {okW : WriteRes → Prop} (hP : Preserves G okW P)
include hP

/-- a failed assertion or a use after free: the process stops, recorded in the trace -/
theorem abort_pres (c : Conn) (e : Ev) (he : e.isWc = false) (h : P c) : P (emit { c with dead := true } e) :=
  hP.event _ e he (hP.frame h rfl)

theorem startReadInLoop_pres (c : Conn) (h : P c) : P (startReadInLoop c) := by
  unfold startReadInLoop; split
  · exact hP.frame (hP.frame h (setRead_core c true)) rfl
  · exact h

theorem stopReadInLoop_pres (c : Conn) (h : P c) : P (stopReadInLoop c) := by
  unfold stopReadInLoop; split
  · exact hP.frame (hP.frame h (setRead_core c false)) rfl
  · exact h

theorem handOff_pres (c : Conn) (f : Bool) (d : Dispatch) (t : Task) (g : Conn → Conn)
    (h1 : t.isSend = false) (h2 : t.isShut = false) (h3 : t.isWc = false) (h : P c) (hg : P (g c)) :
    P (handOff c f d t g) := by
  unfold handOff; split
  · exact hP.queued _ _ h1 h2 h3 h
  · exact hg

theorem act_pres (c : Conn) (f : Bool) (a : Act) (h : P c) : P (act c f a) := by
  cases a with
  | send d =>
    simp only [act]; split
    · rename_i hg
      split
      · exact hP.sendForeign c d hg h
      · exact hP.sendLoop c d hg h
    · exact h
  | shutdown =>
    simp only [act, shutdown_queued]; split
    · rename_i hg; exact hP.shutdown c hg h
    · exact h
  | forceClose =>
    simp only [act]; split
    · rename_i hg
      have hd := hP.disconnecting c hg h
      exact handOff_pres hP _ _ _ _ _ rfl rfl rfl hd hd
    · exact h
  | forceCloseDelay us =>
    simp only [act]; split
    · rename_i hg
      have hd := hP.disconnecting c hg h
      split
      · exact hP.queued _ _ rfl rfl rfl hd
      · exact hP.frame hd rfl
    · exact h
  | stopRead => exact handOff_pres hP _ _ _ _ _ rfl rfl rfl h (stopReadInLoop_pres hP c h)
  | startRead => exact handOff_pres hP _ _ _ _ _ rfl rfl rfl h (startReadInLoop_pres hP c h)
  | setWc k => exact hP.frame h rfl
  | setHwm k m => exact hP.frame h rfl

theorem callback_pres (c : Conn) (k : Cb) (e : Ev) (h : P (emit c e)) : P (callback c k e) := by
  unfold callback; split
  · exact act_pres hP _ _ _ (hP.frame h rfl)
  · exact h

theorem goDown_pres (c : Conn) (h : P c) : P (callback (disableAll { c with st := .kDisconnected }) .down .down) :=
  callback_pres hP _ _ _ (hP.event _ _ rfl (hP.down c h))

theorem handleClose_pres (c : Conn) (h : P c) : P (handleClose c) := by
  unfold handleClose; split
  · exact abort_pres hP c _ rfl h
  · exact hP.queued _ _ rfl rfl rfl (hP.frame (hP.event _ .closeCb rfl (goDown_pres hP c h)) rfl)

theorem handleReadRes_pres (c : Conn) (r : ReadRes) (h : P c) : P (handleReadRes c r) := by
  unfold handleReadRes; split
  · exact handleClose_pres hP c h
  · exact hP.frame (callback_pres hP (deliver c _) .msg _ (hP.event _ _ rfl (hP.frame h rfl))) rfl
  · exact h

theorem handleRead_pres (c : Conn) (h : P c) : P (handleRead c) :=
  handleReadRes_pres hP _ _ (hP.event _ _ rfl (hP.frame h (popRead_core c)))

omit hP in
theorem guarded_pres (f : Conn → Conn) (hf : ∀ c, P c → P (f c)) (rev : Prop) [Decidable rev]
    (sub : Bool → Bool → Bool → Prop) [∀ a b c, Decidable (sub a b c)] (c : Conn) (h : P c) :
    P (guarded f rev sub c) := by
  unfold guarded; split
  · exact hf c h
  · exact h

theorem handleEvent_pres (c : Conn) (r : Nat) (h : P c) : P (handleEvent c r) := by
  unfold handleEvent; split
  · exact h
  · exact guarded_pres _ hP.write _ _ _
      (guarded_pres _ (handleRead_pres hP) _ _ _ (guarded_pres _ (handleClose_pres hP) _ _ _ h))

theorem removeChannel_pres (c : Conn) (h : P c) : P (removeChannel c) := by
  unfold removeChannel; split
  · exact abort_pres hP c _ rfl h
  · exact hP.frame h rfl

theorem connectDestroyed_pres (c : Conn) (h : P c) : P (connectDestroyed c) := by
  unfold connectDestroyed; split
  · exact removeChannel_pres hP _ (goDown_pres hP c h)
  · exact removeChannel_pres hP c h

theorem fireDelay_pres (c : Conn) (h : P c) : P (fireDelay c) := by
  unfold fireDelay; split
  · exact act_pres hP _ _ _ h
  · split
    · exact h
    · exact abort_pres hP c _ rfl h

theorem fireTimers_pres (c : Conn) (h : P c) : P (fireTimers c) := by
  have hn : ∀ (n : Nat) (c : Conn), P c → P (fireN c n) := by
    intro n
    induction n with
    | zero => exact fun _ h => h
    | succ n ih => exact fun c h => ih _ (fireDelay_pres hP c h)
  exact hn _ _ (hP.frame h rfl)

theorem maybeDestroy_pres (c : Conn) (h : P c) : P (maybeDestroy c) :=
  maybeDestroy_inv c (fun _ => h) (fun _ _ _ => abort_pres hP c _ rfl h)
    fun _ => hP.event _ _ rfl (hP.event _ _ rfl (hP.frame h rfl))

theorem runTask_pres (c : Conn) (t : Task) (rest : List Task) (hb : c.batch = t :: rest) (hg : G c) (h : P c) :
    P (runTask { c with batch := rest } t) := by
  -- all but `runSend` / `runShut` / `runWc`: the functor leaves the queue (`pop`), then its handler runs
  have pop : (c.alive = true → t.isSend = false) → P { c with batch := rest } := fun ht => hP.pop c t rest hb hg ht h
  unfold runTask; split
  · rename_i hd
    have ha : c.alive = false := by
      simp only [Bool.and_eq_true, Bool.not_eq_true'] at hd; exact hd.1
    have hp := pop (fun h1 => by rw [ha] at h1; cases h1)
    split
    · exact hP.frame hp rfl
    · split
      · exact hp
      · exact abort_pres hP _ _ rfl hp
  · cases t with
    | sendInLoop d => exact hP.runSend c d rest hb h
    | shutdownInLoop => exact hP.runShut c _ rest hb rfl h
    | drainShutdownInLoop => exact hP.runShut c _ rest hb rfl h
    | forceCloseInLoop =>
      simp only; split
      · exact handleClose_pres hP _ (pop fun _ => rfl)
      · exact pop fun _ => rfl
    | connectDestroyed => exact connectDestroyed_pres hP _ (pop fun _ => rfl)
    | writeComplete b => exact callback_pres hP _ _ _ (hP.runWc c b rest _ hb h)
    | highWater b n => exact callback_pres hP _ _ _ (hP.event _ _ rfl (pop fun _ => rfl))
    | startReadInLoop => exact startReadInLoop_pres hP _ (pop fun _ => rfl)
    | stopReadInLoop => exact stopReadInLoop_pres hP _ (pop fun _ => rfl)
    | addDelayTimer d => exact hP.frame (pop fun _ => rfl) rfl

variable (hG : Side G)
include hG

/-- one iteration of the loop, `G` and `P` side by side -/
theorem iter_pres (c : Conn) (a : List Src) (hg : G c) (h : P c) : P (iter c a) :=
  (iter_inv (P := fun c => G c ∧ P c)
    (fun c s h => ⟨hG.dispatch c s h.1,
      dispatch_inv c s h.2 (fun r => handleEvent_pres hP c r h.2) (fireTimers_pres hP c h.2)⟩)
    (fun c h => ⟨hG.swap c h.1, hP.swap c h.2⟩)
    (fun c t rest _ hb h => ⟨hG.task c t rest hb h.1, runTask_pres hP c t rest hb h.1 h.2⟩)
    (fun c h => ⟨hG.destroy c h.1, maybeDestroy_pres hP c h.2⟩) c a ⟨hg, h⟩).2

theorem step_pres (c : Conn) (i : Input) (hne : i.notEstablish) (hw : ∀ r, i = .envWrite r → okW r)
    (hg : G c) (h : P c) : P (step c i) := by
  cases i with
  | establish => exact hne.elim
  | act f a =>
    simp only [step]; split
    · exact h
    · split <;> exact act_pres hP _ _ _ h
  | iter a => exact iter_pres hP hG c a hg h
  | ownerDestroy =>
    simp only [step]; split
    · exact h
    · exact maybeDestroy_pres hP _ (hP.frame (connectDestroyed_pres hP c h) rfl)
  | envWrite r => exact hP.envWrite c r (hw r rfl) h
  | _ => exact hP.frame h rfl

theorem run_pres (ins : List Input) (c : Conn) (hne : ∀ i ∈ ins, i.notEstablish)
    (hw : ∀ r, Input.envWrite r ∈ ins → okW r) (hg : G c) (h : P c) : P (run c ins) :=
  (foldl_inv (P := fun c => G c ∧ P c) ins (fun c i hi h => ⟨hG.step c i (hne i hi) h.1,
    step_pres hP hG c i (hne i hi) (fun r hr => hw r (hr ▸ hi)) h.1 h.2⟩) c ⟨hg, h⟩).2

omit hG in
theorem establish_pres {c : Conn} (hf : Fresh c) (h : P (emit (enableReading { c with st := .kConnected }) .up)) :
    P (step c .establish) := by
  simp only [step, connectEstablished]
  rw [if_neg (by simp [hf.dead]), if_neg (by simp [hf.st])]
  exact callback_pres hP _ _ _ h

end

end MuduoVerif.Conn
