import MuduoVerif.Proofs.Codec
/-! Lemmas about the example codec (`examples/protobuf/codec/codec.cc`): what `Ex.step` makes of a frame produced by
`Ex.encode` (round trip). -/
namespace MuduoVerif.Codec.Ex
open MuduoVerif.Stream MuduoVerif.Gen.ExCodec
open MuduoVerif.Buffer (intBytes intBytes_length)

def nameLenBytes (tn : Bytes) : Bytes := intBytes 4 ((tn.length + 1 : Nat) : Int)

/-- what the checksum covers: name length, name with its NUL, payload -/
def summed (tn p : Bytes) : Bytes := nameLenBytes tn ++ (tn ++ [0]) ++ p

/-- everything behind the length field -/
def bodyOf (tn p : Bytes) : Bytes := summed tn p ++ intBytes 4 (checksum32 adlerInit (summed tn p))

theorem encode_eq (tn p : Bytes) : encode tn p = frame (bodyOf tn p) := rfl

theorem summed_length (tn p : Bytes) : (summed tn p).length = 4 + (tn.length + 1) + p.length := by
  simp only [summed, nameLenBytes, List.length_append, intBytes_length, List.length_cons, List.length_nil]

theorem bodyOf_length (tn p : Bytes) : (bodyOf tn p).length = 4 + (tn.length + 1) + p.length + 4 := by
  simp only [bodyOf, List.length_append, intBytes_length, summed_length]

theorem encode_length (tn p : Bytes) : (encode tn p).length = 4 + (4 + (tn.length + 1) + p.length + 4) := by
  rw [encode_eq, frame_length, bodyOf_length]

theorem validate_body (tn p : Bytes) : validateChecksum (bodyOf tn p) = true :=
  Codec.validate_sum (summed tn p)

theorem nameLenOf_body (tn p : Bytes) (h : tn.length + 1 < 2 ^ 31) : nameLenOf (bodyOf tn p) = ((tn.length + 1 : Nat) : Int) := by
  rw [nameLenOf, bodyOf, summed, nameLenBytes, List.append_assoc, List.append_assoc]
  exact asInt32_intBytes_nat _ h _

theorem typeNameOf_body (tn p : Bytes) (h : tn.length + 1 < 2 ^ 31) : typeNameOf (bodyOf tn p) = tn := by
  rw [typeNameOf, nameLenOf_body tn p h, bodyOf, summed]
  simp only [List.append_assoc]
  exact slice_mid _ _ _ _ _ (by rw [nameLenBytes, intBytes_length]; rfl)
    (by unfold typeNameTo typeNameFrom kHeaderLen; omega)

theorem payloadOf_body (tn p : Bytes) (h : tn.length + 1 < 2 ^ 31) : payloadOf (bodyOf tn p) = p := by
  have hL := bodyOf_length tn p
  rw [payloadOf, nameLenOf_body tn p h, hL, bodyOf, summed, List.append_assoc]
  exact slice_mid _ _ _ _ _
    (by simp only [nameLenBytes, List.length_append, intBytes_length, List.length_cons, List.length_nil]
        unfold payloadAt kHeaderLen; omega)
    (by unfold payloadLen kHeaderLen; omega)

theorem parse_body (c : Cfg) (tn p : Bytes) (h1 : 1 ≤ tn.length) (h : tn.length + 1 < 2 ^ 31)
    (hk : c.typeKnown tn = true) (hp : c.parsePayload tn p = true) : parse c (bodyOf tn p) = .kNoError := by
  have hn : nameLenOk ((tn.length + 1 : Nat) : Int) ((bodyOf tn p).length : Int) := by
    rw [bodyOf_length]; unfold nameLenOk kHeaderLen; omega
  rw [parse, validate_body, nameLenOf_body tn p h, decide_eq_true hn, typeNameOf_body tn p h,
    payloadOf_body tn p h, hk, hp]
  rfl

theorem step_encode (c : Cfg) (tn p rest : Bytes) (h1 : 1 ≤ tn.length)
    (hmax : 4 + (tn.length + 1) + p.length + 4 ≤ kMaxMessageLen)
    (hk : c.typeKnown tn = true) (hp : c.parsePayload tn p = true) :
    step c () (encode tn p ++ rest) = .adv () [.msg tn p] (encode tn p).length := by
  have hL := bodyOf_length tn p
  unfold kMaxMessageLen at hmax
  have h31 : tn.length + 1 < 2 ^ 31 := by omega
  have hl : (encode tn p ++ rest).length = 4 + (4 + (tn.length + 1) + p.length + 4) + rest.length := by
    rw [List.length_append, encode_length]
  have g1 : headerAvailable (encode tn p ++ rest).length := by
    unfold headerAvailable kMinMessageLen kHeaderLen; omega
  have g2 : ¬ lenOutOfRange ((bodyOf tn p).length : Int) := by
    unfold lenOutOfRange kMaxMessageLen kMinMessageLen; omega
  have g3 : frameAvailable (encode tn p ++ rest).length ((bodyOf tn p).length : Int) := by
    unfold frameAvailable kHeaderLen; omega
  have hkk : (consumedBytes ((bodyOf tn p).length : Int)).toNat = (encode tn p).length := by
    rw [encode_length]; unfold consumedBytes kHeaderLen; omega
  have hs : slice (encode tn p ++ rest) frameOffset (frameLen ((bodyOf tn p).length : Int)) = bodyOf tn p := by
    rw [encode_eq, frame, List.append_assoc]
    exact slice_mid _ _ _ _ _ (by rw [intBytes_length]; rfl) rfl
  rw [step, encode_eq, asInt32_frame _ _ (by omega), ← encode_eq, if_pos g1, if_neg g2, if_pos g3, hs, hkk,
    parse_body c tn p h1 h31 hk hp, typeNameOf_body tn p h31, payloadOf_body tn p h31]

theorem step_nil (c : Cfg) : step c () [] = .need := by
  rw [step, if_neg (by unfold headerAvailable kMinMessageLen kHeaderLen; simp)]

theorem feed_encode (c : Cfg) (tn p : Bytes) (h1 : 1 ≤ tn.length)
    (hmax : 4 + (tn.length + 1) + p.length + 4 ≤ kMaxMessageLen)
    (hk : c.typeKnown tn = true) (hp : c.parsePayload tn p = true) :
    feed c init (encode tn p) = ({ s := (), buf := [], dead := false }, [.msg tn p]) := by
  have hs := step_encode c tn p [] h1 hmax hk hp
  rw [List.append_nil] at hs
  have hl : (encode tn p).length + 1 = ((encode tn p).length - 1) + 1 + 1 := by rw [encode_length]; omega
  rw [feed, Stream.feed, if_neg (by decide), init, List.nil_append, drain, hl, Stream.loop.eq_2, hs]
  dsimp only
  rw [Stream.loop.eq_2, List.drop_length, step_nil]
  rfl

end MuduoVerif.Codec.Ex
