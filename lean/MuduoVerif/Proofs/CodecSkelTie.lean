import MuduoVerif.Generated.CodecSkel
/-!
T1 tie for the statement order of the two codecs (C18).  `Gen.CodecSkel.<fn>` is the statement skeleton
`vlib/gen/codecskel.py` extracts from /repo's `muduo/net/protobuf/ProtobufCodecLite.cc` and
`examples/protobuf/codec/codec.cc` on every run, `Decl.<fn>` (`Model/CodecSkelDecl.lean`) the skeleton the definition in
`Model/Codec.lean` (with the decoder loop of `Model/Stream.lean`) implements; they are equal by `rfl` exactly as long as the
source performs the same significant actions, in the same order, under the same nesting of the same (generated) guards
and loops.
-/
namespace MuduoVerif.CodecSkel

theorem skeletons_agree :
    Gen.CodecSkel.send = Decl.send ∧
    Gen.CodecSkel.fillEmptyBuffer = Decl.fillEmptyBuffer ∧
    Gen.CodecSkel.onMessage = Decl.onMessage ∧
    Gen.CodecSkel.parseFromBuffer = Decl.parseFromBuffer ∧
    Gen.CodecSkel.serializeToBuffer = Decl.serializeToBuffer ∧
    Gen.CodecSkel.asInt32 = Decl.asInt32 ∧
    Gen.CodecSkel.checksum = Decl.checksum ∧
    Gen.CodecSkel.validateChecksum = Decl.validateChecksum ∧
    Gen.CodecSkel.parse = Decl.parse ∧
    Gen.CodecSkel.exFillEmptyBuffer = Decl.exFillEmptyBuffer ∧
    Gen.CodecSkel.exAsInt32 = Decl.exAsInt32 ∧
    Gen.CodecSkel.exOnMessage = Decl.exOnMessage ∧
    Gen.CodecSkel.exCreateMessage = Decl.exCreateMessage ∧
    Gen.CodecSkel.exParse = Decl.exParse :=
  by and_intros <;> rfl

end MuduoVerif.CodecSkel
