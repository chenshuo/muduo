import MuduoVerif.Generated.LogFileSkel
import MuduoVerif.Model.LogFile
/-!
# T1 tie for the statement order of the log back-end (C16, `LogFile` half)

`Gen.LogFileSkel.<fn>` is the statement skeleton `vlib/gen/logfileskel.py` extracts from /repo's current
`muduo/base/LogFile.cc` / `FileUtil.cc` on every run; `Decl.<fn>` (`Model/LogFileSkelDecl.lean`) is the skeleton the
corresponding definition of `Model/LogFile.lean` implements.  `skeletons_agree` (by `rfl`) holds exactly as long as the source
performs the same stores (of the same expressions), engine calls, libc calls, lock acquisitions, assertions, `break`s and
returns, in the same order, under the same nesting of the same (generated) guards and loops as the model.  The `reading_*`
lemmas check the places where `Model/LogFile.lean` writes a function in a more compact form than the statement sequence the
declared skeleton lists: the model term IS that sequence.
-/
namespace MuduoVerif.LogFileSkel

theorem skeletons_agree :
    Gen.LogFileSkel.ctor = Decl.ctor ∧
    Gen.LogFileSkel.append = Decl.append ∧
    Gen.LogFileSkel.flush = Decl.flush ∧
    Gen.LogFileSkel.appendUnlocked = Decl.appendUnlocked ∧
    Gen.LogFileSkel.rollFile = Decl.rollFile ∧
    Gen.LogFileSkel.getLogFileName = Decl.getLogFileName ∧
    Gen.LogFileSkel.fileCtor = Decl.fileCtor ∧
    Gen.LogFileSkel.fileDtor = Decl.fileDtor ∧
    Gen.LogFileSkel.fileAppend = Decl.fileAppend ∧
    Gen.LogFileSkel.fileFlush = Decl.fileFlush ∧
    Gen.LogFileSkel.fileWrite = Decl.fileWrite :=
  by and_intros <;> rfl

section Readings
open MuduoVerif.LogFile MuduoVerif.Gen.LogFile

/-- `Decl.appendUnlocked`: the record goes to the current file FIRST (`afterWrite`), the roll / flush decisions
(`afterAppend`) see the state after it -/
theorem reading_append (cfg : Cfg) (clk : Nat → Int) (s : St) (rec : Bytes) (fws : List FwRes) :
    step cfg clk s (.append rec fws) =
      (let s1 := afterWrite s (appendFile rec fws)                       -- file_->append(logline, len)
       afterAppend cfg clk s1) := rfl                                   -- the `if (writtenBytes() > rollSize_) .. else ..`

/-- `Decl.appendUnlocked`, roll by size: `rollFile()` on the state as it is - `count_` untouched, no clock reading of
its own -/
theorem reading_roll_by_size (cfg : Cfg) (clk : Nat → Int) (s : St) (h : rollBySize s.written cfg.rollSize) :
    afterAppend cfg clk s = (rollFile clk s).1 := by
  simp only [afterAppend, if_pos h]

/-- `Decl.appendUnlocked`, no roll by size and the check not due: `++count_` and nothing else -/
theorem reading_count_only (cfg : Cfg) (clk : Nat → Int) (s : St) (h : ¬ rollBySize s.written cfg.rollSize)
    (hc : ¬ checkDue (s.count + 1) cfg.checkEveryN) :
    afterAppend cfg clk s = { s with count := s.count + 1 } := by
  simp only [afterAppend, if_neg h, if_neg hc]

/-- `Decl.appendUnlocked`, new period: `count_ = 0`, ONE `time()` (tick + 1, `Ev.time`), then `rollFile()` (which reads
the clock again) -/
theorem reading_roll_by_period (cfg : Cfg) (clk : Nat → Int) (s : St) (h : ¬ rollBySize s.written cfg.rollSize)
    (hc : checkDue (s.count + 1) cfg.checkEveryN) (hp : periodChanged (periodOf (clk s.tick)) s.startOfPeriod) :
    afterAppend cfg clk s =
      (let s1 : St := { s with count := countReset, tick := s.tick + 1, log := Ev.time (clk s.tick) :: s.log }
       (rollFile clk s1).1) := by
  simp only [afterAppend, if_neg h, if_pos hc, if_pos hp]

/-- `Decl.appendUnlocked`, same period and the interval over: `lastFlush_ = now` and the flush, in that branch only -/
theorem reading_flush (cfg : Cfg) (clk : Nat → Int) (s : St) (h : ¬ rollBySize s.written cfg.rollSize)
    (hc : checkDue (s.count + 1) cfg.checkEveryN) (hp : ¬ periodChanged (periodOf (clk s.tick)) s.startOfPeriod)
    (hf : flushDue (clk s.tick) s.lastFlush cfg.flushInterval) :
    afterAppend cfg clk s =
      { s with count := countReset, tick := s.tick + 1, lastFlush := clk s.tick, cur := s.cur.flush,
               log := Ev.flushed s.cur.name s.cur.content.length :: Ev.time (clk s.tick) :: s.log } := by
  simp only [afterAppend, if_neg h, if_pos hc, if_neg hp, if_pos hf]

/-- `Decl.appendUnlocked`, same period and the interval not over: only `count_ = 0` and the clock reading -/
theorem reading_check_only (cfg : Cfg) (clk : Nat → Int) (s : St) (h : ¬ rollBySize s.written cfg.rollSize)
    (hc : checkDue (s.count + 1) cfg.checkEveryN) (hp : ¬ periodChanged (periodOf (clk s.tick)) s.startOfPeriod)
    (hf : ¬ flushDue (clk s.tick) s.lastFlush cfg.flushInterval) :
    afterAppend cfg clk s = { s with count := countReset, tick := s.tick + 1, log := Ev.time (clk s.tick) :: s.log } := by
  simp only [afterAppend, if_neg h, if_pos hc, if_neg hp, if_neg hf]

/-- `Decl.rollFile`, refused: the clock was read all the same, nothing else changed, result `false` -/
theorem reading_roll_refused (clk : Nat → Int) (s : St) (h : ¬ rollAllowed (clk s.tick) s.lastRoll) :
    rollFile clk s = ({ s with tick := s.tick + 1, log := Ev.time (clk s.tick) :: s.log }, false) := by
  simp only [rollFile, if_neg h]

/-- `Decl.fileAppend`: one iteration of the `while` when the stream accepts the request or reports no error - the loop
continues from `written + n` (the recursion is the loop) -/
theorem reading_loop_step (rec : Bytes) (written : Nat) (r : FwRes) (rs : List FwRes)
    (hc : appendContinues written rec.length)
    (hok : ¬ (appendShort (min r.n (appendRequest (appendRemain rec.length written))) (appendRemain rec.length written)
              ∧ r.err = true)) :
    (appendLoop rec written (r :: rs)).counted =
      (appendLoop rec (appendAdvance written (min r.n (appendRequest (appendRemain rec.length written)))) rs).counted := by
  simp only [appendLoop, if_pos hc, if_neg hok]

/-- `Decl.fileAppend`: the `break` - short count AND the error flag: the bytes of this call went out, `written` is NOT
advanced by them, the loop is left -/
theorem reading_loop_break (rec : Bytes) (written : Nat) (r : FwRes) (rs : List FwRes)
    (hc : appendContinues written rec.length)
    (hbad : appendShort (min r.n (appendRequest (appendRemain rec.length written))) (appendRemain rec.length written)
            ∧ r.err = true) :
    (appendLoop rec written (r :: rs)).counted = written ∧ (appendLoop rec written (r :: rs)).failed = true := by
  simp only [appendLoop, if_pos hc, if_pos hbad, and_self]

/-- `Decl.fileAppend`: the loop test comes first - nothing is written when `written == len` -/
theorem reading_loop_exit (rec : Bytes) (written : Nat) (fws : List FwRes) (hc : ¬ appendContinues written rec.length) :
    (appendLoop rec written fws).calls = [] ∧ (appendLoop rec written fws).counted = written := by
  cases fws <;> simp only [appendLoop, if_neg hc, and_self]

end Readings

end MuduoVerif.LogFileSkel
