import MuduoVerif.Generated.RpcSkel
/-!
T1 tie for the statement order of the RPC engine (C19).  `Gen.RpcSkel.<fn>` is the statement skeleton
`vlib/gen/rpcskel.py` extracts from /repo's current `RpcChannel.cc` / `RpcServer.cc` on every run; `Decl.<fn>`
(`Model/RpcSkelDecl.lean`) is the skeleton the corresponding definitions of `Model/Rpc.lean` implement.  Each equation
is closed by `rfl`: it holds exactly as long as the source performs the same significant actions, in the same order,
under the same nesting of the same sites (`if`s, lock scopes, the loop of the destructor) as the model.  The guards,
counts and the decision tree themselves are tied by `Generated/Rpc.lean`.
-/
namespace MuduoVerif.RpcSkel

theorem skeleton_dtor : Gen.RpcSkel.dtor = Decl.dtor := rfl

theorem skeletons_agree :
    Gen.RpcSkel.dtor = Decl.dtor ∧
    Gen.RpcSkel.callMethod = Decl.callMethod ∧
    Gen.RpcSkel.onMessage = Decl.onMessage ∧
    Gen.RpcSkel.onRpcMessage = Decl.onRpcMessage ∧
    Gen.RpcSkel.doneCallback = Decl.doneCallback ∧
    Gen.RpcSkel.onConnection = Decl.onConnection :=
  ⟨skeleton_dtor, by rfl, by rfl, by rfl, by rfl, by rfl⟩

end MuduoVerif.RpcSkel
