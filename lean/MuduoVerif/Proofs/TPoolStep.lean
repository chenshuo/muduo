import MuduoVerif.Proofs.TPoolTie
import MuduoVerif.Proofs.MonitorBase
/-!
# The steps of the ThreadPool model, one explicit successor state per case

`PStep s s'` lists what `pstep` can do once the skeleton features and guards of `Generated/Monitor.lean`
have been evaluated (`Proofs/TPoolTie.lean`); `pstep_sound` shows that every enabled `pstep` is one of
them; the four steps that change the mutex and the wait-sets only are listed apart (`MStep`, `PStep.mon`).
-/
namespace MuduoVerif.Monitor
open MuduoVerif.Generated.Monitor

/-- the steps that touch the mutex and the wait-sets only -/
inductive MStep (s : PState) : Mon → Prop where
  | acq (t : Nat) (ho : s.owner = none) (hl : s.needsLock t = true) (hE : t ∉ s.ne.W) (hF : t ∉ s.nf.W) :
      MStep s { s.toMon with owner := some t }
  | spur (t : Nat) (c : Cond) (h : t ∈ (s.ws c).W) : MStep s (s.toMon.setWs c ((s.ws c).spur t))
  | takePark (t : Nat) (hpc : s.pc t = .wTake) (ho : s.owner = some t) (hq : s.q = []) (hr : s.running = true) :
      MStep s ((s.toMon.setWs .notEmpty (s.ne.wake t)).parkOn .notEmpty t)
  | runPark (t id : Nat) (rest : List POp) (hpc : s.pc t = .idle) (hp : s.prog t = .run id :: rest)
      (hn : s.n ≠ 0) (ho : s.owner = some t)
      (hfull : 0 < s.maxq ∧ s.maxq ≤ s.q.length) (hr : s.running = true) :
      MStep s ((s.toMon.setWs .notFull (s.nf.wake t)).parkOn .notFull t)

/-- Every step of a thread names the thread and where it stands first (`t`, `hpc`; what `hpc` mentions is implicit), so a
proof by cases can close the steps it treats alike in one last alternative `| _ t hpc => …`. -/
inductive PStep (s : PState) : PState → Prop where
  | mon {m' : Mon} (h : MStep s m') : PStep s { s with toMon := m' }
  | test (t : Nat) (hpc : s.pc t = .wTest) :
      PStep s { s with pc := upd s.pc t (if s.running = true then .wTake else .wDone) }
  | takeNone (t : Nat) (hpc : s.pc t = .wTake) (ho : s.owner = some t)
      (hq : s.q = []) (hr : s.running = false) :
      PStep s { s with toMon := (s.toMon.setWs .notEmpty (s.ne.wake t)).unlock, pc := upd s.pc t .wTest }
  | takeSome (t : Nat) {x : Task} {q' : List Task} (hpc : s.pc t = .wTake) (ho : s.owner = some t)
      (hq : s.q = x :: q') :
      PStep s { s with
        toMon := if 0 < s.maxq then (s.toMon.setWs .notEmpty (s.ne.wake t)).unlock.notifs [⟨false, .notFull⟩]
                 else (s.toMon.setWs .notEmpty (s.ne.wake t)).unlock,
        q := q', pc := upd s.pc t (.wExec x), log := s.log ++ [.took t x] }
  | exec (t : Nat) {x : Task} (hpc : s.pc t = .wExec x) (p : PPc) (g : Bool)
      (hp : p = .wTest ∨ (p = .wGate x ∧ s.kind x.2 = .waits)) :
      PStep s { s with gate := g, pc := upd s.pc t p, log := s.log ++ [.exec t x] }
  | pass (t : Nat) {x : Task} (hpc : s.pc t = .wGate x) (hg : s.gate = true) :
      PStep s { s with pc := upd s.pc t .wTest, log := s.log ++ [.pass t x] }
  | openGate (t : Nat) {rest : List POp} (hpc : s.pc t = .idle) (hp : s.prog t = .open :: rest) :
      PStep s { s with gate := true, pc := upd s.pc t .idle, prog := upd s.prog t rest, log := s.log ++ [.openRet t] }
  | runInline (t : Nat) {id : Nat} {rest : List POp} (hpc : s.pc t = .idle) (hp : s.prog t = .run id :: rest) (hn : s.n = 0) :
      PStep s { s with pc := upd s.pc t .idle, prog := upd s.prog t rest, log := s.log ++ [.inl t id, .runRet t id] }
  | runStopped (t : Nat) {id : Nat} {rest : List POp} (hpc : s.pc t = .idle) (hp : s.prog t = .run id :: rest)
      (hn : s.n ≠ 0) (ho : s.owner = some t) (hr : s.running = false) :
      PStep s { s with toMon := (s.toMon.setWs .notFull (s.nf.wake t)).unlock,
                       pc := upd s.pc t .idle, prog := upd s.prog t rest, log := s.log ++ [.runRet t id] }
  | runPush (t : Nat) {id : Nat} {rest : List POp} (hpc : s.pc t = .idle) (hp : s.prog t = .run id :: rest)
      (hn : s.n ≠ 0) (ho : s.owner = some t)
      (hroom : ¬ (0 < s.maxq ∧ s.maxq ≤ s.q.length)) (hr : s.running = true) :
      PStep s { s with
        toMon := (s.toMon.setWs .notFull (s.nf.wake t)).unlock.notifs [⟨false, .notEmpty⟩],
        q := s.q ++ [(s.nacc, id)], nacc := s.nacc + 1,
        pc := upd s.pc t .idle, prog := upd s.prog t rest, log := s.log ++ [.accept t (s.nacc, id), .runRet t id] }
  | stopFlag (t : Nat) {rest : List POp} (hpc : s.pc t = .idle) (hp : s.prog t = .stop :: rest) (ho : s.owner = some t) :
      PStep s { s with running := false, pc := upd s.pc t .stopNotify, log := s.log ++ [.stopFlag t] }
  | stopNotify (t : Nat) (hpc : s.pc t = .stopNotify) (ho : s.owner = some t) (hn : s.n ≠ 0) :
      PStep s { s with toMon := s.toMon.unlock.notifs [⟨true, .notEmpty⟩, ⟨true, .notFull⟩],
                       pc := upd s.pc t (.stopJoin 0) }
  | stopNotify0 (t : Nat) (hpc : s.pc t = .stopNotify) (ho : s.owner = some t) (hn : s.n = 0) :
      PStep s { s with toMon := s.toMon.unlock.notifs [⟨true, .notEmpty⟩, ⟨true, .notFull⟩],
                       pc := upd s.pc t .idle, prog := upd s.prog t (s.prog t).tail, log := s.log ++ [.stopRet t] }
  | joinNext (t : Nat) {i : Nat} (hpc : s.pc t = .stopJoin i) (hd : s.pc (i + 1) = .wDone) (hi : i + 1 < s.n) :
      PStep s { s with pc := upd s.pc t (.stopJoin (i + 1)) }
  | joinLast (t : Nat) {i : Nat} (hpc : s.pc t = .stopJoin i) (hd : s.pc (i + 1) = .wDone) (hi : ¬ i + 1 < s.n) :
      PStep s { s with pc := upd s.pc t .idle, prog := upd s.prog t (s.prog t).tail, log := s.log ++ [.stopRet t] }

theorem PState.enter_eq (s : PState) (t : Nat) (c : Cond) (g : Bool) (eff : PState → PState) :
    s.enter t (some ⟨true, c⟩) g eff =
      if g = true then { s with toMon := (s.toMon.setWs c ((s.ws c).wake t)).parkOn c t }
      else eff { s with toMon := s.toMon.setWs c ((s.ws c).wake t) } := by
  simp only [PState.enter, Mon.enter_eq]
  cases g <;> rfl

theorem pstep_sound {s s' : PState} {a : Act} (h : pstep s a = some s') : PStep s s' := by
  cases a with
  | acq t =>
    simp only [pstep] at h
    split at h
    · rename_i hc; cases h; exact .mon (.acq t hc.1 hc.2.1 hc.2.2.1 hc.2.2.2)
    · cases h
  | spur t c =>
    simp only [pstep] at h
    split at h
    · rename_i hc; cases h; exact .mon (.spur t c hc)
    · cases h
  | body t =>
    simp only [pstep] at h
    split at h
    · -- wTest
      rename_i hpc
      simp only [PState.g_loop_g2] at h
      cases h
      have := PStep.test (s := s) t hpc
      cases hr : s.running <;> simpa [hr] using this
    · -- wTake
      rename_i hpc
      split at h
      · rename_i ho
        cases h
        simp only [PState.takeBody, pool_takeW, PState.enter_eq]
        by_cases hg : s.q.length = 0 ∧ s.running = true
        · rw [if_pos (by simpa [PState.g_take_g1] using hg)]
          exact .mon (.takePark t hpc ho (List.eq_nil_of_length_eq_zero hg.1) hg.2)
        · rw [if_neg (by simpa [PState.g_take_g1] using hg)]
          have hq' : s.q = [] ∨ ∃ x q', s.q = x :: q' := by cases s.q <;> simp
          rcases hq' with hq | ⟨x, q', hq⟩
          ·
            have hr : s.running = false := by
              cases hr : s.running
              · rfl
              · exact absurd ⟨by rw [hq]; rfl, hr⟩ hg
            have := PStep.takeNone (s := s) t hpc ho hq hr
            simpa [PState.g_take_g2, hq, Mon.unlock] using this
          · have := PStep.takeSome (s := s) t hpc ho hq
            by_cases hm : 0 < s.maxq
            · simpa [PState.g_take_g2, PState.g_take_g3, hq, pool_takeN, PState.notifs, hm, Mon.unlock] using this
            · simpa [PState.g_take_g2, PState.g_take_g3, hq, pool_takeN, PState.notifs, hm, Mon.unlock] using this
      · cases h
    · -- wExec
      rename_i x hpc
      simp only [PState.g_loop_g3, if_true, PState.startTask] at h
      cases h
      cases hk : s.kind x.2
      · exact .exec t hpc .wTest s.gate (Or.inl rfl)
      · exact .exec t hpc (.wGate x) s.gate (Or.inr ⟨rfl, hk⟩)
      · exact .exec t hpc .wTest true (Or.inl rfl)
    · -- wGate
      rename_i x hpc
      split at h
      · rename_i hg; cases h; exact .pass t hpc hg
      · cases h
    · cases h
    · -- idle
      rename_i hpc
      split at h
      · cases h
      · rename_i id rest hp
        simp only [PState.inline, PState.g_run_g1, decide_eq_true_eq] at h
        split at h
        · rename_i hn
          cases h
          exact .runInline t hpc hp hn
        · rename_i hn
          split at h
          · rename_i ho
            cases h
            simp only [PState.runBody, pool_runW, PState.enter_eq]
            by_cases hg : (0 < s.maxq ∧ s.maxq ≤ s.q.length) ∧ s.running = true
            · rw [if_pos (by simpa [PState.g_run_g2] using hg)]
              exact .mon (.runPark t id rest hpc hp hn ho hg.1 hg.2)
            · rw [if_neg (by simpa [PState.g_run_g2] using hg)]
              rcases Bool.eq_false_or_eq_true s.running with hr | hr
              · have hroom : ¬ (0 < s.maxq ∧ s.maxq ≤ s.q.length) := fun hf => hg ⟨hf, hr⟩
                have := PStep.runPush (s := s) t hpc hp hn ho hroom hr
                simpa [PState.g_run_g3, hr, PState.ret, pool_runN, PState.notifs, Mon.unlock] using this
              · have := PStep.runStopped (s := s) t hpc hp hn ho hr
                simpa [PState.g_run_g3, hr, PState.ret, Mon.unlock] using this
          · cases h
      · rename_i rest hp
        split at h
        · rename_i ho
          cases h
          exact .stopFlag t hpc hp ho
        · cases h
      · rename_i rest hp
        cases h
        exact .openGate t hpc hp
    · -- stopNotify
      rename_i hpc
      split at h
      · rename_i ho
        cases h
        by_cases hn : s.n = 0
        · have := PStep.stopNotify0 (s := s) t hpc ho hn
          simpa [hn, pool_stopN, PState.notifs, PState.stopDone, PState.ret, Mon.unlock] using this
        · have := PStep.stopNotify (s := s) t hpc ho hn
          simpa [hn, pool_stopN, PState.notifs, Mon.unlock] using this
      · cases h
    · -- stopJoin
      rename_i i hpc
      split at h
      · rename_i hd
        cases h
        by_cases hi : i + 1 < s.n
        · simpa [hi] using PStep.joinNext (s := s) t hpc hd hi
        · simpa [hi, PState.stopDone, PState.ret] using PStep.joinLast (s := s) t hpc hd hi
      · cases h

end MuduoVerif.Monitor
