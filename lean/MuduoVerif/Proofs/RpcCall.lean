import MuduoVerif.Proofs.RpcShape
/-! `CallInv` is kept by the three steps of `CallMethod`. -/
namespace MuduoVerif.Rpc
open MuduoVerif.Gen.Rpc

theorem CallInv.callBegin {s : Chan} (inv : CallInv s) :
    CallInv { s with counter := s.counter + 1, stage := setAt s.stage s.nextCall .fetched,
                     idOf := setAt s.idOf s.nextCall (s.counter + 1), nextCall := s.nextCall + 1 } := by
  have hn := inv.born s.nextCall (Nat.le_refl _)
  have hfr := inv.fresh s.nextCall (by simp [Registered, hn])
  -- an older call keeps its stage and id; the new call is not registered and nothing mentions it
  have hst : ∀ k, k ≠ s.nextCall → setAt s.stage s.nextCall .fetched k = s.stage k := fun k h => setAt_other _ _ _ _ h
  have hid : ∀ k, k ≠ s.nextCall → setAt s.idOf s.nextCall (s.counter + 1) k = s.idOf k := fun k h => setAt_other _ _ _ _ h
  have hreg : ∀ c i n k, Registered { s with counter := c, stage := setAt s.stage s.nextCall .fetched, idOf := i, nextCall := n } k ↔
      Registered s k := fun c i n k => by
    by_cases h : k = s.nextCall <;> simp [Registered, setAt, h, hn]
  have hold : ∀ {k}, Registered s k → k ≠ s.nextCall := fun h e => by
    rcases h with h | h <;> simp [e, hn] at h
  have hran : ∀ {k i v}, Ev.ran k i v ∈ s.log → k ≠ s.nextCall := fun he e =>
    absurd (e ▸ hfr.1) (Nat.pos_iff_ne_zero.mp (List.countP_pos_iff.mpr ⟨_, he, by simp [isRan]⟩))
  constructor <;> simp only [hreg]
  · exact fun k hk => (hst k (by omega)).trans (inv.born k (by omega))
  · intro k hk
    by_cases h : k = s.nextCall
    · omega
    · exact Nat.lt_succ_of_lt (inv.alive k (hst k h ▸ hk))
  · intro k hk
    by_cases h : k = s.nextCall
    · simp [h, setAt_same]
    · have := inv.idpos k (by omega)
      rw [hid k h]; omega
  · intro j k hj hk
    by_cases h1 : j = s.nextCall <;> by_cases h2 : k = s.nextCall
    · omega
    · have := inv.idpos k (by omega)
      rw [h1, setAt_same, hid k h2]; omega
    · have := inv.idpos j (by omega)
      rw [h2, setAt_same, hid j h1]; omega
    · rw [hid j h1, hid k h2]
      exact inv.inj j k (by omega) (by omega)
  · intro k
    by_cases h : k = s.nextCall
    · simp [h, setAt_same]
    · rw [hst k h]; exact inv.noSentOnly k
  · intro i k hl
    obtain ⟨a, b, c⟩ := inv.out i k hl
    exact ⟨(hid k (hold b)).trans a, b, c⟩
  · intro k m hp
    obtain ⟨a, b, c⟩ := inv.pend k m hp
    exact ⟨a.trans (hid k (hold b)).symm, b, c⟩
  · exact inv.once
  · exact inv.fresh
  · intro k i v he
    obtain ⟨a, b⟩ := inv.own k i v he
    exact ⟨a.trans (hid k (hran he)).symm, b⟩
  · intro k hk hr hp
    rw [hid k (hold hk)]
    exact inv.reg k hk hr hp
  · intro i k he
    obtain ⟨a, b⟩ := inv.wire i k he
    have hne : k ≠ s.nextCall := fun h => by simp [h, hn] at b
    exact ⟨a.trans (hid k hne).symm, (hst k hne).trans b⟩

theorem CallInv.callInsert {s : Chan} (inv : CallInv s) {k : Nat} (hst : s.stage k = .fetched) :
    CallInv { s with outstanding := insertKey (s.idOf k) k s.outstanding, stage := setAt s.stage k .inserted } := by
  have hk : k < s.nextCall := inv.alive k (by simp [hst])
  -- `k` was not registered: no completion of it, done or pending; `inj` keeps the other keys apart from `idOf k`
  have hfr := inv.fresh k (by simp [Registered, hst])
  have hreg : ∀ j, Registered { s with outstanding := insertKey (s.idOf k) k s.outstanding, stage := setAt s.stage k .inserted } j ↔
      (j = k ∨ Registered s j) := fun j => by
    by_cases h : j = k <;> simp [Registered, setAt, h]
  have hst' : ∀ j, j ≠ k → setAt s.stage k .inserted j = s.stage j := fun j h => setAt_other _ _ _ _ h
  constructor <;> simp only [hreg, lookup_insertKey]
  · exact fun j hj => (hst' j (by omega)).trans (inv.born j hj)
  · intro j hj
    by_cases h : j = k
    · exact h ▸ hk
    · exact inv.alive j (hst' j h ▸ hj)
  · exact inv.idpos
  · exact inv.inj
  · intro j
    by_cases h : j = k
    · simp [h, setAt_same]
    · rw [hst' j h]; exact inv.noSentOnly j
  · intro i j hl
    split at hl
    next h => cases hl; exact ⟨h, .inl rfl, hfr⟩
    next h => obtain ⟨a, b, c⟩ := inv.out i j hl; exact ⟨a, .inr b, c⟩
  · exact fun j m hp => let ⟨a, b, c⟩ := inv.pend j m hp; ⟨a, .inr b, c⟩
  · exact inv.once
  · exact fun j hj => inv.fresh j (fun h => hj (.inr h))
  · exact inv.own
  · intro j hj hr hp
    by_cases h : j = k
    · simp [h]
    · have hj := hj.resolve_left h
      rw [if_neg (fun he => h (inv.inj j k (inv.lt_of_registered hj) hk he.symm))]
      exact inv.reg j hj hr hp
  · intro i j he
    obtain ⟨a, b⟩ := inv.wire i j he
    exact ⟨a, (hst' j (fun h => by simp [h, hst] at b)).trans b⟩

theorem CallInv.callSend {s : Chan} (inv : CallInv s) {k : Nat} (hst : s.stage k = .inserted) :
    CallInv { s with stage := setAt s.stage k .returned, log := .sent (s.idOf k) k :: s.log } := by
  have hreg : ∀ j, Registered { s with stage := setAt s.stage k .returned, log := .sent (s.idOf k) k :: s.log } j ↔
      Registered s j := fun j => by
    by_cases h : j = k <;> simp [Registered, setAt, h, hst]
  have hr : ∀ j, ranCount j (Ev.sent (s.idOf k) k :: s.log) = ranCount j s.log := fun j => ranCount_cons_of_false j _ _ rfl
  have hf : ∀ j, freeCount j (Ev.sent (s.idOf k) k :: s.log) = freeCount j s.log := fun j => freeCount_cons_of_false j _ _ rfl
  have hst' : ∀ j, j ≠ k → setAt s.stage k .returned j = s.stage j := fun j h => setAt_other _ _ _ _ h
  have hk : k < s.nextCall := inv.alive k (by simp [hst])
  constructor <;> simp only [hreg, hr, hf]
  · exact fun j hj => (hst' j (by omega)).trans (inv.born j hj)
  · intro j hj
    by_cases h : j = k
    · exact h ▸ hk
    · exact inv.alive j (hst' j h ▸ hj)
  · exact inv.idpos
  · exact inv.inj
  · intro j
    by_cases h : j = k
    · simp [h, setAt_same]
    · rw [hst' j h]; exact inv.noSentOnly j
  · exact inv.out
  · exact fun j m hp => let ⟨a, b, c, d⟩ := inv.pend j m hp; ⟨a, b, List.mem_cons_of_mem _ c, d⟩
  · exact inv.once
  · exact inv.fresh
  · exact fun j i v he => let ⟨a, m, b, c⟩ := inv.own j i v (by simpa using he); ⟨a, m, List.mem_cons_of_mem _ b, c⟩
  · exact inv.reg
  · intro i j he
    rcases List.mem_cons.mp he with h | h
    · cases h; exact ⟨rfl, setAt_same _ _ _⟩
    · obtain ⟨a, b⟩ := inv.wire i j h
      refine ⟨a, ?_⟩
      by_cases hjk : j = k
      · simp [hjk, setAt_same]
      · exact (hst' j hjk).trans b

end MuduoVerif.Rpc
