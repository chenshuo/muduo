import MuduoVerif.Generated.BufferSkel
import MuduoVerif.Model.Buffer
/-!
T1 tie for the statement order of `Buffer` (C10).  `Gen.BufferSkel.<fn>` is the statement skeleton
`vlib/gen/bufferskel.py` extracts from /repo's `muduo/net/Buffer.{h,cc}` on every run, `Decl.<fn>`
(`Model/BufferSkelDecl.lean`) the skeleton the definition in `Model/Buffer.lean` implements; they are equal by `rfl` exactly
as long as the source performs the same index stores (of the same expressions), copies, resizes, calls and assertions,
in the same order, under the same nesting of the same (generated) guards.  The `reading_*` lemmas check the places where
the model is written more compactly than the statement sequence the declared skeleton lists: the model term IS that sequence.
-/
namespace MuduoVerif.BufferSkel

theorem skeletons_agree :
    (Gen.BufferSkel.ctor = Decl.ctor ∧
     Gen.BufferSkel.swap = Decl.swap ∧
     Gen.BufferSkel.readableBytes = Decl.readableBytes ∧
     Gen.BufferSkel.writableBytes = Decl.writableBytes ∧
     Gen.BufferSkel.prependableBytes = Decl.prependableBytes ∧
     Gen.BufferSkel.peek = Decl.peek ∧
     Gen.BufferSkel.toStringPiece = Decl.toStringPiece ∧
     Gen.BufferSkel.beginWrite = Decl.beginWrite ∧
     Gen.BufferSkel.beginWriteConst = Decl.beginWriteConst) ∧
    (Gen.BufferSkel.findCRLF = Decl.findCRLF ∧
     Gen.BufferSkel.findCRLFFrom = Decl.findCRLFFrom ∧
     Gen.BufferSkel.findEOL = Decl.findEOL ∧
     Gen.BufferSkel.findEOLFrom = Decl.findEOLFrom) ∧
    (Gen.BufferSkel.retrieve = Decl.retrieve ∧
     Gen.BufferSkel.retrieveUntil = Decl.retrieveUntil ∧
     Gen.BufferSkel.retrieveInt64 = Decl.retrieveInt64 ∧
     Gen.BufferSkel.retrieveInt32 = Decl.retrieveInt32 ∧
     Gen.BufferSkel.retrieveInt16 = Decl.retrieveInt16 ∧
     Gen.BufferSkel.retrieveInt8 = Decl.retrieveInt8 ∧
     Gen.BufferSkel.retrieveAll = Decl.retrieveAll ∧
     Gen.BufferSkel.retrieveAllAsString = Decl.retrieveAllAsString ∧
     Gen.BufferSkel.retrieveAsString = Decl.retrieveAsString) ∧
    (Gen.BufferSkel.appendPiece = Decl.appendPiece ∧
     Gen.BufferSkel.append = Decl.append ∧
     Gen.BufferSkel.appendVoid = Decl.appendVoid ∧
     Gen.BufferSkel.ensureWritableBytes = Decl.ensureWritableBytes ∧
     Gen.BufferSkel.hasWritten = Decl.hasWritten ∧
     Gen.BufferSkel.unwrite = Decl.unwrite ∧
     Gen.BufferSkel.prepend = Decl.prepend ∧
     Gen.BufferSkel.shrink = Decl.shrink ∧
     Gen.BufferSkel.makeSpace = Decl.makeSpace ∧
     Gen.BufferSkel.readFd = Decl.readFd) ∧
    (Gen.BufferSkel.appendInt64 = Decl.appendInt64 ∧
     Gen.BufferSkel.appendInt32 = Decl.appendInt32 ∧
     Gen.BufferSkel.appendInt16 = Decl.appendInt16 ∧
     Gen.BufferSkel.appendInt8 = Decl.appendInt8 ∧
     Gen.BufferSkel.readInt64 = Decl.readInt64 ∧
     Gen.BufferSkel.readInt32 = Decl.readInt32 ∧
     Gen.BufferSkel.readInt16 = Decl.readInt16 ∧
     Gen.BufferSkel.readInt8 = Decl.readInt8 ∧
     Gen.BufferSkel.peekInt64 = Decl.peekInt64 ∧
     Gen.BufferSkel.peekInt32 = Decl.peekInt32 ∧
     Gen.BufferSkel.peekInt16 = Decl.peekInt16 ∧
     Gen.BufferSkel.peekInt8 = Decl.peekInt8 ∧
     Gen.BufferSkel.prependInt64 = Decl.prependInt64 ∧
     Gen.BufferSkel.prependInt32 = Decl.prependInt32 ∧
     Gen.BufferSkel.prependInt16 = Decl.prependInt16 ∧
     Gen.BufferSkel.prependInt8 = Decl.prependInt8) :=
  by and_intros <;> rfl

section Readings
open MuduoVerif.Buffer MuduoVerif.Gen.Buffer

theorem reading_append (b : Buf) (x : Bytes) :
    Buffer.append b x =
      (let b1 := ensureWritable b x.length                               -- ensureWritableBytes(len)
       let b2 : Buf := { b1 with data := splice b1.data b1.writer x }    -- std::copy(data, data+len, beginWrite())
       hasWritten b2 x.length) := rfl                                   -- hasWritten(len)

/-- the write index is computed from the NEW read index -/
theorem reading_makeSpace_slide (b : Buf) (len : Nat) (h : ¬ makeSpaceGrows (writable b) (prependable b) len) :
    Buffer.makeSpace b len =
      (let r := readable b                                               -- size_t readable = readableBytes()
       let b1 : Buf := { b with data := splice b.data kCheapPrepend (content b) }   -- std::copy(.., begin()+kCheapPrepend)
       let b2 : Buf := { b1 with reader := kCheapPrepend }               -- readerIndex_ = kCheapPrepend
       { b2 with writer := b2.reader + r }) := by                        -- writerIndex_ = readerIndex_ + readable
  simp only [Buffer.makeSpace, if_neg h]

theorem reading_makeSpace_grow (b : Buf) (len : Nat) (h : makeSpaceGrows (writable b) (prependable b) len) :
    Buffer.makeSpace b len = { b with data := resize b.data (b.writer + len) } := by
  simp only [Buffer.makeSpace, if_pos h]

/-- the copy goes to the NEW `begin() + readerIndex_` -/
theorem reading_prepend (b : Buf) (x : Bytes) :
    Buffer.prepend b x =
      (let b1 : Buf := { b with reader := b.reader - x.length }          -- readerIndex_ -= len
       { b1 with data := splice b1.data b1.reader x }) := rfl            -- std::copy(d, d+len, begin()+readerIndex_)

theorem reading_readFd_spill (b : Buf) (d : Bytes) (h : ¬ readFdFits d.length (writable b)) :
    Buffer.readFd b d =
      (let w := writable b                                               -- const size_t writable = writableBytes()
       let b1 : Buf := { b with data := splice b.data b.writer (d.take w) }   -- readv into vec[0] = begin()+writerIndex_
       let b2 : Buf := { b1 with writer := b.data.length }               -- writerIndex_ = buffer_.size() (readv keeps the size)
       Buffer.append b2 (d.drop w)) := by                                -- append(extrabuf, n - writable)
  simp only [Buffer.readFd, if_neg h]

/-- `Decl.readFd`, fitting branch: the kernel stored `d` at `begin() + writerIndex_`; `writerIndex_ += n` -/
theorem reading_readFd_fits (b : Buf) (d : Bytes) (h : readFdFits d.length (writable b)) :
    Buffer.readFd b d = { b with data := splice b.data b.writer d, writer := b.writer + d.length } := by
  simp only [Buffer.readFd, if_pos h]

/-- `Decl.readIntN`: the value is peeked BEFORE the retrieve, on the same buffer -/
theorem reading_readInt (b : Buf) (bytes : Nat) :
    Buffer.readInt b bytes = (let result := peekInt b bytes; (Buffer.retrieve b bytes, result)) := rfl

/-- `Decl.shrink`: `Buffer other; other.ensureWritableBytes(readableBytes()+reserve); other.append(toStringPiece());
swap(other)` - the result is `other` -/
theorem reading_shrink (b : Buf) (reserve : Nat) :
    Buffer.shrink b reserve =
      (let other := mk kInitialSize
       let other := ensureWritable other (readable b + reserve)
       Buffer.append other (content b)) := rfl

end Readings

end MuduoVerif.BufferSkel
