/-!
The proleptic Gregorian calendar defined from its rules (the *specification*: `isLeap`, `daysInMonth`, `validDate`,
`nextDay`) and the two Julian-day-number algorithms with `/` = floor division (`jdnE`, `ymdE`), inverse to each other on
**every** integer day number and every valid date of any year.  Core Lean only and independent of the generated
definitions, so nothing here is rebuilt when /repo changes.

The round trips are read off in the algorithms' own coordinates (years that begin on 1 March, see below): a day number
lies in exactly one such year, because `yearStart` is monotone, and the two divisions of `ymdE` find it.
-/
namespace MuduoVerif.CalendarE

structure Civil where
  year : Int
  month : Int
  day : Int
deriving DecidableEq, Repr

abbrev isLeap (y : Int) : Prop := y % 4 = 0 ∧ (y % 100 ≠ 0 ∨ y % 400 = 0)

def daysInMonth (y m : Int) : Int :=
  if m = 2 then (if isLeap y then 29 else 28)
  else if m = 4 ∨ m = 6 ∨ m = 9 ∨ m = 11 then 30
  else 31

def validDate (y m d : Int) : Prop := 1 ≤ m ∧ m ≤ 12 ∧ 1 ≤ d ∧ d ≤ daysInMonth y m
instance (y m d : Int) : Decidable (validDate y m d) := inferInstanceAs (Decidable (_ ∧ _ ∧ _ ∧ _))

def Civil.valid (x : Civil) : Prop := validDate x.year x.month x.day
instance (x : Civil) : Decidable x.valid := inferInstanceAs (Decidable (validDate _ _ _))

def nextDay (x : Civil) : Civil :=
  if x.day < daysInMonth x.year x.month then { x with day := x.day + 1 }
  else if x.month < 12 then { x with month := x.month + 1, day := 1 }
  else { year := x.year + 1, month := 1, day := 1 }

/-- `n` days after `x`, by counting -/
def civilFrom (x : Civil) : Nat → Civil
  | 0 => x
  | n + 1 => nextDay (civilFrom x n)

def jdnE (year month day : Int) : Int :=
  let a := (14 - month) / 12
  let y := year + 4800 - a
  let m := month + 12 * a - 3
  day + (153 * m + 2) / 5 + 365 * y + y / 4 - y / 100 + y / 400 - 32045

def Civil.jdn (x : Civil) : Int := jdnE x.year x.month x.day

/-! ### the algorithms' coordinates

Both algorithms count years from 1 March -4800 and months from March, so that the leap day is the last day of a year and
the last year of a century and of a 400-year block is the one that may be a day longer or shorter. -/

/-- days before month `M` (months counted from March) in a year that begins on 1 March -/
def monthStart (M : Int) : Int := (153 * M + 2) / 5

/-- days before the year `Y` that begins on 1 March (`Y` counted from -4800) -/
def yearStart (Y : Int) : Int := 365 * Y + Y / 4 - Y / 100 + Y / 400

/-- day `e` of the year `Y`, as a civil date; `m` = months since March -/
def marchDate (Y e : Int) : Civil :=
  let m := (5 * e + 2) / 153
  { day := e - monthStart m + 1, month := m + 3 - 12 * (m / 10), year := Y - 4800 + m / 10 }

/-- operands in the order of the C++ (`b * 146097`, `b * 100`), so that the tie to the translated code is syntactic -/
def ymdE (j : Int) : Civil :=
  let a := j + 32044
  let b := (4 * a + 3) / 146097
  let c := a - b * 146097 / 4
  let d := (4 * c + 3) / 1461
  marchDate (b * 100 + d) (c - 1461 * d / 4)

/-- `jdnE` in the algorithms' own coordinates: month `M` of year `Y` is civil month `M + 3`, or `M - 9` of the next
civil year -/
theorem jdnE_march (Y M d : Int) (h0 : 0 ≤ M) (h1 : M ≤ 11) :
    jdnE (Y - 4800 + M / 10) (M + 3 - 12 * (M / 10)) d = d + monthStart M + yearStart Y - 32045 := by
  have ha : (14 - (M + 3 - 12 * (M / 10))) / 12 = M / 10 := by omega
  simp only [jdnE, ha, monthStart, yearStart]
  rw [show M + 3 - 12 * (M / 10) + 12 * (M / 10) - 3 = M by omega,
    show Y - 4800 + M / 10 + 4800 - M / 10 = Y by omega]
  omega

theorem march_coords (y m : Int) (h1 : 1 ≤ m) (h2 : m ≤ 12) :
    ∃ Y M, 0 ≤ M ∧ M ≤ 11 ∧ y = Y - 4800 + M / 10 ∧ m = M + 3 - 12 * (M / 10) := by
  by_cases h : m ≤ 2
  · exact ⟨y + 4799, m + 9, by omega, by omega, by omega, by omega⟩
  · exact ⟨y + 4800, m - 3, by omega, by omega, by omega, by omega⟩

/-- four years have 1461 days, four centuries 146097: one leap day more than four times 365 resp. 36524 -/
theorem four_years (d : Int) : 1461 * d / 4 = 365 * d + d / 4 := by omega

theorem four_centuries (b : Int) : b * 146097 / 4 = 36524 * b + b / 4 := by omega

theorem days_before (b d : Int) (h0 : 0 ≤ d) (h1 : d ≤ 99) :
    yearStart (b * 100 + d) = 1461 * d / 4 + b * 146097 / 4 := by
  have h2 : (b * 100 + d) / 100 = b := by omega
  have h3 : (b * 100 + d) / 400 = b / 4 := by omega
  have := four_years d
  have := four_centuries b
  unfold yearStart
  omega

theorem month_length (y m : Int) (h0 : 0 ≤ m) (h1 : m ≤ 10) :
    daysInMonth y (m + 3 - 12 * (m / 10)) = monthStart (m + 1) - monthStart m := by
  have : m = 0 ∨ m = 1 ∨ m = 2 ∨ m = 3 ∨ m = 4 ∨ m = 5 ∨ m = 6 ∨ m = 7 ∨ m = 8 ∨ m = 9 ∨ m = 10 := by omega
  rcases this with h | h | h | h | h | h | h | h | h | h | h <;> subst h <;> simp (decide := true) [daysInMonth, monthStart]

/-- three copies: `omega` wants the divisor as a literal -/
theorem div_succ4 (Y : Int) : (Y + 1) / 4 = Y / 4 + if (Y + 1) % 4 = 0 then 1 else 0 := by split <;> omega
theorem div_succ100 (Y : Int) : (Y + 1) / 100 = Y / 100 + if (Y + 1) % 100 = 0 then 1 else 0 := by split <;> omega
theorem div_succ400 (Y : Int) : (Y + 1) / 400 = Y / 400 + if (Y + 1) % 400 = 0 then 1 else 0 := by split <;> omega

/-- February (`m = 11`, beginning on day 337; it lies in civil year `Y - 4799`) closes the year: the next year begins
after its 28 or 29 days -/
theorem feb_length (Y : Int) : yearStart (Y + 1) = yearStart Y + 337 + daysInMonth (Y - 4799) 2 := by
  have e4 : (Y - 4799) % 4 = (Y + 1) % 4 := by omega
  have e100 : (Y - 4799) % 100 = (Y + 1) % 100 := by omega
  have e400 : (Y - 4799) % 400 = (Y + 1) % 400 := by omega
  simp only [yearStart, div_succ4, div_succ100, div_succ400, daysInMonth, if_true, isLeap, e4, e100, e400]
  -- the three quotients cancel; with them as atoms `omega` has no division left
  generalize Y / 4 = q4
  generalize Y / 100 = q100
  generalize Y / 400 = q400
  -- a multiple of 400 is one of 100, of 100 one of 4: the four cases of the leap rule
  by_cases c : (Y + 1) % 400 = 0
  · have b : (Y + 1) % 100 = 0 := by omega
    have a : (Y + 1) % 4 = 0 := by omega
    rw [if_pos a, if_pos b, if_pos c, if_pos ⟨a, .inr c⟩]; omega
  · by_cases b : (Y + 1) % 100 = 0
    · have a : (Y + 1) % 4 = 0 := by omega
      rw [if_pos a, if_pos b, if_neg c, if_neg (fun h => h.2.elim (· b) c)]; omega
    · by_cases a : (Y + 1) % 4 = 0
      · rw [if_pos a, if_neg b, if_neg c, if_pos ⟨a, .inl b⟩]; omega
      · rw [if_neg a, if_neg b, if_neg c, if_neg (fun h => a h.1)]; omega

theorem month_of_day (e M : Int) : (5 * e + 2) / 153 = M ↔ monthStart M ≤ e ∧ e < monthStart (M + 1) := by
  unfold monthStart; omega

theorem feb_bounds (y : Int) : 28 ≤ daysInMonth y 2 ∧ daysInMonth y 2 ≤ 29 := by
  simp (decide := true) only [daysInMonth, if_true]; split <;> omega

/-- day `d` of month `M` is day `d - 1 + monthStart M` of the year: the date is valid iff that day lies in the month by
the 153-rule and in the year, which February closes -/
theorem valid_march (Y M d : Int) (h0 : 0 ≤ M) (h11 : M ≤ 11) :
    validDate (Y - 4800 + M / 10) (M + 3 - 12 * (M / 10)) d ↔
      1 ≤ d ∧ (5 * (d - 1 + monthStart M) + 2) / 153 = M ∧ d - 1 + monthStart M < 337 + daysInMonth (Y - 4799) 2 := by
  have hm : 1 ≤ M + 3 - 12 * (M / 10) ∧ M + 3 - 12 * (M / 10) ≤ 12 := by omega
  have := feb_bounds (Y - 4799)
  simp only [validDate, hm, true_and]
  by_cases hM : M = 11
  · subst hM
    simp only [Int.reduceDiv, Int.reduceMul, Int.reduceAdd, Int.reduceSub, monthStart, show Y - 4800 + 1 = Y - 4799 by omega]
    omega
  · rw [month_length _ M h0 (by omega), month_of_day]
    unfold monthStart
    omega

theorem yearStart_mono {Y Y' : Int} (h : Y ≤ Y') : yearStart Y ≤ yearStart Y' := by
  unfold yearStart; omega

/-- the two divisions of `ymdE` find the year a day lies in, the remainder is the day of that year -/
theorem year_of_day (a : Int) :
    ∃ Y, yearStart Y ≤ a ∧ a < yearStart (Y + 1) ∧ ymdE (a - 32044) = marchDate Y (a - yearStart Y) := by
  have ha : a - 32044 + 32044 = a := by omega
  simp only [ymdE, ha]
  generalize hb : (4 * a + 3) / 146097 = b
  generalize hc : a - b * 146097 / 4 = c
  have h : 0 ≤ c ∧ c ≤ 36524 ∧ (c = 36524 → b % 4 = 3) := by have := four_centuries b; omega
  generalize hd : (4 * c + 3) / 1461 = d
  generalize he : c - 1461 * d / 4 = e
  -- a year has a day 365 only if it ends in a leap day: every fourth year, but the last of a century only in every
  -- fourth century
  have hp : 0 ≤ d ∧ d ≤ 99 ∧ 0 ≤ e ∧ e ≤ 365 ∧ (e = 365 → d % 4 = 3 ∧ (d = 99 → b % 4 = 3)) := by
    have := four_years d; omega
  have hs := days_before b d hp.1 hp.2.1
  -- the quotients have done their work; with them in the context the `omega`s below run out of time
  clear hb h hd
  refine ⟨b * 100 + d, by omega, ?_, by rw [hs]; congr 1; omega⟩
  rw [feb_length, hs]
  simp (decide := true) only [daysInMonth, if_true]
  split
  · omega
  · unfold isLeap at *; omega

/-- `ymdE` in the algorithms' own coordinates: a year that contains the day is the one the divisions find, because
`yearStart` is monotone -/
theorem ymdE_march (a Y : Int) (h1 : yearStart Y ≤ a) (h2 : a < yearStart (Y + 1)) :
    ymdE (a - 32044) = marchDate Y (a - yearStart Y) := by
  obtain ⟨Y', h1', h2', e⟩ := year_of_day a
  have : Y' = Y := by
    have := @yearStart_mono (Y + 1) Y'
    have := @yearStart_mono (Y' + 1) Y
    omega
  rw [e, this]

theorem jdn_ymd_all (j : Int) : (ymdE j).valid ∧ (ymdE j).jdn = j := by
  obtain ⟨Y, h1, h2, hy⟩ := year_of_day (j + 32044)
  rw [show j + 32044 - 32044 = j by omega] at hy
  rw [feb_length] at h2
  have := feb_bounds (Y - 4799)
  obtain ⟨e, rfl⟩ : ∃ e, j = e + yearStart Y - 32044 := ⟨j + 32044 - yearStart Y, by omega⟩
  rw [show e + yearStart Y - 32044 + 32044 - yearStart Y = e by omega] at hy
  have hm : 0 ≤ (5 * e + 2) / 153 ∧ (5 * e + 2) / 153 ≤ 11 := by omega
  have he : e - monthStart ((5 * e + 2) / 153) + 1 - 1 + monthStart ((5 * e + 2) / 153) = e := by omega
  simp only [hy, marchDate, Civil.valid, Civil.jdn]
  refine ⟨(valid_march Y _ _ hm.1 hm.2).mpr ⟨?_, by rw [he], by rw [he]; omega⟩, ?_⟩
  · have := (month_of_day e _).mp rfl; omega
  · rw [jdnE_march _ _ _ hm.1 hm.2]; omega

theorem ymd_jdn_all (y m d : Int) (hv : validDate y m d) : ymdE (jdnE y m d) = ⟨y, m, d⟩ := by
  obtain ⟨Y, M, h0, h11, rfl, rfl⟩ := march_coords y m hv.1 hv.2.1
  obtain ⟨h1, hm, he⟩ := (valid_march Y M d h0 h11).mp hv
  have : 0 ≤ monthStart M := by unfold monthStart; omega
  have := ymdE_march (d - 1 + monthStart M + yearStart Y) Y (by omega) (by rw [feb_length]; omega)
  rw [jdnE_march Y M d h0 h11, show d + monthStart M + yearStart Y - 32045 = d - 1 + monthStart M + yearStart Y - 32044 by omega,
    this, show d - 1 + monthStart M + yearStart Y - yearStart Y = d - 1 + monthStart M by omega]
  simp only [marchDate, hm, Civil.mk.injEq, true_and]
  omega

end MuduoVerif.CalendarE
