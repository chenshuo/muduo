import MuduoVerif.Generated.HttpSkel
/-!
T1 tie for the statement order of the HTTP request parser (C18).  `Gen.HttpSkel.<fn>` is the statement skeleton
`vlib/gen/httpskel.py` extracts from /repo's `muduo/net/http/HttpContext.cc` / `HttpRequest.h` on every run, `Decl.<fn>`
(`Model/HttpSkelDecl.lean`) the skeleton the definition in `Model/Http.lean` implements; they are equal by `rfl` exactly as
long as the source performs the same significant actions, in the same order, under the same nesting of the same guards
and loops.
-/
namespace MuduoVerif.HttpSkel

theorem skeletons_agree :
    Gen.HttpSkel.processRequestLine = Decl.processRequestLine ∧
    Gen.HttpSkel.parseRequest = Decl.parseRequest ∧
    Gen.HttpSkel.setVersion = Decl.setVersion ∧
    Gen.HttpSkel.setMethod = Decl.setMethod ∧
    Gen.HttpSkel.setPath = Decl.setPath ∧
    Gen.HttpSkel.setQuery = Decl.setQuery ∧
    Gen.HttpSkel.setReceiveTime = Decl.setReceiveTime ∧
    Gen.HttpSkel.addHeader = Decl.addHeader :=
  by and_intros <;> rfl

end MuduoVerif.HttpSkel
