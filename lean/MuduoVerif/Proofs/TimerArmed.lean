import MuduoVerif.Proofs.TimerStep
/-! The loop stays armed for the earliest pending deadline (C06 `armed`), for histories in which every deadline that
was registered or restarted is a valid `Timestamp` (> 0 us since the epoch). -/
namespace MuduoVerif.Timer
open MuduoVerif.Gen.Timer

/-- a deadline put into `timers_` is a valid `Timestamp` -/
def evValid : Ev → Prop
  | .registered _ _ e => 0 < e
  | .restarted _ _ e => 0 < e
  | _ => True

instance : DecidablePred evValid := fun ev => by cases ev <;> unfold evValid <;> infer_instance

def ValidTr (t : List Ev) : Prop := ∀ ev ∈ t, evValid ev
instance (t : List Ev) : Decidable (ValidTr t) := by unfold ValidTr; infer_instance

theorem ValidTr.suffix {t t' : List Ev} (h : ValidTr t') (hs : t <:+ t') : ValidTr t := fun ev he => h ev (hs.subset he)

def AllValid (s : TQ) : Prop := ∀ e ∈ s.timers, 0 < e.1

/-- the timerfd is readable, or armed no later than the earliest deadline / 100 us after the arming -/
def AC (s : TQ) : Prop :=
  s.timers ≠ [] → s.readable = true ∨ ∃ a, s.alarm = some a ∧ a ≤ max (firstExp s.timers) (s.armedAt + 100)

/-- `b`: inside an expiry batch (where only the validity of the deadlines is maintained) -/
def ArmedB (b : Bool) (s : TQ) : Prop := ValidTr s.trace → AllValid s ∧ (b = false → AC s)

variable {b : Bool} {s s' : TQ} {B : List (Time × Addr)} {L : List Addr}

theorem ArmedB.of_same (h : ArmedB b s) (ht : s'.timers = s.timers) (ha : s'.alarm = s.alarm)
    (hr : s'.readable = s.readable) (hm : s'.armedAt = s.armedAt) (hs : s.trace <:+ s'.trace) : ArmedB b s' := by
  intro hv
  obtain ⟨h1, h2⟩ := h (hv.suffix hs)
  refine ⟨by unfold AllValid; rw [ht]; exact h1, ?_⟩
  intro hb; unfold AC; rw [ht, ha, hr, hm]; exact h2 hb

theorem ArmedB.emit (h : ArmedB b s) (e : Ev) : ArmedB b (emit s e) :=
  h.of_same rfl rfl rfl rfl (List.suffix_cons _ _)

theorem ArmedB.core (h : ArmedB b s) (hc : s'.core = s.core) : ArmedB b s' := by
  exact h.of_same (congrArg (·.timers) hc) (congrArg (·.alarm) hc) (congrArg (·.readable) hc) (congrArg (·.armedAt) hc)
    ((congrArg (·.trace) hc : s'.trace = s.trace) ▸ List.suffix_refl _)

theorem AC_armFd (s : TQ) (h : firstExp s.timers = w) : AC (armFd s w) := by
  intro _
  right
  refine ⟨_, armFd_alarm s w, ?_⟩
  rw [armFd_armedAt, armFd_eq, h]

theorem firstExp_insEntry_changed {e : Time × Addr} {l : List (Time × Addr)}
    (h : insertEarliestChanged l.isEmpty e.1 (firstExp l)) : firstExp (insEntry e l) = e.1 := by
  cases l with
  | nil => rfl
  | cons x xs =>
    have h' : e.1 < x.1 := by simpa [insertEarliestChanged, firstExp] using h
    have : entryLt e x := Or.inl h'
    simp [insEntry, this, firstExp]

theorem firstExp_insEntry_same {e : Time × Addr} {l : List (Time × Addr)}
    (h : ¬ insertEarliestChanged l.isEmpty e.1 (firstExp l)) : firstExp (insEntry e l) = firstExp l ∧ l ≠ [] := by
  cases l with
  | nil => simp [insertEarliestChanged] at h
  | cons x xs =>
    have h' : ¬ e.1 < x.1 := by simpa [insertEarliestChanged, firstExp] using h
    refine ⟨?_, by simp⟩
    unfold insEntry
    split
    · rename_i hlt
      rcases hlt with hlt | ⟨heq, _⟩
      · exact absurd hlt h'
      · exact heq
    · rfl

theorem ArmedB.addInLoop {a : Addr} {c : Cell} (h : ArmedB b s) (hc : s.heap a = some c) :
    ArmedB b (Timer.addInLoop s a) := by
  intro hv
  have hext := addInLoop_ext hc
  obtain ⟨h1, h2⟩ := h (hv.suffix hext.trace)
  rw [addInLoop_eq hc] at hv ⊢
  -- the new deadline is valid because its `registered` event is in the (valid) trace
  have hreg : 0 < c.exp := by
    have hm : Ev.registered a c.seq c.exp ∈ (if insertEarliestChanged s.timers.isEmpty c.exp (firstExp s.timers)
        then armFd (ins (Timer.emit s (.registered a c.seq c.exp)) a c) c.exp
        else ins (Timer.emit s (.registered a c.seq c.exp)) a c).trace := by
      split
      · rw [armFd_trace]; exact List.mem_cons_of_mem _ List.mem_cons_self
      · exact List.mem_cons_self
    exact hv _ hm
  have hall : AllValid (ins (Timer.emit s (.registered a c.seq c.exp)) a c) := by
    intro e he
    rcases mem_insEntry.1 he with rfl | he
    · exact hreg
    · exact h1 e he
  split
  · rename_i hch
    refine ⟨by rw [armFd_eq]; exact hall, fun _ => AC_armFd _ ?_⟩
    exact firstExp_insEntry_changed (e := (c.exp, a)) hch
  · rename_i hch
    refine ⟨hall, fun hb => ?_⟩
    obtain ⟨g1, g2⟩ := firstExp_insEntry_same (e := (c.exp, a)) hch
    intro _
    show _ ∨ ∃ x, s.alarm = some x ∧ x ≤ max (firstExp (insEntry (c.exp, a) s.timers)) (s.armedAt + 100)
    rw [g1]
    exact h2 hb g2

theorem firstExp_le_of_mem {l : List (Time × Addr)} (hs : l.Pairwise entryLt) {x : Time × Addr} (hx : x ∈ l) :
    firstExp l ≤ x.1 := by
  cases l with
  | nil => cases hx
  | cons y ys =>
    rcases List.mem_cons.1 hx with rfl | hx
    · exact Int.le_refl _
    · have := (List.pairwise_cons.1 hs).1 x hx
      rcases this with h | ⟨h, _⟩
      · exact Int.le_of_lt h
      · exact Int.le_of_eq h

theorem firstExp_filter {l : List (Time × Addr)} (hs : l.Pairwise entryLt) (p : Time × Addr → Bool)
    (hne : l.filter p ≠ []) : firstExp l ≤ firstExp (l.filter p) := by
  cases hf : l.filter p with
  | nil => exact absurd hf hne
  | cons y ys =>
    have : y ∈ l.filter p := by rw [hf]; exact List.mem_cons_self
    exact firstExp_le_of_mem hs (List.mem_filter.1 this).1

theorem ArmedB.cancelInLoop {b : Bool} {s : TQ} {B : List (Time × Addr)} {L : List Addr} (hw : WFp s B L)
    (h : ArmedB b s) (id : TimerId) : ArmedB b (Timer.cancelInLoop s id) := by
  rw [cancelInLoop_eq hw id]
  split
  · intro hv
    obtain ⟨h1, h2⟩ := h (hv.suffix (List.suffix_cons _ _))
    refine ⟨fun e he => h1 e (List.mem_filter.1 he).1, fun hb hne => ?_⟩
    have hne' : s.timers ≠ [] := by
      intro h0; apply hne
      show s.timers.filter _ = []
      rw [h0]; rfl
    rcases h2 hb hne' with hr | ⟨x, hx1, hx2⟩
    · exact Or.inl hr
    · exact Or.inr ⟨x, hx1, le_trans hx2 (max_le_max (firstExp_filter hw.sorted _ hne) (le_refl _))⟩
  · split
    · exact (h.emit _).of_same rfl rfl rfl rfl (List.suffix_refl _)
    · exact h.emit _

theorem ArmedB.kept : Kept B (ArmedB b) where
  frame f h := h.core f.core
  alloc _ _ h := h.of_same rfl rfl rfl rfl (List.suffix_refl _)
  addInLoop _ hc h := h.addInLoop hc
  cancelInLoop hw id h := h.cancelInLoop hw id
  bindId _ _ _ h := h.emit _

theorem ArmedB.resetOne {e : Time × Addr} (hw : WFp s (e :: B) L)
    (h : ArmedB true s) (now : Time) : ArmedB true (Timer.resetOne now s e) := by
  obtain ⟨⟨c, hc, _⟩, _⟩ := hw.b_live e List.mem_cons_self
  rw [resetOne_eq hc]
  split
  · intro hv
    obtain ⟨h1, _⟩ := h (hv.suffix (List.suffix_cons _ _))
    refine ⟨?_, fun hh => by cases hh⟩
    intro x hx
    rcases mem_insEntry.1 hx with rfl | hx
    · exact hv (.restarted e.2 c.seq (restarted c now).exp) List.mem_cons_self
    · exact h1 x hx
  · exact h.of_same rfl rfl rfl rfl (List.suffix_refl _)

theorem ArmedB.rearm (hw : WFp s B L) (h : ArmedB true s) :
    ArmedB false (Timer.rearm s) := by
  intro hv
  obtain ⟨h1, _⟩ := h (hv.suffix (rearm_ext hw).trace)
  rw [rearm_eq hw]
  cases ht : s.timers with
  | nil => exact ⟨by unfold AllValid; rw [ht]; simp, fun _ hne => absurd ht hne⟩
  | cons e r =>
    have he : 0 < e.1 := h1 e (by rw [ht]; exact List.mem_cons_self)
    simp only [he, if_true]
    exact ⟨by rw [armFd_eq]; exact h1, fun _ => AC_armFd _ (by rw [ht]; rfl)⟩

theorem ArmedB.batchInv (now : Time) : BatchInv now (fun _ _ => ArmedB true) (fun _ => ArmedB true) where
  kept := ArmedB.kept
  run _ _ _ _ h := h.emit _
  flag h := h.of_same rfl rfl rfl rfl (List.suffix_refl _)
  resetOne hw _ h := h.resetOne hw _

theorem ArmedB.handleRead {b : Bool} {s : TQ} {L : List Addr} (hw : WFp s [] L) (h : ArmedB b s) :
    ArmedB false (Timer.handleRead s) := by
  rw [handleRead_eq hw]
  have h0 : ArmedB true (batchStart s) := fun hv =>
    ⟨fun e he => (h (by rw [← (readNow_frame s).trace]; exact hv)).1 e
      ((readNow_frame s).timers ▸ (List.dropWhile_sublist _).subset he), fun hh => by cases hh⟩
  obtain ⟨hw3, h3⟩ := (ArmedB.batchInv _).batch (fun _ => batch_due _) hw.batchStart h0
  exact h3.rearm hw3

theorem ArmedB.stable : Stable (ArmedB false) where
  toKept := ArmedB.kept
  core h hc := h.core hc
  processed _ h := h.emit _
  expire h hv := ⟨(h hv).1, fun _ _ => Or.inl rfl⟩

theorem run_armed (ins : List In) : ArmedB false (run ins) :=
  (ArmedB.stable.run (fun ht h => h.handleRead ht.wf)
    (fun _ => ⟨fun _ he => absurd he List.not_mem_nil, fun _ hne => absurd rfl hne⟩) ins).2

/-! ### A further fact about `ArmedB`; no proof uses it -/

theorem ArmedB.weaken {b : Bool} {s : TQ} (h : ArmedB b s) : ArmedB true s :=
  fun hv => ⟨(h hv).1, fun hh => by cases hh⟩

end MuduoVerif.Timer
