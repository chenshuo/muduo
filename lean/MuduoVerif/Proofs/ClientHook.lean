import MuduoVerif.Proofs.ClientConnector
/-! Preservation of `Mid` by the functions of the connection, by `restart` and `startCycleInLoop`; then the user's
connection callback (`hook up|down <op>`): the operations it performs on the client from inside the UP / DOWN report,
hence `Connector::handleWrite` (hand-over + UP) and `TcpConnection::handleClose` (DOWN + `TcpClient::removeConnection`). -/
namespace MuduoVerif.Client
open MuduoVerif.Gen.Client

theorem MidN.down {ss cs al cn q} (h : MidN ss cs al cn q) {k : Nat}
    {cn' : Option Nat} (hcn : (cn' = cn ∧ cn ≠ some k) ∨ (cn' = none ∧ cn = some k)) :
    MidN ss (cs.map (updRec k goDown)) al cn' q := by
  have hcn1 : ∀ j, j ≠ k → cn = some j → cn' = some j := by
    rintro j hj e; rcases hcn with ⟨e', _⟩ | ⟨_, e'⟩
    · rw [e', e]
    · rw [e] at e'; exact absurd (Option.some.inj e') hj
  -- of the record on `k`, now down, c3, c5 and c6 ask nothing; any other keeps its holder: `connection_` changes only if it was `k`
  refine h.mapg (g := updRec k goDown) (updRec_sock fun _ => rfl) (fun y hy => ?_) (fun j hj => ?_)
    (fun j hj => (h.c8 j hj).imp fun y hy => ⟨hy.1, by unfold updRec; split <;> exact hy.2⟩)
    (fun j hj => (h.c9 j hj).imp fun y hy => ⟨hy.1, by
      unfold updRec; split
      · rfl
      · exact hy.2⟩)
  · have o := h.ok hy
    by_cases e : y.sock = k
    · rw [updRec_self e]
      exact ⟨o.c1, nofun, fun _ => ⟨rfl, rfl⟩, fun a => absurd rfl a, fun a => absurd rfl a, o.c10⟩
    · rw [updRec_ne e]
      refine { o with c5 := fun a => ?_, c6 := fun a b => ⟨(o.c6 a b).1, hcn1 _ e (o.c6 a b).2⟩ }
      rcases o.c5 a with b | b | b
      · exact .inl b
      · exact .inr (.inl ⟨b.1, hcn1 _ e b.2⟩)
      · exact .inr (.inr b)
  · rcases hcn with ⟨e, hne⟩ | ⟨e, _⟩
    · rw [e] at hj
      obtain ⟨y, hy, h1⟩ := h.c7 j hj
      exact ⟨y, hy, by rw [updRec_ne (by rw [(findIn_some hy).2]; exact fun e' => hne (e' ▸ hj))]; exact h1⟩
    · rw [e] at hj; cases hj

theorem MidK.noConn {on st ch ss q tm now cn ups al cc} (h : MidK on st ch ss q tm now cn ups al cc) :
    MidK on st ch ss q tm now none ups al cc :=
  { h with a7 := (fun _ _ _ a => by cases a), a9 := fun a => ⟨rfl, (h.a9 a).2⟩, a10 := ⟨h.a10.1, fun _ => rfl⟩,
           a11 := fun a => ⟨rfl, (h.a11 a).2⟩ }

theorem closeHalf_mid (c : C) (r : List Task) (ph : Bool) (hi : Mid c r ph) (k : Nat) (x : ConnRec)
    (hx : findIn c.conns k = some x) (hst : x.st ≠ .disconnected) (hcb : x.closeCb = .client) :
    Mid { c with conns := c.conns.map (updRec k goDown), trace := c.trace ++ [.down k], connection := none } r ph := by
  obtain ⟨hxm, hxs⟩ := findIn_some hx
  have hdes := hi.notDestroyed hxm hst
  have hk := hi.handed hx
  have hcn : c.connection = some k := by rw [← hxs]; exact (hi.c6 x hxm hst hcb).2
  have hfs : ∀ r, (goDown r).sock = r.sock := fun _ => rfl
  have htr := hi.tr.down hk hx hdes hst (findIn_upd_self goDown hfs hx) hdes rfl (fun j hj => findIn_upd_ne goDown hfs hj)
  exact Mid.of hi.notDead hi.k.noConn hi.a13 hi.a15 hi.a16 hi.s1 (hi.n.down (.inr ⟨rfl, hcn⟩)) hi.g1 hi.g3 hi.h1 htr

theorem enqueueCd_mid (c : C) (r : List Task) (ph : Bool) (hi : Mid c r ph) (k : Nat) (y : ConnRec)
    (hy : findIn c.conns k = some y) (hst : y.st = .disconnected) :
    Mid { c with pending := c.pending ++ [.connectDestroyed k] } r ph :=
  hi.enqueue _ rfl (by simp) (by simp) (fun _ e => by cases e) (fun _ e => by cases e; exact ⟨y, hy, hst⟩)

theorem closeDetached_mid (c : C) (r : List Task) (ph : Bool) (hi : Mid c r ph) (x : ConnRec)
    (hx : findIn c.conns k = some x) (hst : x.st ≠ .disconnected) (hcb : x.closeCb = .detached) :
    Mid { c with conns := c.conns.map (updRec k goDown), trace := c.trace ++ [.down k],
                 pending := c.pending ++ [.connectDestroyed k] } r ph := by
  obtain ⟨hxm, hxs⟩ := findIn_some hx
  have hdes := hi.notDestroyed hxm hst
  have hk := hi.handed hx
  have hfs : ∀ r, (goDown r).sock = r.sock := fun _ => rfl
  have hfk := findIn_upd_self goDown hfs hx
  have hn : c.connection ≠ some k := by
    intro e; obtain ⟨y, hy, _, hc⟩ := hi.c7 k e
    rw [hx] at hy; cases hy; rw [hcb] at hc; cases hc
  have h1 : Mid { c with conns := c.conns.map (updRec k goDown), trace := c.trace ++ [.down k] } r ph :=
    Mid.of hi.notDead hi.k hi.a13 hi.a15 hi.a16 hi.s1 (hi.n.down (.inl ⟨rfl, hn⟩)) hi.g1 hi.g3 hi.h1
      (hi.tr.down hk hx hdes hst hfk hdes rfl fun j hj => findIn_upd_ne goDown hfs hj)
  exact enqueueCd_mid _ r ph h1 k (goDown x) hfk rfl

/-- DOWN of a connection whose close callback is `TcpClient::removeConnection` (without the reconnect) -/
theorem closeClient_mid (c : C) (r : List Task) (ph : Bool) (hi : Mid c r ph) (k : Nat) (x : ConnRec)
    (hx : findIn c.conns k = some x) (hst : x.st ≠ .disconnected) (hcb : x.closeCb = .client) :
    Mid { c with conns := c.conns.map (updRec k goDown), trace := c.trace ++ [.down k],
                 connection := none,
                 pending := c.pending ++ [.connectDestroyed k] } r ph :=
  enqueueCd_mid _ r ph (closeHalf_mid c r ph hi k x hx hst hcb) k (goDown x) (findIn_upd_self goDown (fun _ => rfl) hx) rfl

/-- a connect cycle begins (`startCycleInLoop` or `restart`): the connector is at rest, the counters restart -/
theorem cycle_mid (c : C) (r : List Task) (ph : Bool) (hi : Mid c r ph)
    (hch : c.chan = none) (hcn : c.connection = none) (hna : ¬ attempting c.cstate c.timers)
    (hns : .startCycle ∉ r ++ c.pending) (cc : Bool) (hcc : c.stopReq = true → cc = false) :
    Mid { c with cstate := .kDisconnected, delay := kInitRetryDelayMs, cConnect := cc, nretry := 0, ups := 0,
                 trace := c.trace ++ [.ghost .cycle] } r ph := by
  have hon := hi.off (.inr hch)
  refine Mid.of hi.notDead ?_ hi.a13 hi.a15 hi.a16 hi.s1 hi.n gen_kInit (fun a => ⟨hcc a, (hi.g3 a).2⟩) hi.h1 hi.tr.cycle
  show MidK c.chanOn .kDisconnected c.chan _ _ _ _ c.connection _ _ _
  rw [hon, hch, hcn]
  exact MidK.idle (by simp) (nRetry_of_not_attempting hna) (hi.noneOpen hon) hns
    (fun a => by cases a) (fun m => absurd m (hi.noReset hch)) (fun _ _ a => by cases a)
    (fun _ => rfl)

theorem restart_mid (c : C) (r : List Task) (ph : Bool) (hi : Mid c r ph) (hch : c.chan = none) (hcn : c.connection = none)
    (hna : ¬ attempting c.cstate c.timers) (hns : .startCycle ∉ r ++ c.pending) (hal : c.clientAlive = true)
    (htc : c.tConnect = true) : Mid (restart c) r ph := by
  have hnt := nRetry_of_not_attempting hna
  unfold restart
  refine startInLoop_mid _ r ph (cycle_mid c r ph hi hch hcn hna hns true fun a => ?_)
    ⟨rfl, hch, hcn, hnt, hns, rfl, fun _ => hal⟩
  have := (hi.g3 a).2; rw [htc] at this; cases this

theorem Tr.upd_same {tr n ss cs u nr sp al} (h : Tr tr n ss cs u nr sp al) (k : Nat) (f : ConnRec → ConnRec)
    (hs : ∀ r, (f r).sock = r.sock)
    (hf : ∀ r, findIn cs k = some r → (f r).destroyed = r.destroyed ∧ ((f r).st = .disconnected ↔ r.st = .disconnected)) :
    Tr tr n ss (cs.map (updRec k f)) u nr sp al := by
  apply h.same
  intro j
  apply phaseAt_congr'
  rw [findIn_upd k j f hs]
  cases hj : findIn cs j with
  | none => rfl
  | some y =>
    simp only [Option.map_some, updRec]
    split
    · rename_i hk
      have hjk : j = k := by rw [← (findIn_some hj).2]; simpa using hk
      subst hjk
      simp [(hf y hj).1, (hf y hj).2]
    · rfl

theorem MidN.upd {ss cs al cn q} (h : MidN ss cs al cn q) {k : Nat} {x : ConnRec} (hx : findIn cs k = some x)
    (f : ConnRec → ConnRec)
    (hf : ∀ r, (f r).sock = r.sock ∧ (f r).userRef = r.userRef ∧ (f r).closeCb = r.closeCb ∧ (f r).destroyed = r.destroyed)
    (hst : (f x).st = .disconnected ↔ x.st = .disconnected) (h3 : (f x).chanOn = true → x.chanOn = true)
    (h4 : x.destroyed = true → (f x).chanOn = false) : MidN ss (cs.map (updRec k f)) al cn q := by
  obtain ⟨e1, e2, e3, e4⟩ := hf x
  have o := h.ok (findIn_some hx).1
  have key : ∀ {j y}, findIn cs j = some y →
      (updRec k f y).closeCb = y.closeCb ∧ ((updRec k f y).st = .disconnected ↔ y.st = .disconnected) := fun hy => by
    rcases upd_cases h.c2 hx f (findIn_some hy).1 with ⟨_, e⟩ | ⟨e', e⟩ <;> rw [e]
    · exact ⟨rfl, Iff.rfl⟩
    · rw [e']; exact ⟨e3, hst⟩
  refine h.mapg (updRec_sock fun r => (hf r).1) (fun y hy => ?_)
    (fun j hj => (h.c7 j hj).imp fun y hy => ⟨hy.1, fun d => hy.2.1 ((key hy.1).2.mp d), (key hy.1).1.trans hy.2.2⟩)
    (fun j hj => (h.c8 j hj).imp fun y hy => ⟨hy.1, (key hy.1).1.trans hy.2⟩)
    (fun j hj => (h.c9 j hj).imp fun y hy => ⟨hy.1, (key hy.1).2.mpr hy.2⟩)
  rcases upd_cases h.c2 hx f hy with ⟨_, e⟩ | ⟨_, e⟩ <;> rw [e]
  · exact h.ok hy
  · exact ⟨e1 ▸ o.c1, fun a d => o.c3 (h3 a) (hst.mp d), fun a => ⟨hst.mpr (o.c4 (e4 ▸ a)).1, h4 (e4 ▸ a)⟩,
      fun a => by unfold held; rw [e1, e2]; exact o.c5 fun d => a (hst.mpr d),
      fun a b => by rw [e1]; exact o.c6 (fun d => a (hst.mpr d)) (e3 ▸ b), fun a => o.c10 (e3 ▸ a)⟩

theorem Mid.upd {c : C} {r : List Task} {ph : Bool} (hi : Mid c r ph) {k : Nat} {x : ConnRec} (hx : findIn c.conns k = some x)
    (f : ConnRec → ConnRec)
    (hf : ∀ r, (f r).sock = r.sock ∧ (f r).userRef = r.userRef ∧ (f r).closeCb = r.closeCb ∧ (f r).destroyed = r.destroyed)
    (hst : (f x).st = .disconnected ↔ x.st = .disconnected) (h3 : (f x).chanOn = true → x.chanOn = true)
    (h4 : x.destroyed = true → (f x).chanOn = false) : Mid { c with conns := c.conns.map (updRec k f) } r ph :=
  Mid.of hi.notDead hi.k hi.a13 hi.a15 hi.a16 hi.s1 (hi.n.upd hx f hf hst h3 h4) hi.g1 hi.g3 hi.h1
    (hi.tr.upd_same k f (fun r => (hf r).1) fun r hr => by rw [hx] at hr; cases hr; exact ⟨(hf _).2.2.2, hst⟩)

/-- `Connector::startCycleInLoop()`; `cn` stands for `connection_`, which the function neither reads nor writes.  A back-off
timer left pending by the previous cycle (`stop()` during the wait) does not matter - it is cancelled first; only an
attempt in progress is excluded -/
theorem startCycle_midC (c : C) (cn : Option Nat) (r : List Task) (ph : Bool)
    (hi : Mid { c with connection := cn } r ph) (hch : c.chan = none) (hcn : cn = none)
    (hnc : c.cstate ≠ .kConnecting) (hns : .startCycle ∉ r ++ c.pending)
    (hal : c.cConnect = true → c.clientAlive = true) : Mid { startCycle c with connection := cn } r ph := by
  have hna : ¬ attempting c.cstate (cancelRetry c).timers := by
    rintro (h | h)
    · exact hnc h
    · have := cancelRetry_none c; omega
  have hst' : (if cycleClearsState c.cstate then States.kDisconnected else c.cstate) = .kDisconnected := by
    unfold cycleClearsState
    cases h : c.cstate
    · rfl
    · exact absurd h hnc
    · rfl
  unfold startCycle startCycleCore
  rw [gen_cycleStartCancels]
  unfold cancelIf
  rw [if_pos rfl, show (cancelRetry c).cstate = c.cstate from rfl, hst']
  simp only [cycleResetsDelay, if_true]
  exact startInLoop_midC _ cn r ph
    (cycle_mid _ r ph (cancelRetry_mid _ r ph hi) hch hcn hna hns c.cConnect fun a => (hi.g3 a).1)
    ⟨rfl, hch, hcn, cancelRetry_none c, hns, rfl, hal⟩

/-- `r0` is the queue before, with or without the functor itself: if it is the one running, it is popped first -/
theorem startCycle_mid' (c : C) (r r0 : List Task) (ph : Bool) (hr0 : r0 = r ∨ r0 = Task.startCycle :: r) (hi : Mid c r0 ph)
    (hch : c.chan = none) (hcn : c.connection = none)
    (hnc : c.cstate ≠ .kConnecting) (hns : .startCycle ∉ r ++ c.pending)
    (hal : c.cConnect = true → c.clientAlive = true) : Mid (startCycle c) r ph := by
  have hi' : Mid c r ph := by
    rcases hr0 with rfl | rfl
    · exact hi
    · exact hi.pop (by simp) nofun fun _ _ _ => rfl
  exact (startCycle_own c).mid (startCycle_midC c _ r ph hi' hch hcn hnc hns hal)

theorem startCycle_mid (c : C) (r r0 : List Task) (ph : Bool) (hr0 : r0 = r ∨ r0 = Task.startCycle :: r) (hi : Mid c r0 ph)
    (hch : c.chan = none) (hcn : c.connection = none)
    (hna : ¬ attempting c.cstate c.timers) (hns : .startCycle ∉ r ++ c.pending)
    (hal : c.cConnect = true → c.clientAlive = true) : Mid (startCycle c) r ph :=
  startCycle_mid' c r r0 ph hr0 hi hch hcn (fun h => hna (.inl h)) hns hal

theorem MidK.setCc {on st ch ss q tm now cn ups al cc} (h : MidK on st ch ss q tm now cn ups al cc) {cc' : Bool}
    (hc : cc' = true → al = true) : MidK on st ch ss q tm now cn ups al cc' :=
  { h with a11 := fun a => ⟨(h.a11 a).1, .inl (by cases cc' with | false => rfl | true => rw [hc rfl] at a; cases a)⟩ }

theorem userStop_midG (c : C) (r : List Task) (ph : Bool) (w : Who) (hi : Mid c r ph) (hal : c.clientAlive = true) :
    Mid (userStop c w) r ph := by
  have h1 : Mid { c with tConnect := false, stopReq := true, trace := c.trace ++ [.ghost .stop], cConnect := false } r ph :=
    Mid.of hi.notDead (hi.k.setCc fun a => by cases a) hi.a13 hi.a15 hi.a16 hi.s1 hi.n hi.g1 (fun _ => ⟨rfl, rfl⟩) hi.h1
      (hi.tr.gStop hal)
  have := h1.enqueue .stopInLoop rfl (by simp) (by simp) (fun _ e => by cases e) (fun _ e => by cases e)
  rw [userStop_eq]; exact this

theorem noTConnect_mid (c : C) (r : List Task) (ph : Bool) (hi : Mid c r ph) : Mid { c with tConnect := false } r ph :=
  Mid.of hi.notDead hi.k hi.a13 hi.a15 hi.a16 hi.s1 hi.n hi.g1 (fun a => ⟨(hi.g3 a).1, rfl⟩) hi.h1 hi.t1

theorem userDisconnect_midG (c : C) (r : List Task) (ph : Bool) (hi : Mid c r ph) : Mid (userDisconnect c) r ph := by
  have h1 := noTConnect_mid c r ph hi
  unfold userDisconnect
  simp only
  split
  case h_2 => exact h1
  case h_1 k hcn =>
    have hcn : c.connection = some k := hcn
    obtain ⟨x, hx, hst, hcb⟩ := hi.c7 k hcn
    unfold connShutdown
    rw [show connSt { c with tConnect := false } k = x.st from connSt_eq hx]
    split
    · -- the connection goes from connected to disconnecting, its half-close is queued
      have h2 := h1.upd hx toDisconnecting (fun _ => ⟨rfl, rfl, rfl, rfl⟩) (by simp [toDisconnecting, hst]) id
        (fun a => absurd (hi.c4 x (findIn_some hx).1 a).1 hst)
      exact h2.enqueue (.shutdownInLoop k) rfl (by simp) (by simp) (fun _ e => by cases e) (fun _ e => by cases e)
    · exact h1

theorem queryDown_mid (c : C) (r : List Task) (ph : Bool) (hi : Mid c r ph) (k : Nat) (y : ConnRec)
    (hy : findIn c.conns k = some y) (hd : y.destroyed = false) :
    Mid { c with trace := c.trace ++ [.query k (some k)] } r ph :=
  hi.trace (hi.tr.query (hi.handed hy) hy hd)

theorem query_mid (c : C) (r : List Task) (ph : Bool) (hi : Mid c r ph) (k : Nat) (hcn : c.connection = some k) :
    Mid (emit c (.query k c.connection)) r ph := by
  obtain ⟨x, hx, hst, _⟩ := hi.c7 k hcn
  rw [hcn]; exact queryDown_mid c r ph hi k x hx (hi.notDestroyed (findIn_some hx).1 hst)

theorem hookOp_mid (c : C) (r : List Task) (ph : Bool) (hi : Mid c r ph) (hal : c.clientAlive = true) (k : Nat)
    (hcn : c.connection = some k) (op : HookOp) (hop : op ≠ .connect) : Mid (hookOp c k op) r ph := by
  cases op with
  | disconnect => exact userDisconnect_midG c r ph hi
  | stop => exact userStop_midG c r ph .loop hi hal
  | connect => exact absurd rfl hop
  | query => exact query_mid c r ph hi k hcn

theorem runHookUp_mid (c : C) (r : List Task) (ph : Bool) (hi : Mid c r ph) (k : Nat) (hcn : c.connection = some k) :
    Mid (runHookUp c k) r ph := by
  unfold runHookUp
  split
  · rename_i hal
    split
    · exact hi
    · rename_i op rest hh
      have hm : Mid { c with hooksUp := rest } r ph :=
        hi.hooks rest c.hooksDown (fun o ho => by rw [hh]; exact List.mem_cons_of_mem _ ho) (fun _ h => h)
      apply hookOp_mid _ r ph hm hal k hcn op
      intro he
      exact hi.h1.1 (by rw [hh, he]; exact List.mem_cons_self)
  · exact hi

theorem handleWrite_mid (c : C) (r : List Task) (hi : Mid c r false) (hon : c.chanOn = true) :
    Mid (handleWrite c) r false := by
  have hst := hi.a1 hon
  obtain ⟨k, hk, hop⟩ := hi.a3 hon
  unfold handleWrite
  rw [if_pos (by simp [writeActs, hst])]
  split
  · rename_i k' hk'
    simp only
    rw [popSoErr_eq]
    split
    · exact failAttempt_mid c r hi hon k' hk' _ c.envSelf _
    · rw [popSelf_eq]
      split
      · exact failAttempt_mid c r hi hon k' hk' _ _ _
      · split
        · rename_i hcc
          have hal := attempt_alive c r hi hon (by simpa [writeHandsOver] using hcc)
          unfold newConnection
          rw [if_pos hal, if_pos gen_publishBeforeEstablish]
          refine runHookUp_mid _ r false ?_ k' rfl
          exact handOver_mid c r hi hon k' hk' (by simpa [writeHandsOver] using hcc) _ _ _
        · rename_i hcc
          exact closeEstablished_mid c r hi hon k' hk' (by simpa [writeHandsOver] using hcc) _ _ _
  · rename_i hk'; rw [hk] at hk'; cases hk'

theorem dispatchConnector_mid (c : C) (r : List Task) (rev : Nat) (hi : Mid c r false) :
    Mid (dispatchConnector c rev) r false := by
  unfold dispatchConnector
  split
  · rename_i h
    have hon : c.chanOn = true := h.2
    split
    · have h1 := handleError_mid c r hi hon
      rw [if_neg (by simp [h1.notDead])]
      split
      · rename_i h2
        exact handleWrite_mid _ r h1 (by simpa [MuduoVerif.Gen.Conn.dispWriteSub] using h2.2)
      · exact h1
    · rw [if_neg (by simp [hi.notDead])]
      split
      · exact handleWrite_mid c r hi hon
      · exact hi
  · exact hi

theorem removeConn_mid (c2 : C) (k : Nat) (r : List Task) (ph : Bool) (hal : c2.clientAlive = true)
    (hcn : c2.connection = some k) (hm : Mid { c2 with connection := none } r ph) (y : ConnRec)
    (hy : findIn c2.conns k = some y) (hys : y.st = .disconnected)
    (hre : reconnects c2.retry c2.tConnect →
      c2.chan = none ∧ ¬ attempting c2.cstate c2.timers ∧ Task.startCycle ∉ r ++ c2.pending) :
    Mid (if c2.dead = true then c2 else removeConn c2 k) r ph := by
  rw [if_neg (by rw [show c2.dead = ({ c2 with connection := none } : C).dead from rfl, hm.notDead]; exact Bool.false_ne_true)]
  unfold removeConn
  rw [if_neg (by simp [hal]), if_neg (by simp [hcn])]
  have h3 := enqueueCd_mid _ r ph hm k y hy hys
  simp only
  split
  · rename_i hr
    obtain ⟨h1, h2, h4⟩ := hre hr
    apply restart_mid _ r ph h3 h1 rfl h2
    · intro hm'
      simp only [List.mem_append, List.mem_singleton, ← List.append_assoc] at hm'
      rcases hm' with hm' | hm'
      · exact h4 (List.mem_append.mpr hm')
      · cases hm'
    · exact hal
    · exact hr.2
  · exact h3

theorem wantConnect_mid (c : C) (r : List Task) (ph : Bool) (hi : Mid c r ph) (hal : c.clientAlive = true) :
    Mid { c with tConnect := true, cConnect := true, stopReq := false, trace := c.trace ++ [.ghost .connect] } r ph :=
  Mid.of hi.notDead (hi.k.setCc fun _ => hal) hi.a13 hi.a15 hi.a16 hi.s1 hi.n hi.g1 (fun a => by cases a) hi.h1
    (hi.tr.gConnect hal)

theorem handleClose_mid (c : C) (r : List Task) (ph : Bool) (hi : Mid c r ph) (k : Nat) (x : ConnRec)
    (hx : findIn c.conns k = some x) (hst : x.st ≠ .disconnected) (hch : x.closeCb = .client → c.chan = none) :
    Mid (handleClose c k) r ph := by
  obtain ⟨hxm, hxs⟩ := findIn_some hx
  cases hcb : x.closeCb
  · -- `TcpClient::removeConnection` is the close callback: the client exists, this is its connection
    rw [handleClose_eq]
    simp only [findConn_eq, hx, Option.map_some, Option.getD_some, hcb]
    obtain ⟨hal, hcn⟩ := hi.c6 x hxm hst hcb
    rw [hxs] at hcn
    have hA := closeHalf_mid c r ph hi k x hx hst hcb
    have hfk := findIn_upd_self goDown (fun _ => rfl) hx
    obtain ⟨hna, hns⟩ := hi.connQuiet hcn
    have hchan := hch hcb
    have hdes := hi.notDestroyed hxm hst
    unfold runHookDown
    rw [if_pos (show (downState c k).clientAlive = true from hal)]
    cases hh : c.hooksDown with
    | nil =>
      rw [show (downState c k).hooksDown = [] from hh]
      simp only
      exact removeConn_mid _ k r ph hal hcn hA (goDown x) hfk rfl (fun _ => ⟨hchan, hna, hns⟩)
    | cons op rest =>
      rw [show (downState c k).hooksDown = op :: rest from hh]
      simp only
      have hA' : Mid { c with conns := c.conns.map (updRec k goDown), trace := c.trace ++ [.down k], connection := none,
                              hooksDown := rest } r ph :=
        hA.hooks c.hooksUp rest (fun _ h => h) (fun o ho => by
          show o ∈ c.hooksDown; rw [hh]; exact List.mem_cons_of_mem _ ho)
      cases op with
      | disconnect =>
        have e : hookOp { downState c k with hooksDown := rest } k .disconnect =
            { downState c k with hooksDown := rest, tConnect := false } :=
          userDisconnect_down _ k hcn (connSt_eq (x := goDown x) hfk)
        rw [e]
        exact removeConn_mid _ k r ph hal hcn (noTConnect_mid _ r ph hA') (goDown x) hfk rfl (fun h => by cases h.2)
      | stop =>
        have hm := userStop_midG _ r ph .loop hA' hal
        exact removeConn_mid _ k r ph hal hcn hm (goDown x) hfk rfl (fun h => by cases h.2)
      | query =>
        have hm := queryDown_mid _ r ph hA' k (goDown x) hfk hdes
        have e : hookOp { downState c k with hooksDown := rest } k .query =
            { downState c k with hooksDown := rest, trace := c.trace ++ [.down k] ++ [.query k (some k)] } := by
          show emit _ (.query k (downState c k).connection) = _
          rw [show (downState c k).connection = some k from hcn]; rfl
        rw [e]
        exact removeConn_mid _ k r ph hal hcn hm (goDown x) hfk rfl (fun _ => ⟨hchan, hna, hns⟩)
      | connect =>
        have hret : c.retry = false := hi.h1.2 (by rw [hh]; exact List.mem_cons_self)
        have hY := wantConnect_mid _ r ph hA' hal
        have e : hookOp { downState c k with hooksDown := rest } k .connect =
            startCycle { downState c k with hooksDown := rest, tConnect := true, cConnect := true, stopReq := false, trace := c.trace ++ [.down k] ++ [.ghost .connect] } :=
          userConnect_loop _
        rw [e]
        generalize hYd : ({ downState c k with hooksDown := rest, tConnect := true, cConnect := true, stopReq := false, trace := c.trace ++ [.down k] ++ [.ghost .connect] } : C) = Y at *
        -- `startCycle` runs while `connection_` still is `k`; the invariant is kept for `connection_` cleared
        have hS' : Mid { startCycle Y with connection := none } r ph := by
          subst hYd
          exact startCycle_midC _ none r ph hY hchan rfl (fun h => hna (.inl h)) hns (fun _ => hal)
        have hYf : Y.clientAlive = true ∧ Y.retry = false ∧ Y.connection = some k ∧ Y.conns = c.conns.map (updRec k goDown) := by
          rw [← hYd]; exact ⟨hal, hret, hcn, rfl⟩
        refine removeConn_mid _ k r ph (by rw [(startCycle_own Y).alive]; exact hYf.1) (by rw [startCycle_connection]; exact hYf.2.2.1) hS' (goDown x)
          (by rw [(startCycle_own Y).conns, hYf.2.2.2]; exact hfk) rfl (fun h => ?_)
        have := h.1; rw [(startCycle_own Y).retry, hYf.2.1] at this; cases this
  · -- `detail::removeConnection`: the client is gone, its callback does nothing
    rw [handleClose_detached_eq c k x hx hcb (hi.c10 x hxm hcb) hi.notDead]
    exact closeDetached_mid c r ph hi x hx hst hcb

end MuduoVerif.Client
