import MuduoVerif.Model.RpcLock
import MuduoVerif.Proofs.RpcLife
/-! The machine with the mutex and chained calls (`Model/RpcLock.lean`): refinement of `Model/Rpc.lean`, the lock
invariant (`held` is never set, nothing deadlocks - from the extracted lock scopes), one chained call step by step. -/
namespace MuduoVerif.Rpc
open MuduoVerif.Gen.Rpc

theorem lockHeldIntoCompletion_eq : lockHeldIntoCompletion = false := by decide
theorem insertUnderLock_eq : callInsertUnderLock = true := rfl

structure LockInv (s : LChan) : Prop where
  unlocked : s.held = false
  live : s.deadlocked = false

theorem lstep_refines_unlocked (s : LChan) (a : LAct) :
    ((lstep s a).ch = s.ch ∨ ∃ b, (lstep s a).ch = step s.ch b) ∧ (LockInv s → LockInv (lstep s a)) := by
  -- each branch leaves `ch` alone or applies one `step`; only `lrecv` / `lfinish` write `held`, and `deadlocked` is set only under `held`
  have keep : ∀ {s' : LChan}, s'.held = s.held → s'.deadlocked = s.deadlocked → LockInv s → LockInv s' :=
    fun h1 h2 h => ⟨h1 ▸ h.unlocked, h2 ▸ h.live⟩
  unfold lstep
  split
  · exact ⟨.inl rfl, id⟩
  split
  · exact ⟨.inl rfl, id⟩
  split
  next m =>
    unfold lrecv; split
    · exact ⟨.inl rfl, id⟩
    · exact ⟨.inr ⟨.recv m, rfl⟩, fun h => ⟨by simp [lockHeldIntoCompletion_eq], h.live⟩⟩
  · unfold lfinish; split
    · exact ⟨.inl rfl, id⟩
    · exact ⟨.inr ⟨.finish, rfl⟩, fun h => ⟨rfl, h.live⟩⟩
  next k =>
    unfold lcallInsert; split
    · exact ⟨.inl rfl, id⟩
    · split
      · exact ⟨.inl rfl, id⟩
      · exact ⟨.inr ⟨.callInsert k, rfl⟩, keep rfl rfl⟩
  next k =>
    unfold lcallSend; split
    · exact ⟨.inl rfl, id⟩
    · exact ⟨.inr ⟨.callSend k, rfl⟩, keep rfl rfl⟩
  next b _ _ _ _ => exact ⟨.inr ⟨b, rfl⟩, keep rfl rfl⟩
  · unfold chainBegin; split
    · exact ⟨.inr ⟨.callBegin, rfl⟩, keep rfl rfl⟩
    · exact ⟨.inl rfl, id⟩
  · unfold chainInsert; split
    next k' _ =>
      split
      · split
        next hc => exact ⟨.inl rfl, fun h => by simp [h.unlocked] at hc⟩
        · exact ⟨.inr ⟨.callInsert k', rfl⟩, keep rfl rfl⟩
      · exact ⟨.inl rfl, id⟩
    · exact ⟨.inl rfl, id⟩
  · unfold chainSend; split
    next k' _ => exact ⟨.inr ⟨.callSend k', rfl⟩, keep rfl rfl⟩
    · exact ⟨.inl rfl, id⟩

theorem lfoldl_refines (asserts hs : Bool) (acts : List LAct) (s : LChan) (h : ∃ base, s.ch = run asserts hs base) :
    ∃ base, (acts.foldl lstep s).ch = run asserts hs base :=
  foldl_inv (P := fun s => ∃ base, s.ch = run asserts hs base) acts (fun s a _ ⟨base, hb⟩ =>
    (lstep_refines_unlocked s a).1.elim (fun h => ⟨base, by rw [h, hb]⟩)
      (fun ⟨b, h⟩ => ⟨base ++ [b], by rw [h, hb, run_append]; rfl⟩)) s h

theorem lrun_append (asserts hs : Bool) (acts more : List LAct) :
    lrun asserts hs (acts ++ more) = more.foldl lstep (lrun asserts hs acts) := by
  simp [lrun, List.foldl_append]

theorem LockInv.run (asserts hs : Bool) (acts : List LAct) : LockInv (lrun asserts hs acts) :=
  foldl_inv acts (fun s a _ => (lstep_refines_unlocked s a).2) _ ⟨rfl, rfl⟩

theorem chainBegin_eq {s : LChan} {k : Nat} {m : Msg} (hd : s.deadlocked = false) (hh : s.ch.halted = false)
    (hp : s.ch.pending = some (k, m)) (hc : s.chain = none) :
    lstep s .chainBegin =
      { s with ch := callBegin s.ch, chain := some s.ch.nextCall, chained := (s.ch.nextCall, k) :: s.chained } := by
  simp [lstep, hd, hh, chainBegin, hp, hc, step]

theorem chainInsert_eq {s : LChan} {k' : Nat} (hd : s.deadlocked = false) (hh : s.ch.halted = false)
    (hu : s.held = false) (hc : s.chain = some k') (hst : s.ch.stage k' = .fetched) :
    lstep s .chainInsert =
      { s with ch := { s.ch with outstanding := insertKey (s.ch.idOf k') k' s.ch.outstanding
                                 stage := setAt s.ch.stage k' .inserted } } := by
  simp [lstep, hd, hh, chainInsert, hc, atInsert, insertBeforeSend_eq, hst, hu, step, callInsert]

theorem chainSend_eq {s : LChan} {k' : Nat} (hd : s.deadlocked = false) (hh : s.ch.halted = false)
    (hc : s.chain = some k') (hst : s.ch.stage k' = .inserted) :
    lstep s .chainSend =
      { s with ch := { s.ch with stage := setAt s.ch.stage k' .returned, log := .sent (s.ch.idOf k') k' :: s.ch.log }
               chain := none } := by
  simp [lstep, hd, hh, chainSend, hc, insertBeforeSend_eq, hst, step, callSend, setAt_same]

/-- the re-entrant `CallMethod` with `mutex_` held by the caller: the model's deadlock outcome (any state, any lock scope) -/
theorem chainInsert_deadlocks {s : LChan} {k' : Nat} (hd : s.deadlocked = false) (hh : s.ch.halted = false)
    (hu : s.held = true) (hc : s.chain = some k') (hst : atInsert s.ch k' = true) :
    lstep s .chainInsert = { s with deadlocked := true } := by
  simp [lstep, hd, hh, chainInsert, hc, hst, hu, insertUnderLock_eq]

theorem lstep_deadlocked (s : LChan) (a : LAct) (h : s.deadlocked = true) : lstep s a = s := by
  simp [lstep, h]

theorem chainOnce_eq {s : LChan} {k : Nat} {m : Msg} (hd : s.deadlocked = false) (hh : s.ch.halted = false)
    (hu : s.held = false) (hp : s.ch.pending = some (k, m)) (hc : s.chain = none) :
    chainOnce.foldl lstep s =
      { s with
        ch := { s.ch with
                counter := s.ch.counter + 1
                nextCall := s.ch.nextCall + 1
                idOf := setAt s.ch.idOf s.ch.nextCall (s.ch.counter + 1)
                stage := setAt (setAt (setAt s.ch.stage s.ch.nextCall .fetched) s.ch.nextCall .inserted) s.ch.nextCall .returned
                outstanding := insertKey (s.ch.counter + 1) s.ch.nextCall s.ch.outstanding
                log := .sent (s.ch.counter + 1) s.ch.nextCall :: s.ch.log }
        chain := none
        chained := (s.ch.nextCall, k) :: s.chained } := by
  simp [chainOnce, chainBegin_eq hd hh hp hc, chainInsert_eq, chainSend_eq, hd, hh, hu, callBegin, idFetch_eq, setAt_same]

theorem lstep_recv_finish (s : LChan) (m : Msg) (hd : s.deadlocked = false) (hp : s.ch.pending = none) (hc : s.chain = none) :
    (lstep (lstep s (.base (.recv m))) (.base .finish)).ch = step (step s.ch (.recv m)) .finish ∧
    (lstep (lstep s (.base (.recv m))) (.base .finish)).chain = none ∧
    (lstep (lstep s (.base (.recv m))) (.base .finish)).chained = s.chained := by
  by_cases hh : s.ch.halted = true
  · simp [lstep, hd, hh, step_halted, hc]
  · generalize hc1 : step s.ch (.recv m) = c1
    by_cases hh2 : c1.halted = true <;> simp [lstep, hd, hh, lrecv, hp, hc1, hh2, lfinish, hc, step_halted]

theorem lfoldl_deadlocked (acts : List LAct) (s : LChan) (h : s.deadlocked = true) : acts.foldl lstep s = s :=
  foldl_fix _ acts s fun a _ => lstep_deadlocked s a h

end MuduoVerif.Rpc
