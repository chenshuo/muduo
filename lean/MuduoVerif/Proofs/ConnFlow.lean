import MuduoVerif.Proofs.ConnStream
/-!
Flow control of the connection model: write interest is on exactly while there is a backlog,
and the half-close (FIN) is emitted only after everything accepted before it was handed to the
kernel (C01 write_interest_inv, C03 fin_after_data / late_send_discarded).
-/
namespace MuduoVerif.Conn
open MuduoVerif.Gen.Conn

/-- every queued `sendInLoop` precedes every queued half-close -/
def okQ : List Task → Bool
  | [] => true
  | t :: r => if t.isShut then r.all (fun u => !u.isSend) else okQ r

structure FlowInv (c : Conn) : Prop where
  /-- write interest is on exactly while there is a backlog (while the connection is not down) -/
  wi : c.st ≠ .kDisconnected → (c.ch.evWrite = true ↔ c.outBuf ≠ [])
  q : okQ c.queue = true
  /-- while fully connected no half-close is queued or done -/
  connQ : c.st = .kConnected → c.queue.all (fun t => !t.isShut) = true ∧ c.shutWr = false
  /-- once the write side was shut down while the connection is still up: no backlog, no queued send -/
  fin : c.shutWr = true → c.st = .kDisconnecting → c.outBuf = [] ∧ c.queue.all (fun t => !t.isSend) = true

theorem okQ_of_noSend (l : List Task) (h : l.all (fun u => !u.isSend) = true) : okQ l = true := by
  induction l with
  | nil => rfl
  | cons t r ih =>
    simp only [List.all_cons, Bool.and_eq_true] at h
    simp only [okQ]; split
    · exact h.2
    · exact ih h.2

theorem okQ_tail {t : Task} {r : List Task} (h : okQ (t :: r) = true) : okQ r = true := by
  simp only [okQ] at h; split at h
  · exact okQ_of_noSend _ h
  · exact h

theorem okQ_shut_head {t : Task} {r : List Task} (h : okQ (t :: r) = true) (ht : t.isShut = true) :
    r.all (fun u => !u.isSend) = true := by
  simp only [okQ, ht, if_true] at h; exact h

theorem okQ_snoc (l : List Task) (t : Task) (h : okQ l = true)
    (ht : t.isSend = true → l.all (fun u => !u.isShut) = true) : okQ (l ++ [t]) = true := by
  induction l with
  | nil => simp [okQ]
  | cons a r ih =>
    simp only [List.cons_append, okQ] at h ⊢
    split
    · rename_i ha
      rw [if_pos ha] at h
      simp only [List.all_append, h, List.all_cons, List.all_nil, Bool.and_true, Bool.true_and]
      cases hs : t.isSend with
      | false => rfl
      | true =>
        have := ht hs
        simp only [List.all_cons, Bool.and_eq_true, ha] at this
        exact absurd this.1 (by simp)
    · rename_i ha
      rw [if_neg ha] at h
      apply ih h
      intro hs
      have := ht hs
      simp only [List.all_cons, Bool.and_eq_true] at this
      exact this.2

theorem all_snoc (p : Task → Bool) (l : List Task) (t : Task) (h : l.all p = true) (ht : p t = true) :
    (l ++ [t]).all p = true := by
  rw [List.all_append, h, List.all_cons, ht]; rfl

/-- `c'` differs from `c` only in fields the flow invariant does not read -/
structure SameFlow (c c' : Conn) : Prop where
  st : c'.st = c.st
  evWrite : c'.ch.evWrite = c.ch.evWrite
  outBuf : c'.outBuf = c.outBuf
  shutWr : c'.shutWr = c.shutWr
  batch : c'.batch = c.batch
  pending : c'.pending = c.pending

theorem FlowInv.frame {c c' : Conn} (hi : FlowInv c) (h : SameFlow c c' := by exact ⟨rfl, rfl, rfl, rfl, rfl, rfl⟩) :
    FlowInv c' := by
  have hq : c'.queue = c.queue := by unfold Conn.queue; rw [h.batch, h.pending]
  constructor
  · rw [h.st, h.evWrite, h.outBuf]; exact hi.wi
  · rw [hq]; exact hi.q
  · rw [h.st, hq, h.shutWr]; exact hi.connQ
  · rw [h.st, hq, h.shutWr, h.outBuf]; exact hi.fin

theorem FlowInv.ofDown {c : Conn} (hd : c.st = .kDisconnected) (hq : okQ c.queue = true) : FlowInv c :=
  ⟨fun h => absurd hd h, hq, fun h => (by rw [hd] at h; cases h), fun _ h => (by rw [hd] at h; cases h)⟩

theorem enqueue_flow (c : Conn) (t : Task) (h1 : t.isSend = false) (h2 : t.isShut = false) (hi : FlowInv c) :
    FlowInv (enqueue c t) := by
  refine ⟨hi.wi, ?_, fun h => ⟨?_, (hi.connQ h).2⟩, fun h h' => ⟨(hi.fin h h').1, ?_⟩⟩
  · rw [queue_enqueue]; exact okQ_snoc _ _ hi.q (by simp [h1])
  · rw [queue_enqueue]; exact all_snoc _ _ _ (hi.connQ h).1 (by simp [h2])
  · rw [queue_enqueue]; exact all_snoc _ _ _ (hi.fin h h').2 (by simp [h1])

def Conn.finDone (c : Conn) : Prop := c.shutWr = true ∧ c.st = .kDisconnecting

theorem okQ_append (q l : List Task) (h : okQ q = true) (hl : ∀ t ∈ l, t.isSend = false) : okQ (q ++ l) = true := by
  induction l generalizing q with
  | nil => simpa using h
  | cons t l ih =>
    rw [List.append_cons]
    exact ih _ (okQ_snoc _ _ h fun hs => by rw [hl t (List.mem_cons_self ..)] at hs; cases hs)
      fun u hu => hl u (List.mem_cons_of_mem _ hu)

theorem all_notes (p : Task → Bool) (hp : ∀ t, t.isNote = true → p t = true) (q l : List Task)
    (hl : ∀ t ∈ l, t.isNote = true) : (q ++ l).all p = q.all p := by
  rw [List.all_append, List.all_eq_true.mpr fun t ht => hp t (hl t ht), Bool.and_true]

/-- `sendInLoop` never runs after the half-close was done (see `flow_pres`: `sendLoop`, `runSend`); the block goes
to the kernel or to the backlog, and write interest is on afterwards exactly if a backlog is left -/
theorem sendInLoop_flow (c : Conn) (data : Bytes) (q : Bool) (hnf : ¬ c.finDone) (hi : FlowInv c) :
    FlowInv (sendInLoop c data q) := by
  by_cases hu : c.st = .kDisconnected
  · rw [sendInLoop_down hu]; exact hi.frame
  · obtain ⟨X, h1, h2⟩ := sendInLoop_writing c data q hu
    have hwi : (sendInLoop c data q).ch.evWrite = true ↔ (sendInLoop c data q).outBuf ≠ [] := by
      rw [h1, h2, hi.wi hu]
    obtain ⟨l, hs, hn, _⟩ := sendInLoop_step c data q hu
    have hq : (sendInLoop c data q).queue = c.queue ++ l := by
      unfold Conn.queue; rw [hs.batch, hs.pending, ← List.append_assoc]; rfl
    refine ⟨fun _ => hwi, by rw [hq]; exact okQ_append _ _ hi.q hs.noSend, fun h => ?_,
      fun h1 h2 => absurd ⟨hs.shutWr ▸ h1, hs.st ▸ h2⟩ hnf⟩
    obtain ⟨a, b⟩ := hi.connQ (hs.st ▸ h)
    exact ⟨by rw [hq, all_notes _ (fun t ht => by cases t <;> first | rfl | cases ht) _ _ hn]; exact a,
      hs.shutWr.trans b⟩

theorem FlowInv.idle {c : Conn} (hi : FlowInv c) (hu : c.st ≠ .kDisconnected) (hw : c.ch.evWrite = false) :
    c.outBuf = [] := by
  have := hi.wi hu
  rw [hw] at this
  cases ho : c.outBuf with
  | nil => rfl
  | cons a l => rw [ho] at this; simp at this

/-- the half-close itself. It must come out of the functor queue, in front of no `sendInLoop`
(`hns`), and not while the state is still `kConnected` (`hnc`). -/
theorem shutdownInLoop_flow (c : Conn) (hns : c.queue.all (fun t => !t.isSend) = true) (hnc : c.st ≠ .kConnected)
    (hi : FlowInv c) : FlowInv (shutdownInLoop c) := by
  rw [shutdownInLoop_eq]; split
  · rename_i hw
    exact ⟨hi.wi, hi.q, fun h => absurd h hnc,
      fun _ hst => ⟨hi.idle (by rw [show c.st = .kDisconnecting from hst]; simp) hw, hns⟩⟩
  · exact hi

theorem FlowInv.finDisconnecting {c : Conn} (hi : FlowInv c) (hu : c.isUp) (h : c.shutWr = true) :
    c.st = .kDisconnecting := by
  rcases hu with hc | hc
  · have := (hi.connQ hc).2; rw [h] at this; cases this
  · exact hc

theorem disconnecting_flow (c : Conn) (hu : c.isUp) (hi : FlowInv c) :
    FlowInv ({ c with st := .kDisconnecting } : Conn) :=
  ⟨fun _ => hi.wi (isUp_ne hu), hi.q, fun h => (by cases h), fun h _ => hi.fin h (hi.finDisconnecting hu h)⟩

/-- `handleWrite` queues no `send`, the deferred half-close only after `shutdown()`, and leaves write interest on
exactly over a backlog (`handleWrite_step`) -/
theorem handleWrite_flow (c : Conn) (hi : FlowInv c) : FlowInv (handleWrite c) := by
  have hw := handleWrite_step c
  have hs := hw.step
  have ho := hw.outBuf
  have hq : (handleWrite c).queue = c.queue ++ _ := hs.queue
  refine ⟨fun hu => ?_, by rw [hq]; exact okQ_append _ _ hi.q hs.noSend, fun h => ?_, fun h1 h2 => ?_⟩
  · rw [hw.evWrite, Ne, ho, hi.wi (hs.st ▸ hu)]
    cases drainsNow c <;> simp
  · have hc : c.st = .kConnected := hs.st ▸ h
    obtain ⟨a, b⟩ := hi.connQ hc
    refine ⟨?_, hs.shutWr.trans b⟩
    rw [hq, List.all_append, a, Bool.true_and, List.all_eq_true]
    intro t ht
    rcases mem_drained ht with ⟨b, rfl⟩ | ⟨_, hd⟩
    · rfl
    · rw [hc] at hd; cases hd
  · obtain ⟨a, b⟩ := hi.fin (hs.shutWr ▸ h1) (hs.st ▸ h2)
    refine ⟨ho.mpr (Or.inl a), ?_⟩
    rw [hq, List.all_append, b, Bool.true_and, List.all_eq_true]
    exact fun t ht => by rw [hs.noSend t ht]; rfl

theorem FlowInv.pop {c : Conn} {t : Task} {rest : List Task} (hb : c.batch = t :: rest) (hi : FlowInv c) :
    FlowInv { c with batch := rest } := by
  have hq := queue_pop hb
  refine ⟨hi.wi, okQ_tail (hq ▸ hi.q), fun h => ⟨?_, (hi.connQ h).2⟩, fun h h' => ⟨(hi.fin h h').1, ?_⟩⟩
  · have a := (hi.connQ h).1
    rw [hq, List.all_cons, Bool.and_eq_true] at a
    exact a.2
  · have b := (hi.fin h h').2
    rw [hq, List.all_cons, Bool.and_eq_true] at b
    exact b.2

/-- A `sendInLoop` at the head of the queue shows that the half-close has not been done (`fin`); a half-close
at the head has no `sendInLoop` behind it (`q`) and the state is no longer `kConnected` (`connQ`); a `send()`
is accepted only while `kConnected`, when no half-close is queued or done (`connQ`). -/
theorem flow_pres : Preserves (fun _ => True) (fun _ => True) FlowInv where
  frame h e := h.frame ⟨congrArg Core.st e, congrArg Core.evWrite e, congrArg Core.outBuf e,
    congrArg Core.shutWr e, congrArg Core.batch e, congrArg Core.pending e⟩
  event _ _ _ h := h.frame
  queued c t h1 h2 _ h := enqueue_flow c t h1 h2 h
  disconnecting := disconnecting_flow
  shutdown c hc h := by
    refine ⟨fun _ => h.wi (by rw [hc]; simp), ?_, fun h' => (by cases h'), fun h' _ => ?_⟩
    · rw [queue_enqueue]; exact okQ_snoc _ _ h.q (by simp [Task.isSend])
    · have := (h.connQ hc).2; rw [show c.shutWr = true from h'] at this; cases this
  sendForeign c d hc h := by
    obtain ⟨hq, hs⟩ := h.connQ hc
    refine ⟨h.wi, ?_, fun _ => ⟨?_, hs⟩, fun _ h' => (by rw [show c.st = .kDisconnecting from h'] at hc; cases hc)⟩
    · rw [queue_enqueue]; exact okQ_snoc _ _ h.q (fun _ => hq)
    · rw [queue_enqueue]; exact all_snoc _ _ _ hq rfl
  sendLoop c d hc h := by
    refine sendInLoop_flow _ _ _ ?_ (h.frame)
    intro hf; have := (h.connQ hc).2; rw [show c.shutWr = true from hf.1] at this; cases this
  down c h := FlowInv.ofDown rfl h.q
  write := handleWrite_flow
  swap c h := ⟨h.wi, queue_swap c ▸ h.q, queue_swap c ▸ h.connQ, queue_swap c ▸ h.fin⟩
  pop _ _ _ hb _ _ h := h.pop hb
  runSend c d rest hb h := by
    refine sendInLoop_flow _ _ _ ?_ (h.pop hb)
    intro hf
    have b := (h.fin hf.1 hf.2).2
    simp [Conn.queue, hb, Task.isSend] at b
  runShut c t rest hb ht h := by
    have hq := queue_pop hb
    refine shutdownInLoop_flow _ ?_ ?_ (h.pop hb)
    · exact okQ_shut_head (hq ▸ h.q) ht
    · intro hc
      have a := (h.connQ hc).1
      rw [hq, List.all_cons, ht] at a
      cases a
  runWc _ _ _ _ hb h := (h.pop hb).frame
  envWrite _ _ _ h := h.frame

theorem act_flow (c : Conn) (f : Bool) (a : Act) (hi : FlowInv c) : FlowInv (act c f a) :=
  act_pres flow_pres c f a hi

theorem iter_flow (c : Conn) (a : List Src) (hi : FlowInv c) : FlowInv (iter c a) :=
  iter_pres flow_pres Side.none c a trivial hi

theorem establish_flow (c : Conn) (h : Fresh c) : FlowInv (step c .establish) := by
  apply establish_pres flow_pres h
  constructor
  · intro _; simp [emit, enableReading, setEvents, chanUpdate_evWrite, h.ch, h.outBuf]
  · simp [Conn.queue, emit, enableReading, setEvents, h.batch, h.pending, okQ]
  · intro _; simp [Conn.queue, emit, enableReading, setEvents, h.batch, h.pending, h.shutWr]
  · intro h'; have : c.shutWr = true := h'; rw [h.shutWr] at this; cases this

section
variable (c0 : Conn) (h0 : Fresh c0) (ins : List Input) (hne : ∀ i ∈ ins, i.notEstablish)
include h0 hne

theorem reach_flow : FlowInv (run (step c0 .establish) ins) :=
  run_pres flow_pres Side.none ins _ hne (fun _ _ => trivial) trivial (establish_flow c0 h0)

theorem reach_life : LifeInv (run (step c0 .establish) ins) := run_life ins _ hne (establish_life c0 h0)

theorem reach_stream : StreamInv (run (step c0 .establish) ins) :=
  run_pres stream_pres Side.none ins _ hne (fun _ _ => trivial) trivial (establish_stream c0 h0)

end

/-- C03 fin_after_data: in every state reached from a fresh connection, if the write side has been shut down while the
connection is still up, then nothing is left to write, no accepted `send` is still queued, and (unless a fatal
write error discarded data) every accepted byte has been handed to the kernel -/
theorem fin_after_data (c0 : Conn) (h0 : Fresh c0) (ins : List Input) (hne : ∀ i ∈ ins, i.notEstablish) :
    let c := run (step c0 .establish) ins
    c.shutWr = true → c.st = .kDisconnecting →
      c.outBuf = [] ∧ c.queue.all (fun t => !t.isSend) = true ∧ (c.discarded = false → c.wrote = c.accepted) := by
  intro c hs hd
  obtain ⟨a, b⟩ := (reach_flow c0 h0 ins hne).fin hs hd
  refine ⟨a, b, ?_⟩
  intro hdis
  have := reach_stream c0 h0 ins hne hdis
  have a' : c.outBuf = [] := a
  rw [a', List.append_nil] at this
  exact this

/-- write interest invariant (C01 write_interest_inv) -/
theorem write_interest (c0 : Conn) (h0 : Fresh c0) (ins : List Input) (hne : ∀ i ∈ ins, i.notEstablish) :
    let c := run (step c0 .establish) ins
    c.st ≠ .kDisconnected → (c.ch.evWrite = true ↔ c.outBuf ≠ []) := by
  intro c
  exact (reach_flow c0 h0 ins hne).wi

/-- C03 late_send_discarded: a `send()` on any thread when the connection is not `kConnected` (after shutdown(),
forceClose(), or DOWN) changes nothing -/
theorem late_send_discarded (c : Conn) (f : Bool) (d : Bytes) (h : c.st ≠ .kConnected) : act c f (.send d) = c := by
  simp only [act]; rw [if_neg]; exact h

/-- the moment the FIN is emitted: `shutdownInLoop` on a connection that is up emits it only with an empty backlog -/
theorem fin_emitted_clean (c : Conn) (hi : FlowInv c) (hu : c.st ≠ .kDisconnected)
    (h : (shutdownInLoop c).shutWr = true) (h0 : c.shutWr = false) : c.outBuf = [] := by
  rw [shutdownInLoop_eq] at h
  split at h
  · rename_i hw; exact hi.idle hu hw
  · rw [h0] at h; cases h

/-- a send from another thread is queued, `shutdown()` is called on the loop thread, the first
iteration writes one byte of three (short write), the second one drains the backlog and runs
the deferred half-close -/
def finRun : List Input :=
  [.act true (.send [1, 2, 3]), .act false .shutdown, .envWrite (.took 1), .iter [],
   .envWrite (.took 2), .iter [.conn 4]]

/-- the premises of `fin_after_data` are reached by a run in which data and half-close compete:
after the first iteration two bytes are still buffered and no FIN was sent; after the second
the FIN is out, the state is still `kDisconnecting` and all three bytes were written before it -/
example :
    Fresh ({} : Conn) ∧ (∀ i ∈ finRun, i.notEstablish) ∧
    (run (step {} .establish) (finRun.take 4)).outBuf = [2, 3] ∧
    (run (step {} .establish) (finRun.take 4)).shutWr = false ∧
    (run (step {} .establish) finRun).shutWr = true ∧
    (run (step {} .establish) finRun).st = .kDisconnecting ∧
    (run (step {} .establish) finRun).wrote = [1, 2, 3] ∧
    (run (step {} .establish) finRun).trace =
      [.up, .sysWrite 3 (.took 1), .sysWrite 2 (.took 2), .wc 1, .sysShutdownWr] := by
  refine ⟨fresh_default .epoll true true true _ _ [] [] [], ?_, by decide, by decide, by decide, by decide,
    by decide, by decide⟩
  intro i hi
  simp only [finRun, List.mem_cons, List.not_mem_nil, or_false] at hi
  rcases hi with h | h | h | h | h | h <;> subst h <;> trivial

/-- had `shutdown()` run `shutdownInLoop` at once on the loop thread (`runInLoop`), the FIN would
overtake a `sendInLoop` that another thread queued before: `FlowInv` holds before and fails after -/
example :
    let c : Conn := { st := .kConnected, pending := [.sendInLoop [1]] }
    FlowInv c ∧ ¬ FlowInv (shutdownInLoop { c with st := .kDisconnecting }) := by
  intro c
  constructor
  · constructor
    · intro _; decide
    · decide
    · intro _; decide
    · intro h; cases h
  · intro h
    have := (h.fin (by decide) (by decide)).2
    revert this; decide

end MuduoVerif.Conn
