import MuduoVerif.Generated.SysSkel
import MuduoVerif.Generated.Acceptor
/-!
# T1 tie for the system-call layer (the "primitives" of the connection, listener, client, dispatch, loop, timer and
address engines)

`Gen.SysSkel.<fn>` is the statement skeleton `vlib/gen/sysskel.py` extracts from /repo's current `SocketsOps.cc`,
`Socket.cc/.h`, `InetAddress.cc/.h`, `Endian.h`, `Poller.cc`, `poller/DefaultPoller.cc`, the constructors / destructors of
the two pollers, `Channel::tie`, `createEventfd` and `createTimerfd` on every run; `Decl.<fn>`
(`Model/SysSkelDecl.lean`) is what the engines' models assume of that function.  Each `skeleton_<fn>` is closed by
`rfl`: it holds exactly as long as the source performs the same system calls with the same printed arguments, the same
calls of other muduo functions, stores, log statements of level ERROR and above, assertions and returns (of the same
printed values), in the same order, under the same nesting of the same printed conditions, loops and `switch` labels.
The property modules re-export the parts they depend on: `C11.io_primitives_are_single_syscalls`,
`C02.socket_dtor_closes_once`, `C09.default_poller_choice`, `C20.inet_text_conversions_tied`.
-/
namespace MuduoVerif.SysSkel


theorem skeleton_sockaddrCastConstIn6 : Gen.SysSkel.sockaddrCastConstIn6 = Decl.sockaddrCastConstIn6 := rfl
theorem skeleton_sockaddrCastIn6 : Gen.SysSkel.sockaddrCastIn6 = Decl.sockaddrCastIn6 := rfl
theorem skeleton_sockaddrCastConstIn : Gen.SysSkel.sockaddrCastConstIn = Decl.sockaddrCastConstIn := rfl
theorem skeleton_sockaddrInCast : Gen.SysSkel.sockaddrInCast = Decl.sockaddrInCast := rfl
theorem skeleton_sockaddrIn6Cast : Gen.SysSkel.sockaddrIn6Cast = Decl.sockaddrIn6Cast := rfl
theorem skeleton_createNonblockingOrDie : Gen.SysSkel.createNonblockingOrDie = Decl.createNonblockingOrDie := rfl
theorem skeleton_bindOrDie : Gen.SysSkel.bindOrDie = Decl.bindOrDie := rfl
theorem skeleton_listenOrDie : Gen.SysSkel.listenOrDie = Decl.listenOrDie := rfl
theorem skeleton_socketsAccept : Gen.SysSkel.socketsAccept = Decl.socketsAccept := rfl
theorem skeleton_socketsConnect : Gen.SysSkel.socketsConnect = Decl.socketsConnect := rfl
theorem skeleton_socketsRead : Gen.SysSkel.socketsRead = Decl.socketsRead := rfl
theorem skeleton_socketsReadv : Gen.SysSkel.socketsReadv = Decl.socketsReadv := rfl
theorem skeleton_socketsWrite : Gen.SysSkel.socketsWrite = Decl.socketsWrite := rfl
theorem skeleton_socketsClose : Gen.SysSkel.socketsClose = Decl.socketsClose := rfl
theorem skeleton_socketsShutdownWrite : Gen.SysSkel.socketsShutdownWrite = Decl.socketsShutdownWrite := rfl
theorem skeleton_socketsToIpPort : Gen.SysSkel.socketsToIpPort = Decl.socketsToIpPort := rfl
theorem skeleton_socketsToIp : Gen.SysSkel.socketsToIp = Decl.socketsToIp := rfl
theorem skeleton_fromIpPort4 : Gen.SysSkel.fromIpPort4 = Decl.fromIpPort4 := rfl
theorem skeleton_fromIpPort6 : Gen.SysSkel.fromIpPort6 = Decl.fromIpPort6 := rfl
theorem skeleton_getSocketError : Gen.SysSkel.getSocketError = Decl.getSocketError := rfl
theorem skeleton_getLocalAddr : Gen.SysSkel.getLocalAddr = Decl.getLocalAddr := rfl
theorem skeleton_getPeerAddr : Gen.SysSkel.getPeerAddr = Decl.getPeerAddr := rfl
theorem skeleton_isSelfConnect : Gen.SysSkel.isSelfConnect = Decl.isSelfConnect := rfl
theorem skeleton_hostToNetwork64 : Gen.SysSkel.hostToNetwork64 = Decl.hostToNetwork64 := rfl
theorem skeleton_hostToNetwork32 : Gen.SysSkel.hostToNetwork32 = Decl.hostToNetwork32 := rfl
theorem skeleton_hostToNetwork16 : Gen.SysSkel.hostToNetwork16 = Decl.hostToNetwork16 := rfl
theorem skeleton_networkToHost64 : Gen.SysSkel.networkToHost64 = Decl.networkToHost64 := rfl
theorem skeleton_networkToHost32 : Gen.SysSkel.networkToHost32 = Decl.networkToHost32 := rfl
theorem skeleton_networkToHost16 : Gen.SysSkel.networkToHost16 = Decl.networkToHost16 := rfl
theorem skeleton_socketCtor : Gen.SysSkel.socketCtor = Decl.socketCtor := rfl
theorem skeleton_socketFd : Gen.SysSkel.socketFd = Decl.socketFd := rfl
theorem skeleton_socketDtor : Gen.SysSkel.socketDtor = Decl.socketDtor := rfl
theorem skeleton_getTcpInfo : Gen.SysSkel.getTcpInfo = Decl.getTcpInfo := rfl
theorem skeleton_getTcpInfoString : Gen.SysSkel.getTcpInfoString = Decl.getTcpInfoString := rfl
theorem skeleton_bindAddress : Gen.SysSkel.bindAddress = Decl.bindAddress := rfl
theorem skeleton_socketListen : Gen.SysSkel.socketListen = Decl.socketListen := rfl
theorem skeleton_socketAccept : Gen.SysSkel.socketAccept = Decl.socketAccept := rfl
theorem skeleton_socketShutdownWrite : Gen.SysSkel.socketShutdownWrite = Decl.socketShutdownWrite := rfl
theorem skeleton_setTcpNoDelay : Gen.SysSkel.setTcpNoDelay = Decl.setTcpNoDelay := rfl
theorem skeleton_setReuseAddr : Gen.SysSkel.setReuseAddr = Decl.setReuseAddr := rfl
theorem skeleton_setReusePort : Gen.SysSkel.setReusePort = Decl.setReusePort := rfl
theorem skeleton_setKeepAlive : Gen.SysSkel.setKeepAlive = Decl.setKeepAlive := rfl
theorem skeleton_inetCtorPort : Gen.SysSkel.inetCtorPort = Decl.inetCtorPort := rfl
theorem skeleton_inetCtorIpPort : Gen.SysSkel.inetCtorIpPort = Decl.inetCtorIpPort := rfl
theorem skeleton_inetCtorIn : Gen.SysSkel.inetCtorIn = Decl.inetCtorIn := rfl
theorem skeleton_inetCtorIn6 : Gen.SysSkel.inetCtorIn6 = Decl.inetCtorIn6 := rfl
theorem skeleton_inetFamily : Gen.SysSkel.inetFamily = Decl.inetFamily := rfl
theorem skeleton_inetGetSockAddr : Gen.SysSkel.inetGetSockAddr = Decl.inetGetSockAddr := rfl
theorem skeleton_inetSetSockAddrInet6 : Gen.SysSkel.inetSetSockAddrInet6 = Decl.inetSetSockAddrInet6 := rfl
theorem skeleton_inetPortNetEndian : Gen.SysSkel.inetPortNetEndian = Decl.inetPortNetEndian := rfl
theorem skeleton_inetToIpPort : Gen.SysSkel.inetToIpPort = Decl.inetToIpPort := rfl
theorem skeleton_inetToIp : Gen.SysSkel.inetToIp = Decl.inetToIp := rfl
theorem skeleton_inetIpv4NetEndian : Gen.SysSkel.inetIpv4NetEndian = Decl.inetIpv4NetEndian := rfl
theorem skeleton_inetPort : Gen.SysSkel.inetPort = Decl.inetPort := rfl
theorem skeleton_inetResolve : Gen.SysSkel.inetResolve = Decl.inetResolve := rfl
theorem skeleton_inetSetScopeId : Gen.SysSkel.inetSetScopeId = Decl.inetSetScopeId := rfl
theorem skeleton_newDefaultPoller : Gen.SysSkel.newDefaultPoller = Decl.newDefaultPoller := rfl
theorem skeleton_pollerCtor : Gen.SysSkel.pollerCtor = Decl.pollerCtor := rfl
theorem skeleton_pollerDtor : Gen.SysSkel.pollerDtor = Decl.pollerDtor := rfl
theorem skeleton_pollerHasChannel : Gen.SysSkel.pollerHasChannel = Decl.pollerHasChannel := rfl
theorem skeleton_epollCtor : Gen.SysSkel.epollCtor = Decl.epollCtor := rfl
theorem skeleton_epollDtor : Gen.SysSkel.epollDtor = Decl.epollDtor := rfl
theorem skeleton_epollOperationToString : Gen.SysSkel.epollOperationToString = Decl.epollOperationToString := rfl
theorem skeleton_pollCtor : Gen.SysSkel.pollCtor = Decl.pollCtor := rfl
theorem skeleton_pollDtor : Gen.SysSkel.pollDtor = Decl.pollDtor := rfl
theorem skeleton_channelTie : Gen.SysSkel.channelTie = Decl.channelTie := rfl
theorem skeleton_createEventfd : Gen.SysSkel.createEventfd = Decl.createEventfd := rfl
theorem skeleton_createTimerfd : Gen.SysSkel.createTimerfd = Decl.createTimerfd := rfl

theorem skeletons_agree :
    Gen.SysSkel.sockaddrCastConstIn6 = Decl.sockaddrCastConstIn6 ∧
    Gen.SysSkel.sockaddrCastIn6 = Decl.sockaddrCastIn6 ∧
    Gen.SysSkel.sockaddrCastConstIn = Decl.sockaddrCastConstIn ∧
    Gen.SysSkel.sockaddrInCast = Decl.sockaddrInCast ∧
    Gen.SysSkel.sockaddrIn6Cast = Decl.sockaddrIn6Cast ∧
    Gen.SysSkel.createNonblockingOrDie = Decl.createNonblockingOrDie ∧
    Gen.SysSkel.bindOrDie = Decl.bindOrDie ∧
    Gen.SysSkel.listenOrDie = Decl.listenOrDie ∧
    Gen.SysSkel.socketsAccept = Decl.socketsAccept ∧
    Gen.SysSkel.socketsConnect = Decl.socketsConnect ∧
    Gen.SysSkel.socketsRead = Decl.socketsRead ∧
    Gen.SysSkel.socketsReadv = Decl.socketsReadv ∧
    Gen.SysSkel.socketsWrite = Decl.socketsWrite ∧
    Gen.SysSkel.socketsClose = Decl.socketsClose ∧
    Gen.SysSkel.socketsShutdownWrite = Decl.socketsShutdownWrite ∧
    Gen.SysSkel.socketsToIpPort = Decl.socketsToIpPort ∧
    Gen.SysSkel.socketsToIp = Decl.socketsToIp ∧
    Gen.SysSkel.fromIpPort4 = Decl.fromIpPort4 ∧
    Gen.SysSkel.fromIpPort6 = Decl.fromIpPort6 ∧
    Gen.SysSkel.getSocketError = Decl.getSocketError ∧
    Gen.SysSkel.getLocalAddr = Decl.getLocalAddr ∧
    Gen.SysSkel.getPeerAddr = Decl.getPeerAddr ∧
    Gen.SysSkel.isSelfConnect = Decl.isSelfConnect ∧
    Gen.SysSkel.hostToNetwork64 = Decl.hostToNetwork64 ∧
    Gen.SysSkel.hostToNetwork32 = Decl.hostToNetwork32 ∧
    Gen.SysSkel.hostToNetwork16 = Decl.hostToNetwork16 ∧
    Gen.SysSkel.networkToHost64 = Decl.networkToHost64 ∧
    Gen.SysSkel.networkToHost32 = Decl.networkToHost32 ∧
    Gen.SysSkel.networkToHost16 = Decl.networkToHost16 ∧
    Gen.SysSkel.socketCtor = Decl.socketCtor ∧
    Gen.SysSkel.socketFd = Decl.socketFd ∧
    Gen.SysSkel.socketDtor = Decl.socketDtor ∧
    Gen.SysSkel.getTcpInfo = Decl.getTcpInfo ∧
    Gen.SysSkel.getTcpInfoString = Decl.getTcpInfoString ∧
    Gen.SysSkel.bindAddress = Decl.bindAddress ∧
    Gen.SysSkel.socketListen = Decl.socketListen ∧
    Gen.SysSkel.socketAccept = Decl.socketAccept ∧
    Gen.SysSkel.socketShutdownWrite = Decl.socketShutdownWrite ∧
    Gen.SysSkel.setTcpNoDelay = Decl.setTcpNoDelay ∧
    Gen.SysSkel.setReuseAddr = Decl.setReuseAddr ∧
    Gen.SysSkel.setReusePort = Decl.setReusePort ∧
    Gen.SysSkel.setKeepAlive = Decl.setKeepAlive ∧
    Gen.SysSkel.inetCtorPort = Decl.inetCtorPort ∧
    Gen.SysSkel.inetCtorIpPort = Decl.inetCtorIpPort ∧
    Gen.SysSkel.inetCtorIn = Decl.inetCtorIn ∧
    Gen.SysSkel.inetCtorIn6 = Decl.inetCtorIn6 ∧
    Gen.SysSkel.inetFamily = Decl.inetFamily ∧
    Gen.SysSkel.inetGetSockAddr = Decl.inetGetSockAddr ∧
    Gen.SysSkel.inetSetSockAddrInet6 = Decl.inetSetSockAddrInet6 ∧
    Gen.SysSkel.inetPortNetEndian = Decl.inetPortNetEndian ∧
    Gen.SysSkel.inetToIpPort = Decl.inetToIpPort ∧
    Gen.SysSkel.inetToIp = Decl.inetToIp ∧
    Gen.SysSkel.inetIpv4NetEndian = Decl.inetIpv4NetEndian ∧
    Gen.SysSkel.inetPort = Decl.inetPort ∧
    Gen.SysSkel.inetResolve = Decl.inetResolve ∧
    Gen.SysSkel.inetSetScopeId = Decl.inetSetScopeId ∧
    Gen.SysSkel.newDefaultPoller = Decl.newDefaultPoller ∧
    Gen.SysSkel.pollerCtor = Decl.pollerCtor ∧
    Gen.SysSkel.pollerDtor = Decl.pollerDtor ∧
    Gen.SysSkel.pollerHasChannel = Decl.pollerHasChannel ∧
    Gen.SysSkel.epollCtor = Decl.epollCtor ∧
    Gen.SysSkel.epollDtor = Decl.epollDtor ∧
    Gen.SysSkel.epollOperationToString = Decl.epollOperationToString ∧
    Gen.SysSkel.pollCtor = Decl.pollCtor ∧
    Gen.SysSkel.pollDtor = Decl.pollDtor ∧
    Gen.SysSkel.channelTie = Decl.channelTie ∧
    Gen.SysSkel.createEventfd = Decl.createEventfd ∧
    Gen.SysSkel.createTimerfd = Decl.createTimerfd :=
  ⟨skeleton_sockaddrCastConstIn6, skeleton_sockaddrCastIn6, skeleton_sockaddrCastConstIn, skeleton_sockaddrInCast,
   skeleton_sockaddrIn6Cast, skeleton_createNonblockingOrDie, skeleton_bindOrDie, skeleton_listenOrDie,
   skeleton_socketsAccept, skeleton_socketsConnect, skeleton_socketsRead, skeleton_socketsReadv,
   skeleton_socketsWrite, skeleton_socketsClose, skeleton_socketsShutdownWrite, skeleton_socketsToIpPort,
   skeleton_socketsToIp, skeleton_fromIpPort4, skeleton_fromIpPort6, skeleton_getSocketError,
   skeleton_getLocalAddr, skeleton_getPeerAddr, skeleton_isSelfConnect, skeleton_hostToNetwork64,
   skeleton_hostToNetwork32, skeleton_hostToNetwork16, skeleton_networkToHost64, skeleton_networkToHost32,
   skeleton_networkToHost16, skeleton_socketCtor, skeleton_socketFd, skeleton_socketDtor, skeleton_getTcpInfo,
   skeleton_getTcpInfoString, skeleton_bindAddress, skeleton_socketListen, skeleton_socketAccept,
   skeleton_socketShutdownWrite, skeleton_setTcpNoDelay, skeleton_setReuseAddr, skeleton_setReusePort,
   skeleton_setKeepAlive, skeleton_inetCtorPort, skeleton_inetCtorIpPort, skeleton_inetCtorIn,
   skeleton_inetCtorIn6, skeleton_inetFamily, skeleton_inetGetSockAddr, skeleton_inetSetSockAddrInet6,
   skeleton_inetPortNetEndian, skeleton_inetToIpPort, skeleton_inetToIp, skeleton_inetIpv4NetEndian,
   skeleton_inetPort, skeleton_inetResolve, skeleton_inetSetScopeId, skeleton_newDefaultPoller,
   skeleton_pollerCtor, skeleton_pollerDtor, skeleton_pollerHasChannel, skeleton_epollCtor, skeleton_epollDtor,
   skeleton_epollOperationToString, skeleton_pollCtor, skeleton_pollDtor, skeleton_channelTie,
   skeleton_createEventfd, skeleton_createTimerfd⟩

/-- the `switch (savedErrno)` body of the declared (= extracted, `skeleton_socketsAccept`) `sockets::accept` -/
def acceptSwitchBody : List Skel :=
  match Decl.socketsAccept with
  | [_, _, _, .ite _ [_, _, .switch _ body] _, _] => body
  | _ => []

/-- The label groups of that `switch` are exactly `Gen.Acceptor.acceptTable` (extracted by `vlib/gen/acceptor.py` from the
same function, the table `Acceptor.handleRead` classifies with): first group = the `expected` entries (`errno` restored,
-1 returned), second group = the `unexpected` ones, and `default` (`acceptDefault = .unknown`) - both `LOG_FATAL`. -/
theorem accept_switch_is_acceptTable :
    labelGroups acceptSwitchBody =
      [ (Gen.Acceptor.acceptTable.filter (fun e => e.2 = .expected)).map (fun e => toString e.1),
        (Gen.Acceptor.acceptTable.filter (fun e => e.2 = .unexpected)).map (fun e => toString e.1),
        ["default"] ] ∧
    Gen.Acceptor.acceptDefault = .unknown ∧
    Gen.Acceptor.acceptTable.all (fun e => e.2 = .expected ∨ e.2 = .unexpected) = true := by decide

end MuduoVerif.SysSkel
