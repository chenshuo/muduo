import MuduoVerif.Proofs.ClientTr
import MuduoVerif.Proofs.ClientEq
/-! Preservation of `Mid` by `resetChannel`, `startInLoop`, `stopInLoop`, `handleError` and by the three ends of an attempt the
poller reports in `handleWrite`: it failed, it is handed over (`TcpClient::newConnection` up to the callback), or it is closed
because `stop()` came first. -/
namespace MuduoVerif.Client
open MuduoVerif.Gen.Client

theorem mem_q_connectorAlive {c : C} {r : List Task} {t : Task} (h15 : ∀ t ∈ r, t ∈ c.batch)
    (ht : t ∈ r ++ c.pending) (hh : taskHoldsConnector t = true) : connectorAlive c = true := by
  unfold connectorAlive
  rcases List.mem_append.mp ht with h | h
  · have : c.batch.any taskHoldsConnector = true := List.any_eq_true.mpr ⟨t, h15 t h, hh⟩
    simp [this]
  · have : c.pending.any taskHoldsConnector = true := List.any_eq_true.mpr ⟨t, h, hh⟩
    simp [this]

theorem reapConnector_id {c : C} {r : List Task} {ph : Bool} (hi : Mid c r ph) : reapConnector c = c := by
  unfold reapConnector
  split
  · rfl
  · rename_i hna
    split
    · rename_i hc
      exfalso
      cases hon : c.chanOn
      · obtain ⟨hm, _⟩ := hi.a5 hc hon
        exact hna (mem_q_connectorAlive hi.a15 hm rfl)
      · rcases hi.a14 hon with h | h
        · apply hna; unfold connectorAlive; simp [h]
        · exact hna (mem_q_connectorAlive hi.a15 h rfl)
    · rfl

theorem MidK.reset {on st ch ss q tm now cn ups al cc} (h : MidK on st ch ss (.resetChannel :: q) tm now cn ups al cc) :
    MidK on st none ss q tm now cn ups al cc := by
  obtain ⟨_, hon, hc, _⟩ := h.a6 List.mem_cons_self
  have hnr : Task.resetChannel ∉ q := fun m => by
    have := List.count_pos_iff.mpr m; rw [List.count_cons_self] at hc; omega
  have sub : Task.startCycle ∈ q → Task.startCycle ∈ Task.resetChannel :: q := List.mem_cons_of_mem _
  subst hon
  exact { h with
    a3 := fun a => by cases a
    a4 := fun k hk => by cases (h.a4 k hk).2
    a5 := fun a => by cases a
    a6 := fun a => absurd a hnr
    a7 := fun _ _ a => by cases a
    a9 := fun a => ⟨(h.a9 a).1, fun m => (h.a9 a).2.1 (sub m), (h.a9 a).2.2⟩
    a10 := ⟨Nat.le_trans (List.count_le_count_cons ..) h.a10.1, fun m => h.a10.2 (sub m)⟩
    a11 := fun a => ⟨(h.a11 a).1, (h.a11 a).2.imp_right fun b => ⟨b.1, fun m => b.2 (sub m)⟩⟩
    a14 := fun a => by cases a }

/-- what `MidK` says while the connector's channel is registered: an attempt is in progress -/
structure InAttempt (s : States) (q : List Task) (tm : List (Nat × TKind)) (cn : Option Nat) (u : Nat) (al cc : Bool) : Prop where
  st : s = .kConnecting
  noTimer : nRetry tm = 0
  conn : cn = none
  noStart : .startCycle ∉ q
  ups : u = 0
  noReset : .resetChannel ∉ q
  alive : cc = true → al = true

theorem MidK.attempt {on st ch ss q tm now cn ups al cc} (h : MidK on st ch ss q tm now cn ups al cc) (hon : on = true) :
    InAttempt st q tm cn ups al cc := by
  have hst := h.a1 hon
  have hatt : attempting st tm := .inl hst
  refine { st := hst, noTimer := ?_, conn := (h.a9 hatt).1, noStart := (h.a9 hatt).2.1, ups := (h.a9 hatt).2.2,
           noReset := fun m => ?_, alive := fun hcc => h.aliveOfCc hcc (.inl hatt) }
  · cases hn : nRetry tm with
    | zero => rfl
    | succ n => have := h.a8.2 (by omega); rw [hst] at this; cases this
  · have := (h.a6 m).2.1; rw [hon] at this; cases this

theorem MidK.onlyOpen {on st ch ss q tm now cn ups al cc} (h : MidK on st ch ss q tm now cn ups al cc) {k : Nat}
    (hk : ch = some k) {j : Nat} (hj : ss[j]? = some .opened) : j = k := by
  have := (h.a4 j hj).1; rw [hk] at this; exact (Option.some.inj this).symm

/-- the connector at rest - no attempt registered or waiting for its timer; `channel_` is gone or its reset is queued -/
theorem MidK.idle {st ch ss q tm now cn ups al cc} (hst : st ≠ .kConnecting) (hnt : nRetry tm = 0)
    (hss : ∀ k : Nat, ss[k]? ≠ some SockSt.opened) (hs : .startCycle ∉ q) (h5 : ch.isSome = true → .resetChannel ∈ q)
    (h6 : .resetChannel ∈ q → ch.isSome = true ∧ q.count .resetChannel ≤ 1)
    (h7 : ∀ k j, ch = some k → cn = some j → j = k) (h11 : al = false → cn = none) :
    MidK false st ch ss q tm now cn ups al cc := by
  have hna : ¬ attempting st tm := fun a => a.elim hst (fun a => by omega)
  exact {
    a1 := fun a => by cases a
    a2 := fun a => absurd a hst
    a3 := fun a => by cases a
    a4 := fun k hk => absurd hk (hss k)
    a5 := fun a _ => ⟨h5 a, fun t ht hr => absurd hr (nRetry_zero hnt t ht)⟩
    a6 := fun a => ⟨(h6 a).1, rfl, (h6 a).2, hs⟩
    a7 := h7
    a8 := ⟨by omega, fun a => by omega⟩
    a9 := fun a => absurd a hna
    a10 := ⟨by rw [List.count_eq_zero.mpr hs]; omega, fun a => absurd a hs⟩
    a11 := fun a => ⟨h11 a, .inr ⟨hna, hs⟩⟩
    a14 := fun a => by cases a }

theorem MidK.arm {on ch ss q tm now cn ups al cc} (h : MidK on .kDisconnected ch ss q tm now cn ups al cc)
    (hnt : nRetry tm = 0) (hcn : cn = none) (hs : .startCycle ∉ q) (hups : ups = 0) {d : Nat} (hd : now < d)
    (hal : al = false → cc = false) : MidK on .kDisconnected ch ss q (tm ++ [(d, .retry)]) now cn ups al cc :=
  { h with
    a5 := fun a b => ⟨(h.a5 a b).1, fun t ht hr => (List.mem_append.mp ht).elim (fun m => (h.a5 a b).2 t m hr)
      (fun m => by rw [List.mem_singleton.mp m]; exact hd)⟩
    a8 := ⟨by rw [nRetry_snoc_retry]; omega, fun _ => rfl⟩
    a9 := fun _ => ⟨hcn, hs, hups⟩
    a11 := fun a => ⟨(h.a11 a).1, .inl (hal a)⟩ }

theorem snoc_only_open {ss : List SockSt} (hss : ∀ k : Nat, ss[k]? ≠ some SockSt.opened) (k : Nat)
    (hk : (ss ++ [SockSt.opened])[k]? = some SockSt.opened) : k = ss.length := by
  rcases Nat.lt_or_ge k ss.length with hlt | hge
  · rw [List.getElem?_append_left hlt] at hk; exact absurd hk (hss k)
  · have := (List.getElem?_eq_some_iff.mp hk).1; simp at this; omega

theorem MidK.begin {ss q tm now ups al cc} (hnt : nRetry tm = 0) (hss : ∀ k : Nat, ss[k]? ≠ some SockSt.opened)
    (hs : .startCycle ∉ q) (hr : .resetChannel ∉ q) (hups : ups = 0) (hal : al = true) :
    MidK true .kConnecting (some ss.length) (ss ++ [.opened]) q tm now none ups al cc :=
  { a1 := fun _ => rfl
    a2 := fun _ => rfl
    a3 := fun _ => ⟨_, rfl, by simp⟩
    a4 := fun k hk => ⟨by rw [snoc_only_open hss k hk], rfl⟩
    a5 := fun _ a => by cases a
    a6 := fun a => absurd a hr
    a7 := fun _ _ _ a => by cases a
    a8 := ⟨by omega, fun a => by omega⟩
    a9 := fun _ => ⟨rfl, hs, hups⟩
    a10 := ⟨by rw [List.count_eq_zero.mpr hs]; omega, fun a => absurd a hs⟩
    a11 := fun a => by rw [hal] at a; cases a
    a14 := fun _ => .inl hal }

theorem MidK.timers {on st ch ss q tm now cn ups al cc} (h : MidK on st ch ss q tm now cn ups al cc)
    {tm' : List (Nat × TKind)} (hn : nRetry tm' ≤ nRetry tm) (hm : ∀ t ∈ tm', t.2 = .retry → t ∈ tm) :
    MidK on st ch ss q tm' now cn ups al cc := by
  have hatt : attempting st tm' → attempting st tm := fun a => a.imp_right fun a => by omega
  exact { h with
    a5 := fun a b => ⟨(h.a5 a b).1, fun t ht hr => (h.a5 a b).2 t (hm t ht hr) hr⟩
    a8 := ⟨by have := h.a8.1; omega, fun a => h.a8.2 (by omega)⟩
    a9 := fun a => h.a9 (hatt a)
    a11 := fun a => ⟨(h.a11 a).1, (h.a11 a).2.imp_right fun b => ⟨fun a' => b.1 (hatt a'), b.2⟩⟩ }

theorem resetChannel_mid (c : C) (r : List Task) (ph : Bool) (hi : Mid c (.resetChannel :: r) ph) :
    Mid (resetChannel c) r ph := by
  have hon := (hi.a6 (by simp)).2.1
  unfold resetChannel
  rw [if_neg (by simp [hon])]
  exact Mid.of hi.notDead hi.k.reset (fun t ht => hi.a13 t (List.mem_cons_of_mem _ ht))
    (fun t ht => hi.a15 t (List.mem_cons_of_mem _ ht)) hi.a16 hi.s1 (hi.n.pop fun _ _ _ => rfl) hi.g1 hi.g3 hi.h1 hi.t1

theorem set_not_opened {ss : List SockSt} {k : Nat} {v : SockSt} (hv : v ≠ .opened)
    (h : ∀ j : Nat, ss[j]? = some SockSt.opened → j = k) (j : Nat) : (ss.set k v)[j]? ≠ some SockSt.opened := by
  intro hj
  rw [List.getElem?_set] at hj
  split at hj
  · split at hj
    · exact hv (Option.some.inj hj)
    · cases hj
  · rename_i hne; exact hne (h j hj).symm

theorem set_keeps_handed {ss : List SockSt} {k : Nat} {v : SockSt} (hk : ss[k]? = some .opened) (j : Nat)
    (hj : ss[j]? = some SockSt.handedOver) : (ss.set k v)[j]? = some SockSt.handedOver := by
  rw [List.getElem?_set_ne (fun e => by rw [← e, hk] at hj; cases hj)]; exact hj

theorem armRetry_mid (c : C) (r : List Task) (ph : Bool) (hi : Mid c r ph) (hst : c.cstate = .kDisconnected)
    (hnt : nRetry c.timers = 0) (hcn : c.connection = none) (hs : .startCycle ∉ r ++ c.pending) (hups : c.ups = 0)
    (hcc : c.cConnect = true) (hal : c.clientAlive = true) : Mid (armRetry c) r ph := by
  have hsr := hi.notStopped hcc
  have hk := hi.k; rw [hst] at hk
  have hd : c.now < c.now + retryDelayUs c.delay := by
    have := specDelay_pos c.nretry; rw [← hi.g1] at this; unfold retryDelayUs; omega
  refine Mid.of hi.notDead ?_ hi.a13 hi.a15 hi.a16 hi.s1 hi.n ?_ hi.g3 hi.h1 ?_
  · show MidK c.chanOn c.cstate _ _ _ _ _ _ _ _ _
    rw [hst]; exact hk.arm hnt hcn hs hups hd (fun a => by rw [hal] at a; cases a)
  · show nextDelay c.delay = specDelay (c.nretry + 1)
    rw [hi.g1, nextDelay_spec]
  · have := hi.tr.retrySched (t := c.now) hsr hal
    rw [← hi.g1] at this; exact this

/-- the invariant may be checked with the old `connection_`: a step of the connector has not changed it -/
theorem Own.mid {c c' : C} (h : Own c c') {r : List Task} {ph : Bool} (hm : Mid { c' with connection := c.connection } r ph) :
    Mid c' r ph :=
  ((congrArg (fun x : C => ({ x with connection := c.connection } : C)) h.eq).trans h.eq.symm) ▸ hm

/-- what `startInLoop` needs to find -/
structure StartPre (c : C) (r : List Task) : Prop where
  st : c.cstate = .kDisconnected
  chan : c.chan = none
  conn : c.connection = none
  noTimer : nRetry c.timers = 0
  noStart : .startCycle ∉ r ++ c.pending
  ups : c.ups = 0
  alive : c.cConnect = true → c.clientAlive = true

/-- the socket just created is closed again at once (`retry` or an errno that gives up) -/
theorem createClosed_mid (c : C) (r : List Task) (ph : Bool) (hi : Mid c r ph) (hp : StartPre c r) (hcc : c.cConnect = true)
    (e : List Nat) (b : Bool) (st : States) (hst : st ≠ .kConnecting) :
    Mid { closeSock (attempted c e b) c.nsock with cstate := st } r ph := by
  have hal := hp.alive hcc
  have hsr := hi.notStopped hcc
  have hon := hi.off (.inl hp.st)
  have hopen := hi.noneOpen hon
  have hopn : (c.sockSt ++ [SockSt.opened])[c.nsock]? = some SockSt.opened := by rw [← hi.s1]; simp
  have hnr := hi.noReset hp.chan
  have hone : ∀ j : Nat, (c.sockSt ++ [SockSt.opened])[j]? = some SockSt.opened → j = c.nsock :=
    fun j hj => hi.s1 ▸ snoc_only_open hopen j hj
  unfold closeSock attempted
  refine Mid.of hi.notDead ?_ hi.a13 hi.a15 hi.a16 (by simp [hi.s1]) (hi.n.socks fun j hj => ?_) hi.g1 hi.g3 hi.h1 ?_
  · show MidK c.chanOn st c.chan _ _ _ _ c.connection _ _ _
    rw [hon, hp.chan, hp.conn]
    exact MidK.idle hst hp.noTimer (set_not_opened nofun hone) hp.noStart (fun a => by cases a) (fun a => absurd a hnr)
      (fun _ _ a => by cases a) (fun _ => rfl)
  · have hlt := (List.getElem?_eq_some_iff.mp hj).1
    have : (c.sockSt ++ [SockSt.opened])[j]? = some SockSt.handedOver := by rw [List.getElem?_append_left hlt]; exact hj
    exact set_keeps_handed hopn j this
  · have htr1 := (hi.tr.create hi.s1).attempt (k := c.nsock) (t := c.now) (by rw [← hi.s1]; simp) rfl hsr hal
    simpa using htr1.closeSock hopn

/-- `startInLoop` neither reads nor writes `connection_`: the invariant may speak of any value `cn` in its place (the DOWN
callback calls `connect()` while `connection_` still is the connection going down) -/
theorem startInLoop_midC (c : C) (cn : Option Nat) (r : List Task) (ph : Bool) (hi : Mid { c with connection := cn } r ph)
    (hp : StartPre { c with connection := cn } r) : Mid { startInLoop c with connection := cn } r ph := by
  have hst : c.cstate = .kDisconnected := hp.st
  have hch : c.chan = none := hp.chan
  have hcn : cn = none := hp.conn
  have hs1 : c.sockSt.length = c.nsock := hi.s1
  unfold startInLoop
  rw [if_neg (by simp [startAssert, hst])]
  split
  · rename_i hcc
    simp only [startConnects] at hcc
    have hal : c.clientAlive = true := hp.alive hcc
    refine connect_cases (P := fun c' => Mid { c' with connection := cn } r ph) c fun e b => ⟨?_, ?_, ?_⟩
    · -- the attempt is in progress: the channel of the new socket is registered
      have hsr : c.stopReq = false := hi.notStopped hcc
      have hon : c.chanOn = false := hi.off (.inl hp.st)
      have hopen : ∀ k : Nat, c.sockSt[k]? ≠ some SockSt.opened := hi.noneOpen hon
      have hnr : Task.resetChannel ∉ r ++ c.pending := hi.noReset hch
      unfold connecting attempted
      simp only [hch, Option.isSome_none, connectingAssert]
      rw [if_neg (by simp), if_neg (by simp)]
      refine Mid.of hi.notDead ?_ hi.a13 hi.a15 hi.a16 (by simp [hs1])
        (hi.n.socks fun j hj => by
          rw [List.getElem?_append_left (List.getElem?_eq_some_iff.mp hj).1]; exact hj)
        hi.g1 hi.g3 hi.h1 ?_
      · show MidK true .kConnecting (some c.nsock) _ _ _ _ cn _ _ _
        rw [hcn, ← hs1]
        exact MidK.begin hp.noTimer hopen hp.noStart hnr hp.ups hal
      · have := (hi.tr.create hi.s1).attempt (k := c.nsock) (t := c.now) (by rw [← hs1]; simp) rfl hsr hal
        simpa using this
    · rw [retry_eq, if_pos (show (attempted c e b).cConnect = true from hcc)]
      exact armRetry_mid _ r ph (createClosed_mid _ r ph hi hp hcc e b .kDisconnected (by simp)) rfl hp.noTimer hp.conn hp.noStart hp.ups
        hcc hal
    · exact createClosed_mid _ r ph hi hp hcc e b c.cstate (by rw [hst]; simp)
  · exact hi

theorem startInLoop_mid (c : C) (r : List Task) (ph : Bool) (hi : Mid c r ph) (hp : StartPre c r) :
    Mid (startInLoop c) r ph :=
  (startInLoop_own c).mid (startInLoop_midC c c.connection r ph hi hp)

/-- the attempt on the registered socket `k` ends: the socket is closed, the channel is unregistered and either
destroyed at once (`stopInLoop`) or left to the `resetChannel` now queued -/
theorem attemptClosed_mid (c : C) (r : List Task) (ph : Bool) (hi : Mid c r ph) (hon : c.chanOn = true) (k : Nat)
    (hk : c.chan = some k) (st : States) (hst : st ≠ .kConnecting) (e1 : List Nat) (e2 : List Bool) (b : Bool)
    (ch : Option Nat) (p : List Task)
    (hq : (ch = none ∧ p = c.pending) ∨ (ph = false ∧ ch = some k ∧ p = c.pending ++ [.resetChannel])) :
    Mid { c with chanOn := false, chan := ch, pending := p, envSoErr := e1, envSelf := e2, starved := b, cstate := st,
                 sockSt := c.sockSt.set k .closed, trace := c.trace ++ [.sockClosed k] } r ph := by
  have ha := hi.k.attempt hon
  have hop := hi.opened hon hk
  have hss := set_not_opened (v := .closed) nofun fun j hj => hi.k.onlyOpen hk hj
  have htr := hi.tr.closeSock hop
  have hN := hi.n.socks (set_keeps_handed (v := .closed) hop)
  rcases hq with ⟨rfl, rfl⟩ | ⟨rfl, rfl, rfl⟩
  · refine Mid.of hi.notDead ?_ hi.a13 hi.a15 hi.a16 (by simp [hi.s1]) hN hi.g1 hi.g3 hi.h1 htr
    show MidK false st none _ _ _ _ c.connection _ _ _
    rw [ha.conn]
    exact MidK.idle hst ha.noTimer hss ha.noStart (fun a => by cases a) (fun m => absurd m ha.noReset) (fun _ _ a => by cases a) (fun _ => rfl)
  · refine Mid.of hi.notDead ?_ (plain_snoc hi.a13 rfl) hi.a15
      (fun a => by cases a) (by simp [hi.s1]) ?_ hi.g1 hi.g3 hi.h1 htr
    · show MidK false st (some k) _ _ _ _ c.connection _ _ _
      rw [ha.conn]
      refine MidK.idle hst ha.noTimer hss (fun m => (mem_snoc_q.mp m).elim ha.noStart (fun e => by cases e)) (fun _ => mem_snoc_q.mpr (.inr rfl))
        (fun _ => ⟨rfl, ?_⟩) (fun _ _ _ a => by cases a) (fun _ => rfl)
      rw [← List.append_assoc, List.count_append, List.count_eq_zero.mpr ha.noReset]; simp
    · exact hN.snoc _

theorem attemptRetried_mid (c : C) (r : List Task) (ph : Bool) (hi : Mid c r ph) (hon : c.chanOn = true) (k : Nat)
    (hk : c.chan = some k) (e1 : List Nat) (e2 : List Bool) (b : Bool) (ch : Option Nat) (p : List Task)
    (hq : (ch = none ∧ p = c.pending) ∨ (ph = false ∧ ch = some k ∧ p = c.pending ++ [.resetChannel])) (st : States) :
    Mid (retry { c with chanOn := false, chan := ch, pending := p, envSoErr := e1, envSelf := e2, starved := b, cstate := st } k)
      r ph := by
  have ha := hi.k.attempt hon
  have h1 := attemptClosed_mid c r ph hi hon k hk .kDisconnected (by simp) e1 e2 b ch p hq
  have hns' : Task.startCycle ∉ r ++ p := by
    rcases hq with ⟨_, rfl⟩ | ⟨_, _, rfl⟩
    · exact ha.noStart
    · exact fun m => (mem_snoc_q.mp m).elim ha.noStart (fun e => by cases e)
  rw [retry_eq]
  split
  · rename_i hcc
    exact armRetry_mid _ r ph h1 rfl ha.noTimer ha.conn hns' ha.ups hcc (ha.alive hcc)
  · exact h1

theorem stopInLoopCore_mid (c : C) (r : List Task) (ph : Bool) (hi : Mid c (.stopInLoop :: r) ph) :
    Mid (stopInLoopCore c) r ph := by
  unfold stopInLoopCore
  split
  · rename_i hst
    simp only [stopActs] at hst
    have hon := hi.a2 hst
    obtain ⟨k, hk, _⟩ := hi.a3 hon
    rw [hk]
    simp only [stopResetsChannelNow, if_true]
    refine (attemptRetried_mid c _ ph hi hon k hk c.envSoErr c.envSelf c.starved none c.pending (.inl ⟨rfl, rfl⟩) _).pop
      (by simp) (fun _ => ?_) fun _ _ _ => rfl
    rw [retry_eq]; split <;> rfl
  · -- no attempt in progress: nothing to stop
    rename_i hst
    exact hi.pop (by simp) (fun _ => Bool.eq_false_iff.mpr fun a => hst (hi.a1 a)) fun _ _ _ => rfl

theorem Mid.lessTimers {c : C} {r : List Task} {ph : Bool} (hi : Mid c r ph) {tm : List (Nat × TKind)} (hs : tm.Sublist c.timers) :
    Mid { c with timers := tm } r ph :=
  Mid.of hi.notDead (hi.k.timers hs.countP_le fun _ ht _ => hs.subset ht) hi.a13 hi.a15 hi.a16 hi.s1 hi.n hi.g1 hi.g3 hi.h1 hi.t1

theorem cancelRetry_mid (c : C) (r : List Task) (ph : Bool) (hi : Mid c r ph) : Mid (cancelRetry c) r ph :=
  hi.lessTimers List.filter_sublist

theorem cancelIf_mid (b : Bool) (c : C) (r : List Task) (ph : Bool) (hi : Mid c r ph) : Mid (cancelIf b c) r ph := by
  unfold cancelIf; split
  · exact cancelRetry_mid c r ph hi
  · exact hi

theorem cancelRetry_none (c : C) : nRetry (cancelRetry c).timers = 0 := nRetry_cancel c.timers

theorem stopInLoop_mid (c : C) (r : List Task) (ph : Bool) (hi : Mid c (.stopInLoop :: r) ph) :
    Mid (stopInLoop c) r ph :=
  stopInLoopCore_mid _ r ph (cancelIf_mid _ c _ ph hi)

/-- the attempt on socket `k` failed after the poller reported it: `removeAndResetChannel` + `retry` -/
theorem failAttempt_mid (c : C) (r : List Task) (hi : Mid c r false) (hon : c.chanOn = true) (k : Nat) (hk : c.chan = some k)
    (e1 : List Nat) (e2 : List Bool) (b : Bool) :
    Mid (retry { c with chanOn := false, pending := c.pending ++ [Task.resetChannel], envSoErr := e1, envSelf := e2, starved := b } k) r false := by
  have := attemptRetried_mid c r false hi hon k hk e1 e2 b (some k) _ (.inr ⟨rfl, rfl, rfl⟩) c.cstate
  rw [← hk] at this; exact this

theorem handleError_mid (c : C) (r : List Task) (hi : Mid c r false) (hon : c.chanOn = true) :
    Mid (handleError c) r false := by
  have hst := hi.a1 hon
  obtain ⟨k, hk, hop⟩ := hi.a3 hon
  unfold handleError
  rw [if_pos (by simp [errorActs, hst])]
  split
  · rename_i k' hk'
    simp only
    rw [popSoErr_eq]
    exact failAttempt_mid c r hi hon k' hk' _ c.envSelf _
  · rename_i hk'; rw [hk] at hk'; cases hk'

theorem attempt_alive (c : C) (r : List Task) {ph : Bool} (hi : Mid c r ph) (hon : c.chanOn = true) (hcc : c.cConnect = true) :
    c.clientAlive = true := (hi.k.attempt hon).alive hcc

theorem MidN.handOver {ss cs al cn q} (h : MidN ss cs al cn q) {k : Nat} (hop : ss[k]? = some .opened) (hal : al = true)
    (hcn : cn = none) : MidN (ss.set k .handedOver) (cs ++ [{ sock := k }]) al (some k) q := by
  have hnone := h.fresh hop
  have hfa : ∀ j x, findIn cs j = some x → findIn (cs ++ [({ sock := k } : ConnRec)]) j = some x := by
    intro j x hj; rw [findIn_append_new _ rfl, hj]; simp
  have hnew : ∀ {P : ConnRec → Prop}, (∀ x ∈ cs, P x) → P { sock := k } → ∀ x ∈ cs ++ [({ sock := k } : ConnRec)], P x :=
    fun ho hk x hx => (List.mem_append.mp hx).elim (ho x) (fun m => List.mem_singleton.mp m ▸ hk)
  -- `hnew`: what is said of every record holds of the old ones as before and is checked for the new one, held as `connection_`
  refine ⟨hnew (fun x hx => set_keeps_handed hop _ (h.c1 x hx)) (set_self hop), ?_, hnew h.c3 ?_, hnew h.c4 ?_, hnew ?_ ?_,
    hnew ?_ ?_, fun j hj => ?_,
    fun j hj => (h.c8 j hj).imp fun x hx => ⟨hfa j x hx.1, hx.2⟩, fun j hj => (h.c9 j hj).imp fun x hx => ⟨hfa j x hx.1, hx.2⟩,
    hnew h.c10 ?_⟩
  · rw [List.map_append, List.nodup_append]
    refine ⟨h.c2, by simp, fun a ha b hb => ?_⟩
    obtain ⟨x, hx, rfl⟩ := List.mem_map.mp ha
    rw [List.map_singleton, List.mem_singleton] at hb
    intro e; exact (findIn_none_iff.mp hnone) x hx (e.trans hb)
  · intro _; simp
  · intro a; cases a
  · intro x hx hs
    rcases h.c5 x hx hs with e | e | e
    · exact .inl e
    · rw [hcn] at e; cases e.2
    · exact .inr (.inr e)
  · exact fun _ => .inr (.inl ⟨hal, rfl⟩)
  · intro x hx hs hc
    have := (h.c6 x hx hs hc).2; rw [hcn] at this; cases this
  · exact fun _ _ => ⟨hal, rfl⟩
  · cases hj; exact ⟨{ sock := k }, by rw [findIn_append_new _ rfl, hnone]; simp, by simp, rfl⟩
  · intro a; cases a

/-- the attempt on socket `k` succeeded and the user still wants the connection -/
theorem handOver_mid (c : C) (r : List Task) (hi : Mid c r false) (hon : c.chanOn = true) (k : Nat) (hk : c.chan = some k)
    (hcc : c.cConnect = true) (e1 : List Nat) (e2 : List Bool) (b : Bool) :
    Mid (estab { c with chanOn := false, pending := c.pending ++ [Task.resetChannel], envSoErr := e1, envSelf := e2,
                        starved := b, cstate := .kConnected } k) r false := by
  unfold estab
  have ha := hi.k.attempt hon
  have hal := ha.alive hcc
  have hop := hi.opened hon hk
  have hsr := hi.notStopped hcc
  have hss := set_not_opened (v := .handedOver) nofun fun j hj => hi.k.onlyOpen hk hj
  refine Mid.of hi.notDead ?_ (plain_snoc hi.a13 rfl) hi.a15
    (fun a => by cases a) (by simp [hi.s1]) ?_ hi.g1 hi.g3 hi.h1 ?_
  · show MidK false .kConnected c.chan _ _ _ _ (some k) _ _ _
    rw [hk]
    refine MidK.idle (by simp) ha.noTimer hss (fun m => (mem_snoc_q.mp m).elim ha.noStart (fun e => by cases e)) (fun _ => mem_snoc_q.mpr (.inr rfl))
      (fun _ => ⟨rfl, ?_⟩) (fun _ _ a b => by cases a; cases b; rfl) (fun a => by rw [hal] at a; cases a)
    rw [← List.append_assoc, List.count_append, List.count_eq_zero.mpr ha.noReset]; simp
  · exact (hi.n.handOver hop hal ha.conn).snoc _
  · have := hi.tr; rw [ha.ups] at this ⊢
    exact this.handUp hop (hi.n.fresh hop) hsr hal

/-- the attempt on socket `k` succeeded but `stop()` was called meanwhile -/
theorem closeEstablished_mid (c : C) (r : List Task) (hi : Mid c r false) (hon : c.chanOn = true) (k : Nat) (hk : c.chan = some k)
    (hcc : c.cConnect = false) (e1 : List Nat) (e2 : List Bool) (b : Bool) :
    Mid (closeSock { c with chanOn := false, pending := c.pending ++ [Task.resetChannel], envSoErr := e1, envSelf := e2,
                            starved := b, cstate := .kConnected } k) r false := by
  have := attemptClosed_mid c r false hi hon k hk .kConnected (by simp) e1 e2 b (some k) _ (.inr ⟨rfl, rfl, rfl⟩)
  rw [← hk] at this; exact this

end MuduoVerif.Client
