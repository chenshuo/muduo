import MuduoVerif.Proofs.ConnFrame
import MuduoVerif.Proofs.ConnSend
/-!
C13: when exactly the write-complete and the high-water-mark callbacks are scheduled, and that
they run only out of the loop's functor queue.  What `sendInLoop` and `handleWrite` do is `sendInLoop_eq` /
`handleWrite_eq` of `Proofs/ConnSend.lean`; here they are read for what is queued, and for the backlog that is left.
-/
namespace MuduoVerif.Conn
open MuduoVerif.Gen.Conn

/-- EPIPE / ECONNRESET from the direct write -/
def fatalErr (e : Nat) : Prop := e = 32 ∨ e = 104
instance (e : Nat) : Decidable (fatalErr e) := by unfold fatalErr; infer_instance

theorem fault_iff (e : Nat) : (WriteRes.err e).drops = true ↔ fatalErr e :=
  decide_eq_true_iff

theorem sendInLoop_outBuf (c : Conn) (data : Bytes) (q : Bool) :
    (sendInLoop c data q).outBuf = c.outBuf ++ unsent c data := by
  by_cases hg : c.st = .kDisconnected
  · rw [sendInLoop_down hg, unsent, if_pos hg, List.append_nil]; rfl
  · exact (sendInLoop_data c data q hg).outBuf

theorem sendInLoop_pending (c : Conn) (data : Bytes) (q : Bool) :
    (sendInLoop c data q).pending = c.pending
      ++ (if c.hasWC = true ∧ c.st ≠ .kDisconnected ∧ c.ch.evWrite = false ∧ c.outBuf = []
            ∧ tookWhole (peekWrite c) data.length = true then [Task.writeComplete (bindCb wcBindSend c.wcId)] else [])
      ++ hwmSched c.hasHWM (bindCb hwmBind c.hwmId) c.outBuf.length c.mark (unsent c data).length := by
  rw [sendInLoop_eq]
  split
  · rename_i hg; simp [emit, unsent, hg, hwmSched]
  · simp only []; split <;> split <;> rfl

theorem mem_opt_opt {p q : Prop} [Decidable p] [Decidable q] {a b t : Task} :
    t ∈ (if p then [a] else []) ++ (if q then [b] else []) ↔ (p ∧ t = a) ∨ (q ∧ t = b) := by
  split <;> split <;> simp [*]

theorem handleWrite_outBuf (c : Conn) :
    (handleWrite c).outBuf =
      if c.ch.evWrite = true then
        match peekWrite c with
        | .took (n+1) => c.outBuf.drop (n+1)
        | _ => c.outBuf
      else c.outBuf := by
  rw [handleWrite_eq]
  split
  · have : ∀ c1 : Conn, (if drainsNow c = true then { disableWriting c1 with pending := c.pending ++ drainQueues c } else c1).outBuf
        = c1.outBuf := fun c1 => by split <;> rfl
    rw [this]
    cases peekWrite c with
    | took n => cases n <;> rfl
    | err e => rfl
  · rfl

theorem handleWrite_sched (c : Conn) :
    (handleWrite c).pending = c.pending
      ++ (if c.hasWC = true ∧ drainsNow c = true then [Task.writeComplete (bindCb wcBindDrain c.wcId)] else [])
      ++ (if drainsNow c = true ∧ c.st = .kDisconnecting then [Task.drainShutdownInLoop] else []) := by
  rw [(handleWrite_step c).step.pending, List.append_assoc]
  unfold drainQueues
  by_cases hd : drainsNow c = true <;> simp [hd]

/-- with a non-empty backlog (the only case that occurs while write interest is on):
"drained in this call" is "the backlog is empty afterwards" -/
theorem drainsNow_iff_emptied (c : Conn) (hne : c.outBuf ≠ []) :
    drainsNow c = true ↔ (c.ch.evWrite = true ∧ (handleWrite c).outBuf = []) :=
  have ho := (handleWrite_step c).outBuf
  ⟨fun h => ⟨drainsNow_interest h, ho.mpr (Or.inr h)⟩, fun h => (ho.mp h.2).resolve_left hne⟩

theorem handleWrite_sched_emptied (c : Conn) (hne : c.outBuf ≠ []) :
    let c' := handleWrite c
    c'.pending = c.pending
      ++ (if c.hasWC = true ∧ c.ch.evWrite = true ∧ c'.outBuf = [] then [Task.writeComplete (bindCb wcBindDrain c.wcId)] else [])
      ++ (if (c.ch.evWrite = true ∧ c'.outBuf = []) ∧ c.st = .kDisconnecting then [Task.drainShutdownInLoop] else []) := by
  intro c'
  show (handleWrite c).pending = _
  rw [handleWrite_sched]
  have := drainsNow_iff_emptied c hne
  simp only [this]; rfl

/-- `c'`'s trace is `c`'s, extended by events none of which is a write-complete or high-water callback -/
def TraceExt (c c' : Conn) : Prop := ∃ s, c'.trace = c.trace ++ s ∧ ∀ e ∈ s, e.isQueuedCb = false

theorem TraceExt.same {c c' : Conn} (h : c'.trace = c.trace) : TraceExt c c' := ⟨[], by simp [h], by simp⟩
theorem TraceExt.trans {a b c : Conn} (h1 : TraceExt a b) (h2 : TraceExt b c) : TraceExt a c := by
  obtain ⟨s1, e1, q1⟩ := h1; obtain ⟨s2, e2, q2⟩ := h2
  refine ⟨s1 ++ s2, by rw [e2, e1, List.append_assoc], ?_⟩
  intro e he; rcases List.mem_append.mp he with h | h
  · exact q1 e h
  · exact q2 e h

theorem traceExt_frame : Frame TraceExt where
  refl _ := .same rfl
  trans := .trans
  data _ _ h := .same (congrArg Conn.trace h :)
  emits c e h := ⟨[e], rfl, by intro x hx; rw [List.mem_singleton.mp hx]; exact h⟩
  enqueues _ _ _ := .same rfl
  updates _ _ _ _ := .same rfl
  closing _ _ := .same rfl
  shut _ := .same rfl
  timer _ _ := .same rfl
  dead _ := .same rfl
  delivers _ _ := .same rfl
  consumes _ := .same rfl
  unregister _ := .same rfl

theorem sendInLoop_tx (c : Conn) (d : Bytes) (q : Bool) : TraceExt c (sendInLoop c d q) :=
  sendInLoop_frame traceExt_frame (fun _ => .same rfl) c d q

theorem send_tx (c : Conn) (d : Bytes) (_ : c.st = .kConnected) : TraceExt c (sendInLoop c d false) :=
  sendInLoop_tx c d false

theorem handleClose_tx (c : Conn) : TraceExt c (handleClose c) :=
  handleClose_frame traceExt_frame send_tx (fun _ => .same rfl) (fun _ => .same rfl) c

theorem callback_trace (c : Conn) (k : Cb) (e : Ev) :
    ∃ s, (callback c k e).trace = c.trace ++ e :: s ∧ ∀ x ∈ s, x.isQueuedCb = false := by
  unfold callback; split
  · obtain ⟨s, hs, hq⟩ := act_frame traceExt_frame send_tx ({ emit c e with hooks := dropHook k c.hooks }) false _
    exact ⟨s, by unfold actLoop; rw [hs]; simp [emit], hq⟩
  · exact ⟨[], by simp [emit], by simp⟩

theorem runTask_wc (c : Conn) (b : Bound) (ha : c.alive = true) :
    ∃ s, (runTask c (.writeComplete b)).trace = c.trace ++ Ev.wc (b.resolve c.wcId) :: s ∧ ∀ x ∈ s, x.isQueuedCb = false := by
  have : runTask c (.writeComplete b) = callback c .wc (.wc (b.resolve c.wcId)) := by simp [runTask, ha]
  rw [this]; exact callback_trace _ _ _

theorem runTask_hwm (c : Conn) (b : Bound) (n : Nat) (ha : c.alive = true) :
    ∃ s, (runTask c (.highWater b n)).trace = c.trace ++ Ev.hwm (b.resolve c.hwmId) n :: s ∧ ∀ x ∈ s, x.isQueuedCb = false := by
  have : runTask c (.highWater b n) = callback c .hwm (.hwm (b.resolve c.hwmId) n) := by simp [runTask, ha]
  rw [this]; exact callback_trace _ _ _

/-- a connected connection with `backlog` bytes queued, write interest on iff the backlog is non-empty -/
def sample (mark : Nat) (backlog : Nat) (writes : List WriteRes) : Conn :=
  { st := .kConnected, mark := mark, outBuf := List.replicate backlog 7,
    ch := { evRead := true, evWrite := decide (0 < backlog), slot := .added, watch := true },
    registered := true, writes := writes }

def eight : Bytes := [1, 2, 3, 4, 5, 6, 7, 8]

/-- mark 10, backlog 4, 8 more bytes: crossing, reported with the new backlog 12 -/
example : (sendInLoop (sample 10 4 []) eight false).pending = [Task.highWater (bindCb hwmBind 1) 12] := by decide
/-- backlog already at the mark: no second report -/
example : (sendInLoop (sample 10 10 []) eight false).pending = [] := by decide
/-- backlog stays below the mark: no report -/
example : (sendInLoop (sample 13 4 []) eight false).pending = [] := by decide
/-- mark 0 is never crossed -/
example : (sendInLoop (sample 0 0 [.took 3]) eight false).pending = [] := by decide
example : (sendInLoop (sample 0 4 []) eight false).pending = [] := by decide
/-- the direct write takes everything: write-complete scheduled, nothing queued -/
example : (sendInLoop (sample 10 0 [.took 8]) eight false).pending = [Task.writeComplete (bindCb wcBindSend 1)]
    ∧ (sendInLoop (sample 10 0 [.took 8]) eight false).outBuf = [] := by decide
/-- the direct write takes 3 of 8 with mark 5: the remaining 5 cross the mark, no write-complete -/
example : (sendInLoop (sample 5 0 [.took 3]) eight false).pending = [Task.highWater (bindCb hwmBind 1) 5]
    ∧ (sendInLoop (sample 5 0 [.took 3]) eight false).outBuf = [4, 5, 6, 7, 8] := by decide
/-- `handleWrite` drains a backlog of 4: write-complete scheduled; a partial write schedules nothing -/
example : (handleWrite (sample 10 4 [.took 4])).pending = [Task.writeComplete (bindCb wcBindDrain 1)] := by decide
example : (handleWrite (sample 10 4 [.took 3])).pending = [] := by decide
/-- draining after `shutdown()`: write-complete, then the deferred half-close -/
example : (handleWrite { sample 10 4 [.took 4] with st := .kDisconnecting }).pending
    = [Task.writeComplete (bindCb wcBindDrain 1), Task.drainShutdownInLoop] := by decide

/-- functors the connection queued for itself outlive it: after `ownerDestroy` the object is gone (`alive = false`)
while the write-complete, the high-water and a foreign `sendInLoop` functor (all weak) are still pending; the next
iteration reaches `runTask` with `alive = false` for each of them and takes the `t.hold = .weak` branch: nothing is
recorded, nothing aborts (the `uaf` branch is what a raw `this` - or a trampoline that does not test the locked
pointer, `Hold.eff` - would give) -/
example :
    let c := run (step { mark := 5 } .establish) [.envWrite (.took 3), .act false (.send ([7, 7, 7])),
      .envWrite (.err 11), .act false (.send ([8, 8, 8, 8, 8, 8])), .act true (.send [1, 2, 3, 4, 5]), .ownerDestroy]
    c.alive = false ∧ c.dead = false ∧
    c.pending = [.writeComplete (bindCb wcBindSend 1), .highWater (bindCb hwmBind 1) 6, .sendInLoop [1, 2, 3, 4, 5]] ∧
    (∀ t ∈ c.pending, t.strong = false ∧ t.hold = .weak) ∧
    (iter c []).trace = c.trace ∧ (iter c []).dead = false ∧ (iter c []).pending = [] := by decide

/-! ### `drainsNow` spelt out, `pending`, `outBuf` under the other operations, `TraceExt` for the other parts of an
iteration; no proof uses them -/

theorem drainsNow_iff (c : Conn) :
    drainsNow c = true ↔ c.ch.evWrite = true ∧ ∃ n, peekWrite c = .took (n+1) ∧ c.outBuf.length ≤ n+1 := by
  unfold drainsNow
  cases peekWrite c with
  | took n => cases n <;> simp
  | err e => simp

theorem setEvents_pending (c : Conn) (r w : Bool) : (setEvents c r w).pending = c.pending := rfl
theorem setEvents_outBuf (c : Conn) (r w : Bool) : (setEvents c r w).outBuf = c.outBuf := rfl
theorem emit_pending (c : Conn) (e : Ev) : (emit c e).pending = c.pending := rfl
theorem popWrite_pending (c : Conn) : (popWrite c).pending = c.pending := by unfold popWrite; split <;> rfl
theorem popRead_pending (c : Conn) : (popRead c).pending = c.pending := by unfold popRead; split <;> rfl
theorem deliver_pending (c : Conn) (n : Nat) : (deliver c n).pending = c.pending := rfl
theorem consume_pending (c : Conn) : (consume c).pending = c.pending := rfl
theorem shutdownInLoop_pending (c : Conn) : (shutdownInLoop c).pending = c.pending := by
  unfold shutdownInLoop; split <;> rfl
theorem startReadInLoop_pending (c : Conn) : (startReadInLoop c).pending = c.pending := by
  unfold startReadInLoop; split <;> rfl
theorem stopReadInLoop_pending (c : Conn) : (stopReadInLoop c).pending = c.pending := by
  unfold stopReadInLoop; split <;> rfl
theorem removeChannel_pending (c : Conn) : (removeChannel c).pending = c.pending := by
  unfold removeChannel; split <;> rfl

theorem handleEvent_tx (c : Conn) (r : Nat) : TraceExt c (handleEvent c r) :=
  handleEvent_frame traceExt_frame send_tx handleClose_tx c r

theorem fireTimers_tx (c : Conn) : TraceExt c (fireTimers c) :=
  fireTimers_frame traceExt_frame send_tx (fun _ _ => .same rfl) c

theorem maybeDestroy_tx (c : Conn) : TraceExt c (maybeDestroy c) :=
  maybeDestroy_inv (P := TraceExt c) c (fun _ => .same rfl)
    (fun _ _ _ => (traceExt_frame.dead c).trans (traceExt_frame.emits _ _ rfl))
    fun _ => TraceExt.trans (b := { c with alive := false }) (.same rfl)
      ((traceExt_frame.emits _ _ rfl).trans (traceExt_frame.emits _ _ rfl))

end MuduoVerif.Conn
