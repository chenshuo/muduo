import MuduoVerif.Proofs.LogStream
/-! Lemmas about the per-thread tid cache of `CurrentThread` and the tid field of a log line (C17): a call of
`CurrentThread::tid()` in front of the first read makes the field independent of the thread's history.  And about the
per-thread cache of the formatted second (`TimeInv`): with the zone generation stored next to it, a cache hit means
the text of the configured zone. -/
namespace MuduoVerif.LogStream
open MuduoVerif.Gen.LogStream

theorem tidFormat_dirs : parseFmt tidFormat = [.int false 5, .lit 32] := by decide

theorem tidText_eq (tid : Int) : tidText tid = fmtInt false 5 tid ++ [32] := by
  simp [tidText, tidFormat_dirs, sprintf]

theorem readN_length (n : Nat) (s : Bytes) : (readN n s).length = n := by
  simp [readN]

theorem readN_self (s : Bytes) : readN s.length s = s := by
  simp [readN]

theorem tidField_of (tid : Int) : tidField (TidState.of tid) = tidText tid := by
  simp [tidField, TidState.of, readN_self]

/-- the thread has either cached nothing yet (whatever the other two variables hold) or cached its own id -/
def TidState.okFor (tid : Int) (t : TidState) : Prop := t.cached = 0 ∨ t = TidState.of tid

theorem tidCall_of (tid : Int) (h : tid ≠ 0) : tidCall tid (TidState.of tid) = TidState.of tid := by
  simp [tidCall, tidCacheEmpty, TidState.of, h]

theorem tidCall_empty (tid : Int) (t : TidState) (h : t.cached = 0) : tidCall tid t = TidState.of tid := by
  simp [tidCall, tidCacheEmpty, cacheTid, cacheTidGuard, cacheTidLength, TidState.of, h]

theorem tidCall_ok (tid : Int) (t : TidState) (h0 : tid ≠ 0) (h : t.okFor tid) : tidCall tid t = TidState.of tid := by
  rcases h with h | h
  · exact tidCall_empty tid t h
  · rw [h]; exact tidCall_of tid h0

/-! ### where the tid field sits in the emitted line -/

theorem run_str (b : FixedBuf) (s : Bytes) (rest : List Item) (h : s.length < avail b) :
    run b (.str s :: rest) = run { b with data := b.data ++ s } rest := by
  simp [run, insert, Item.fits, appendFits, Item.text, h]

theorem run_prefix (b : FixedBuf) (items : List Item) : ∃ more, (run b items).data = b.data ++ more := by
  obtain ⟨k, _, e⟩ := fill_sublist (run_fill items b)
  exact ⟨_, e⟩

theorem run_three (a b c : Bytes) (tail : List Item) (h : a.length + b.length + c.length < kSmallBuffer) :
    ∃ more, (run (mkBuf kSmallBuffer) (.str a :: .str b :: .str c :: tail)).data = a ++ b ++ c ++ more := by
  rw [run_str _ _ _ (by simp [avail, mkBuf]; omega), run_str _ _ _ (by simp [avail, mkBuf]; omega),
    run_str _ _ _ (by simp [avail, mkBuf]; omega)]
  obtain ⟨more, e⟩ := run_prefix { cap := kSmallBuffer, data := a ++ b ++ c } tail
  refine ⟨more, ?_⟩
  simpa [mkBuf] using e

theorem fmtInt_space_length (v : Int) (h1 : -2 ^ 63 ≤ v) (h2 : v < 2 ^ 64) : (fmtInt false 5 v ++ [32]).length ≤ 26 := by
  have := decimal_length_le v h1 h2
  simp [fmtInt]; omega

/-- width of the `.%06d ` / `.%06dZ ` field as `formatTime` inserts it -/
def usWidth (z : Zone) : Nat := if z.isSome then 8 else 9

/-- the items of the extracted `Impl::Impl`: the cached second, the microseconds, then **the tid string as it is
after the call of `CurrentThread::tid()`**, then the rest -/
theorem implRun_shape (z : Zone) (e : LineEnv) :
    ∃ tail, (implRun z e implSteps).2 =
      .str (readN 17 e.timeText) :: .str (readN (usWidth z) e.usText) :: .str (tidField (tidCall e.req.tid e.tid)) :: tail := by
  cases hz : z.isSome <;>
    simp [implSteps, implRun, implStep, hz, timePiecesZone, timePiecesUtc, pieceItem, usWidth]

theorem implSteps_nocall : implSteps.filter (· ≠ .callTid) = [.formatTime, .ins [.tid], .ins [.level 6],
    .errnoIf [.errtext, .lit [32, 40, 101, 114, 114, 110, 111, 61], .errno, .lit [41, 32]]] := by decide

/-- the same statements without the call of `CurrentThread::tid()`: the tid string is read as the thread found it -/
theorem implRun_shape_nocall (z : Zone) (e : LineEnv) :
    ∃ tail, (implRun z e (implSteps.filter (· ≠ .callTid))).2 =
      .str (readN 17 e.timeText) :: .str (readN (usWidth z) e.usText) :: .str (tidField e.tid) :: tail := by
  rw [implSteps_nocall]
  cases hz : z.isSome <;>
    simp [implRun, implStep, hz, timePiecesZone, timePiecesUtc, pieceItem, usWidth]

theorem line_three (steps : List ImplStep) (z : Zone) (gen : Int) (c : TimeCache) (t : TidState) (r : LogReq)
    (a b f : Bytes) (ha : a.length = 17) (hb : b.length = usWidth z) (hf : f.length ≤ 26)
    (h : ∃ tail, (implRun z (lineEnv z gen c t r) steps).2 = .str a :: .str b :: .str f :: tail) :
    ∃ stamp rest, stamp.length = 17 + usWidth z ∧ (logLineOf steps z gen c t r).text = stamp ++ f ++ rest := by
  obtain ⟨tail, e⟩ := h
  have hw : usWidth z ≤ 9 := by unfold usWidth; split <;> omega
  simp only [logLineOf, lineItemsOf, e, List.cons_append]
  obtain ⟨more, em⟩ := run_three a b f _ (by rw [ha, hb]; unfold kSmallBuffer; omega)
  exact ⟨a ++ b, more, by rw [List.length_append, ha, hb], em⟩

theorem zero_not_mem_decimalNat (n : Nat) : 0 ∉ decimalNat n := by
  rw [decimalNat_eq_toDigits, List.mem_map]
  rintro ⟨c, hc, h0⟩
  have := Nat.isDigit_of_mem_toDigits (by decide) (by decide) hc
  simp only [Char.isDigit, Bool.and_eq_true, decide_eq_true_eq, UInt32.le_iff_toNat_le] at this
  exact absurd this.1 (by rw [show c.val.toNat = 0 from h0]; decide)

theorem zero_not_mem_tidText (tid : Int) : 0 ∉ tidText tid := by
  have hn := zero_not_mem_decimalNat tid.natAbs
  rw [tidText_eq]
  by_cases hneg : tid < 0 <;> simp [fmtInt, decimal, hneg, hn, List.mem_replicate]

theorem cstr_self (s : Bytes) (h : 0 ∉ s) : cstr s = s := by
  have := List.takeWhile_append_of_pos (p := fun x => decide (x ≠ 0)) (l₁ := s) (l₂ := [])
    (fun a ha => decide_eq_true fun e => h (e ▸ ha))
  simpa [cstr] using this

/-- the `assert(strlen(str) == len_)` of `T` holds for a thread that has cached its id -/
theorem tidAssert_of (tid : Int) : tidAssert (TidState.of tid) := by
  simp [tidAssert, TidState.of, cstr_self _ (zero_not_mem_tidText tid)]

/-- the `assert` of `T` holds wherever `Impl::Impl` inserts the tid string: `tid()` has been called by then -/
theorem implAsserts_ok (z : Zone) (e : LineEnv) (h0 : e.req.tid ≠ 0) (h : e.tid.okFor e.req.tid) :
    implAsserts z e implSteps = true := by
  have ha := tidAssert_of e.req.tid
  simp [implSteps, implAsserts, implStep, tidCall_ok _ _ h0 h, ha]

/-- a thread that has run nothing of muduo: the tid string is six bytes of the zero-filled buffer, and `T`'s assert fails -/
theorem tidField_fresh : tidField TidState.fresh = List.replicate 6 0 ∧ ¬ tidAssert TidState.fresh := by decide

def usesTid : ImplStep → Bool
  | .formatTime => (timePiecesZone ++ timePiecesUtc).contains .tid
  | .callTid => false
  | .ins ps => ps.contains .tid
  | .errnoIf ps => ps.contains .tid

/-- a call of `CurrentThread::tid()` occurs, and no statement in front of it reads the tid cache -/
def cachedBeforeUse : List ImplStep → Bool
  | [] => false
  | .callTid :: _ => true
  | s :: rest => !usesTid s && cachedBeforeUse rest

theorem tidCachedBeforeUse_tie : tidCachedBeforeUse = cachedBeforeUse implSteps := by decide

/-- what a thread's cached second promises: it was formatted under a generation that is not in the future, and
when that generation is still the current one (no `setTimeZone` since) the text is the one of the configured zone.
Second 0 is left out: `t_lastSecond` is zero-initialised, so a fresh cache "hits" at epoch second 0 with an empty text -/
def TimeInv (s : LogState) : Prop :=
  s.cache.zoneGen ≤ s.gen ∧
  (s.cache.lastSecond ≠ 0 → s.cache.zoneGen = s.gen → s.cache.text = secondText s.zone s.cache.lastSecond)

theorem timeInv_init (t : TidState) : TimeInv (LogState.init t) := by
  refine ⟨?_, fun h => absurd rfl h⟩
  show lastZoneGenInit ≤ zoneGenInit
  decide

theorem cacheMiss_iff (sec last gen lastGen : Int) : cacheMiss sec last gen lastGen ↔ (sec ≠ last ∨ gen ≠ lastGen) := by
  unfold cacheMiss; rfl

theorem cacheMiss_fresh (gen : Int) (us : Int) (h : splitSeconds us ≠ 0) :
    cacheMiss (splitSeconds us) TimeCache.fresh.lastSecond gen TimeCache.fresh.zoneGen :=
  (cacheMiss_iff _ _ _ _).2 (Or.inl h)

theorem timeInv_hit_or_miss (s : LogState) (r : LogReq) (hinv : TimeInv s) (hr : splitSeconds r.us ≠ 0) :
    cacheMiss (splitSeconds r.us) s.cache.lastSecond s.gen s.cache.zoneGen ∨ s.cache.text = secondText s.zone (splitSeconds r.us) := by
  by_cases hm : cacheMiss (splitSeconds r.us) s.cache.lastSecond s.gen s.cache.zoneGen
  · exact Or.inl hm
  · right
    rw [cacheMiss_iff] at hm
    have h1 : splitSeconds r.us = s.cache.lastSecond := Classical.not_not.1 (fun h => hm (Or.inl h))
    have h2 : s.gen = s.cache.zoneGen := Classical.not_not.1 (fun h => hm (Or.inr h))
    rw [h1]
    exact hinv.2 (by rw [← h1]; exact hr) h2.symm

theorem timeInv_step (s : LogState) (op : LogOp) (hinv : TimeInv s)
    (hop : ∀ r, op = .log r → splitSeconds r.us ≠ 0) : TimeInv (logStep s op).1 := by
  cases op with
  | setZone z =>
    have hb : zoneGenBumped = true := by decide
    simp only [logStep, hb, if_true]
    exact ⟨by have := hinv.1; show s.cache.zoneGen ≤ s.gen + 1; omega,
           fun _ h => by have := hinv.1; have : s.cache.zoneGen = s.gen + 1 := h; omega⟩
  | log r =>
    have hr := hop r rfl
    have hs : cacheStoresGen = true := by decide
    simp only [logStep, logLine, logLineOf, cacheStep]
    by_cases hm : cacheMiss (splitSeconds r.us) s.cache.lastSecond s.gen s.cache.zoneGen
    · simp only [hm, if_true, hs]
      exact ⟨Int.le_refl _, fun _ _ => rfl⟩
    · simp only [hm, if_false]
      exact hinv

theorem timeInv_after (ops : List LogOp) (s : LogState) (h : TimeInv s)
    (hops : ∀ r, LogOp.log r ∈ ops → splitSeconds r.us ≠ 0) : TimeInv (logAfter s ops) :=
  foldl_inv ops (fun s op hop h => timeInv_step s op h (fun r e => hops r (e ▸ hop))) s h

/-- the request of the F18 witness (corpus/C17/F18-setTimeZone-inside-cached-second.case) at instant `us` -/
def f18Req (us : Int) : LogReq :=
  { level := 3, errno := 0, errText := [], func := none, file := [97, 46, 99, 99], line := 10, tid := 1400, us := us, msg := [] }

end MuduoVerif.LogStream
