import MuduoVerif.Proofs.Rpc
import MuduoVerif.Proofs.Fold
/-! The reply the property demands (`expected`, written without reference to the code), what the REQUEST branch
logs and leaves behind (`served`, `kept`), and the channel as a labelled transition system (`Trans`): one constructor per branch of
`step`, with as much of the guard under which the branch is taken as the invariants need, and the successor state written out.  Every invariant is
proved by cases on `Trans`; `run_induct` is the induction over histories. -/
namespace MuduoVerif.Rpc
open MuduoVerif.Gen.Rpc

/-- the reply the property demands for a request, written without reference to the code: payload, error -/
def expected (hasServices : Bool) (m : Msg) : Option Nat × Option ErrorCode :=
  if hasServices = false ∨ m.serviceFound = false then (none, some .NO_SERVICE)
  else match m.meth with
    | none => (none, some .NO_METHOD)
    | some _ => match m.request.parse with
      | none => (none, some .INVALID_REQUEST)
      | some p => (some p, none)

theorem requestDecision_spec (hs : Bool) (m : Msg) :
    (∃ code, expected hs m = (none, some code) ∧
      requestDecision hs m.serviceFound m.meth.isSome m.request.parse.isSome = (0, [(.requestId, code)])) ∨
    (∃ p, expected hs m = (some p, none) ∧ m.request.parse = some p ∧ m.meth.isSome = true ∧
      requestDecision hs m.serviceFound m.meth.isSome m.request.parse.isSome = (1, [])) := by
  obtain ⟨ty, id, pl, er, sf, me, rq⟩ := m
  cases hs <;> cases sf <;> cases me <;> cases rq <;> simp [expected, requestDecision, Body.parse]

theorem expected_some {hs : Bool} {m : Msg} {p : Nat} {e : Option ErrorCode} (h : expected hs m = (some p, e)) :
    e = none ∧ m.request.parse = some p := by
  rcases requestDecision_spec hs m with ⟨_, h', _⟩ | ⟨_, h', hp, _⟩ <;> rw [h'] at h <;> cases h
  exact ⟨rfl, hp⟩

theorem doneEvents_eq (r id p : Nat) : doneEvents r id p = [.free (.srvResp r), .reply r id (some p) none] := by
  simp [doneEvents, doneFreeCount, doneSendCount, doneIdSrc, replyId]

/-- an event of the serving of request number `r` -/
def Ev.ofReq (r : Nat) : Ev → Bool
  | .reply r' _ _ _ => r' = r
  | .dispatch r' _ => r' = r
  | .free (.srvResp r') => r' = r
  | _ => false

/-- everything the channel logs about request number `r` that was the message `m`, newest first, while the service
holds `h` done-callbacks of it: the reply `expected` demands; for a valid request the `service->CallMethod` before it,
and the reply (with the free of its response object, both in `doneCallback`) only once the done-callback has run -/
def served (hs : Bool) (r : Nat) (m : Msg) (h : Nat) : List Ev :=
  match (expected hs m).1 with
  | none => [.reply r m.id none (expected hs m).2]
  | some p => (if h = 0 then [.free (.srvResp r), .reply r m.id (some p) (expected hs m).2] else []) ++ [.dispatch r p]

/-- the done-callback that the REQUEST branch leaves with the service: one for a valid request to a method that answers
later, else none -/
def kept (hs : Bool) (r : Nat) (m : Msg) : List (Nat × Nat × Nat) :=
  match (expected hs m).1, m.meth with
  | some p, some .defer => [(r, m.id, p)]
  | _, _ => []

theorem recvRequest_eq (s : Chan) (m : Msg) :
    recvRequest s m =
      { s with nextReq := s.nextReq + 1, reqs := setAt s.reqs s.nextReq (some m),
               closures := kept s.hasServices s.nextReq m ++ s.closures,
               log := served s.hasServices s.nextReq m (kept s.hasServices s.nextReq m).length ++ .arrived m :: s.log } := by
  rcases requestDecision_spec s.hasServices m with ⟨code, he, hd⟩ | ⟨p, he, hp, hm, hd⟩
  · simp [recvRequest, hd, dispatchN, errorReplies, replyId, served, kept, he]
  · obtain ⟨meth, hm'⟩ := Option.isSome_iff_exists.mp hm
    simp only [hm', hp, Option.isSome_some] at hd
    cases meth <;>
      simp [recvRequest, hd, hp, hm', dispatchN, dispatchOnce, doneEvents_eq, errorReplies, served, kept, he]

theorem served_filter (hs : Bool) (r r' : Nat) (m : Msg) (h : Nat) :
    (served hs r m h).filter (Ev.ofReq r') = if r' = r then served hs r m h else [] := by
  unfold served
  by_cases hr : r = r' <;> split <;> split <;> simp_all [Ev.ofReq, eq_comm]

theorem mem_served {hs : Bool} {r : Nat} {m : Msg} {h : Nat} {e : Ev} (he : e ∈ served hs r m h) : e.ofReq r = true :=
  List.filter_eq_self.mp ((served_filter hs r r m h).trans (if_pos rfl)) e he

theorem srvSide_of_ofReq {e : Ev} {r : Nat} (h : e.ofReq r = true) : e.srvSide = true := by
  unfold Ev.ofReq at h; split at h <;> simp_all [Ev.srvSide]

theorem served_srvSide {hs : Bool} {r : Nat} {m : Msg} {h : Nat} (ht : m.type = .REQUEST) :
    ∀ e ∈ served hs r m h ++ [.arrived m], e.srvSide = true := fun e he =>
  (List.mem_append.mp he).elim (fun h => srvSide_of_ofReq (mem_served h)) (fun h => by simp_all [Ev.srvSide])

theorem fireDone_found (s : Chan) (r : Nat) (c : Nat × Nat × Nat) (h : s.closures.find? (fun c => c.1 = r) = some c) :
    fireDone s r = { s with closures := s.closures.filter (fun c => c.1 ≠ r),
                            log := .free (.srvResp r) :: .reply r c.2.1 (some c.2.2) none :: s.log } := by
  simp [fireDone, h, doneEvents_eq]

theorem fireDone_absent (s : Chan) (r : Nat) (h : s.closures.find? (fun c => c.1 = r) = none) :
    fireDone s r = if r < s.nextReq then { s with log := .uaf (.closure r) :: s.log } else s := by
  simp [fireDone, h]

theorem typeSwitch_response (t : MessageType) : typeSwitch t = .response ↔ t = .RESPONSE := by
  cases t <;> simp [typeSwitch]

theorem typeSwitch_request (t : MessageType) : typeSwitch t = .request ↔ t = .REQUEST := by
  cases t <;> simp [typeSwitch]

theorem view_eq (m : Msg) : view m = m.payload.bind Body.parse := by
  unfold view respParses
  cases h : m.payload <;> simp

/-- `Trans s a s'`: action `a` is enabled in the running channel `s` and leads to `s'` -/
inductive Trans (s : Chan) : Act → Chan → Prop
  | callBegin :
      Trans s .callBegin
        { s with counter := s.counter + 1, stage := setAt s.stage s.nextCall .fetched,
                 idOf := setAt s.idOf s.nextCall (s.counter + 1), nextCall := s.nextCall + 1 }
  | callInsert (k : Nat) : s.stage k = .fetched →
      Trans s (.callInsert k)
        { s with outstanding := insertKey (s.idOf k) k s.outstanding, stage := setAt s.stage k .inserted }
  | callSend (k : Nat) : s.stage k = .inserted →
      Trans s (.callSend k) { s with stage := setAt s.stage k .returned, log := .sent (s.idOf k) k :: s.log }
  /-- a RESPONSE that fails the `assert` of an asserts-on build -/
  | abort (m : Msg) : s.pending = none → m.type = .RESPONSE → s.asserts = true →
      ¬ respAssert m.payload.isSome m.err.isSome →
      Trans s (.recv m) { s with halted := true, log := .abort :: .arrived m :: s.log }
  /-- a message that is only logged: an ERROR, or a RESPONSE whose id is not registered -/
  | ignore (m : Msg) : s.pending = none → m.type ≠ .REQUEST →
      (m.type = .RESPONSE → lookup m.id s.outstanding = none) →
      Trans s (.recv m) { s with log := .arrived m :: s.log }
  | found (m : Msg) (k : Nat) : s.pending = none → m.type = .RESPONSE → lookup m.id s.outstanding = some k →
      Trans s (.recv m)
        { s with outstanding := eraseKey m.id s.outstanding, pending := some (k, m), log := .arrived m :: s.log }
  | request (m : Msg) : s.pending = none → m.type = .REQUEST →
      Trans s (.recv m)
        { s with nextReq := s.nextReq + 1, reqs := setAt s.reqs s.nextReq (some m),
                 closures := kept s.hasServices s.nextReq m ++ s.closures,
                 log := served s.hasServices s.nextReq m (kept s.hasServices s.nextReq m).length ++ .arrived m :: s.log }
  | finish (k : Nat) (m : Msg) : s.pending = some (k, m) →
      Trans s .finish
        { s with pending := none
                 log := .free (.resp k) :: .ran k m.id (view m) ::
                          ((if m.payload.isSome then [.parse k] else []) ++ s.log) }
  | fire (r : Nat) (c : Nat × Nat × Nat) : s.closures.find? (fun c => c.1 = r) = some c →
      Trans s (.fireDone r)
        { s with closures := s.closures.filter (fun c => c.1 ≠ r),
                 log := .free (.srvResp r) :: .reply r c.2.1 (some c.2.2) none :: s.log }
  /-- the service invokes a done-callback it does not hold -/
  | stale (r : Nat) : s.closures.find? (fun c => c.1 = r) = none →
      Trans s (.fireDone r) { s with log := .uaf (.closure r) :: s.log }

theorem mem_parseEvs {b : Bool} {k : Nat} {e : Ev} (h : e ∈ (if b then [Ev.parse k] else [])) : e = .parse k := by
  cases b <;> simp_all

theorem finish_trans (s : Chan) : finish s = s ∨ Trans s .finish (finish s) := by
  unfold finish
  split
  · exact .inl rfl
  next k m hp =>
    simp only [runCount_eq, freeCount_eq, respParses, List.replicate, List.cons_append, List.nil_append]
    exact .inr (.finish k m hp)

theorem recv_trans (s : Chan) (m : Msg) : recv s m = s ∨ Trans s (.recv m) (recv s m) := by
  unfold recv
  split
  · exact .inl rfl
  next hp =>
    have hp : s.pending = none := by simpa using hp
    have hne : typeSwitch m.type ≠ .response → typeSwitch m.type ≠ .request →
        Trans s (.recv m) { s with log := .arrived m :: s.log } := fun h1 h2 =>
      .ignore m hp (fun h => h2 ((typeSwitch_request _).mpr h)) (fun h => absurd ((typeSwitch_response _).mpr h) h1)
    split
    next ht =>
      have ht := (typeSwitch_response _).mp ht
      unfold recvResponse
      split
      next hc => exact .inr (.abort m hp ht (by simpa using hc.1) hc.2)
      · split
        next hl => exact .inr (.ignore m hp (by simp [ht]) (fun _ => hl))
        next k hl => rw [erases_eq]; exact .inr (.found m k hp ht hl)
    next ht =>
      rw [recvRequest_eq]
      exact .inr (.request m hp ((typeSwitch_request _).mp ht))
    next ht => exact .inr (hne (by simp [ht]) (by simp [ht]))
    next ht => exact .inr (hne (by simp [ht]) (by simp [ht]))

theorem step_trans (s : Chan) (a : Act) : step s a = s ∨ Trans s a (step s a) := by
  unfold step
  split
  · exact .inl rfl
  cases a with
  | callBegin => exact .inr .callBegin
  | callInsert k =>
    show callInsert s k = s ∨ Trans s _ (callInsert s k)
    simp only [callInsert, insertBeforeSend_eq, if_true]
    split
    next h => exact .inr (.callInsert k h)
    · exact .inl rfl
  | callSend k =>
    show callSend s k = s ∨ Trans s _ (callSend s k)
    simp only [callSend, insertBeforeSend_eq, if_true]
    split
    next h => exact .inr (.callSend k h)
    · exact .inl rfl
  | recv m => exact recv_trans s m
  | finish => exact finish_trans s
  | fireDone r =>
    show fireDone s r = s ∨ Trans s _ (fireDone s r)
    cases h : s.closures.find? (fun c => c.1 = r) with
    | some c => rw [fireDone_found s r c h]; exact .inr (.fire r c h)
    | none =>
      rw [fireDone_absent s r h]
      split
      · exact .inr (.stale r h)
      · exact .inl rfl

theorem run_induct {P : Chan → Prop} (asserts hs : Bool) (h0 : P (init asserts hs))
    (hstep : ∀ {s a s'}, P s → Trans s a s' → P s') (acts : List Act) : P (run asserts hs acts) :=
  foldl_inv acts (fun s a _ h => (step_trans s a).elim (fun e => e.symm ▸ h) (hstep h)) _ h0

theorem run_append (asserts hs : Bool) (acts more : List Act) :
    run asserts hs (acts ++ more) = more.foldl step (run asserts hs acts) := by
  simp [run, List.foldl_append]

theorem recv_finish_response (s : Chan) (m : Msg) (hh : s.halted = false) (hp : s.pending = none)
    (ht : m.type = .RESPONSE) (hc : s.asserts = false ∨ respAssert m.payload.isSome m.err.isSome) :
    step (step s (.recv m)) .finish =
      match lookup m.id s.outstanding with
      | none => { s with log := .arrived m :: s.log }
      | some k =>
        { s with outstanding := eraseKey m.id s.outstanding, pending := none
                 log := .free (.resp k) :: .ran k m.id (m.payload.bind Body.parse) ::
                          ((if m.payload.isSome then [.parse k] else []) ++ .arrived m :: s.log) } := by
  have hc' : ¬ (s.asserts = true ∧ ¬ respAssert m.payload.isSome m.err.isSome) := fun h => by simp_all
  cases hl : lookup m.id s.outstanding <;>
    simp [step, hh, recv, hp, (typeSwitch_response _).mpr ht, recvResponse, hl, erases_eq, hc', finish, runCount_eq,
      freeCount_eq, view_eq, respParses]

theorem run_consts (asserts hs : Bool) (acts : List Act) :
    (run asserts hs acts).asserts = asserts ∧ (run asserts hs acts).hasServices = hs := by
  refine run_induct (P := fun s => s.asserts = asserts ∧ s.hasServices = hs) asserts hs ⟨rfl, rfl⟩ ?_ acts
  intro s a s' h0 h
  cases h <;> exact h0

end MuduoVerif.Rpc
