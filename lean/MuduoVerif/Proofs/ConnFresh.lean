import MuduoVerif.Model.Conn
/-! The initial state of every history of the connection model. -/
namespace MuduoVerif.Conn

/-- a connection object as constructed (`TcpConnection::TcpConnection`), with any configuration
(poller back-end, build flavour, callbacks set or not, high-water mark), any scripted
environment results and any callback scripts (`hooks`) -/
structure Fresh (c : Conn) : Prop where
  st : c.st = .kConnecting
  ch : c.ch = {}
  registered : c.registered = false
  outBuf : c.outBuf = []
  inBuf : c.inBuf = []
  pending : c.pending = []
  batch : c.batch = []
  timers : c.timers = []
  owner : c.owner = true
  alive : c.alive = true
  dead : c.dead = false
  accepted : c.accepted = []
  blocks : c.blocks = []
  offeredL : c.offeredL = []
  offeredF : c.offeredF = []
  wrote : c.wrote = []
  discarded : c.discarded = false
  shutWr : c.shutWr = false
  trace : c.trace = []
  delivered : c.delivered = []
  peerPending : c.peerPending = []
  peerAll : c.peerAll = []

theorem fresh_default (be : Backend) (asserts hasWC hasHWM : Bool) (mark retrieveMax : Nat)
    (hooks : List (Cb × Act)) (writes : List WriteRes) (reads : List ReadRes) :
    Fresh { be := be, asserts := asserts, hasWC := hasWC, hasHWM := hasHWM, mark := mark,
            retrieveMax := retrieveMax, hooks := hooks, writes := writes, reads := reads } :=
  ⟨rfl, rfl, rfl, rfl, rfl, rfl, rfl, rfl, rfl, rfl, rfl, rfl, rfl, rfl, rfl, rfl, rfl, rfl, rfl, rfl, rfl, rfl⟩

end MuduoVerif.Conn
