import MuduoVerif.Proofs.LoopBase
/-!
# The FIFO invariant of the functor queue (C04 `once_fifo`), where functor objects die, where task bodies start

Each is kept by every step of the system whatever the shape of the drain after the `while` and the order of "destroy
the batch" / "reset the flag" (`LoopStep fd bd`); `step_fifo`, `step_bury`, `step_wrongThread` are the code's own shape.
-/
namespace MuduoVerif.Loop
open MuduoVerif.Gen.Loop

/-- the functor queue is a FIFO in mutex order: what ran, what is left of the current batch and
what is still queued, concatenated, is exactly the list of all appends -/
structure FifoInv (s : St) : Prop where
  order : s.appendOrder = s.executed ++ s.batch ++ s.pending
  batchNil : s.phase ≠ .draining → s.batch = []

theorem FifoInv.append {s : St} (h : FifoInv s) (x : TaskId) :
    s.appendOrder ++ [x] = s.executed ++ s.batch ++ (s.pending ++ [x]) := by
  rw [h.order, List.append_assoc]

section
variable {fd : FinalDrain} {bd : Bool} {s s' : St} {k : Nat}

theorem TopStep.fifoInv (hs : TopStep s s') (h : FifoInv s) : FifoInv s' := by
  induction hs
  case queue => exact ⟨h.append _, h.batchNil⟩
  all_goals exact ⟨h.order, h.batchNil⟩

theorem LoopStep.fifoInv (hs : LoopStep fd bd s s') (h : FifoInv s) : FifoInv s' := by
  induction hs
  case task ht => exact ht.fifoInv h
  case swap hp => exact ⟨by simpa [h.batchNil (by simp [hp])] using h.order, fun hn => absurd rfl hn⟩
  case exec hp _ hb => exact ⟨by simpa [hb] using h.order, fun hn => absurd hp hn⟩
  case drainAgain hb _ _ _ _ => exact ⟨h.order, fun _ => hb⟩
  case leave hb _ _ _ => exact ⟨h.order, fun _ => hb⟩
  case iterEnd hb _ _ => exact ⟨h.order, fun _ => hb⟩
  case nop | bury => exact ⟨h.order, h.batchNil⟩
  -- the other steps start outside a drain and leave the queue alone
  all_goals exact ⟨h.order, fun _ => h.batchNil (by simp_all)⟩

theorem OtherStep.fifoInv (hs : OtherStep s k s') (h : FifoInv s) : FifoInv s' := by
  induction hs
  case append => exact ⟨h.append _, h.batchNil⟩
  case start hp => exact ⟨h.order, fun _ => h.batchNil (by simp [hp])⟩
  all_goals exact ⟨h.order, h.batchNil⟩

end

theorem step_fifo {s : St} (k : Nat) (h : FifoInv s) : FifoInv (step s k) :=
  (step_rel s k).elim (·.2.fifoInv h) (·.2.fifoInv h)

theorem init_fifo (elt wl : Bool) (tbl) (dtbl) (pre) (again) (progs) : FifoInv (init elt wl tbl dtbl pre again progs) := by
  constructor <;> simp [init]

theorem Reachable.fifo {s : St} (h : Reachable s) : FifoInv s :=
  reachable_invariant init_fifo (fun _ k h => step_fifo k h) h

/-- outside a drain no run functor object is left in the local vector; the destruction starts when the whole batch
has run -/
structure BuryInv (s : St) : Prop where
  outside : s.phase ≠ .draining → s.corpses = [] ∧ s.burying = false
  batchDone : s.burying = true → s.batch = []

section
variable {fd : FinalDrain} {bd : Bool} {s s' : St} {k : Nat}

theorem TopStep.buryInv (hs : TopStep s s') (h : BuryInv s) : BuryInv s' := by
  induction hs <;> exact ⟨h.outside, h.batchDone⟩

theorem LoopStep.buryInv (hs : LoopStep fd bd s s') (h : BuryInv s) : BuryInv s' := by
  induction hs
  case task ht => exact ht.buryInv h
  case swap hp =>
    have := (h.outside (by simp [hp])).2
    exact ⟨fun hn => absurd rfl hn, fun hb => by simp [this] at hb⟩
  case exec hp _ hba => exact ⟨fun hn => absurd hp hn, fun hb => by simp [h.batchDone hb] at hba⟩
  case bury hp _ hba _ => exact ⟨fun hn => absurd hp hn, fun _ => hba⟩
  case drainAgain hc _ _ _ => exact ⟨fun _ => ⟨hc, rfl⟩, fun hb => nomatch hb⟩
  case leave hc _ _ => exact ⟨fun _ => ⟨hc, rfl⟩, fun hb => nomatch hb⟩
  case iterEnd hc _ => exact ⟨fun _ => ⟨hc, rfl⟩, fun hb => nomatch hb⟩
  case nop => exact ⟨h.outside, h.batchDone⟩
  -- the other steps start outside a drain and leave the local vector alone
  all_goals exact ⟨fun _ => h.outside (by simp_all), h.batchDone⟩

theorem OtherStep.buryInv (hs : OtherStep s k s') (h : BuryInv s) : BuryInv s' := by
  induction hs
  case start hp => exact ⟨fun _ => h.outside (by simp [hp]), h.batchDone⟩
  all_goals exact ⟨h.outside, h.batchDone⟩

end

theorem step_bury {s : St} (k : Nat) (h : BuryInv s) : BuryInv (step s k) :=
  (step_rel s k).elim (·.2.buryInv h) (·.2.buryInv h)

theorem init_bury (elt wl : Bool) (tbl) (dtbl) (pre) (again) (progs) : BuryInv (init elt wl tbl dtbl pre again progs) := by
  constructor <;> simp [init]

theorem Reachable.bury {s : St} (h : Reachable s) : BuryInv s :=
  reachable_invariant init_bury (fun _ k h => step_bury k h) h

theorem step_wrongThread {s : St} (k : Nat) (h : s.wrongThread = false) : (step s k).wrongThread = false :=
  (step_rel s k).elim (·.2.frame.wrongThread.trans h) (·.2.frame.wrongThread.trans h)

/-! ### `FifoInv` along a schedule; no proof uses it -/

theorem run_fifo {s : St} (sched : List Nat) (h : FifoInv s) : FifoInv (run s sched) :=
  run_invariant (fun _ k h => step_fifo k h) h sched

end MuduoVerif.Loop
