import MuduoVerif.Model.Rpc
/-! The invariant of the caller side of `Model/Rpc.lean` (id counter, `outstandings_`, pending completion),
with the facts about association lists, the classes of events of the frames, and event counts that the
preservation proofs need. -/
namespace MuduoVerif.Rpc
open MuduoVerif.Gen.Rpc

/-! ### what the generated definitions say (re-checked against the regenerated file on every build) -/
theorem idFetch_eq (c : Nat) : idFetch c = (c + 1, c + 1) := rfl
theorem insertBeforeSend_eq : callInsertBeforeSend = true := rfl
theorem erases_eq : respErasesWhenFound = true := rfl
theorem runCount_eq : respRunCount = 1 := rfl
theorem freeCount_eq : respFreeCount = 1 := rfl

theorem setAt_same {α : Type} (f : Nat → α) (k : Nat) (v : α) : setAt f k v k = v := by simp [setAt]
theorem setAt_other {α : Type} (f : Nat → α) (k j : Nat) (v : α) (h : j ≠ k) : setAt f k v j = f j := by simp [setAt, h]

theorem lookup_eraseKey (i j : Nat) (l : List (Nat × Nat)) :
    lookup i (eraseKey j l) = if i = j then none else lookup i l := by
  induction l with
  | nil => simp [eraseKey, lookup]
  | cons e rest ih =>
    simp only [eraseKey, List.filter_cons] at ih ⊢
    by_cases h : e.1 = j <;> by_cases h2 : e.1 = i <;> simp_all [lookup]

theorem lookup_insertKey (i j k : Nat) (l : List (Nat × Nat)) :
    lookup i (insertKey j k l) = if j = i then some k else lookup i l := by
  by_cases h : j = i
  · simp [insertKey, lookup, h]
  · simp [insertKey, lookup, lookup_eraseKey, h, Ne.symm h]

theorem keys_eraseKey (i : Nat) (l : List (Nat × Nat)) (h : (l.map Prod.fst).Nodup) :
    ((eraseKey i l).map Prod.fst).Nodup :=
  List.Nodup.sublist (List.Sublist.map _ List.filter_sublist) h

theorem keys_insertKey (i k : Nat) (l : List (Nat × Nat)) (h : (l.map Prod.fst).Nodup) :
    ((insertKey i k l).map Prod.fst).Nodup := by
  rw [insertKey, List.map_cons, List.nodup_cons]
  exact ⟨by simp [eraseKey], keys_eraseKey i l h⟩

theorem lookup_of_mem (l : List (Nat × Nat)) (h : (l.map Prod.fst).Nodup) (i k : Nat) (hm : (i, k) ∈ l) :
    lookup i l = some k := by
  induction l with
  | nil => cases hm
  | cons e rest ih =>
    obtain ⟨a, b⟩ := e
    rw [List.map_cons, List.nodup_cons] at h
    rcases List.mem_cons.mp hm with h1 | h1
    · cases h1; simp [lookup]
    · have hne : a ≠ i := fun hai => h.1 (List.mem_map.mpr ⟨(i, k), h1, hai.symm⟩)
      simpa [lookup, hne] using ih h.2 h1

theorem mem_of_lookup (l : List (Nat × Nat)) (i k : Nat) (h : lookup i l = some k) : (i, k) ∈ l := by
  induction l with
  | nil => simp [lookup] at h
  | cons e rest ih =>
    obtain ⟨a, b⟩ := e
    simp only [lookup] at h
    split at h
    next hai => cases h; exact hai ▸ List.mem_cons_self
    next => exact List.mem_cons_of_mem _ (ih h)

theorem countP_append_of_false {α : Type} (p : α → Bool) {evs : List α} (h : ∀ e ∈ evs, p e = false)
    (log : List α) : (evs ++ log).countP p = log.countP p := by
  rw [List.countP_append, List.countP_eq_zero.mpr (by simpa using h), Nat.zero_add]

def isRan (k : Nat) : Ev → Bool
  | .ran k' _ _ => decide (k' = k)
  | _ => false

def isFreeResp (k : Nat) : Ev → Bool
  | .free (.resp k') => decide (k' = k)
  | _ => false

def ranCount (k : Nat) (log : List Ev) : Nat := log.countP (isRan k)
def freeCount (k : Nat) (log : List Ev) : Nat := log.countP (isFreeResp k)

/-! Four classes of events, one per frame: what a step may log without an invariant having to look at it.
`foreign` is what `CallInv` does not count (`SameCalls`), `callSide` what `SrvInv` does not count (`CallStep`),
`srvSide` what the REQUEST branch and `fireDone` log (`SrvStep`), `quiet` = `srvSide`, `sent`, `abort` what
`TraceInv` passes over.  They overlap: `srvSide` events are `foreign` and `quiet`; an `arrived` ERROR is in all four. -/

/-- not an event of a call's completion or of its REQUEST frame (nothing to do with the "foreign", i.e. unknown,
ids of `C19.no_foreign_completion`) -/
def Ev.foreign : Ev → Bool
  | .ran .. => false
  | .free (.resp _) => false
  | .sent .. => false
  | _ => true

def Ev.srvSide : Ev → Bool
  | .arrived m => decide (m.type ≠ .RESPONSE)
  | .dispatch .. => true
  | .reply .. => true
  | .free (.srvResp _) => true
  | .uaf (.closure _) => true
  | _ => false

def Ev.quiet : Ev → Bool
  | .sent .. => true
  | .abort => true
  | e => e.srvSide

/-- events that none of the serving side's counts sees.  Not the complement of `Ev.srvSide`: an `arrived` REQUEST is
`callSide` (`CallStep.log` excludes it separately), a `uaf` of any cell is not -/
def Ev.callSide : Ev → Bool
  | .reply .. => false
  | .dispatch .. => false
  | .free (.srvResp _) => false
  | .uaf _ => false
  | _ => true

def Ev.isArrived : Ev → Bool
  | .arrived _ => true
  | _ => false

theorem foreign_of_srvSide {e : Ev} (h : e.srvSide = true) : e.foreign = true := by
  unfold Ev.foreign; split <;> simp_all [Ev.srvSide]

theorem quiet_of_srvSide {e : Ev} (h : e.srvSide = true) : e.quiet = true := by
  cases e <;> simp_all [Ev.quiet, Ev.srvSide]

theorem isRan_foreign {e : Ev} (k : Nat) (h : e.foreign = true) : isRan k e = false := by
  unfold isRan; split <;> simp_all [Ev.foreign]

theorem isFreeResp_foreign {e : Ev} (k : Nat) (h : e.foreign = true) : isFreeResp k e = false := by
  unfold isFreeResp; split <;> simp_all [Ev.foreign]

theorem ranCount_cons_of_false (k : Nat) (e : Ev) (log : List Ev) (h : isRan k e = false) :
    ranCount k (e :: log) = ranCount k log := by
  simp [ranCount, h]

theorem freeCount_cons_of_false (k : Nat) (e : Ev) (log : List Ev) (h : isFreeResp k e = false) :
    freeCount k (e :: log) = freeCount k log := by
  simp [freeCount, h]

theorem counts_finish (k j i : Nat) (v : Option Nat) (b : Bool) (log : List Ev) :
    ranCount j (.free (.resp k) :: .ran k i v :: ((if b then [Ev.parse k] else []) ++ log)) =
      (if j = k then 1 else 0) + ranCount j log ∧
    freeCount j (.free (.resp k) :: .ran k i v :: ((if b then [Ev.parse k] else []) ++ log)) =
      (if j = k then 1 else 0) + freeCount j log := by
  by_cases h : k = j
  · cases b <;> simp [ranCount, freeCount, isRan, isFreeResp, h] <;> omega
  · cases b <;> simp [ranCount, freeCount, isRan, isFreeResp, h, Ne.symm h]

/-- call `k` has been inserted into `outstandings_` (it stays registered after its completion) -/
def Registered (s : Chan) (k : Nat) : Prop := s.stage k = .inserted ∨ s.stage k = .returned

instance (s : Chan) (k : Nat) : Decidable (Registered s k) := by unfold Registered; infer_instance

structure CallInv (s : Chan) : Prop where
  born : ∀ k, s.nextCall ≤ k → s.stage k = .unborn
  alive : ∀ k, s.stage k ≠ .unborn → k < s.nextCall
  idpos : ∀ k, k < s.nextCall → 1 ≤ s.idOf k ∧ s.idOf k ≤ s.counter
  inj : ∀ j k, j < s.nextCall → k < s.nextCall → s.idOf j = s.idOf k → j = k
  /-- holds because the generated `callInsertBeforeSend` is `true`: no call is sent before it is inserted -/
  noSentOnly : ∀ k, s.stage k ≠ .sentOnly
  /-- an entry of `outstandings_` is a registered call under its own id that has neither completed nor is being completed -/
  out : ∀ i k, lookup i s.outstanding = some k →
    s.idOf k = i ∧ Registered s k ∧ ranCount k s.log = 0 ∧ freeCount k s.log = 0 ∧ (∀ m, s.pending ≠ some (k, m))
  /-- the call being completed is registered, has not completed, and the message carries its id -/
  pend : ∀ k m, s.pending = some (k, m) →
    m.id = s.idOf k ∧ Registered s k ∧ Ev.arrived m ∈ s.log ∧ ranCount k s.log = 0 ∧ freeCount k s.log = 0
  once : ∀ k, ranCount k s.log ≤ 1 ∧ freeCount k s.log ≤ 1
  /-- a call that is not registered has no completion, done or in progress -/
  fresh : ∀ k, ¬ Registered s k → ranCount k s.log = 0 ∧ freeCount k s.log = 0 ∧ (∀ m, s.pending ≠ some (k, m))
  /-- a closure ran for a message that arrived, with the id of its call, and saw that message's payload -/
  own : ∀ k i v, Ev.ran k i v ∈ s.log → i = s.idOf k ∧ ∃ m, Ev.arrived m ∈ s.log ∧ m.id = i ∧ v = view m
  /-- converse of `out`: a registered call that has not completed and is not being completed is in `outstandings_` -/
  reg : ∀ k, Registered s k → ranCount k s.log = 0 → (∀ m, s.pending ≠ some (k, m)) →
    lookup (s.idOf k) s.outstanding = some k
  /-- a REQUEST frame carries the id of its call, and the call has returned -/
  wire : ∀ i k, Ev.sent i k ∈ s.log → i = s.idOf k ∧ s.stage k = .returned

theorem CallInv.init (a h : Bool) : CallInv (init a h) := by
  constructor <;> simp [MuduoVerif.Rpc.init, lookup, ranCount, freeCount, Registered]

theorem CallInv.lt_of_registered {s : Chan} (inv : CallInv s) {k : Nat} (h : Registered s k) : k < s.nextCall :=
  inv.alive k (by rcases h with h | h <;> simp [h])

end MuduoVerif.Rpc
