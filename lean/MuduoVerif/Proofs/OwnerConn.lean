import MuduoVerif.Proofs.OwnerEffect
/-! What a handler does to its own connection: which row of `RowP` it takes to which (`RowIs.est_accepted` ... `RowIs.dtor_takenDown`,
with one lemma per handler that says which rows it can meet), and one preservation lemma per handler (`cinv_*`), all of one
shape (`CCore.step`; `cinv_popped` for a functor that only rewrites the record and the trace).  `~TcpConnection` leads from `CInvW` back to `CInv`
(`cinv_reapOne`); inside `~TcpServer`'s loop a connection satisfies `CPre` until its turn comes (`cinv_dtorOne`). -/
namespace MuduoVerif.Owner
open MuduoVerif.Gen.Owner
open MuduoVerif.Gen.Conn (StateE forceCloseAccepts shutdownAccepts forceCloseInLoopActs destroyedWhileConnected)

theorem held_of_mem {s : Srv} {c l : Nat} {t : Task} (h : t ∈ s.q l) (ht : t.holds c = true) (hl : l ≤ s.L) : s.held c = true := by
  unfold Srv.held Srv.inQueues
  simp only [Bool.or_eq_true, List.any_eq_true]
  exact .inr ⟨l, List.mem_range.mpr (by omega), .inl ⟨t, h, ht⟩⟩

@[simp] theorem setConn_inQueues (s : Srv) (c : Nat) (C : Conn) (c' : Nat) : (s.setConn c C).inQueues c' = s.inQueues c' := rfl

@[simp] theorem emit_inQueues (s : Srv) (c : Nat) (k : Kind) (l c' : Nat) : (s.emit c k l).inQueues c' = s.inQueues c' := rfl

@[simp] theorem emit_held (s : Srv) (c' : Nat) (k : Kind) (l c : Nat) : (s.emit c' k l).held c = s.held c := rfl

theorem clsOf_init {st : StateE} : clsOf st = .init ↔ st = .kConnecting := by cases st <;> simp [clsOf]

theorem clsOf_up {st : StateE} : clsOf st = .up ↔ isUp st = true := by cases st <;> simp [clsOf, isUp]

theorem clsOf_down {st : StateE} : clsOf st = .down ↔ st = .kDisconnected := by cases st <;> simp [clsOf]

theorem isUp_iff {st : StateE} : isUp st = true ↔ destroyedWhileConnected st := by
  cases st <;> simp [isUp, destroyedWhileConnected]

theorem mem_enq {s : Srv} {l l' : Nat} {t u : Task} : u ∈ (s.enq l t).q l' ↔ u ∈ s.q l' ∨ l' = l ∧ u = t := by
  rw [enq_q]; split <;> simp [*]

theorem holds_of_isIo {c : Nat} {t : Task} (h : isIo c t = true) : t.holds c = true := by
  cases t <;> simp_all [isIo, Task.holds]

theorem stray_iff {s : Srv} {c : Nat} : Stray s c ↔ ∀ l t, t ∈ s.q l →
    (t = .est c ∨ t = .des c ∨ t = .fcl c → l = (s.conn c).loop) ∧ (t = .rem c → l = 0) := by
  constructor
  · intro h l t hm
    refine ⟨fun ht => Decidable.byContradiction fun hne => ?_, fun ht => Decidable.byContradiction fun hne => (h l).2 hne (ht ▸ hm)⟩
    obtain ⟨h1, h2, h3⟩ := (h l).1 hne
    rcases ht with rfl | rfl | rfl <;> contradiction
  · exact fun h l => ⟨fun hne => ⟨fun m => hne ((h l _ m).1 (.inl rfl)), fun m => hne ((h l _ m).1 (.inr (.inl rfl))),
      fun m => hne ((h l _ m).1 (.inr (.inr rfl)))⟩, fun hne m => hne ((h l _ m).2 rfl)⟩

theorem stray_sub {s s' : Srv} {c : Nat} (hl : (s'.conn c).loop = (s.conn c).loop)
    (hsub : ∀ l' u, u ∈ s'.q l' → u ∈ s.q l') (h : Stray s c) : Stray s' c :=
  stray_iff.mpr fun l t m => hl ▸ stray_iff.mp h l t (hsub l t m)

theorem Stray.loop_of_mem {s : Srv} {c l : Nat} {t : Task} (h : Stray s c) (hm : t ∈ s.q l)
    (ht : t = .est c ∨ t = .des c ∨ t = .fcl c) : l = (s.conn c).loop :=
  (stray_iff.mp h l t hm).1 ht

theorem Stray.base_of_rem {s : Srv} {c l : Nat} (h : Stray s c) (hm : Task.rem c ∈ s.q l) : l = 0 :=
  (stray_iff.mp h l _ hm).2 rfl

theorem Stray.enq {s : Srv} {c l : Nat} {t : Task} (h : Stray s c)
    (hio : t = .est c ∨ t = .des c ∨ t = .fcl c → l = (s.conn c).loop) (hrem : t = .rem c → l = 0) : Stray (s.enq l t) c :=
  stray_iff.mpr fun l' u m => (mem_enq.mp m).elim (stray_iff.mp h l' u) (by rintro ⟨rfl, rfl⟩; exact ⟨hio, hrem⟩)

section observables

variable (s : Srv) (c c' l : Nat) (C : Conn) (t : Task) (k : Kind) (m : List (Nat × Nat))

@[simp] theorem ioQ_emit : ioQ (s.emit c' k l) c = ioQ s c := rfl

@[simp] theorem remN_emit : remN (s.emit c' k l) c = remN s c := rfl

@[simp] theorem remN_setConn : remN (s.setConn c' C) c = remN s c := rfl

@[simp] theorem ioQ_map : ioQ { s with map := m } c = ioQ s c := rfl

@[simp] theorem remN_map : remN { s with map := m } c = remN s c := rfl

@[simp] theorem ioQ_setConn (h : C.loop = (s.conn c).loop) : ioQ (s.setConn c C) c = ioQ s c := by simp [ioQ, h]

theorem ioQ_enq : ioQ (s.enq l t) c = if l = (s.conn c).loop ∧ isIo c t = true then ioQ s c ++ [t] else ioQ s c := by
  unfold ioQ; rw [enq_conn, enq_q]
  by_cases h : l = (s.conn c).loop
  · subst h; by_cases h' : isIo c t = true <;> simp [h', List.filter_append]
  · simp [h, Ne.symm h]

theorem remN_enq : remN (s.enq l t) c = if l = 0 ∧ t = .rem c then remN s c + 1 else remN s c := by
  unfold remN; rw [enq_q]
  by_cases h : l = 0
  · subst h; by_cases h' : t = .rem c <;> simp [h', List.count_append]
  · simp [h, Ne.symm h]

variable {s l t} {X : Srv} {rest : List Task} (hq : s.q l = t :: rest) (hXq : X.q = s.q)

include hq hXq

/- `X`: the state after the handler of the head functor `t` of queue `l`, where the handler leaves the queues alone -/

theorem ioQ_pop (hXl : (X.conn c).loop = (s.conn c).loop) :
    ioQ s c = if l = (s.conn c).loop ∧ isIo c t = true then t :: ioQ (pop X l t rest) c else ioQ (pop X l t rest) c := by
  unfold ioQ; rw [pop_conn, pop_q, hXl, hXq]
  by_cases h : (s.conn c).loop = l
  · subst h; by_cases h' : isIo c t = true <;> simp [hq, h']
  · simp [h, Ne.symm h]

theorem remN_pop : remN s c = if l = 0 ∧ t = .rem c then remN (pop X l t rest) c + 1 else remN (pop X l t rest) c := by
  unfold remN; rw [pop_q, hXq]
  by_cases h : 0 = l
  · subst h; by_cases h' : t = .rem c <;> simp [hq, h']
  · simp [h, Ne.symm h]

end observables

theorem held_setConn (s : Srv) (c : Nat) (C : Conn) (h : C.user = (s.conn c).user) : (s.setConn c C).held c = s.held c := by
  simp [Srv.held, h]

theorem held_enq (s : Srv) {c l : Nat} {t : Task} (ht : t.holds c = true) (hl : l ≤ s.L) : (s.enq l t).held c = true :=
  held_of_mem (l := l) (by simp) ht hl

/-- the state of the trace automaton that goes with a connection record; only `erased` is not in the record -/
def autoOf (C : Conn) (er : Bool) : Auto :=
  { born := true, cb := clsOf C.st, erased := er, destroyed := !C.registered && C.st != .kConnecting, dead := !C.alive }

theorem CCore.life' {s : Srv} {c : Nat} {im sa : Bool} (hc : CCore s c im sa) :
    ∃ er, Owner.life c s.trace = some (autoOf (s.conn c) er) ∧ (sa = true → er = !im) := by
  obtain ⟨a, ha, hb, hcb, hd, hdead, her⟩ := hc.life
  exact ⟨a.erased, by rw [ha]; cases a; simp_all [autoOf], her⟩

theorem life_emit_self (s : Srv) (c : Nat) (k : Kind) (l : Nat) :
    life c (s.emit c k l).trace = (life c s.trace).bind (fun a => autoStep a k) := by
  simp [life_snoc, lifeStep]

theorem life_append (c : Nat) (tr es : List Ev) : life c (tr ++ es) = es.foldl (lifeStep c) (life c tr) := by
  simp [life, List.foldl_append]

/-- a handler leaves `L`, `nameOf` and the identity of the object alone, and closes the descriptor only with the object:
the rest of the configuration is what has to be checked -/
theorem CCore.step {s s' : Srv} {c : Nat} {im sa im' sa' : Bool} (hc : CCore s c im sa)
    (hfr : s'.L = s.L ∧ s'.nameOf = s.nameOf ∧ (s'.conn c).loop = (s.conn c).loop ∧ (s'.conn c).name = (s.conn c).name ∧
      ((s.conn c).fdOpen = (s.conn c).alive → (s'.conn c).fdOpen = (s'.conn c).alive))
    (stray : Stray s' c) (row : RowP s' c im' sa')
    (fcl_up : Task.fcl c ∈ s'.q (s'.conn c).loop → (s'.conn c).st ≠ .kConnecting)
    (er : Bool) (hlife : Owner.life c s'.trace = some (autoOf (s'.conn c) er)) (her : sa' = true → er = !im') : CCore s' c im' sa' := by
  obtain ⟨hL, hn, hloop, hname, hfd⟩ := hfr
  exact ⟨by rw [hloop, hL]; exact hc.loop_le, stray, row, fcl_up, hfd hc.fd, by rw [hname, hn]; exact hc.name,
    _, hlife, rfl, rfl, rfl, rfl, her⟩

namespace RowIs

variable {c : Nat} {io : List Task} {rn : Nat} {C : Conn} {im sa : Bool} {r : RowTag}

theorem est_head (h : RowIs c (.est c :: io) rn C im sa r) : r = .accepted ∨ r = .orphanAccepted := by
  cases r <;> simp [RowIs] at h ⊢

theorem est_connecting (h : RowIs c (.est c :: io) rn C im sa r) : C.st = .kConnecting ∧ C.registered = false := by
  obtain rfl | rfl := h.est_head <;> (obtain ⟨-, -, hst, hreg, -⟩ := h; exact ⟨hst, hreg⟩)

theorem est_accepted (h : RowIs c (.est c :: io) rn C im sa .accepted) :
    RowIs c io rn { C with st := .kConnected, registered := true } im sa .up := by
  simp [RowIs] at h
  simp [RowIs, isUp, h]

theorem est_orphanAccepted (h : RowIs c (.est c :: io) rn C im sa .orphanAccepted) :
    RowIs c io rn { C with st := .kConnected, registered := true } im sa .orphanUp := by
  simp [RowIs] at h
  simp [RowIs, isUp, h]

/-- only a registered connection is up, and an orphan has a loop of its own -/
theorem up_rows (h : RowIs c io rn C im sa r) (hup : isUp C.st = true) :
    C.registered = true ∧ (r = .up ∨ r = .orphanUp ∧ C.loop ≠ 0) := by
  cases r <;> simp [RowIs] at h ⊢ <;> simp [h, isUp] at hup ⊢

theorem close_up_base (h : RowIs c io rn C im sa .up) :
    RowIs c (io ++ [.des c]) rn { C with st := .kDisconnected, cause := true } false sa .erased := by
  simp [RowIs] at h
  simp [RowIs, h]

theorem close_up (h : RowIs c io rn C im sa .up) (hl : C.loop ≠ 0) :
    RowIs c io (rn + 1) { C with st := .kDisconnected, cause := true } im sa .takenDown := by
  simp [RowIs] at h
  simp [RowIs, h, hl]

theorem close_orphanUp (h : RowIs c io rn C im sa .orphanUp) :
    RowIs c io (rn + 1) { C with st := .kDisconnected, cause := true } im sa .orphanTakenDown := by
  simp [RowIs] at h
  simp [RowIs, h]

/-- `removeConnectionInLoop` waits only for a connection that is down on a loop of its own -/
theorem rem_queued (h : RowIs c io (rn + 1) C im sa r) : C.st = .kDisconnected ∧ C.loop ≠ 0 ∧
    (r = .takenDown ∧ sa = true ∨ sa = false ∧ (r = .orphanTakenDown ∨ r = .orphanRemLeft)) := by
  cases r <;> simp [RowIs] at h ⊢ <;> simp [h]

theorem rem_takenDown (h : RowIs c io (rn + 1) C im sa .takenDown) : RowIs c (io ++ [.des c]) rn C false sa .erased := by
  simp [RowIs] at h
  simp [RowIs, h]

theorem rem_orphanTakenDown (h : RowIs c io (rn + 1) C im sa .orphanTakenDown) : RowIs c io rn C im sa .erased := by
  simp [RowIs] at h
  simp [RowIs, h]

theorem rem_orphanRemLeft (h : RowIs c io (rn + 1) C im sa .orphanRemLeft) : RowIs c io rn C im sa .finished := by
  simp [RowIs] at h
  simp [RowIs, h]

theorem des_head (h : RowIs c (.des c :: io) rn C im sa r) : r = .erased ∨ r = .orphanUp ∨ r = .orphanTakenDown := by
  cases r <;> simp [RowIs] at h ⊢

theorem des_registered (h : RowIs c (.des c :: io) rn C im sa r) :
    C.registered = true ∧ (destroyedWhileConnected C.st ∨ C.st = .kDisconnected) := by
  obtain rfl | rfl | rfl := h.des_head <;> obtain ⟨-, -, hst, hreg, -⟩ := h
  · exact ⟨hreg, .inr hst⟩
  · exact ⟨hreg, .inl (isUp_iff.mp hst)⟩
  · exact ⟨hreg, .inr hst⟩

theorem des_erased (h : RowIs c (.des c :: io) rn C im sa .erased) :
    RowIs c io rn { C with st := .kDisconnected, registered := false } im sa .finished := by
  simp [RowIs] at h
  simp [RowIs, h]

theorem des_orphanUp (h : RowIs c (.des c :: io) rn C im sa .orphanUp) :
    RowIs c io rn { C with st := .kDisconnected, registered := false } im sa .finished := by
  simp [RowIs] at h
  simp [RowIs, h]

theorem des_orphanTakenDown (h : RowIs c (.des c :: io) rn C im sa .orphanTakenDown) :
    RowIs c io rn { C with st := .kDisconnected, registered := false } im sa .orphanRemLeft := by
  simp [RowIs] at h
  simp [RowIs, h]

/-- the rows of a connection in the map of a living server; only `up` can be served by the base loop -/
theorem mapped_rows (h : RowIs c io rn C true true r) : r = .up ∨ C.loop ≠ 0 ∧ (r = .accepted ∨ r = .takenDown) := by
  cases r <;> simp [RowIs] at h ⊢ <;> simp [h]

theorem dtor_up_base (h : RowIs c io rn C true true .up) :
    RowIs c io rn { C with st := .kDisconnected, registered := false, cause := true } false false .finished := by
  simp [RowIs] at h
  simp [RowIs, h]

theorem dtor_accepted (h : RowIs c io rn C true true .accepted) :
    RowIs c (io ++ [.des c]) rn { C with cause := true } false false .orphanAccepted := by
  simp [RowIs] at h
  simp [RowIs, h]

theorem dtor_up (h : RowIs c io rn C true true .up) (hl : C.loop ≠ 0) :
    RowIs c (io ++ [.des c]) rn { C with cause := true } false false .orphanUp := by
  simp [RowIs] at h
  simp [RowIs, h, hl]

theorem dtor_takenDown (h : RowIs c io rn C true true .takenDown) :
    RowIs c (io ++ [.des c]) rn { C with cause := true } false false .orphanTakenDown := by
  simp [RowIs] at h
  simp [RowIs, h]

theorem idle_unmapped (h : RowIs c [] 0 C false sa r) : r = .finished := by
  cases r <;> simp [RowIs] at h ⊢

theorem reap_finished (h : RowIs c io rn C im sa .finished) :
    RowIs c io rn { C with alive := false, fdOpen := false } im sa .finished := h

/-- out of the map of a living server: the rows that do not mention the server -/
theorem unmapped_rows (h : RowIs c io rn C false true r) : r = .erased ∨ r = .finished := by
  cases r <;> simp [RowIs] at h ⊢

theorem gone_down_or_des (h : RowIs c io rn C im false r) : C.st = .kDisconnected ∨ Task.des c ∈ io := by
  cases r <;> simp [RowIs] at h ⊢ <;> simp [h]

end RowIs

/-- `est c` or `des c` at the head of the connection's queue has run, and all it did was to make `C'` the record of `c`
and `tr` the trace; `row`: the row it finds, with `t` at the head of `io`, goes to a row of the tail and the new record -/
theorem cinv_popped {s : Srv} {c : Nat} {t : Task} {rest : List Task} (hq : s.q (s.conn c).loop = t :: rest)
    (ht : isIo c t = true) (hc : CInv s c) (C' : Conn) (tr : List Ev)
    (hfr : C'.loop = (s.conn c).loop ∧ C'.name = (s.conn c).name ∧ C'.fdOpen = (s.conn c).fdOpen ∧ C'.alive = (s.conn c).alive ∧
      C'.user = (s.conn c).user)
    (row : ∀ io r, RowIs c (t :: io) (remN s c) (s.conn c) (s.inMap c) s.alive r → ∃ r', RowIs c io (remN s c) C' (s.inMap c) s.alive r')
    (hst : C'.st ≠ .kConnecting)
    (hlife : ∀ er, life c s.trace = some (autoOf (s.conn c) er) → (s.conn c).alive = true → life c tr = some (autoOf C' er))
    (cause : C'.cause = true → C'.st = .kDisconnected ∨ Task.fcl c ∈ rest ∨ Task.des c ∈ rest) :
    CInv (pop { s.setConn c C' with trace := tr } (s.conn c).loop t rest) c := by
  have hC : (pop { s.setConn c C' with trace := tr } (s.conn c).loop t rest).conn c = C' := by simp
  obtain ⟨h1, h2, h3, h4, h5⟩ := hfr
  have htr : t ≠ .rem c := by rintro rfl; simp [isIo] at ht
  have hal := hc.alive_held.trans (held_of_mem (hq ▸ List.mem_cons_self) (holds_of_isIo ht) hc.core.loop_le)
  obtain ⟨er, ha, her⟩ := hc.core.life'
  have hio := ioQ_pop c hq (X := { s.setConn c C' with trace := tr }) rfl (by simp [h1])
  have hrn := remN_pop c hq (X := { s.setConn c C' with trace := tr }) rfl
  simp only [ht, htr, and_true, and_false, if_true, if_false] at hio hrn
  obtain ⟨r, hr⟩ := rowP_iff.mp hc.core.row
  rw [hio] at hr
  refine ⟨hc.core.step (by rw [hC]; exact ⟨rfl, rfl, h1, h2, fun h => h3.trans (h.trans h4.symm)⟩)
    (stray_sub (s := s) (by rw [hC, h1]) (fun _ _ => mem_of_mem_pop hq) hc.core.stray)
    (rowP_iff.mpr (by rw [hC, ← hrn]; exact row _ r hr))
    (by rw [hC]; exact fun _ => hst) er (by rw [hC]; exact hlife er ha hal) her, ?_, by rw [hC, h1]; simpa using cause⟩
  rw [hC, held_pop { s.setConn c C' with trace := tr } c _ t rest hq, h4]
  exact hc.alive_held.trans (held_setConn s c C' h5).symm

theorem cinv_est (s : Srv) (l c : Nat) (rest : List Task) (hq : s.q l = .est c :: rest) (hc : CInv s c) :
    CInv (runTask (pop s l (.est c) rest) l (.est c)) c := by
  obtain rfl := hc.core.stray.loop_of_mem (hq ▸ List.mem_cons_self) (.inl rfl)
  obtain ⟨hst, hreg⟩ : (s.conn c).st = .kConnecting ∧ (s.conn c).registered = false := by
    obtain ⟨r, h⟩ := rowP_iff.mp hc.core.row
    rw [show ioQ s c = .est c :: rest.filter (isIo c) by simp [ioQ, hq, isIo]] at h
    exact h.est_connecting
  -- the record update and the trace event commute with the pop
  rw [show runTask (pop s (s.conn c).loop (.est c) rest) (s.conn c).loop (.est c) =
      pop { s.setConn c { s.conn c with st := .kConnected, registered := true } with
        trace := s.trace ++ [⟨c, .up, (s.conn c).loop⟩] } (s.conn c).loop (.est c) rest by
    simp [runTask, connectEstablished, hst]; rfl]
  refine cinv_popped hq (by simp [isIo]) hc _ _ (by simp) (fun io r h => ?_) (by simp) (fun er ha halive => ?_) ?_
  · obtain rfl | rfl := h.est_head
    · exact ⟨.up, h.est_accepted⟩
    · exact ⟨.orphanUp, h.est_orphanAccepted⟩
  · simp [life_append, lifeStep, ha, autoStep, autoOf, clsOf, hst, hreg, halive]
  · simpa [hq, hst] using hc.cause

theorem cinv_des (s : Srv) (l c : Nat) (rest : List Task) (hq : s.q l = .des c :: rest) (hc : CInv s c) :
    CInv (runTask (pop s l (.des c) rest) l (.des c)) c := by
  obtain rfl := hc.core.stray.loop_of_mem (hq ▸ List.mem_cons_self) (.inr (.inl rfl))
  obtain ⟨hreg, hcl⟩ : (s.conn c).registered = true ∧ (destroyedWhileConnected (s.conn c).st ∨ (s.conn c).st = .kDisconnected) := by
    obtain ⟨r, h⟩ := rowP_iff.mp hc.core.row
    rw [show ioQ s c = .des c :: rest.filter (isIo c) by simp [ioQ, hq, isIo]] at h
    exact h.des_registered
  -- still up: DOWN is reported here
  rw [show runTask (pop s (s.conn c).loop (.des c) rest) (s.conn c).loop (.des c) =
      pop { s.setConn c { s.conn c with st := .kDisconnected, registered := false } with
        trace := s.trace ++ (if destroyedWhileConnected (s.conn c).st then [⟨c, .down, (s.conn c).loop⟩] else []) ++
          [⟨c, .destroyed, (s.conn c).loop⟩] } (s.conn c).loop (.des c) rest by
    rcases hcl with h | h
    · simp [runTask, connectDestroyed, hreg, h, Srv.emit, Srv.setConn, pop]
    · simp [runTask, connectDestroyed, hreg, Srv.emit, Srv.setConn, pop, h, destroyedWhileConnected]]
  refine cinv_popped hq (by simp [isIo]) hc _ _ (by simp) (fun io r h => ?_) (by simp) (fun er ha halive => ?_) (by simp)
  · obtain rfl | rfl | rfl := h.des_head
    · exact ⟨.finished, h.des_erased⟩
    · exact ⟨.finished, h.des_orphanUp⟩
    · exact ⟨.orphanRemLeft, h.des_orphanTakenDown⟩
  · rcases hcl with (h | h) | h <;> simp [life_append, lifeStep, ha, autoStep, autoOf, clsOf, h, destroyedWhileConnected, hreg, halive]

theorem cinv_rem (s : Srv) (hm : MapOK s) (l c : Nat) (rest : List Task) (hq : s.q l = .rem c :: rest) (hc : CInv s c) (hcn : c < s.n) :
    CInv (runTask (pop s l (.rem c) rest) l (.rem c)) c := by
  obtain rfl := hc.core.stray.base_of_rem (hq ▸ List.mem_cons_self)
  have hio := ioQ_pop c hq (X := s) rfl rfl
  have hrn := remN_pop c hq (X := s) rfl
  simp [isIo] at hio hrn
  obtain ⟨r, h⟩ := rowP_iff.mp hc.core.row
  rw [hio, hrn] at h
  obtain ⟨hdisc, hl0, hr⟩ := h.rem_queued
  obtain ⟨er, ha, her⟩ := hc.core.life'
  rcases hr with ⟨rfl, hsa⟩ | ⟨hsa, hr⟩
  · -- the server exists: erase, hand `connectDestroyed` back
    have hrow := h.rem_takenDown
    obtain ⟨-, -, -, -, him, -⟩ := h
    have hk := erase_count s hm c him
    have hrun : runTask (pop s 0 (.rem c) rest) 0 (.rem c) =
        (({ pop s 0 (.rem c) rest with map := mapErase s.map (s.conn c).name }.emit c .erase 0).enq (s.conn c).loop (.des c)) := by
      simp [runTask, removeInLoop, hsa, handDestroy_rem, hk]
    rw [hrun]
    have him' := any_mapErase_self s hm c hcn
    refine ⟨hc.core.step (by simp) (Stray.enq (stray_sub (s := s) rfl (fun _ _ => mem_of_mem_pop hq) hc.core.stray) (fun _ => rfl) (by simp))
      (rowP_iff.mpr ⟨.erased, ?_⟩) (by simp [hdisc]) true ?_ (by simp [Srv.inMap, him']), ?_, by simp [hdisc]⟩
    · rw [ioQ_enq, remN_enq, ioQ_emit, remN_emit, ioQ_map, remN_map]
      simpa [isIo, Srv.inMap, him'] using hrow
    · simp [life_append, lifeStep, ha, autoStep, autoOf, clsOf, hdisc, her hsa, him]
    · rw [held_enq _ (by simp [Task.holds]) (by simpa using hc.core.loop_le)]
      simpa [Srv.held, him] using hc.alive_held
  · -- the server is gone: the life token has expired, the functor leaves it alone
    have hrun : runTask (pop s 0 (.rem c) rest) 0 (.rem c) = pop s 0 (.rem c) rest := by
      simp [runTask, removeInLoop, hsa, removeGuarded, dtorExpiresToken]
    rw [hrun]
    refine ⟨hc.core.step (by simp) (stray_sub (s := s) rfl (fun _ _ => mem_of_mem_pop hq) hc.core.stray) (rowP_iff.mpr ?_)
      (by simp [hdisc]) er ha (by simp [hsa]), ?_, by simp [hdisc]⟩
    · obtain rfl | rfl := hr
      · exact ⟨.erased, h.rem_orphanTakenDown⟩
      · exact ⟨.finished, h.rem_orphanRemLeft⟩
    · rw [held_pop s c 0 _ rest hq]; exact hc.alive_held

theorem cinv_handleClose (s : Srv) (hm : MapOK s) (l c : Nat) (hcn : c < s.n)
    (hcore : CCore s c (s.inMap c) s.alive)
    (hl : l = (s.conn c).loop) (hup : isUp (s.conn c).st = true) (hal : (s.conn c).alive = true) :
    CInv (handleClose s l c) c := by
  obtain ⟨r, h⟩ := rowP_iff.mp hcore.row
  obtain ⟨hreg, hr⟩ := h.up_rows hup
  obtain ⟨er, ha, her⟩ := hcore.life'
  have hcl := clsOf_up.mpr hup
  by_cases hl0 : (s.conn c).loop = 0
  · -- the base loop serves the connection: `removeConnectionInLoop` runs inside the close callback
    obtain rfl : r = .up := hr.resolve_right fun h' => h'.2 hl0
    have hrow := h.close_up_base
    obtain ⟨-, -, -, -, him1, hsa⟩ := h
    have hk := erase_count s hm c him1
    have hrun : handleClose s l c =
        (({ ((s.setConn c { s.conn c with st := .kDisconnected, cause := true }).emit c .down l).emit c .closeCb l with
              map := mapErase s.map (s.conn c).name }.emit c .erase l).enq 0 (.des c)) := by
      simp [handleClose, hup, removeConnection_nf, hl, hl0, removeInLoop, hsa, handDestroy_rem, hk]
    rw [hrun]
    have him' := any_mapErase_self s hm c hcn
    refine ⟨hcore.step (by simp) (Stray.enq (stray_sub (s := s) (by simp) (by simp) hcore.stray) (fun _ => by simp [hl0]) (by simp))
      (rowP_iff.mpr ⟨.erased, ?_⟩) (by simp) true ?_ (by simp [Srv.inMap, him']), ?_, by simp⟩
    · simp only [ioQ_enq, remN_enq, ioQ_emit, remN_emit, ioQ_map, remN_map, ioQ_setConn, remN_setConn]
      simpa [isIo, hl0, Srv.inMap, him'] using hrow
    · simp [life_append, lifeStep, ha, autoStep, autoOf, hcl, hreg, hal, her hsa, him1]; rfl
    · rw [held_enq _ (by simp [Task.holds]) (by simp)]; simpa using hal
  · -- an io loop serves it: `removeConnectionInLoop` is handed to the base loop
    have hrun : handleClose s l c =
        (((s.setConn c { s.conn c with st := .kDisconnected, cause := true }).emit c .down l).emit c .closeCb l).enq 0 (.rem c) := by
      simp [handleClose, hup, removeConnection_nf, hl, hl0]
    rw [hrun]
    refine ⟨hcore.step (by simp) (Stray.enq (stray_sub (s := s) (by simp) (by simp) hcore.stray) (by simp) (fun _ => rfl))
      (rowP_iff.mpr ?_) (by simp) er ?_ (by simpa using her), ?_, by simp⟩
    · simp only [ioQ_enq, remN_enq, ioQ_emit, remN_emit, ioQ_setConn, remN_setConn]
      obtain rfl | ⟨rfl, -⟩ := hr
      · exact ⟨.takenDown, by simpa [isIo] using h.close_up hl0⟩
      · exact ⟨.orphanTakenDown, by simpa [isIo] using h.close_orphanUp⟩
    · simp [life_append, lifeStep, ha, autoStep, autoOf, hcl, hreg, hal]; rfl
    · rw [held_enq _ (by simp [Task.holds]) (by simp)]; simpa using hal

theorem mem_pop_ne {s : Srv} {l : Nat} {t : Task} {rest : List Task} (hq : s.q l = t :: rest) {u : Task} (hu : u ≠ t) (l' : Nat) :
    u ∈ (pop s l t rest).q l' ↔ u ∈ s.q l' := by
  rw [pop_q]; split
  · rename_i h; subst h; rw [hq]; simp [hu]
  · rfl

theorem ccore_pop_light (s : Srv) (l c : Nat) (t : Task) (rest : List Task) (hq : s.q l = t :: rest)
    (ht : t = .fcl c ∨ t = .shut c) (hc : CInv s c) :
    CCore (pop s l t rest) c (s.inMap c) s.alive ∧ (s.conn c).alive = (pop s l t rest).held c := by
  have hio := ioQ_pop c hq (X := s) rfl rfl
  have hrn := remN_pop c hq (X := s) rfl
  have ht' : isIo c t = false ∧ t ≠ .rem c := by rcases ht with h | h <;> simp [h, isIo]
  simp only [ht'.1, ht'.2, and_false, if_false, Bool.false_eq_true] at hio hrn
  obtain ⟨er, ha, her⟩ := hc.core.life'
  refine ⟨hc.core.step (by simp) (stray_sub (s := s) rfl (fun _ _ => mem_of_mem_pop hq) hc.core.stray) ?_
    (fun h => hc.core.fcl_up (mem_of_mem_pop hq h)) er ha her, ?_⟩
  · have := hc.core.row
    unfold RowP at this ⊢
    rw [← hio, ← hrn]; exact this
  · rw [held_pop s c l t rest hq]; exact hc.alive_held

theorem cinv_shut (s : Srv) (l c : Nat) (rest : List Task) (hq : s.q l = .shut c :: rest) (hc : CInv s c) :
    CInv (runTask (pop s l (.shut c) rest) l (.shut c)) c := by
  obtain ⟨h1, h2⟩ := ccore_pop_light s l c _ rest hq (Or.inr rfl) hc
  refine ⟨h1, h2, ?_⟩
  simp only [runTask, pop_conn]
  rw [mem_pop_ne hq (by simp), mem_pop_ne hq (by simp)]
  exact hc.cause

theorem cinv_fcl (s : Srv) (hm : MapOK s) (l c : Nat) (hcn : c < s.n) (rest : List Task) (hq : s.q l = .fcl c :: rest) (hc : CInv s c) :
    CInv (runTask (pop s l (.fcl c) rest) l (.fcl c)) c := by
  obtain ⟨h1, h2⟩ := ccore_pop_light s l c _ rest hq (Or.inl rfl) hc
  have hl := hc.core.stray.loop_of_mem (hq ▸ List.mem_cons_self) (.inr (.inr rfl))
  have hne : (s.conn c).st ≠ .kConnecting := hc.core.fcl_up (by rw [← hl, hq]; exact List.mem_cons_self)
  have hmp : MapOK (pop s l (.fcl c) rest) := hm.ext (ext_queues s _ _)
  by_cases hact : (s.conn c).alive = true ∧ forceCloseInLoopActs (s.conn c).st
  · have hrun : runTask (pop s l (.fcl c) rest) l (.fcl c) = handleClose (pop s l (.fcl c) rest) l c := by
      simp [runTask, forceCloseInLoop, hl, hact.1, hact.2]
    rw [hrun]
    have hup : isUp (s.conn c).st = true := by rcases hact.2 with h | h <;> simp [isUp, h]
    exact cinv_handleClose _ hmp l c hcn h1 hl hup hact.1
  · have hrun : runTask (pop s l (.fcl c) rest) l (.fcl c) = pop s l (.fcl c) rest := by
      simp [runTask, forceCloseInLoop, hl, hact]
    rw [hrun]
    refine ⟨h1, h2, fun _ => .inl ?_⟩
    -- alive (the functor held a reference), so the state test failed
    have hal : (s.conn c).alive = true := hc.alive_held.trans
      (held_of_mem (hq ▸ List.mem_cons_self) (by simp [Task.holds, MuduoVerif.Gen.Conn.forceCloseHold]) (hl ▸ hc.core.loop_le))
    have hna : ¬ forceCloseInLoopActs (s.conn c).st := fun h => hact ⟨hal, h⟩
    unfold forceCloseInLoopActs at hna
    simp only [pop_conn]
    cases hs : (s.conn c).st <;> simp_all

theorem mem_ioQ {s : Srv} {c : Nat} {t : Task} (h : t ∈ ioQ s c) : t ∈ s.q (s.conn c).loop := (List.mem_filter.mp h).1

/-- the configuration mentions neither `user` nor `cause`, and of `st` only its class -/
theorem CCore.setConn {s : Srv} {c : Nat} {im sa : Bool} (hc : CCore s c im sa) {st : StateE}
    (hs : clsOf st = clsOf (s.conn c).st) (u : Nat) (z : Bool) :
    CCore (s.setConn c { s.conn c with st := st, user := u, cause := z }) c im sa := by
  have hk : (st != .kConnecting) = ((s.conn c).st != .kConnecting) := by
    rw [Bool.eq_iff_iff]; simp [← clsOf_init, hs]
  obtain ⟨er, ha, her⟩ := hc.life'
  refine hc.step (by simp) (stray_sub (s := s) (by simp) (fun _ _ m => m) hc.stray) ?_
    (by simpa [← clsOf_init, hs] using hc.fcl_up) er (by simpa [autoOf, hs, hk] using ha) her
  have := hc.row
  unfold RowP ioQ remN at this ⊢
  simp only [setConn_conn_self, setConn_q, ← clsOf_init, ← clsOf_up, ← clsOf_down, hs] at this ⊢
  exact this

theorem held_mono {s s' : Srv} {c : Nat} (h : s'.held c = true) (hq : ∀ l t, t ∈ s'.q l → t ∈ s.q l)
    (hd : ∀ l t, t ∈ s'.done l → t ∈ s.done l) (hc : s'.conn c = s.conn c) (hm : s'.inMap c = s.inMap c) (hL : s'.L = s.L) :
    s.held c = true := by
  unfold Srv.held Srv.inQueues at h ⊢
  rw [hc, hm, hL] at h
  simp only [Bool.or_eq_true, List.any_eq_true] at h ⊢
  exact h.imp id fun ⟨l, hl, h⟩ =>
    ⟨l, hl, h.imp (fun ⟨t, ht, hh⟩ => ⟨t, hq l t ht, hh⟩) (fun ⟨t, ht, hh⟩ => ⟨t, hd l t ht, hh⟩)⟩

theorem CCore.enq {s : Srv} {c : Nat} {im sa : Bool} (hc : CCore s c im sa) {l : Nat} (hl : l = (s.conn c).loop)
    {t : Task} (ht : t = .fcl c ∨ t = .shut c) (hf : t = .fcl c → (s.conn c).st ≠ .kConnecting) :
    CCore (s.enq l t) c im sa := by
  refine ⟨hc.loop_le, hc.stray.enq (fun _ => hl) (by rcases ht with rfl | rfl <;> simp), ?_, ?_, hc.fd, hc.name, hc.life⟩
  · have := hc.row
    unfold RowP at this ⊢
    rw [ioQ_enq, remN_enq, if_neg (by rcases ht with rfl | rfl <;> simp [isIo]), if_neg (by rcases ht with rfl | rfl <;> simp)]
    exact this
  · intro hm
    rcases mem_enq.mp hm with hm | hm
    · exact hc.fcl_up (hl ▸ hm)
    · exact hf hm.2.symm

theorem row_of_not_held {s : Srv} {c : Nat} (hc : CCore s c (s.inMap c) s.alive) (hh : s.held c = false) :
    RowIs c (ioQ s c) (remN s c) (s.conn c) (s.inMap c) s.alive .finished := by
  -- the map and every `est`, `des`, `rem` functor hold a reference
  have him : s.inMap c = false := by unfold Srv.held at hh; simp_all
  have hq : ∀ l t, t ∈ s.q l → t.holds c = true → l ≤ s.L → False := fun l t h1 h2 h3 => by
    simp [held_of_mem h1 h2 h3] at hh
  have hio : ioQ s c = [] := List.eq_nil_iff_forall_not_mem.mpr fun t ht =>
    hq _ t (mem_ioQ ht) (holds_of_isIo (List.mem_filter.mp ht).2) hc.loop_le
  have hrem : remN s c = 0 := List.count_eq_zero.mpr fun hm => hq 0 _ hm (by simp [Task.holds]) (Nat.zero_le _)
  obtain ⟨r, h⟩ := rowP_iff.mp hc.row
  obtain rfl : r = .finished := RowIs.idle_unmapped (hio ▸ hrem ▸ him ▸ h)
  exact h

/-- the destructor runs if and only if the last reference is gone; afterwards the invariant holds again -/
theorem cinv_reapOne (s : Srv) (l c : Nat) (hc : CInvW s c) : CInv (reapOne s l c) c := by
  unfold reapOne
  split
  · rename_i h
    obtain ⟨hal, hh⟩ : (s.conn c).alive = true ∧ s.held c = false := by simpa using h
    have hfin := row_of_not_held hc.core hh
    have hrow := hfin.reap_finished
    obtain ⟨-, -, hst, hreg, -⟩ := hfin
    obtain ⟨er, ha, her⟩ := hc.core.life'
    refine ⟨hc.core.step (by simp) (stray_sub (by simp) (by simp) hc.core.stray) (rowP_iff.mpr ⟨.finished, by simpa using hrow⟩)
      (by simp [hst]) er (by simp [life_append, lifeStep, ha, autoStep, autoOf, hst, hreg, hal]) her, ?_, by simp [hst]⟩
    · unfold Srv.held at hh ⊢
      simpa using hh
  · rename_i h
    refine ⟨hc.core, ?_, hc.cause⟩
    cases h1 : (s.conn c).alive with
    | false => rw [hc.dead_free h1]
    | true =>
      cases h2 : s.held c with
      | true => rfl
      | false => simp [h1, h2] at h

theorem reapOne_q (s : Srv) (l c : Nat) : (reapOne s l c).q = s.q := by
  unfold reapOne; split <;> rfl

/-- the invariant of a connection `newConnection` has just constructed: it is in the map, the server exists, and its only
functor is `connectEstablished`, waiting on its loop unless it has run already (`reg`) -/
theorem cinv_new {s : Srv} {c lp nm : Nat} {st : StateE} {reg : Bool}
    (hC : s.conn c = { loop := lp, name := nm, st := st, registered := reg, alive := true, fdOpen := true })
    (hcfg : reg = false ∧ st = .kConnecting ∧ lp ≠ 0 ∨ reg = true ∧ st = .kConnected)
    (hlp : lp ≤ s.L) (hnm : nm = s.nameOf (idInitial + c * idStep)) (him : s.inMap c = true) (hsa : s.alive = true)
    (hlife : life c s.trace = some { born := true, cb := clsOf st })
    (hq : ∀ l t, t ∈ s.q l → about c t = true → t = .est c ∧ l = lp ∧ reg = false)
    (hio : ioQ s c = if reg then [] else [.est c]) : CInv s c := by
  have hrem : remN s c = 0 := List.count_eq_zero.mpr fun hm => by simpa using (hq 0 _ hm (by simp)).1
  have hno : ∀ l t, about c t = true → t ≠ .est c → t ∉ s.q l := fun l t hab hne hm => hne (hq l t hm hab).1
  exact {
    core := {
      loop_le := by rw [hC]; exact hlp
      stray := fun l => by
        rw [hC]
        exact ⟨fun hne => ⟨fun hm => hne (hq l _ hm (by simp)).2.1, hno l _ (by simp) (by simp), hno l _ (by simp) (by simp)⟩,
          fun _ => hno l _ (by simp) (by simp)⟩
      row := by
        rw [rowP_iff, hio, hrem, hC, him, hsa]
        rcases hcfg with ⟨rfl, rfl, h0⟩ | ⟨rfl, rfl⟩
        · exact ⟨.accepted, by simp [RowIs, h0]⟩
        · exact ⟨.up, by simp [RowIs, isUp]⟩
      fcl_up := fun hm => absurd hm (hno _ _ (by simp) (by simp))
      fd := by rw [hC]
      name := by rw [hC]; exact hnm
      life := ⟨_, hlife, rfl, by rw [hC], by rw [hC]; rcases hcfg with ⟨rfl, rfl, _⟩ | ⟨rfl, rfl⟩ <;> rfl, by rw [hC]; rfl,
        by rw [him]; exact fun _ => rfl⟩ }
    alive_held := by rw [hC]; unfold Srv.held; simp [him]
    cause := by rw [hC]; simp }

/-- a connection whose map entry `~TcpServer` has reset but not yet processed: configured as if it still were in the
map of a living server -/
structure CPre (s : Srv) (c : Nat) : Prop where
  core : CCore s c true true
  alive : (s.conn c).alive = true
  cause : (s.conn c).cause = true →
    (s.conn c).st = .kDisconnected ∨ Task.fcl c ∈ s.q (s.conn c).loop ∨ Task.des c ∈ s.q (s.conn c).loop

theorem CPre.agree {s s' : Srv} {c : Nat} (hc : CPre s c) (h : Agree s s' c) : CPre s' c where
  core := ccore_agree hc.core h.c
  alive := by rw [h.conn]; exact hc.alive
  cause := by rw [h.conn, agree_mem h.c (about_fcl c), agree_mem h.c (about_des c)]; exact hc.cause

theorem cinv_dtorOne (s : Srv) (c : Nat) (hp : CPre s c) (hsa : s.alive = false) (him : s.inMap c = false) :
    CInv (dtorOne s c) c := by
  rw [dtorOne_nf]
  apply cinv_reapOne
  obtain ⟨r, h⟩ := rowP_iff.mp hp.core.row
  obtain ⟨er, ha, -⟩ := hp.core.life'
  by_cases hl0 : (s.conn c).loop = 0
  · -- the base loop serves the connection: `connectDestroyed` runs inside `~TcpServer`
    rw [if_pos hl0]
    obtain rfl : r = .up := h.mapped_rows.resolve_right fun h' => h'.1 hl0
    have hrow := h.dtor_up_base
    obtain ⟨-, -, hup, hreg, -⟩ := h
    have hrun : connectDestroyed (s.setConn c { s.conn c with cause := true }) 0 c =
        (((s.setConn c { s.conn c with st := .kDisconnected, registered := false, cause := true }).emit c .down 0).emit c .destroyed 0) := by
      simp [connectDestroyed, hl0, hreg, isUp_iff.mp hup, setConn_setConn]
    rw [hrun]
    refine ⟨hp.core.step (by simp) (stray_sub (by simp) (by simp) hp.core.stray) (rowP_iff.mpr ⟨.finished, ?_⟩) (by simp) er ?_
      (by simp [hsa]), fun h => by simp [hp.alive] at h, by simp⟩
    · simpa [him, hsa] using hrow
    · simp [life_append, lifeStep, ha, autoStep, autoOf, clsOf_up.mpr hup, hreg, hp.alive]; rfl
  · rw [if_neg hl0]
    refine ⟨hp.core.step (by simp) (Stray.enq (stray_sub (s := s) (by simp) (by simp) hp.core.stray) (fun _ => by simp) (by simp))
      (rowP_iff.mpr ?_) (by simpa using hp.core.fcl_up) er (by simpa [autoOf] using ha) (by simp [hsa]),
      fun h => by simp [hp.alive] at h, fun _ => by right; right; simp⟩
    simp only [ioQ_enq, remN_enq, ioQ_setConn, remN_setConn]
    obtain rfl | ⟨-, rfl | rfl⟩ := h.mapped_rows
    · exact ⟨.orphanUp, by simpa [isIo, him, hsa] using h.dtor_up hl0⟩
    · exact ⟨.orphanAccepted, by simpa [isIo, him, hsa] using h.dtor_accepted⟩
    · exact ⟨.orphanTakenDown, by simpa [isIo, him, hsa] using h.dtor_takenDown⟩

theorem ccore_unmapped {s s' : Srv} {c : Nat} (hc : CCore s c false true) (h : AgreeC s s' c) : CCore s' c false false := by
  have h1 := ccore_agree hc h
  refine ⟨h1.loop_le, h1.stray, ?_, h1.fcl_up, h1.fd, h1.name, ?_⟩
  · obtain ⟨r, hr⟩ := rowP_iff.mp h1.row
    obtain rfl | rfl := hr.unmapped_rows
    · exact rowP_iff.mpr ⟨.erased, hr⟩
    · exact rowP_iff.mpr ⟨.finished, hr⟩
  · obtain ⟨a, ha, hb, hcb, hd, hdead, _⟩ := h1.life
    exact ⟨a, ha, hb, hcb, hd, hdead, by intro h; cases h⟩

theorem down_or_des {s : Srv} {c : Nat} {im : Bool} (hc : CCore s c im false) :
    (s.conn c).st = .kDisconnected ∨ Task.des c ∈ s.q (s.conn c).loop := by
  obtain ⟨r, h⟩ := rowP_iff.mp hc.row
  exact h.gone_down_or_des.imp_right mem_ioQ

/-! ### A further fact about `reapOne`; no proof uses it -/

theorem reapOne_held (s : Srv) (l c c' : Nat) : (reapOne s l c).held c' = s.held c' := by
  unfold reapOne; split
  · unfold Srv.held Srv.inQueues
    simp only [emit_conn, setConn_conn, inMap_emit, inMap_setConn, emit_q, setConn_q, emit_done, setConn_done, emit_L, setConn_L]
    split <;> simp_all
  · rfl

end MuduoVerif.Owner
