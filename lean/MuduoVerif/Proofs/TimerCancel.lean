import MuduoVerif.Proofs.TimerStep
import MuduoVerif.Proofs.TimerCancelTr
/-! The invariant behind C07 `cancel_final`: once a cancel of a registered timer has been processed, the timer is dead,
or it sits in the batch being run, remembered in `cancelingTimers_`.  At the end `cancel_identity`, what C07 `identity` says
of a single `cancelInLoop`. -/
namespace MuduoVerif.Timer
open MuduoVerif.Gen.Timer

/-- no live `Timer` has the sequence number `q` -/
def Dead (q : Nat) (s : TQ) : Prop := ∀ x c, s.heap x = some c → c.seq ≠ q

/-- cancel is final, for the timer (a, q).  `T`: addresses of the batch whose callback has not run yet, `Dn`: those whose callback
ran (not yet reset).  `reg`: once registered the timer is dead or where it should be; `out`: after a cancel that found it
pending or came outside a batch it is dead, no run, no restart since; `all`: after any cancel of it no restart, at most one run -/
structure CFq (a : Addr) (q : Nat) (s : TQ) (T Dn : List Addr) : Prop where
  reg : regB a q s.trace = true → q ≤ s.numCreated ∧
    (Dead q s ∨ ∃ c, s.heap a = some c ∧ c.seq = q ∧ ((a, q) ∈ s.active ∨ a ∈ T ∨ a ∈ Dn))
  out : markOut true a q s.trace = true → Dead q s ∧ q ≤ s.numCreated ∧
    after (markOut true a q) (isRunOf q) s.trace = 0 ∧ after (markOut true a q) (isRestartOf q) s.trace = 0
  all : markAll true a q s.trace = true → after (markAll true a q) (isRestartOf q) s.trace = 0 ∧
    ((Dead q s ∧ after (markAll true a q) (isRunOf q) s.trace ≤ 1) ∨
     (∃ c, s.heap a = some c ∧ c.seq = q ∧ (a, q) ∈ s.cancelling ∧
        ((a ∈ T ∧ after (markAll true a q) (isRunOf q) s.trace = 0) ∨
         (a ∈ Dn ∧ after (markAll true a q) (isRunOf q) s.trace ≤ 1))))

variable {a : Addr} {q : Nat} {s s' : TQ} {T Dn T' Dn' : List Addr}

/-- a step from `s`, `T`, `Dn` to `s'`, `T'`, `Dn'` that says nothing new about (a, q) in the trace and creates no cell with an
old sequence number -/
structure CFq.Step (a : Addr) (q : Nat) (s s' : TQ) (T Dn T' Dn' : List Addr) : Prop where
  trace : TrSame a q s.trace s'.trace
  reg : regB a q s'.trace = true → regB a q s.trace = true ∨
      (q ≤ s'.numCreated ∧ ∃ c', s'.heap a = some c' ∧ c'.seq = q ∧ ((a, q) ∈ s'.active ∨ a ∈ T' ∨ a ∈ Dn')) :=
    by exact Or.inl
  numCreated : s.numCreated ≤ s'.numCreated := by exact Nat.le_refl _
  new : ∀ x c', s'.heap x = some c' → c'.seq = q → q ≤ s.numCreated → ∃ c, s.heap x = some c ∧ c.seq = q
  act : ∀ c, s.heap a = some c → c.seq = q → ((a, q) ∈ s.active ∨ a ∈ T ∨ a ∈ Dn) →
    Dead q s' ∨ ∃ c', s'.heap a = some c' ∧ c'.seq = q ∧ ((a, q) ∈ s'.active ∨ a ∈ T' ∨ a ∈ Dn')
  cancelling : ∀ c, s.heap a = some c → c.seq = q → (a, q) ∈ s.cancelling → (a ∈ T ∨ a ∈ Dn) →
    Dead q s' ∨ ∃ c', s'.heap a = some c' ∧ c'.seq = q ∧ (a, q) ∈ s'.cancelling ∧ (a ∈ T → a ∈ T') ∧ (a ∈ Dn → a ∈ Dn')

theorem CFq.state (h : CFq a q s T Dn) (st : CFq.Step a q s s' T Dn T' Dn') : CFq a q s' T' Dn' := by
  have dead : q ≤ s.numCreated → Dead q s → Dead q s' := by
    intro hq hd x c' hx hs
    obtain ⟨c, h1, h2⟩ := st.new x c' hx hs hq
    exact hd x c h1 h2
  refine ⟨?_, ?_, ?_⟩
  · intro hr
    rcases st.reg hr with hr | ⟨hq, hr⟩
    · obtain ⟨h1, h2⟩ := h.reg hr
      refine ⟨Nat.le_trans h1 st.numCreated, ?_⟩
      rcases h2 with h2 | ⟨c, g1, g2, g3⟩
      · exact Or.inl (dead h1 h2)
      · exact st.act c g1 g2 g3
    · exact ⟨hq, Or.inr hr⟩
  · rw [st.trace.mout, st.trace.o_run, st.trace.o_rst]; intro hm
    obtain ⟨h1, h2, h3, h4⟩ := h.out hm
    exact ⟨dead h2 h1, Nat.le_trans h2 st.numCreated, h3, h4⟩
  · rw [st.trace.mall, st.trace.a_run, st.trace.a_rst]; intro hm
    obtain ⟨h1, h2⟩ := h.all hm
    have hq : q ≤ s.numCreated := (h.reg (markAll_imp_reg hm)).1
    refine ⟨h1, ?_⟩
    rcases h2 with ⟨h2, h3⟩ | ⟨c, g1, g2, g3, g4⟩
    · exact Or.inl ⟨dead hq h2, h3⟩
    · have hin : a ∈ T ∨ a ∈ Dn := by
        rcases g4 with ⟨g4, _⟩ | ⟨g4, _⟩
        · exact Or.inl g4
        · exact Or.inr g4
      rcases st.cancelling c g1 g2 g3 hin with hd | ⟨c', k1, k2, k3, k4, k5⟩
      · refine Or.inl ⟨hd, ?_⟩
        rcases g4 with ⟨_, g4⟩ | ⟨_, g4⟩
        · omega
        · exact g4
      · refine Or.inr ⟨c', k1, k2, k3, ?_⟩
        rcases g4 with ⟨g4, g5⟩ | ⟨g4, g5⟩
        · exact Or.inl ⟨k4 g4, g5⟩
        · exact Or.inr ⟨k5 g4, g5⟩

theorem CFq.same (h : CFq a q s T Dn) (htr : TrSame a q s.trace s'.trace) (hreg : regB a q s'.trace = regB a q s.trace)
    (hn : s.numCreated ≤ s'.numCreated)
    (hh : s'.heap = s.heap) (ha : s'.active = s.active) (hc : ∀ p ∈ s.cancelling, p ∈ s'.cancelling) : CFq a q s' T Dn :=
  h.state
    { trace := htr, reg := fun hr => Or.inl (by rw [← hreg]; exact hr), numCreated := hn,
      new := fun x c' hx hs _ => ⟨c', by rw [← hh]; exact hx, hs⟩,
      act := fun c g1 g2 g3 => Or.inr ⟨c, by rw [hh]; exact g1, g2, by rw [ha]; exact g3⟩,
      cancelling := fun c g1 g2 g3 _ => Or.inr ⟨c, by rw [hh]; exact g1, g2, hc _ g3, id, id⟩ }


/-- a step that touches one `Timer` only, the one at `a0`, which is not the timer `(a, q)`: the trace says nothing new
about `(a, q)`, no cell with the sequence number `q` appears at `a0`, and `(a, q)` stays where it is registered -/
structure CFq.StepAt (a : Addr) (q : Nat) (s s' : TQ) (T Dn T' Dn' : List Addr) (a0 : Addr) (c0 : Cell) : Prop where
  trace : TrSame a q s.trace s'.trace
  reg : regB a q s'.trace = regB a q s.trace
  numCreated : s.numCreated ≤ s'.numCreated := by exact Nat.le_refl _
  cell : s.heap a0 = some c0
  seq : a = a0 → c0.seq ≠ q
  heap : ∀ x, x ≠ a0 → s'.heap x = s.heap x
  new : ∀ c', s'.heap a0 = some c' → c'.seq = q → ∃ c, s.heap a0 = some c ∧ c.seq = q
  act : a ≠ a0 → (a, q) ∈ s.active → (a, q) ∈ s'.active := by exact fun _ g => g
  cancelling : (a, q) ∈ s.cancelling → (a, q) ∈ s'.cancelling := by exact fun g => g
  todo : a ≠ a0 → a ∈ T → a ∈ T' := by exact fun _ g => g
  done : a ≠ a0 → a ∈ Dn → a ∈ Dn'

theorem CFq.other {a0 : Addr} {c0 : Cell} (h : CFq a q s T Dn) (st : CFq.StepAt a q s s' T Dn T' Dn' a0 c0) :
    CFq a q s' T' Dn' := by
  have hne : ∀ c, s.heap a = some c → c.seq = q → a ≠ a0 := fun c g1 g2 hh =>
    st.seq hh (by rw [hh, st.cell] at g1; cases g1; exact g2)
  refine h.state
    { trace := st.trace, reg := fun hr => Or.inl (st.reg ▸ hr), numCreated := st.numCreated,
      new := ?_, act := ?_, cancelling := ?_ }
  · intro x c' hx hs _
    by_cases hxa : x = a0
    · subst hxa; exact st.new c' hx hs
    · exact ⟨c', st.heap x hxa ▸ hx, hs⟩
  · intro c g1 g2 g3
    have ha := hne c g1 g2
    exact Or.inr ⟨c, (st.heap a ha).trans g1, g2, g3.imp (st.act ha) (Or.imp (st.todo ha) (st.done ha))⟩
  · intro c g1 g2 g3 _
    have ha := hne c g1 g2
    exact Or.inr ⟨c, (st.heap a ha).trans g1, g2, st.cancelling g3, st.todo ha, st.done ha⟩

/-- cancel is final, for every timer -/
def CF (s : TQ) (T Dn : List Addr) : Prop := ∀ a q, CFq a q s T Dn

variable {B : List (Time × Addr)} {L : List Addr}

theorem CF.silent {ev : Ev} (h : CF s T Dn) (hs : ∀ a q, Silent a q ev) (htr : s'.trace = ev :: s.trace)
    (hn : s.numCreated ≤ s'.numCreated) (hh : s'.heap = s.heap) (ha : s'.active = s.active)
    (hc : s'.cancelling = s.cancelling) : CF s' T Dn :=
  fun a q => (h a q).same (htr ▸ TrSame.silent (hs a q).weak _) (htr ▸ regB_silent (hs a q) _) hn hh ha fun _ g => hc ▸ g

theorem CF.same_state (h : CF s T Dn) (htr : s'.trace = s.trace) (hn : s.numCreated ≤ s'.numCreated) (hh : s'.heap = s.heap)
    (ha : s'.active = s.active) (hc : s'.cancelling = s.cancelling) : CF s' T Dn :=
  fun a q => (h a q).same (htr ▸ TrSame.refl _ _ _) (by rw [htr]) hn hh ha fun _ g => hc ▸ g

theorem CF.core (h : CF s T Dn) (hc : s'.core = s.core) : CF s' T Dn := by
  exact h.same_state (congrArg (·.trace) hc) (Nat.le_of_eq (congrArg (·.numCreated) hc).symm) (congrArg (·.heap) hc)
    (congrArg (·.active) hc) (congrArg (·.cancelling) hc)

theorem CF.armFd (h : CF s T Dn) (w : Time) : CF (armFd s w) T Dn := by
  rw [armFd_eq]
  exact h.silent (fun a q => silent_arm a q _ _) rfl (Nat.le_refl _) rfl rfl rfl

theorem CF.bindId (h : CF s T Dn) (name : Nat) (x : Addr) (y : Nat) : CF (bindId s name x y) T Dn :=
  h.silent (fun a q => silent_added a q _ _ _) rfl (Nat.le_refl _) rfl rfl rfl

theorem CF.alloc {a0 : Addr} {c0 : Cell} (h : CF s T Dn) (hn : Fresh s a0 c0) : CF (allocCell s a0 c0) T Dn := by
  have hf := hn.free
  have hs := hn.seq
  intro a q
  refine (h a q).state
    { trace := TrSame.refl _ _ _, numCreated := by show s.numCreated ≤ c0.seq; omega, new := ?_, act := ?_, cancelling := ?_ }
  · intro x c' hx hq hle
    by_cases hxa : x = a0
    · subst hxa
      have : some c0 = some c' := by rw [← hset_same s.heap x c0]; exact hx
      cases this; omega
    · exact ⟨c', by rw [← hset_other s.heap c0 hxa]; exact hx, hq⟩
  · intro c g1 g2 g3
    have : a ≠ a0 := by intro hh; rw [hh, hf] at g1; cases g1
    exact Or.inr ⟨c, by show hset s.heap a0 c0 a = _; rw [hset_other _ _ this]; exact g1, g2, g3⟩
  · intro c g1 g2 g3 _
    have : a ≠ a0 := by intro hh; rw [hh, hf] at g1; cases g1
    exact Or.inr ⟨c, by show hset s.heap a0 c0 a = _; rw [hset_other _ _ this]; exact g1, g2, g3, id, id⟩

theorem silent_registered {a a0 : Addr} {q q0 : Nat} (e : Time) (hne : ¬ (a0 = a ∧ q0 = q)) :
    Silent a q (.registered a0 q0 e) := ⟨by simp [isReg, hne], rfl, rfl, rfl⟩

theorem CF.register {a0 : Addr} {c0 : Cell} (hw : WFp s B L) (h : CF s T Dn) (hc : s.heap a0 = some c0) :
    CF (ins (emit s (.registered a0 c0.seq c0.exp)) a0 c0) T Dn := by
  intro a q
  have htr : TrSame a q s.trace (ins (emit s (.registered a0 c0.seq c0.exp)) a0 c0).trace :=
    TrSame.silent ⟨rfl, rfl, rfl⟩ _
  refine (h a q).state
    { trace := htr, reg := ?_, new := fun x c' hx hs _ => ⟨c', hx, hs⟩,
      act := fun c g1 g2 g3 => Or.inr ⟨c, g1, g2, ?_⟩, cancelling := fun c g1 g2 g3 _ => Or.inr ⟨c, g1, g2, g3, id, id⟩ }
  · intro hr
    by_cases hne : a0 = a ∧ c0.seq = q
    · obtain ⟨rfl, rfl⟩ := hne
      exact Or.inr ⟨(hw.seq_le _ _ hc).2, c0, hc, rfl, Or.inl List.mem_cons_self⟩
    · left
      have : regB a q (Ev.registered a0 c0.seq c0.exp :: s.trace) = true := hr
      rw [regB_silent (silent_registered _ hne)] at this; exact this
  · rcases g3 with g3 | g3
    · exact Or.inl (List.mem_cons_of_mem _ g3)
    · exact Or.inr g3

theorem CF.addInLoop {a0 : Addr} {c0 : Cell} (hw : WFp s B L) (h : CF s T Dn) (hc : s.heap a0 = some c0) :
    CF (Timer.addInLoop s a0) T Dn := by
  rw [addInLoop_eq hc]
  split
  · exact (h.register hw hc).armFd _
  · exact h.register hw hc


theorem CFq.bounds (h : CFq a q s T Dn) :
    after (markOut true a q) (isRunOf q) s.trace = 0 ∧ after (markOut true a q) (isRestartOf q) s.trace = 0 ∧
    after (markAll true a q) (isRestartOf q) s.trace = 0 ∧ after (markAll true a q) (isRunOf q) s.trace ≤ 1 := by
  refine ⟨?_, ?_, ?_, ?_⟩
  · cases hm : markOut true a q s.trace with
    | true => exact (h.out hm).2.2.1
    | false => exact after_zero_of_not (markOut_mono _ _ _) _ hm
  · cases hm : markOut true a q s.trace with
    | true => exact (h.out hm).2.2.2
    | false => exact after_zero_of_not (markOut_mono _ _ _) _ hm
  · cases hm : markAll true a q s.trace with
    | true => exact (h.all hm).1
    | false => exact after_zero_of_not (markAll_mono _ _ _) _ hm
  · cases hm : markAll true a q s.trace with
    | true =>
      rcases (h.all hm).2 with ⟨_, h1⟩ | ⟨c, _, _, _, ⟨_, h1⟩ | ⟨_, h1⟩⟩
      · exact h1
      · omega
      · exact h1
    | false => rw [after_zero_of_not (markAll_mono _ _ _) _ hm]; omega

theorem silent_cancel {a a0 : Addr} {q q0 : Nat} (ib f : Bool) (hne : ¬ (a0 = a ∧ q0 = q)) :
    Silent a q (.cancel a0 q0 ib f) := ⟨rfl, by simp [isCancel, hne], rfl, rfl⟩

theorem regB_cancel (a : Addr) (q : Nat) (a0 : Addr) (q0 : Nat) (ib f : Bool) (t : List Ev) :
    regB a q (.cancel a0 q0 ib f :: t) = regB a q t := by rw [regB_cons]; rfl

theorem after_cancel {m : List Ev → Bool} (hm : Mono m) (q : Nat) (a0 : Addr) (q0 : Nat) (ib f : Bool) (t : List Ev) :
    after m (isRunOf q) (.cancel a0 q0 ib f :: t) = after m (isRunOf q) t ∧
    after m (isRestartOf q) (.cancel a0 q0 ib f :: t) = after m (isRestartOf q) t :=
  ⟨after_cons_skip hm _ rfl, after_cons_skip hm _ rfl⟩

theorem CFq.cancel_found (h : CFq a q s T Dn) {ib : Bool} (htr : s'.trace = .cancel a q ib true :: s.trace)
    (hdead : Dead q s') (hle : q ≤ s'.numCreated) : CFq a q s' T Dn := by
  have hb := h.bounds
  have ao := after_cancel (markOut_mono true a q) q a q ib true s.trace
  have aa := after_cancel (markAll_mono true a q) q a q ib true s.trace
  refine ⟨fun _ => ⟨hle, Or.inl hdead⟩, fun _ => ⟨hdead, hle, ?_, ?_⟩, fun _ => ⟨?_, Or.inl ⟨hdead, ?_⟩⟩⟩
  · rw [htr, ao.1]; exact hb.1
  · rw [htr, ao.2]; exact hb.2.1
  · rw [htr, aa.2]; exact hb.2.2.1
  · rw [htr, aa.1]; exact hb.2.2.2

/-- the cancel did not find the timer: if it was registered it is dead, or it is part of the batch being run (`ib`), and
then the pair is remembered in `cancelingTimers_` -/
theorem CFq.cancel_missed {ib : Bool} (h : CFq a q s T Dn) (htr : s'.trace = .cancel a q ib false :: s.trace)
    (hh : s'.heap = s.heap) (ha : s'.active = s.active) (hn : s'.numCreated = s.numCreated) (hnf : (a, q) ∉ s.active)
    (hib : ib = false → T = [] ∧ Dn = [])
    (hc : ∀ p, p ∈ s.cancelling ∨ (ib = true ∧ p = (a, q)) → p ∈ s'.cancelling) : CFq a q s' T Dn := by
  have hb := h.bounds
  have ao := after_cancel (markOut_mono true a q) q a q ib false s.trace
  have aa := after_cancel (markAll_mono true a q) q a q ib false s.trace
  have dead : Dead q s → Dead q s' := fun hd x c hx => hd x c (by rw [← hh]; exact hx)
  -- a registered timer that is not dead waits in the batch
  have inB : ((a, q) ∈ s.active ∨ a ∈ T ∨ a ∈ Dn) → ib = true ∧ (a ∈ T ∨ a ∈ Dn) := by
    intro g
    cases ib with
    | true => exact ⟨rfl, g.resolve_left hnf⟩
    | false =>
      obtain ⟨rfl, rfl⟩ := hib rfl
      rcases g.resolve_left hnf with g | g <;> cases g
  refine ⟨?_, ?_, ?_⟩
  · rw [htr, regB_cancel, hn, hh, ha]; intro hr
    exact ⟨(h.reg hr).1, (h.reg hr).2.imp_left dead⟩
  · rw [htr, ao.1, ao.2, hn]; intro hmo
    cases hold : markOut true a q s.trace with
    | true =>
      obtain ⟨g1, g2, _, _⟩ := h.out hold
      exact ⟨dead g1, g2, hb.1, hb.2.1⟩
    | false =>
      have hr : ib = false ∧ regB a q s.trace = true := by
        simpa [markOut, hold, isCancelFound, isCancelIdle, qual] using hmo
      obtain ⟨g0, g | ⟨c, _, _, g3⟩⟩ := h.reg hr.2
      · exact ⟨dead g, g0, hb.1, hb.2.1⟩
      · exact absurd (hr.1.symm.trans (inB g3).1) (by decide)
  · rw [htr, aa.1, aa.2, hh]; intro hma
    refine ⟨hb.2.2.1, ?_⟩
    cases hold : markAll true a q s.trace with
    | true =>
      rcases (h.all hold).2 with ⟨g, g'⟩ | ⟨c, g1, g2, g3, g4⟩
      · exact Or.inl ⟨dead g, g'⟩
      · exact Or.inr ⟨c, g1, g2, hc _ (Or.inl g3), g4⟩
    | false =>
      have hz := after_zero_of_not (markAll_mono true a q) (isRunOf q) hold
      have hr : regB a q s.trace = true := by simpa [markAll, hold, isCancel, qual] using hma
      rcases (h.reg hr).2 with g | ⟨c, g1, g2, g3⟩
      · exact Or.inl ⟨dead g, by omega⟩
      · refine Or.inr ⟨c, g1, g2, hc _ (Or.inr ⟨(inB g3).1, rfl⟩), ?_⟩
        exact (inB g3).2.imp (fun g => ⟨g, hz⟩) (fun g => ⟨g, by omega⟩)

theorem CF.cancelInLoop (hw : WFp s B L) (hcall : s.calling = false → T = [] ∧ Dn = []) (h : CF s T Dn) (id : TimerId) :
    CF (Timer.cancelInLoop s id) T Dn := by
  intro a q
  have hsil : ¬ (id.addr = a ∧ id.seq = q) → ∀ ib f, Silent a q (.cancel id.addr id.seq ib f) :=
    fun hne ib f => silent_cancel ib f hne
  by_cases hm : (id.addr, id.seq) ∈ s.active
  · -- found: erased from both sets, deleted
    rw [cancelInLoop_eq hw id, if_pos hm]
    obtain ⟨c0, hc0, hq0, _⟩ := hw.a_live _ hm
    have hc0 : s.heap id.addr = some c0 := hc0
    have hq0 : c0.seq = id.seq := hq0
    by_cases hne : id.addr = a ∧ id.seq = q
    · obtain ⟨rfl, rfl⟩ := hne
      refine (h id.addr id.seq).cancel_found (ib := s.calling)
        (show Ev.cancel _ _ _ (decide _) :: s.trace = _ by rw [decide_eq_true hm]) ?_ ?_
      · intro x c hx hs
        obtain ⟨hxa, hx'⟩ := hfree_some hx
        exact hxa (hw.seq_inj x id.addr c c0 hx' hc0 (hs.trans hq0.symm))
      · show id.seq ≤ s.numCreated
        rw [← hq0]; exact (hw.seq_le _ _ hc0).2
    · exact (h a q).other (a0 := id.addr)
        { trace := TrSame.silent (hsil hne _ _).weak _, reg := regB_silent (hsil hne _ _) _,
          cell := hc0, seq := fun hh hs => hne ⟨hh.symm, hq0.symm.trans hs⟩,
          heap := fun x hx => hfree_other _ hx, new := fun c' hx _ => absurd rfl (hfree_some hx).1,
          act := fun ha g => List.mem_filter.2 ⟨g, decide_eq_true fun hh => ha (congrArg Prod.fst hh)⟩, done := fun _ g => g }
  · rw [cancelInLoop_eq hw id, if_neg hm]
    cases hc : s.calling with
    | true =>
      -- not found, inside a batch: remembered
      rw [if_pos rfl]
      by_cases hne : id.addr = a ∧ id.seq = q
      · obtain ⟨rfl, rfl⟩ := hne
        exact (h id.addr id.seq).cancel_missed (ib := true)
          (show Ev.cancel _ _ _ (decide _) :: s.trace = _ by rw [decide_eq_false hm]) rfl rfl rfl hm
          (fun hf => by cases hf) (fun p hp => hp.elim (List.mem_cons_of_mem _) fun hp => by rw [hp.2]; exact List.mem_cons_self)
      · exact (h a q).same (TrSame.silent (hsil hne _ _).weak _) (regB_silent (hsil hne _ _) _) (Nat.le_refl _) rfl rfl
          fun _ g => List.mem_cons_of_mem _ g
    | false =>
      rw [if_neg Bool.false_ne_true]
      by_cases hne : id.addr = a ∧ id.seq = q
      · obtain ⟨rfl, rfl⟩ := hne
        exact (h id.addr id.seq).cancel_missed (ib := false)
          (show Ev.cancel _ _ _ (decide _) :: s.trace = _ by rw [decide_eq_false hm]) rfl rfl rfl hm (fun _ => hcall hc)
          (fun p hp => hp.elim (fun g => g) fun hp => by cases hp.1)
      · exact (h a q).same (TrSame.silent (hsil hne _ _).weak _) (regB_silent (hsil hne _ _) _) (Nat.le_refl _) rfl rfl fun _ g => g

theorem CF.run_ev {a0 : Addr} {c0 : Cell} {ev : Ev} (hw : WFp s B L) (hc : s.heap a0 = some c0) (hnd : a0 ∉ Dn)
    (h : CF s (a0 :: T) Dn) (hev : ∀ a q, isReg a q ev = false ∧ isCancel a q ev = false ∧
      isRunOf q ev = decide (c0.seq = q) ∧ isRestartOf q ev = false) : CF (emit s ev) T (Dn ++ [a0]) := by
  intro a q
  by_cases hq : c0.seq = q
  · -- the timer that runs is live, so not `Dead`: it moves from `T` (no run since the cancel) to `Dn` (at most one)
    subst hq
    have live : ¬ Dead c0.seq s := fun hd => hd a0 c0 hc rfl
    have at_a0 : ∀ c, s.heap a = some c → c.seq = c0.seq → a = a0 := fun c g1 g2 => hw.seq_inj a a0 c c0 g1 hc g2
    obtain ⟨e1, e2, e3, e4⟩ := hev a c0.seq
    have hreg : regB a c0.seq (emit s ev).trace = regB a c0.seq s.trace := by
      show regB a c0.seq (ev :: s.trace) = _; rw [regB_cons, e1]; rfl
    have hmo : markOut true a c0.seq (emit s ev).trace = markOut true a c0.seq s.trace := (marks_cons e2 _).2
    have hma : markAll true a c0.seq (emit s ev).trace = markAll true a c0.seq s.trace := (marks_cons e2 _).1
    refine ⟨?_, ?_, ?_⟩
    · rw [hreg]; intro hr
      obtain ⟨g0, g⟩ := (h a c0.seq).reg hr
      refine ⟨g0, ?_⟩
      rcases g with g | ⟨c, g1, g2, g3⟩
      · exact absurd g live
      · refine Or.inr ⟨c, g1, g2, ?_⟩
        have := at_a0 c g1 g2
        subst this
        rcases g3 with g3 | _ | g3
        · exact Or.inl g3
        · exact Or.inr (Or.inr (List.mem_append_right _ List.mem_cons_self))
        · exact Or.inr (Or.inr (List.mem_append_left _ g3))
    · rw [hmo]; intro hm
      exact absurd ((h a c0.seq).out hm).1 live
    · rw [hma]; intro hm
      obtain ⟨g0, g⟩ := (h a c0.seq).all hm
      refine ⟨?_, ?_⟩
      · show after _ _ (ev :: s.trace) = 0
        rw [after_cons_skip (markAll_mono _ _ _) _ e4]; exact g0
      · rcases g with ⟨g, _⟩ | ⟨c, g1, g2, g3, g4⟩
        · exact absurd g live
        · have := at_a0 c g1 g2
          subst this
          refine Or.inr ⟨c, g1, g2, g3, Or.inr ⟨List.mem_append_right _ List.mem_cons_self, ?_⟩⟩
          show after _ _ (ev :: s.trace) ≤ 1
          rw [after_cons_of_mark _ hm, e3]
          rcases g4 with ⟨_, g4⟩ | ⟨g4, _⟩
          · rw [g4]; simp
          · exact absurd g4 hnd
  · have hsil : Silent a q ev := ⟨(hev a q).1, (hev a q).2.1, by rw [(hev a q).2.2.1]; simp [hq], (hev a q).2.2.2⟩
    exact (h a q).other
      { trace := TrSame.silent hsil.weak _, reg := regB_silent hsil _, cell := hc, seq := fun _ => hq,
        heap := fun _ _ => rfl, new := fun c' hx hs => ⟨c', hx, hs⟩,
        todo := fun ha g => (List.mem_cons.1 g).resolve_left ha, done := fun _ g => List.mem_append_left _ g }

theorem CF.take (h : CF s [] []) (p : Time × Addr → Bool) :
    CF { takeB s p with calling := true, cancelling := [] } ((s.timers.takeWhile p).map (·.2)) [] := by
  intro a q
  refine (h a q).state { trace := TrSame.refl _ _ _, new := fun x c' hx hs _ => ⟨c', hx, hs⟩, act := ?_, cancelling := ?_ }
  · intro c g1 g2 g3
    refine Or.inr ⟨c, g1, g2, ?_⟩
    rcases g3 with g3 | g3 | g3
    · by_cases hex : ∃ e ∈ s.timers.takeWhile p, (a, q) = (e.2, (cellAt s e.2).seq)
      · obtain ⟨e, he, heq⟩ := hex
        exact Or.inr (Or.inl (List.mem_map.2 ⟨e, he, (Prod.mk.inj heq).1.symm⟩))
      · exact Or.inl (List.mem_filter.2 ⟨g3, decide_eq_true hex⟩)
    · cases g3
    · cases g3
  · intro c g1 g2 g3 g4
    rcases g4 with g4 | g4 <;> cases g4

theorem CF.resetOne {e : Time × Addr} (hw : WFp s (e :: B) L) (h : CF s [] (e.2 :: Dn)) (now : Time) :
    CF (Timer.resetOne now s e) [] Dn := by
  obtain ⟨⟨c0, hc, _⟩, _⟩ := hw.b_live e List.mem_cons_self
  have at_e : ∀ {a : Addr} {c : Cell}, s.heap a = some c → c.seq = c0.seq → a = e.2 :=
    fun g1 g2 => hw.seq_inj _ e.2 _ c0 g1 hc g2
  have live : ¬ Dead c0.seq s := fun hd => hd e.2 c0 hc rfl
  rw [resetOne_eq hc]
  split
  · rename_i hr
    have hncan : (e.2, c0.seq) ∉ s.cancelling := by simpa using hr.2
    intro a q
    by_cases hq : c0.seq = q
    · subst hq
      -- a timer that is restarted has no cancel on record: it would be dead (`out`) or remembered in `cancelling` (`all`)
      have nma : markAll true a c0.seq s.trace = false := by
        cases hm : markAll true a c0.seq s.trace with
        | false => rfl
        | true =>
          rcases ((h a c0.seq).all hm).2 with ⟨g, _⟩ | ⟨c, g1, g2, g3, _⟩
          · exact absurd g live
          · have := at_e g1 g2; subst this; exact absurd g3 hncan
      have nmo : markOut true a c0.seq s.trace = false := by
        cases hm : markOut true a c0.seq s.trace with
        | false => rfl
        | true => exact absurd ((h a c0.seq).out hm).1 live
      refine (h a c0.seq).state (s' := ins (emit (setCell s e.2 (restarted c0 now)) _) e.2 _)
        { trace := TrSame.unmarked nma nmo rfl, new := ?_, act := ?_, cancelling := ?_ }
      · exact fun x c' hx hs _ => (hset_some hx).elim (fun g => ⟨c0, g.1 ▸ hc, rfl⟩) fun g => ⟨c', g.2, hs⟩
      · intro c g1 g2 _
        have := at_e g1 g2; subst this
        exact Or.inr ⟨restarted c0 now, hset_same _ _ _, rfl, Or.inl List.mem_cons_self⟩
      · intro c g1 g2 g3 _
        have := at_e g1 g2; subst this
        exact absurd g3 hncan
    · have hsil : Silent a q (.restarted e.2 c0.seq (restarted c0 now).exp) := ⟨rfl, rfl, rfl, by simp [isRestartOf, hq]⟩
      exact (h a q).other
        { trace := TrSame.silent hsil.weak _, reg := regB_silent hsil _, cell := hc, seq := fun _ => hq,
          heap := fun x hx => hset_other _ _ hx,
          new := fun c' hx hs => (hset_some hx).elim (fun g => absurd (g.2 ▸ hs : (restarted c0 now).seq = q) hq) fun g => absurd rfl g.1,
          act := fun _ g => List.mem_cons_of_mem _ g, done := fun ha g => (List.mem_cons.1 g).resolve_left ha }
  · intro a q
    by_cases hq : c0.seq = q
    · subst hq
      have hdead : Dead c0.seq (freeCell s e.2) := fun x c hx hs => (hfree_some hx).1 (at_e (hfree_some hx).2 hs)
      exact (h a c0.seq).state
        { trace := TrSame.refl _ _ _, new := fun x c' hx hs _ => ⟨c', (hfree_some hx).2, hs⟩,
          act := fun _ _ _ _ => Or.inl hdead, cancelling := fun _ _ _ _ _ => Or.inl hdead }
    · exact (h a q).other
        { trace := TrSame.refl _ _ _, reg := rfl, cell := hc, seq := fun _ => hq,
          heap := fun x hx => hfree_other _ hx, new := fun c' hx _ => absurd rfl (hfree_some hx).1,
          done := fun ha g => (List.mem_cons.1 g).resolve_left ha }

theorem CF.rearm (hw : WFp s B L) (h : CF s T Dn) : CF (Timer.rearm s) T Dn := by
  rw [rearm_eq hw]
  split
  · exact h
  · split
    · exact h.armFd _
    · exact h

/-- callbacks and queued functors; `b`: inside an expiry batch (as in `ArmedB b`): outside one no entry is waiting for its
callback or for `reset` -/
theorem CF.kept {b : Bool} (hb : b = false → T = [] ∧ Dn = []) : Kept B (fun s => s.calling = b ∧ CF s T Dn) where
  frame f h := ⟨f.calling.trans h.1, h.2.core f.core⟩
  alloc _ hn h := ⟨h.1, h.2.alloc hn⟩
  addInLoop hw hc h := ⟨(addInLoop_ext hc).calling.trans h.1, h.2.addInLoop hw hc⟩
  cancelInLoop hw id h := ⟨(cancelInLoop_ext hw id).calling.trans h.1, h.2.cancelInLoop hw (fun hf => hb (h.1.symm.trans hf)) id⟩
  bindId _ _ _ h := ⟨h.1, h.2.bindId _ _ _⟩

theorem CF.batchInv (now : Time) :
    BatchInv now (fun done todo s => s.calling = true ∧ CF s (todo.map (·.2)) (done.map (·.2)))
      (fun B s => CF s [] (B.map (·.2))) where
  kept := CF.kept fun hf => nomatch hf
  run hw hc _ hd h := ⟨h.1, by rw [List.map_append]; exact h.2.run_ev hw hc hd fun _ _ => ⟨rfl, rfl, rfl, rfl⟩⟩
  flag h := h.2.same_state rfl (Nat.le_refl _) rfl rfl rfl
  resetOne hw _ h := h.resetOne hw _

theorem CF.handleRead (hw : WFp s [] L) (h : CF s [] []) : CF (Timer.handleRead s) [] [] := by
  rw [handleRead_eq hw]
  have h0 := (h.same_state (s' := { (readNow s).2 with readable := false }) (readNow_frame s).trace
    (Nat.le_of_eq (readNow_frame s).numCreated.symm) (readNow_frame s).heap (readNow_frame s).active
    (readNow_frame s).cancelling).take (isExpired (readNow s).1)
  rw [expired_drained s] at h0
  obtain ⟨hw3, h3⟩ := (CF.batchInv _).batch (fun _ => batch_due _) hw.batchStart ⟨rfl, h0⟩
  exact h3.rearm hw3

theorem CF.stable : Stable (fun s => s.calling = false ∧ CF s [] []) where
  toKept := CF.kept fun _ => ⟨rfl, rfl⟩
  core h hc := ⟨(congrArg (·.calling) hc).trans h.1, h.2.core hc⟩
  processed k h := ⟨h.1, h.2.silent (fun a q => silent_processed a q k) rfl (Nat.le_refl _) rfl rfl rfl⟩
  expire h := ⟨h.1, h.2.same_state rfl (Nat.le_refl _) rfl rfl rfl⟩

theorem run_cf (ins : List In) : CF (run ins) [] [] :=
  (CF.stable.run (fun ht h => ⟨ht.handleRead.calling, h.2.handleRead ht.wf⟩)
    ⟨rfl, fun a q => by refine ⟨?_, ?_, ?_⟩ <;> intro h <;> cases h⟩ ins).2.2

theorem CFq.dead_of_mark (h : CFq a q s [] []) (hm : markAll true a q s.trace = true) : Dead q s := by
  rcases (h.all hm).2 with ⟨g, _⟩ | ⟨c, _, _, _, ⟨g, _⟩ | ⟨g, _⟩⟩
  · exact g
  · cases g
  · cases g

/-- what a cancel touches: only the timer whose live cell carries the id's sequence number; every other active pair keeps
its entries and its cell, and a cancel of a pair that is not active leaves the queue alone -/
theorem cancel_identity (hw : WFp s B L) (id : TimerId) :
    ((id.addr, id.seq) ∈ s.active → ∃ c, s.heap id.addr = some c ∧ c.seq = id.seq) ∧
    (∀ p ∈ s.active, p ≠ (id.addr, id.seq) →
      p ∈ (cancelInLoop s id).active ∧ (cancelInLoop s id).heap p.1 = s.heap p.1 ∧
      ∀ c, s.heap p.1 = some c → (c.exp, p.1) ∈ (cancelInLoop s id).timers) ∧
    ((id.addr, id.seq) ∉ s.active →
      (cancelInLoop s id).timers = s.timers ∧ (cancelInLoop s id).active = s.active ∧
      (cancelInLoop s id).heap = s.heap ∧ (cancelInLoop s id).alarm = s.alarm ∧
      (cancelInLoop s id).readable = s.readable) := by
  refine ⟨?_, ?_, ?_⟩
  · intro hm
    obtain ⟨c, h1, h2, _⟩ := hw.a_live _ hm
    exact ⟨c, h1, h2⟩
  · intro p hp hne
    have key : p ∈ (cancelInLoop s id).active ∧ (cancelInLoop s id).heap p.1 = s.heap p.1 := by
      rw [cancelInLoop_eq hw id]
      split
      · rename_i hm
        obtain ⟨c, h1, h2, _⟩ := hw.a_live p hp
        obtain ⟨c0, g1, g2, _⟩ := hw.a_live _ hm
        refine ⟨List.mem_filter.2 ⟨hp, decide_eq_true hne⟩, hfree_other _ fun hh => hne (Prod.ext hh ?_)⟩
        have g1 : s.heap id.addr = some c0 := g1
        rw [hh, g1] at h1; cases h1
        exact h2.symm.trans g2
      · split <;> exact ⟨hp, rfl⟩
    -- the state after the cancel is well-formed, so a pair that is still active still has its entry in `timers_`
    refine ⟨key.1, key.2, fun c hc => ?_⟩
    obtain ⟨c', k1, _, k3⟩ := (hw.cancelInLoop id).a_live p key.1
    rw [key.2, hc] at k1; cases k1
    exact k3
  · intro hm
    rw [cancelInLoop_eq hw id, if_neg hm]
    split <;> exact ⟨rfl, rfl, rfl, rfl, rfl⟩

end MuduoVerif.Timer
