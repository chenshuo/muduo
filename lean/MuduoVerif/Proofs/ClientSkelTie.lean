import MuduoVerif.Generated.ClientSkel
/-!
# T1 tie for the statement order of the client engine (C12)

`Gen.ClientSkel.<fn>` is the statement skeleton `vlib/gen/clientskel.py` extracts from /repo's current
`Connector.cc` / `TcpClient.cc` on every run; `Decl.<fn>` (`Model/ClientSkelDecl.lean`) is the skeleton the
corresponding definition of `Model/Client.lean` implements.  Each conjunct of `skeletons_agree` is closed by `rfl`: it holds
exactly as long as the source performs the same significant actions, in the same order, under the same nesting
of the same (generated) guards as the model.  The guards themselves are tied by `Generated/Client.lean`.
`Props/C12.lean` re-exports `skeletons_agree` (`statement_order_tied`), so a change of statement order in one of
these functions breaks that property module.
-/
namespace MuduoVerif.ClientSkel

theorem skeleton_start : Gen.ClientSkel.start = Decl.start := rfl
theorem skeleton_handleWrite : Gen.ClientSkel.handleWrite = Decl.handleWrite := rfl
theorem skeleton_dtor : Gen.ClientSkel.dtor = Decl.dtor := rfl
theorem skeleton_newConnection : Gen.ClientSkel.newConnection = Decl.newConnection := rfl

theorem skeletons_agree :
    Gen.ClientSkel.start = Decl.start ∧
    Gen.ClientSkel.startCycleInLoop = Decl.startCycleInLoop ∧
    Gen.ClientSkel.startInLoop = Decl.startInLoop ∧
    Gen.ClientSkel.stop = Decl.stop ∧
    Gen.ClientSkel.stopInLoop = Decl.stopInLoop ∧
    Gen.ClientSkel.connect = Decl.connect ∧
    Gen.ClientSkel.restart = Decl.restart ∧
    Gen.ClientSkel.connecting = Decl.connecting ∧
    Gen.ClientSkel.removeAndResetChannel = Decl.removeAndResetChannel ∧
    Gen.ClientSkel.resetChannel = Decl.resetChannel ∧
    Gen.ClientSkel.handleWrite = Decl.handleWrite ∧
    Gen.ClientSkel.handleError = Decl.handleError ∧
    Gen.ClientSkel.retry = Decl.retry ∧
    Gen.ClientSkel.cancelRetryTimer = Decl.cancelRetryTimer ∧
    Gen.ClientSkel.detailRemoveConnection = Decl.detailRemoveConnection ∧
    Gen.ClientSkel.detailRemoveConnector = Decl.detailRemoveConnector ∧
    Gen.ClientSkel.dtor = Decl.dtor ∧
    Gen.ClientSkel.clientConnect = Decl.clientConnect ∧
    Gen.ClientSkel.clientDisconnect = Decl.clientDisconnect ∧
    Gen.ClientSkel.clientStop = Decl.clientStop ∧
    Gen.ClientSkel.newConnection = Decl.newConnection ∧
    Gen.ClientSkel.removeConnection = Decl.removeConnection :=
  ⟨skeleton_start, by rfl, by rfl, by rfl, by rfl, by rfl, by rfl, by rfl, by rfl, by rfl,
   skeleton_handleWrite, by rfl, by rfl, by rfl, by rfl, by rfl, skeleton_dtor, by rfl, by rfl, by rfl,
   skeleton_newConnection, by rfl⟩

end MuduoVerif.ClientSkel
