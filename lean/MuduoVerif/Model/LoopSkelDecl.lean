import MuduoVerif.Model.SysSkelDecl
/-!
# The event-loop family: the statement skeleton the models assume of each function

`Model/Loop.lean` (C04, C05), `Model/Pool.lean` (C05), `Model/Acceptor.lean` (C11), `Model/Poller.lean` (C09) and
`Model/Timer.lean` (C06) take GUARDS and a number of shape flags of `EventLoop.cc`, `EventLoopThread.cc`,
`EventLoopThreadPool.cc`, `Acceptor.cc` and `Channel.cc` from `Generated/Loop.lean`, `Pool.lean`, `Acceptor.lean`,
`Poller.lean`, `Timer.lean`.  Everything else - which statements a function has and in which ORDER - is hand-written in
the steps of those models: `doAppend` appends under the mutex and the wake-up is a LATER step (`Pc.appended`),
`doQuitStore` stores the flag and the wake-up is a later step (`Pc.quitStored`), the loop thread goes `polling ->
dispatch -> preSwap -> draining` once per iteration, `threadFunc` publishes `loop_` under the mutex before `loop()`,
`Acceptor.step .listen` registers a socket that already listens, `Pool.start n` has the workers in creation order, ..

This file states, function by function, the skeleton the models' steps implement (`Decl.*`, written by reading the models
and the source; each with the model step / assumption it backs), in the vocabulary of the system-call layer
(`MuduoVerif.SysSkel.Act / Skel`, `Model/SysSkelDecl.lean`).  `vlib/gen/loopskel.py` extracts the skeleton of the same
functions from /repo's current sources (`Generated/LoopSkel.lean`); `Proofs/LoopSkelTie.lean` proves the two equal by
`rfl` and reads the orders the properties rest on off the EXTRACTED skeletons with the decidable predicates below.

Encodings (all are `call <name> <arguments>`; the generator's header has the full list):
* `MutexLockGuard lock(mutex_);` is `call "lock" "mutex_"` at the declaration and `call "unlock" "mutex_"` where the
  enclosing compound statement ends - what is inside / outside a critical section is part of the skeleton;
* a call through a `std::function` is `call "<function object>" "<arguments>"` (`cb()`, `functor()`,
  `callback_(&loop)`, `newConnectionCallback_(connfd, peerAddr)`);
* container operations are `call "pendingFunctors_.push_back" "cb"`, `call "functors.swap" "pendingFunctors_"`, ..;
* `obj->f(args)` / `obj.f(args)` on another object is `call "obj.f" "args"`; a member function of the same class is
  `call "f" "args"`; `::close` / `::open` / `::accept` / `::signal` / `snprintf` are `sys`;
* `for (Channel* channel : activeChannels_)` is `loop forDo "channel : activeChannels_"`;
* `std::bind(&C::f, a)` prints `bind(&C::f, a)`; `std::move(x)`, `std::unique_ptr<T>(p)`, `implicit_cast<T>(x)` print as
  their argument; integer macros print by value (`SIGPIPE` = 13, `SIG_IGN` = 1, `O_RDONLY | O_CLOEXEC` = `0 | 524288`,
  `EMFILE` = 24).

Not part of a skeleton: log statements below ERROR and the text of every log statement, locals without an initialiser /
default-constructed plain records, casts, argument-less base / member initialisers, `MUDUO_VERIF_POINT`.

What stays TRUSTED after this tie: the canonical printer of `vlib/gen/loopskel.py` / `sysskel.py`, and that the named
callees do what their own ties say (`Channel::enableReading / disableAll / remove`, `Poller::*`: `Proofs/PollerSkelTie`;
`sockets::*`, `Socket::*`, `createEventfd`: `Proofs/SysSkelTie`; `TimerQueue::addTimer / cancel`: `Proofs/TimerSkelTie`;
`Thread::start / join`, `Condition`, `MutexLockGuard`: `Proofs/ThreadSkelTie`).  Core Lean only.
-/
namespace MuduoVerif.LoopSkel
open MuduoVerif.SysSkel

/-! ## Reading a skeleton (decidable functions of it; evaluated on the EXTRACTED skeletons in `Proofs/LoopSkelTie.lean`) -/

mutual
/-- the actions of a statement list in source order (both branches of an `if`, the body of a loop once) -/
def flat : List Skel → List Act
  | [] => []
  | s :: ss => flat1 s ++ flat ss
def flat1 : Skel → List Act
  | .act a => [a]
  | .ite _ t e => flat t ++ flat e
  | .loop _ _ b => flat b
  | .switch _ b => flat b
end

/-- `a` and `b` both occur, and EVERY occurrence of `a` comes before the FIRST occurrence of `b` -/
def before (a b : Act) (l : List Act) : Bool :=
  (l.takeWhile (fun x => x != b)).contains a && l.contains b && !(l.dropWhile (fun x => x != b)).contains a

/-- a chain: each action `before` the next one -/
def inOrder : List Act → List Act → Bool
  | a :: b :: r, l => before a b l && inOrder (b :: r) l
  | _, _ => true

/-- the actions performed while mutex `m` is held (`h` = held on entry) -/
def heldPart (m : String) : Bool → List Act → List Act
  | _, [] => []
  | h, a :: r =>
    if a = .call "lock" m then heldPart m true r
    else if a = .call "unlock" m then heldPart m false r
    else if h then a :: heldPart m h r else heldPart m h r

/-- the actions performed while mutex `m` is NOT held -/
def freePart (m : String) : Bool → List Act → List Act
  | _, [] => []
  | h, a :: r =>
    if a = .call "lock" m then freePart m true r
    else if a = .call "unlock" m then freePart m false r
    else if h then freePart m h r else a :: freePart m h r

/-- `a` occurs, and only between `lock m` and `unlock m` -/
def insideLock (m : String) (a : Act) (l : List Act) : Bool :=
  (heldPart m false l).contains a && !(freePart m false l).contains a

/-- `a` occurs, and never between `lock m` and `unlock m` -/
def outsideLock (m : String) (a : Act) (l : List Act) : Bool :=
  (freePart m false l).contains a && !(heldPart m false l).contains a

/-- `lock m` / `unlock m` alternate, starting from state `h`, and the mutex is not held when the list ends (no critical
section is left open, none is entered twice) -/
def balanced (m : String) : Bool → List Act → Bool
  | h, [] => !h
  | h, a :: r =>
    if a = .call "lock" m then !h && balanced m true r
    else if a = .call "unlock" m then h && balanced m false r
    else balanced m h r

/-- the body of the first top-level loop of kind `k` with guard `g` (`[]` when there is none) -/
def loopBody (k : LoopKind) (g : String) : List Skel → List Skel
  | [] => []
  | .loop k' g' b :: r => if k' = k ∧ g' = g then b else loopBody k g r
  | _ :: r => loopBody k g r

/-- is there a top-level loop of kind `k` with guard `g`? -/
def hasLoop (k : LoopKind) (g : String) : List Skel → Bool
  | [] => false
  | .loop k' g' _ :: r => (k' = k ∧ g' = g) || hasLoop k g r
  | _ :: r => hasLoop k g r

/-- the then-branches of the top-level `if (g)` statements -/
def thenOf (g : String) : List Skel → List Skel
  | [] => []
  | .ite g' t _ :: r => if g' = g then t ++ thenOf g r else thenOf g r
  | _ :: r => thenOf g r

/-- the else-branches of the top-level `if (g)` statements -/
def elseOf (g : String) : List Skel → List Skel
  | [] => []
  | .ite g' _ e :: r => if g' = g then e ++ elseOf g r else elseOf g r
  | _ :: r => elseOf g r

/-- the list without its top-level `if (g)` statements -/
def dropIte (g : String) : List Skel → List Skel
  | [] => []
  | .ite g' t e :: r => if g' = g then dropIte g r else .ite g' t e :: dropIte g r
  | s :: r => s :: dropIte g r

/-- `a` occurs in the then-branch of a top-level `if (g)` and nowhere else -/
def onlyUnder (g : String) (a : Act) (l : List Skel) : Bool :=
  (flat (thenOf g l)).contains a && !(flat (elseOf g l)).contains a && !(flat (dropIte g l)).contains a

/-- `a` occurs in the else-branch of a top-level `if (g)` and nowhere else -/
def onlyUnless (g : String) (a : Act) (l : List Skel) : Bool :=
  (flat (elseOf g l)).contains a && !(flat (thenOf g l)).contains a && !(flat (dropIte g l)).contains a

/-! ## The skeleton the models assume of each function -/
namespace Decl

/-! ### `muduo/net/EventLoop.cc` -/

/-- the static object `initObj`: `SIGPIPE` (13) is ignored (`SIG_IGN` = 1) before `main` - why a write to a connection the
peer has reset is an `EPIPE` result (`Conn.WriteRes.err`, `writeErrLogged`) and not the end of the process; no model has
a "killed by SIGPIPE" input -/
def ignoreSigPipeCtor : List Skel := [.act (.sys "signal" "13, 1")]

/-- the thread-local `t_loopInThisThread`, returned unchanged (`TcpConnection` / `TimerQueue` do not use it; the drivers
do) -/
def getEventLoopOfCurrentThread : List Skel := [.act (.ret "t_loopInThisThread")]

/-- `Loop.init` / `stepLoopFD .born` (`alive := true, phase := .pre`): a constructed loop has `looping = false`,
`quit = false`, `calling = false`, is bound to the constructing thread (`threadId_` = `CurrentThread::tid()`: `St.L`),
owns a poller, a timer queue and the wake-up descriptor (`ev := 0`, made by `createEventfd`: `SysSkel.createEventfd`).
ONE loop per thread: a second one ends the process (`LOG_FATAL`), otherwise the thread-local pointer is set.  The wake-up
channel gets its read callback (`handleRead`: `Item.wake` is dispatched to `wakeread`) BEFORE it is subscribed
(`enableReading`: `Poller.setInterest .enableR` + `update`), so the first report of the eventfd finds the callback. -/
def loopCtor : List Skel :=
  [ .act (.store "looping_" "false"),
    .act (.store "quit_" "false"),
    .act (.store "eventHandling_" "false"),
    .act (.store "callingPendingFunctors_" "false"),
    .act (.store "iteration_" "0"),
    .act (.store "threadId_" "CurrentThread::tid()"),
    .act (.call "Poller::newDefaultPoller" "this"),
    .act (.store "poller_" "<result>"),
    .act (.store "timerQueue_" "new TimerQueue(this)"),
    .act (.call "createEventfd" ""),
    .act (.store "wakeupFd_" "<result>"),
    .act (.store "wakeupChannel_" "new Channel(this, wakeupFd_)"),
    .act (.store "currentActiveChannel_" "NULL"),
    .ite "t_loopInThisThread"
      [.act (.log .fatal)]
      [.act (.store "t_loopInThisThread" "this")],
    .act (.call "wakeupChannel_.setReadCallback" "bind(&EventLoop::handleRead, this)"),
    .act (.call "wakeupChannel_.enableReading" "") ]

/-- `stepLoopFD .returned` for an `EventLoopThread` (`alive := false`, `.destroyed`) and `Poller.recreateOk`: the wake-up
channel is unsubscribed (`disableAll`), taken out of the poller (`remove`: `~Channel` asserts `!addedToLoop_`) and only
THEN is its descriptor closed (a descriptor closed while registered would leave a stale entry in the poller: C09); the
thread-local pointer is cleared last, so the thread may construct another loop -/
def loopDtor : List Skel :=
  [ .act (.call "wakeupChannel_.disableAll" ""),
    .act (.call "wakeupChannel_.remove" ""),
    .act (.sys "close" "wakeupFd_"),
    .act (.store "t_loopInThisThread" "NULL") ]

/-- `enterLoop` (`looping := true`, point `loop:entry`), then per iteration of `while (!quit_)` (`testQuit`): `.polling`
(`poller_->poll`) -> `.dispatch` (`eventHandling_` bracket around `handleEvent` of each active channel in report order:
`activeOf`, `Poller.iter`) -> `.preSwap` / `.draining` (`doPendingFunctors()` LAST: a functor queued by a handler of the
same iteration runs in the same iteration, `drainEachIteration`); after the `while` (`.atExit`): the drain
`do doPendingFunctors(); while (queueSize() > 0)` (`finalDrain = .untilEmpty`; the test of the queue is the action
`queueSize()`, which takes the mutex); `leaveLoop`: `looping := false`, then the flag is re-armed (`quitResetAtExit`). -/
def loopFn : List Skel :=
  [ .act (.assertion "!looping_"),
    .act (.call "assertInLoopThread" ""),
    .act (.store "looping_" "true"),
    .loop .whileDo "!quit_"
      [ .act (.call "activeChannels_.clear" ""),
        .act (.call "poller_.poll" "kPollTimeMs, &activeChannels_"),
        .act (.store "pollReturnTime_" "<result>"),
        .act (.store "iteration_" "iteration_ + 1"),
        .ite "Logger::logLevel() <= TRACE" [.act (.call "printActiveChannels" "")] [],
        .act (.store "eventHandling_" "true"),
        .loop .forDo "channel : activeChannels_"
          [ .act (.store "currentActiveChannel_" "channel"),
            .act (.call "currentActiveChannel_.handleEvent" "pollReturnTime_") ],
        .act (.store "currentActiveChannel_" "NULL"),
        .act (.store "eventHandling_" "false"),
        .act (.call "doPendingFunctors" "") ],
    .loop .doWhile "{call queueSize()} > 0" [.act (.call "doPendingFunctors" "")],
    .act (.store "looping_" "false"),
    .act (.store "quit_" "false") ]

/-- `doQuitStore` (`quit := true`, point `quit:stored`, `Pc.quitStored`) and only then `stepQuitStored` (`doWake` iff
`quitWakes`): the flag is stored BEFORE the wake-up, so the iteration the wake-up starts finds it (`C05`: a loop asleep in
poll ends after a foreign `quit()`); on the loop thread itself no wake-up is needed (the `while` test follows) -/
def quit : List Skel :=
  [ .act (.store "quit_" "true"),
    .ite "!isInLoopThread()" [.act (.call "wakeup" "")] [] ]

/-- `stepIdle (.run x)`: on the loop thread the task body starts INSIDE the call (`runInline`: `stack := tbl x :: ..`),
anywhere else it is `queueInLoop` -/
def runInLoop : List Skel :=
  [ .ite "isInLoopThread()" [.act (.call "cb" "")] [.act (.call "queueInLoop" "cb")] ]

/-- `doAppend` (`pending := pending ++ [x]` under `mutex_`: `appendUnderLock`; point `queueInLoop:appended`,
`Pc.appended`) and only then `stepAppended` (`doWake` iff `wakeGuard`): the append is complete and the mutex released
BEFORE the wake-up - the loop that the wake-up starts finds the functor in the queue (`C04`: no lost wake-up) -/
def queueInLoop : List Skel :=
  [ .act (.call "lock" "mutex_"),
    .act (.call "pendingFunctors_.push_back" "cb"),
    .act (.call "unlock" "mutex_"),
    .ite "!isInLoopThread() || callingPendingFunctors_ || !looping_" [.act (.call "wakeup" "")] [] ]

/-- the test of the final drain (`!s.pending.isEmpty` in `stepLoopFD .draining`, one step with what follows): the size is
read under `mutex_` -/
def queueSize : List Skel :=
  [ .act (.call "lock" "mutex_"),
    .act (.ret "pendingFunctors_.size()"),
    .act (.call "unlock" "mutex_") ]

/-- `Timer.deadlineOf (.at t) = (t, timerRepeats false, 0)`: the deadline is the argument, the interval `0.0` (no repeat);
forwarded to `TimerQueue::addTimer` (`Timer.addLoop` / `addAlloc`), whose `TimerId` is returned -/
def runAt : List Skel :=
  [ .act (.call "timerQueue_.addTimer" "cb, time, 0"),
    .act (.ret "<result>") ]

/-- `Timer.deadlineOf (.after d) = (addTime now d, timerRepeats false, 0)` with `now` = ONE reading of the clock
(`readNow`): the deadline is `addTime(Timestamp::now(), delay)`, the rest is `runAt` -/
def runAfter : List Skel :=
  [ .act (.assign "time" "addTime(Timestamp::now(), delay)"),
    .act (.call "runAt" "time, cb"),
    .act (.ret "<result>") ]

/-- `Timer.deadlineOf (.every d pos) = (addTime now d, timerRepeats pos, d)`: FIRST deadline one interval from now (not
now), and the interval itself is handed to `addTimer` (`Timer::restart` adds it again after each run) -/
def runEvery : List Skel :=
  [ .act (.assign "time" "addTime(Timestamp::now(), interval)"),
    .act (.call "timerQueue_.addTimer" "cb, time, interval"),
    .act (.ret "<result>") ]

/-- `Timer.In.cancel`: forwarded unchanged to `TimerQueue::cancel` (`cancelInLoop` on the loop thread, queued otherwise) -/
def cancel : List Skel :=
  [ .act (.call "timerQueue_.cancel" "timerId"),
    .act (.ret "<result>") ]

/-- `Poller.applyOp` (enable / disable): forwarded to the poller on the loop thread, for a channel of THIS loop -/
def updateChannel : List Skel :=
  [ .act (.assertion "channel.ownerLoop() == this"),
    .act (.call "assertInLoopThread" ""),
    .act (.call "poller_.updateChannel" "channel") ]

/-- `Poller.removeOk`: while the loop dispatches, only the channel whose callback runs or one that is not in the current
batch may be removed (the assertion); forwarded to the poller -/
def removeChannel : List Skel :=
  [ .act (.assertion "channel.ownerLoop() == this"),
    .act (.call "assertInLoopThread" ""),
    .ite "eventHandling_"
      [.act (.assertion "currentActiveChannel_ == channel || find(activeChannels_.begin(), activeChannels_.end(), channel) == activeChannels_.end()")]
      [],
    .act (.call "poller_.removeChannel" "channel") ]

/-- `Poller`: `cmap fd = some channel`, forwarded (`SysSkel.pollerHasChannel`) -/
def hasChannel : List Skel :=
  [ .act (.assertion "channel.ownerLoop() == this"),
    .act (.call "assertInLoopThread" ""),
    .act (.call "poller_.hasChannel" "channel"),
    .act (.ret "<result>") ]

/-- `assertInLoopThread()` on a foreign thread ends the process (`LOG_FATAL`): the models run loop-thread-only functions on
the loop thread by construction, which is sound because a violation does not return -/
def abortNotInLoopThread : List Skel := [.act (.log .fatal)]

/-- `doWake` (`ev := ev + 1`, `.wakeup`): ONE `sockets::write` of the 8-byte value 1 to the eventfd (`wakeupWritesOne`); a
short count is only logged -/
def wakeup : List Skel :=
  [ .act (.assign "one" "1"),
    .act (.call "sockets::write" "wakeupFd_, &one, sizeof(one)"),
    .act (.assign "n" "<result>"),
    .ite "n != sizeof(one)" [.act (.log .error)] [] ]

/-- `stepLoopFD .dispatch` on `Item.wake` (`ev := 0`, `.wakeread`): ONE `sockets::read` of 8 bytes from the eventfd
(`handleReadDrains`: the counter is reset); a short count is only logged -/
def handleRead : List Skel :=
  [ .act (.assign "one" "1"),
    .act (.call "sockets::read" "wakeupFd_, &one, sizeof(one)"),
    .act (.assign "n" "<result>"),
    .ite "n != sizeof(one)" [.act (.log .error)] [] ]

/-- `.dispatch -> .preSwap` (`calling := true`, point `doPendingFunctors:beforeSwap`) -> `.draining` (`batch := pending,
pending := []` under `mutex_`: `drainSwaps`; point `afterSwap`) -> each functor of the batch in order, OUTSIDE the mutex
(a functor may call `queueInLoop`, which takes it: `runTop`) -> the batch is DESTROYED (`functors.clear()`: the destructor
of something a functor owns may call `queueInLoop()`, and that call must still see `calling` and wake the loop) ->
`calling := false` after that (`callingResetAfterRun`).  `calling` is set BEFORE the swap: a functor queued by a functor
of this batch sees `calling` and wakes the loop (`wakeGuard`), otherwise it would sleep on it. -/
def doPendingFunctors : List Skel :=
  [ .act (.store "callingPendingFunctors_" "true"),
    .act (.call "lock" "mutex_"),
    .act (.call "functors.swap" "pendingFunctors_"),
    .act (.call "unlock" "mutex_"),
    .loop .forDo "functor : functors" [.act (.call "functor" "")],
    .act (.call "functors.clear" ""),
    .act (.store "callingPendingFunctors_" "false") ]

/-- only a trace line per active channel: no action -/
def printActiveChannels : List Skel := [.loop .forDo "channel : activeChannels_" []]

/-! ### `muduo/net/EventLoopThread.cc` -/

/-- `Loop.init` with `elt := true`: `loopPtr = false` (`loop_ = NULL`), `finished = false`, thread not started
(`Phase.unborn`); the thread will run `threadFunc` -/
def threadCtor : List Skel :=
  [ .act (.store "loop_" "NULL"),
    .act (.store "finished_" "false"),
    .act (.store "exiting_" "false"),
    .act (.store "thread_" "Thread(bind(&EventLoopThread::threadFunc, this), name)"),
    .act (.store "cond_" "mutex_"),
    .act (.store "callback_" "cb") ]

/-- `stepIdle .destroy` -> `Pc.dEntry` -> (`mutex_` taken: `dtorLocks`) `loop_ != NULL` ? `Pc.dBeforeQuit` ->
`doQuitStore .. dtor` (`quit()` on the loop, still under the mutex, so `threadFunc` cannot clear `loop_` and destroy the
loop in between: no `uaf`) -> mutex released -> `Pc.dJoin` (`join` iff started: `dtorJoinsIfStarted`) -/
def threadDtor : List Skel :=
  [ .act (.store "exiting_" "true"),
    .act (.call "lock" "mutex_"),
    .ite "loop_ != NULL" [.act (.call "loop_.quit" "")] [],
    .act (.call "unlock" "mutex_"),
    .ite "thread_.started()" [.act (.call "thread_.join" "")] [] ]

/-- `stepIdle .startLoop` (`phase := .born`: the thread is started FIRST) -> `Pc.sCheck` / `Pc.sWaiting`: under `mutex_`,
`while (loop_ == NULL && !finished_) cond_.wait()` (`startWaitsWhile`, `startChecksFinished`), the pointer is read under
the same mutex and returned (`.started` / `.startedNull`) -/
def startLoop : List Skel :=
  [ .act (.assertion "!thread_.started()"),
    .act (.call "thread_.start" ""),
    .act (.assign "loop" "NULL"),
    .act (.call "lock" "mutex_"),
    .loop .whileDo "loop_ == NULL && !finished_" [.act (.call "cond_.wait" "")],
    .act (.assign "loop" "loop_"),
    .act (.call "unlock" "mutex_"),
    .act (.ret "loop") ]

/-- `stepLoopFD`: `.born` (`EventLoop loop;`: `alive := true`) -> `.pre` (the init callback with `&loop`) -> `.ready`
(`loopPtr := true` and the notification UNDER `mutex_`: `publishLocks`, `publishNotifies`; point `threadFunc:published`)
-> `enterLoop` .. `.returned` (`loop.loop()` outside the mutex) -> `.dead` (`loopPtr := false`, `finished := true`,
`notifyAll` under `mutex_`, held until the function ends: `clearLocks`, `finishSets`, `finishNotifies`; the loop object
is destroyed after that, still before the mutex is released - `loop` was declared first) -/
def threadFunc : List Skel :=
  [ .act (.assign "loop" "EventLoop()"),
    .ite "callback_" [.act (.call "callback_" "&loop")] [],
    .act (.call "lock" "mutex_"),
    .act (.store "loop_" "&loop"),
    .act (.call "cond_.notify" ""),
    .act (.call "unlock" "mutex_"),
    .act (.call "loop.loop" ""),
    .act (.call "lock" "mutex_"),
    .act (.store "loop_" "NULL"),
    .act (.store "finished_" "true"),
    .act (.call "cond_.notifyAll" ""),
    .act (.call "unlock" "mutex_") ]

/-! ### `muduo/net/EventLoopThreadPool.cc` -/

/-- `Pool.start`: before `setThreadNum` the pool has no workers (`numThreads_ = 0`) and the cursor is `initialNext` (0) -/
def poolCtor : List Skel :=
  [ .act (.store "baseLoop_" "baseLoop"),
    .act (.store "name_" "nameArg"),
    .act (.store "started_" "false"),
    .act (.store "numThreads_" "0"),
    .act (.store "next_" "0") ]

/-- nothing: the threads are owned by `threads_` (`unique_ptr`), the loops live on their threads' stacks -/
def poolDtor : List Skel := []

/-- `Pool.start n = ⟨n, initialNext⟩` with `worker i = loops_[i]`: on the base loop's thread, `started_` set, then for
`i = 0 .. numThreads_ - 1` IN INDEX ORDER one thread is created, owned (`threads_.push_back`) and started, and the loop
its `startLoop()` returns is appended to `loops_` - so `loops_[i]` is the loop of the `i`-th thread created
(`Owner.init`: `pool := Pool.start L`); the init callback runs on the base loop only when there are no workers (with
workers it runs in each `threadFunc`) -/
def poolStart : List Skel :=
  [ .act (.assertion "!started_"),
    .act (.call "baseLoop_.assertInLoopThread" ""),
    .act (.store "started_" "true"),
    .loop .forDo "i = 0; i < numThreads_; ++i"
      [ .act (.sys "snprintf" "buf, sizeof(buf), \"%s%d\", name_.c_str(), i"),
        .act (.assign "t" "new EventLoopThread(cb, buf)"),
        .act (.call "threads_.push_back" "t"),
        .act (.call "t.startLoop" ""),
        .act (.call "loops_.push_back" "<result>") ],
    .ite "numThreads_ == 0 && cb" [.act (.call "cb" "baseLoop_")] [] ]

/-- `Pool.getNextLoop`: `nextGuard` (`!loops_.empty()`), `nextIndex` (`loops_[next_]`), `nextCursor` (`++next_`, wrap to 0
at `loops_.size()`), else the base loop -/
def getNextLoop : List Skel :=
  [ .act (.call "baseLoop_.assertInLoopThread" ""),
    .act (.assertion "started_"),
    .act (.assign "loop" "baseLoop_"),
    .ite "!loops_.empty()"
      [ .act (.assign "loop" "loops_[next_]"),
        .act (.store "next_" "next_ + 1"),
        .ite "next_ >= loops_.size()" [.act (.store "next_" "0")] [] ]
      [],
    .act (.ret "loop") ]

/-- `Pool.getLoopForHash`: `hashGuard`, `hashIndex` (`hashCode % loops_.size()`), the cursor untouched -/
def getLoopForHash : List Skel :=
  [ .act (.call "baseLoop_.assertInLoopThread" ""),
    .act (.assign "loop" "baseLoop_"),
    .ite "!loops_.empty()" [.act (.assign "loop" "loops_[hashCode % loops_.size()]")] [],
    .act (.ret "loop") ]

/-- `Pool.getAllLoops`: `allEmpty` ? `allBaseCount` (1) copies of the base loop : the workers in order -/
def getAllLoops : List Skel :=
  [ .act (.call "baseLoop_.assertInLoopThread" ""),
    .act (.assertion "started_"),
    .ite "loops_.empty()" [.act (.ret "vector(1, baseLoop_)")] [.act (.ret "loops_")] ]

/-! ### `muduo/net/Acceptor.cc` -/

/-- `Acc` starts with a non-blocking socket that is BOUND (`createNonblockingOrDie`, `SO_REUSEADDR`, `SO_REUSEPORT` as
asked, `bindAddress`: a failure ends the process, `SysSkel.bindOrDie`), `listening := false`, `idle := .devnull`
(`opened := 1`: the spare descriptor on `/dev/null`, `O_RDONLY | O_CLOEXEC`); the channel has its read callback
(`handleRead`) but is NOT subscribed yet (no `enableReading` here: `Acceptor.step .iter` does nothing before `.listen`) -/
def acceptorCtor : List Skel :=
  [ .act (.store "loop_" "loop"),
    .act (.call "sockets::createNonblockingOrDie" "listenAddr.family()"),
    .act (.store "acceptSocket_" "<result>"),
    .act (.store "acceptChannel_" "Channel(loop, acceptSocket_.fd())"),
    .act (.store "listening_" "false"),
    .act (.sys "open" "\"/dev/null\", 0 | 524288"),
    .act (.store "idleFd_" "<result>"),
    .act (.assertion "idleFd_ >= 0"),
    .act (.call "acceptSocket_.setReuseAddr" "true"),
    .act (.call "acceptSocket_.setReusePort" "reuseport"),
    .act (.call "acceptSocket_.bindAddress" "listenAddr"),
    .act (.call "acceptChannel_.setReadCallback" "bind(&Acceptor::handleRead, this)") ]

/-- `Acceptor.destroy` (`closeIdle`, `alive := false`, `listening := false`): the channel is unsubscribed and taken out of
the poller, then the spare descriptor is closed (the listening socket itself by `~Socket`: `SysSkel.socketDtor`) -/
def acceptorDtor : List Skel :=
  [ .act (.call "acceptChannel_.disableAll" ""),
    .act (.call "acceptChannel_.remove" ""),
    .act (.sys "close" "idleFd_") ]

/-- `Acceptor.step .listen` (`listening := listenRegisters`): on the loop thread; the socket LISTENS
(`Socket::listen` -> `listenOrDie`) before the channel is subscribed - a readable report can only mean a pending
connection of a listening socket -/
def acceptorListen : List Skel :=
  [ .act (.call "loop_.assertInLoopThread" ""),
    .act (.store "listening_" "true"),
    .act (.call "acceptSocket_.listen" ""),
    .act (.call "acceptChannel_.enableReading" "") ]

/-- `Acceptor.handleRead`: ONE `accept` per readable report (`peek` / `pop`); `.ok` -> `accepted`: the callback gets the
descriptor and the peer address (`callbackGetsFd`), without a callback the descriptor is closed (`noCallbackCloses`);
`.err e` -> logged, and for `EMFILE` (24: `emfileTest`) the sequence `emfileSeq` = close the spare descriptor, accept
into it, close it, reopen `/dev/null` (`runIdle`) -/
def acceptorHandleRead : List Skel :=
  [ .act (.call "loop_.assertInLoopThread" ""),
    .act (.call "acceptSocket_.accept" "&peerAddr"),
    .act (.assign "connfd" "<result>"),
    .ite "connfd >= 0"
      [ .ite "newConnectionCallback_"
          [.act (.call "newConnectionCallback_" "connfd, peerAddr")]
          [.act (.call "sockets::close" "connfd")] ]
      [ .act (.log .syserr),
        .ite "errno == 24"
          [ .act (.sys "close" "idleFd_"),
            .act (.sys "accept" "acceptSocket_.fd(), NULL, NULL"),
            .act (.store "idleFd_" "<result>"),
            .act (.sys "close" "idleFd_"),
            .act (.sys "open" "\"/dev/null\", 0 | 524288"),
            .act (.store "idleFd_" "<result>") ]
          [] ] ]

/-! ### `muduo/net/Channel.cc` (constructor and destructor; the rest: `PollerSkel`, `SysSkel.channelTie`) -/

/-- `Poller.Chan` default: `events := 0`, `revents := 0`, `index := -1` (`kNew` for both back-ends), `added := false`; not
tied, not handling an event -/
def channelCtor : List Skel :=
  [ .act (.store "loop_" "loop"),
    .act (.store "fd_" "fd__"),
    .act (.store "events_" "0"),
    .act (.store "revents_" "0"),
    .act (.store "index_" "-1"),
    .act (.store "logHup_" "true"),
    .act (.store "tied_" "false"),
    .act (.store "eventHandling_" "false"),
    .act (.store "addedToLoop_" "false") ]

/-- `Poller.recreateOk`: a channel may be destroyed only when it is not registered (`added = false`) and not from inside its
own callback (`handling = false`); both are assertions of the destructor (the loop itself may be gone by then, so the
destructor does not ask it) -/
def channelDtor : List Skel :=
  [ .act (.assertion "!eventHandling_"),
    .act (.assertion "!addedToLoop_") ]

end Decl
end MuduoVerif.LoopSkel
