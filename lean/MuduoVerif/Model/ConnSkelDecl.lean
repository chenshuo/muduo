import MuduoVerif.Generated.Conn
/-!
# Statement skeletons of the connection engine: vocabulary and the skeletons the model implements

`Model/Conn.lean` takes every branch guard and hand-off kind from `Generated/Conn.lean`; the ORDER and
NESTING of the statements inside each member function is hand-written there.  This file states, function by
function, the skeleton that the model's definition implements (`Decl.*`, written by reading `Model/Conn.lean`,
each with a pointer to the model definition).  `vlib/gen/connskel.py` extracts the skeleton of the same
functions from /repo's current sources (`Generated/ConnSkel.lean`, in the vocabulary below), and
`Proofs/ConnSkelTie.lean` proves the two equal by `rfl`.  A source change that merges two independent
`if`s into `if / else if`, moves a callback before a channel update, swaps two callbacks, adds or drops a
statement in one of these functions changes the extracted skeleton and breaks that proof.

An `ite` is named after the generated guard (`Gen.Conn.<name>`) the model branches on at that point.
Core Lean only.
-/
namespace MuduoVerif.ConnSkel
open MuduoVerif.Gen.Conn

/-- `channel_->op()` -/
inductive ChanOp | enableReading | disableReading | enableWriting | disableWriting | disableAll | remove | tie
deriving DecidableEq, Repr

/-- which callback is invoked (directly): the user's callbacks of `TcpConnection` (`connection`, `message`,
`writeComplete`, `highWater`), the owner's `closeCallback_` (`close`), and the four callbacks of `Channel`
(`read`, `write`, `error`, `closeEvent`) -/
inductive CbKind | connection | message | writeComplete | highWater | close | read | write | error | closeEvent
deriving DecidableEq, Repr

inductive SysOp | write | readFd | shutdownWrite | getSocketError | setTcpNoDelay
deriving DecidableEq, Repr

inductive BufKind | append | retrieve | retrieveAll
deriving DecidableEq, Repr

/-- one significant action; strings are canonical prints of source expressions (casts dropped, `->` as `.`) -/
inductive Act
  | setState (s : StateE)                                -- `setState(s)`, or the store of a compare-and-swap gate
  | chan (op : ChanOp)
  | cb (which : CbKind)                                  -- `xxxCallback_(..)`
  | queue (what : String)                                -- `loop_->queueInLoop(functor running what)`
  | run (what : String)                                  -- `loop_->runInLoop(..)`
  | timer (delay : String) (what : String)               -- `loop_->runAfter(delay, ..)`
  | call (fn : String)                                   -- direct call of another member function
  | sys (op : SysOp) (args : String)
  | bufOp (op : BufKind) (buf : String) (args : String)
  | assign (var : String) (value : String)               -- store to a member, or to a local that feeds a guard
  | assertion (text : String)                            -- `assert(..)` over members
  | lockWeak (weak : String) (into : String)             -- `shared_ptr into(weak.lock())`: a trampoline pins the object
  | invoke (fn : String) (args : String)                 -- `fn(args)`: a function object that is a parameter / member of a trampoline
  | ret
deriving DecidableEq, Repr

/-- a statement: an action, or `if (guard) { thn } else { els }` -/
inductive Skel
  | act (a : Act)
  | ite (guard : String) (thn els : List Skel)
deriving Repr

/-! `deriving DecidableEq` does not handle the nesting through `List`; the instance is written out
(structural recursion, so `decide` evaluates it in the kernel). -/
mutual
def Skel.decEq : (x y : Skel) → Decidable (x = y)
  | .act a, .act a' => if h : a = a' then isTrue (by rw [h]) else isFalse (by intro e; cases e; exact h rfl)
  | .act _, .ite .. => isFalse (by intro e; cases e)
  | .ite .., .act _ => isFalse (by intro e; cases e)
  | .ite g t e, .ite g' t' e' =>
    if hg : g = g' then
      match Skel.decEqL t t' with
      | isTrue ht =>
        match Skel.decEqL e e' with
        | isTrue he => isTrue (by rw [hg, ht, he])
        | isFalse he => isFalse (by intro q; cases q; exact he rfl)
      | isFalse ht => isFalse (by intro q; cases q; exact ht rfl)
    else isFalse (by intro q; cases q; exact hg rfl)
def Skel.decEqL : (x y : List Skel) → Decidable (x = y)
  | [], [] => isTrue rfl
  | [], _ :: _ => isFalse (by intro e; cases e)
  | _ :: _, [] => isFalse (by intro e; cases e)
  | a :: as, b :: bs =>
    match Skel.decEq a b with
    | isTrue h =>
      match Skel.decEqL as bs with
      | isTrue h' => isTrue (by rw [h, h'])
      | isFalse h' => isFalse (by intro q; cases q; exact h' rfl)
    | isFalse h => isFalse (by intro q; cases q; exact h rfl)
end
instance : DecidableEq Skel := Skel.decEq
instance : DecidableEq (List Skel) := Skel.decEqL

/-! ## The skeleton each model function implements

Conventions of the reading.  A state store is `{ c with st := s }`; `enableReading c` … `disableAll c` are the
channel operations; `callback c k _` runs a user callback; `enqueue c t` is `queueInLoop`; `handOff c foreign d t f`
is `runInLoop`/`queueInLoop` according to the generated `d`; `emit .. (.sysWrite ..)`/`popWrite` is the `write`
system call and its scripted result; `outBuf ++ ..` / `outBuf.drop ..` are `Buffer::append` / `Buffer::retrieve`
(the model's buffers are lists: the operations are list splices).  `if g .. then A else B` on a generated guard
`g` is `ite "g" A B`; a `match` on the result of a system call stands for the `if` chain over the guards
extracted from those tests (`directWriteOk`, `handleWriteTook`, `readGotData`, `readGotEof`). -/
namespace Decl

/-- `Conn.sendInLoop`, `Conn.sendDirect`, `Conn.queueRemainder`.
`sendInLoop`: `if sendGivesUp .. then <note> else if directWrite .. then sendDirect <popWrite, sysWrite> else
queueRemainder .. data 0 false` - the early `return` is the `else`; the initial `nwrote = 0`, `remaining = len`,
`faultError = false` are the arguments `0`, `data.length - 0`, `false` of that last call.
`sendDirect`: `.took n` (= `directWriteOk`): `remaining := data.length - n`, `if sendWholeWC .. then enqueue
.writeComplete`; `.err e`: `queueRemainder c data 0 (writeErrLogged e && writeErrFatal e)` - `nwrote = 0` and the
fatal test nested in the logged test (a conjunction).
`queueRemainder`: `if queueRest .. then (if hwmCross c.outBuf.length .. then enqueue (.highWater (oldLen + remaining)));
outBuf := outBuf ++ data.drop nwrote; if sendEnablesWriting .. then enableWriting`. -/
def sendInLoop : List Skel :=
  [ .act (.assign "nwrote" "0"),
    .act (.assign "remaining" "len"),
    .act (.assign "faultError" "false"),
    .ite "sendGivesUp" [.act .ret] [],
    .ite "directWrite"
      [ .act (.sys .write "channel_.fd(), data, len"),
        .ite "directWriteOk"
          [ .act (.assign "remaining" "len - nwrote"),
            .ite "sendWholeWC" [.act (.queue "notifyWriteComplete(writeCompleteCallback_)")] [] ]
          [ .act (.assign "nwrote" "0"),
            .ite "writeErrLogged" [.ite "writeErrFatal" [.act (.assign "faultError" "true")] []] [] ] ]
      [],
    .ite "queueRest"
      [ .act (.assign "oldLen" "outputBuffer_.readableBytes()"),
        .ite "hwmCross" [.act (.queue "notifyHighWaterMark(highWaterMarkCallback_, oldLen + remaining)")] [],
        .act (.bufOp .append "outputBuffer_" "data + nwrote, remaining"),
        .ite "sendEnablesWriting" [.act (.chan .enableWriting)] [] ]
      [] ]

/-- `Conn.act _ .shutdown`: `if shutdownAccepts c.st then handOff { c with st := .kDisconnecting } .. shutdownDispatch
.shutdownInLoop ..`; `shutdownDispatch = .queue` (`Generated/Conn.lean`), the store is the one of the
compare-and-swap (`gateAtomic`) -/
def shutdown : List Skel :=
  [ .ite "shutdownAccepts" [.act (.setState .kDisconnecting), .act (.queue "shutdownInLoop")] [] ]

/-- `Conn.shutdownInLoop`: `if shutdownNow .. then emit { c with shutWr := true } .sysShutdownWr else c` -/
def shutdownInLoop : List Skel :=
  [ .ite "shutdownNow" [.act (.sys .shutdownWrite "")] [] ]

/-- `Conn.act _ .forceClose`: `if forceCloseAccepts c.st then handOff { c with st := .kDisconnecting } ..
forceCloseDispatch .forceCloseInLoop ..` with `forceCloseDispatch = .queue` -/
def forceClose : List Skel :=
  [ .ite "forceCloseAccepts" [.act (.setState .kDisconnecting), .act (.queue "forceCloseInLoop")] [] ]

/-- `Conn.act _ (.forceCloseDelay us)`: `if forceCloseDelayAccepts c.st then` store `.kDisconnecting` and add a timer
at `now + us` (directly, or through `.addDelayTimer` from another thread: `runAfter`); `Conn.fireDelay` runs
`actLoop c .forceClose` when it fires -/
def forceCloseWithDelay : List Skel :=
  [ .ite "forceCloseDelayAccepts" [.act (.setState .kDisconnecting), .act (.timer "seconds" "forceClose")] [] ]

/-- `Conn.runTask _ .forceCloseInLoop`: `if forceCloseInLoopActs c.st then handleClose c else c` -/
def forceCloseInLoop : List Skel :=
  [ .ite "forceCloseInLoopActs" [.act (.call "handleClose")] [] ]

/-- `Conn.startReadInLoop`: `if startReadActs .. then { enableReading c with reading := true } else c` -/
def startReadInLoop : List Skel :=
  [ .ite "startReadActs" [.act (.chan .enableReading), .act (.assign "reading_" "true")] [] ]

/-- `Conn.stopReadInLoop`: `if stopReadActs .. then { disableReading c with reading := false } else c` -/
def stopReadInLoop : List Skel :=
  [ .ite "stopReadActs" [.act (.chan .disableReading), .act (.assign "reading_" "false")] [] ]

/-- `Conn.connectEstablished`: `if c.asserts && c.st ≠ .kConnecting then <abort "state_ == kConnecting"> else
callback (enableReading { c with st := .kConnected }) .up .up`.  `channel_->tie(..)`: the model's channel is always
tied (`Conn.handleEvent`: `if !c.alive then c`). -/
def connectEstablished : List Skel :=
  [ .act (.assertion "state_ == kConnecting"),
    .act (.setState .kConnected),
    .act (.chan .tie),
    .act (.chan .enableReading),
    .act (.cb .connection) ]

/-- `Conn.connectDestroyed`: `if destroyedWhileConnected c.st then removeChannel (callback (disableAll { c with st :=
.kDisconnected }) .down .down) else removeChannel c` -/
def connectDestroyed : List Skel :=
  [ .ite "destroyedWhileConnected"
      [.act (.setState .kDisconnected), .act (.chan .disableAll), .act (.cb .connection)] [],
    .act (.chan .remove) ]

/-- `Conn.handleRead`, `Conn.handleReadRes`: `popRead`/`.sysReadv` is `inputBuffer_.readFd` (`deliver` appends what
was read); `.got (n+1)`: message callback (`consume` is what the user's callback retrieves); `.got 0`: `handleClose`;
`.err _ => c`: `handleError`, which does not change the model's state (see `handleError`) -/
def handleRead : List Skel :=
  [ .act (.sys .readFd "inputBuffer_: channel_.fd(), &savedErrno"),
    .ite "readGotData" [.act (.cb .message)]
      [.ite "readGotEof" [.act (.call "handleClose")] [.act (.call "handleError")]] ]

/-- `Conn.handleWrite`, `Conn.handleWriteRes`, `Conn.afterDrain`: `if handleWriteActs .. then <popWrite, sysWrite
c.outBuf.length>`; `.took (n+1)` (= `handleWriteTook`): `outBuf := outBuf.drop (n+1)`; `if drained .. then afterDrain`;
`afterDrain`: `disableWriting`; `if drainWC .. then enqueue .writeComplete`; (independently) `if drainShutdown ..
then handOff .. drainShutdownDispatch .drainShutdownInLoop ..` with `drainShutdownDispatch = .queue` -/
def handleWrite : List Skel :=
  [ .ite "handleWriteActs"
      [ .act (.sys .write "channel_.fd(), outputBuffer_.peek(), outputBuffer_.readableBytes()"),
        .ite "handleWriteTook"
          [ .act (.bufOp .retrieve "outputBuffer_" "n"),
            .ite "drained"
              [ .act (.chan .disableWriting),
                .ite "drainWC" [.act (.queue "notifyWriteComplete(writeCompleteCallback_)")] [],
                .ite "drainShutdown" [.act (.queue "shutdownInLoop")] [] ]
              [] ]
          [] ]
      [] ]

/-- `Conn.handleClose`: `if c.asserts && !handleCloseOk c then <abort handleCloseAssertText> else .. emit (callback
(disableAll { c with st := .kDisconnected }) .down .down) .closeCb ..` (what follows is the owner's close callback:
`owner := false`, `enqueue .connectDestroyed`) -/
def handleClose : List Skel :=
  [ .act (.assertion "state_ == kConnected || state_ == kDisconnecting"),
    .act (.setState .kDisconnected),
    .act (.chan .disableAll),
    .act (.cb .connection),
    .act (.cb .close) ]

/-- `handleError` only reads `SO_ERROR` for the log line: no model state depends on it (`Conn.handleReadRes`:
`.err _ => c`; `Conn.handleEvent` has no error branch) -/
def handleError : List Skel :=
  [ .act (.sys .getSocketError "channel_.fd()") ]

/-- `Conn.handleEvent`, `Conn.guarded`: close, then (error: `handleError`, no effect on the model) read, then write;
each callback under the reported condition `disp*` and, inside it, the channel's current interest `disp*Sub` -/
def handleEventWithGuard : List Skel :=
  [ .ite "dispClose" [.ite "dispCloseSub" [.act (.cb .closeEvent)] []] [],
    .ite "dispError" [.ite "dispErrorSub" [.act (.cb .error)] []] [],
    .ite "dispRead" [.ite "dispReadSub" [.act (.cb .read)] []] [],
    .ite "dispWrite" [.ite "dispWriteSub" [.act (.cb .write)] []] [] ]

/-! ### the remaining public entry points and forwarders -/

/-- `Conn.act c foreign .startRead = handOff c foreign startReadDispatch .startReadInLoop startReadInLoop`: the request
is handed to the loop UNCONDITIONALLY (inline on the loop thread, queued from any other) - nothing is tested in the
calling thread; whether anything is to be done is decided by `startReadInLoop` (`startReadActs`), on the loop thread,
where `reading` is current.  (A test of `reading_` in front of the hand-off reads a value that does not yet reflect
the requests still queued: `stopRead(); startRead();` from another thread would drop the resume.) -/
def startRead : List Skel := [ .act (.run "startReadInLoop") ]

/-- `Conn.act c foreign .stopRead = handOff c foreign stopReadDispatch .stopReadInLoop stopReadInLoop`: as `startRead` -/
def stopRead : List Skel := [ .act (.run "stopReadInLoop") ]

/-- `Conn.act c foreign (.send d)`: `if sendAcceptsPiece c.st then (if foreign then enqueue .. (.sendInLoop d) else
sendInLoop .. d false) else c`: the state test, then the explicit `isInLoopThread()` test; from another thread a
COPY of the bytes (`as_string()`) travels with the functor -/
def sendPiece : List Skel :=
  [ .ite "sendAcceptsPiece"
      [ .ite "loop_.isInLoopThread()" [.act (.call "sendInLoop")] [.act (.run "sendInLoop(message.as_string())")] ]
      [] ]

/-- the same for `send(Buffer*)` (`C01.overloads_agree`: `sendAcceptsBuf = sendAcceptsPiece`, same dispatch and hold);
the caller's buffer is emptied in both branches - after the call on the loop thread, into the functor's copy otherwise -/
def sendBuf : List Skel :=
  [ .ite "sendAcceptsBuf"
      [ .ite "loop_.isInLoopThread()"
          [.act (.call "sendInLoop"), .act (.bufOp .retrieveAll "buf" "")]
          [.act (.run "sendInLoop(buf.retrieveAllAsString())")] ]
      [] ]

/-- `send(const void*, int)` forwards to `send(StringPiece)`; `sendInLoop(StringPiece)` forwards to
`sendInLoop(const void*, size_t)`: the model has one `Act.send` / one `Conn.sendInLoop` for all of them -/
def sendPtr : List Skel := [ .act (.call "send") ]
def sendInLoopPiece : List Skel := [ .act (.call "sendInLoop") ]

/-- a socket option: no state of the model depends on it (the model has no operation for it) -/
def setTcpNoDelay : List Skel := [ .act (.sys .setTcpNoDelay "on") ]

/-! ### the trampolines that run the connection's weak functors, and the default callbacks

`Conn.runTask` starts with `if !c.alive && !t.strong then .. if t.hold = .weak then c else <uaf>`: a functor that
holds a weak reference and finds the object gone does NOTHING, and one that finds it alive runs with the object
pinned for the duration of the call.  In the source that is the trampoline the functor runs: lock the weak pointer,
test the result, call with the locked pointer - and nothing before, after or in an `else`. -/

/-- `Conn.runTask _ (.writeComplete b)`: object gone (`!c.alive`, the functor's hold is `wcHold = .weak`): `c`;
otherwise `callback c .wc (.wc ..)`, the user's callback with the connection as its argument -/
def notifyWriteComplete : List Skel :=
  [ .act (.lockWeak "weak" "conn"),
    .ite "conn" [.act (.invoke "cb" "conn")] [] ]

/-- `Conn.runTask _ (.highWater b n)`: the same with `hwmHold`; the callback gets the connection and the backlog `n`
that was bound when the notification was scheduled -/
def notifyHighWaterMark : List Skel :=
  [ .act (.lockWeak "weak" "conn"),
    .ite "conn" [.act (.invoke "cb" "conn, len")] [] ]

/-- `Conn.runTask` for the functors made by `makeWeakCallback` (`.sendInLoop`, `.shutdownInLoop`,
`.drainShutdownInLoop`, `.startReadInLoop`, `.stopReadInLoop`: hold `.weak`) and `Conn.fireDelay` (`if c.alive then
actLoop c .forceClose else if forceCloseDelayHold.. = .weak then c`): the member function runs on the locked object
with the bound arguments, or nothing happens -/
def weakCallbackCall : List Skel :=
  [ .act (.lockWeak "object_" "ptr"),
    .ite "ptr" [.act (.invoke "function_" "ptr.get(), args...")] [] ]

/-- `Conn.callback c .up/.down _` with no hook: the event is recorded (`emit`) and nothing is done to the connection
(in particular no `forceClose()`): the default connection callback only logs -/
def defaultConnectionCallback : List Skel := []

/-- `Conn.consume` with the default `retrieveMax := 1 <<< 40` (`inBuf.drop retrieveMax = []`): a message callback that
does not look at the data drops ALL of it - what `defaultMessageCallback` does when the user installs none -/
def defaultMessageCallback : List Skel :=
  [ .act (.bufOp .retrieveAll "buf" "") ]

end Decl
end MuduoVerif.ConnSkel
