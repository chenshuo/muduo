/-!
# Statement skeletons of the log back-end (C16, `LogFile` half): vocabulary and the skeletons the model implements

`Model/LogFile.lean` takes every branch guard, the period arithmetic and the loop tests of `LogFile` /
`FileUtil::AppendFile` from `Generated/LogFile.lean`; the ORDER and NESTING of the statements between the guards (the
write before the roll test, `++count_` only when no roll by size happened, `count_ = 0` and ONE clock reading under
`checkDue`, `lastFlush_ = now` and the flush only under `flushDue` and only when the period did not change, the clock
read by `rollFile` through `getLogFileName` before its test, the new file opened before the old one is closed, `written`
advanced after the error test, `writtenBytes_` updated once behind the loop) is hand-written there.  This file states,
function by function, the skeleton that the model's definition implements (`Decl.*`, written by reading
`Model/LogFile.lean`, each with a pointer to the model definition it mirrors).  `vlib/gen/logfileskel.py` extracts the
skeleton of the same functions from /repo's current `muduo/base/LogFile.cc` / `FileUtil.cc`
(`Generated/LogFileSkel.lean`, in the vocabulary below) and `Proofs/LogFileSkelTie.lean` proves the two equal by
`rfl`.  A source change that swaps two statements, moves a call into or out of an `if`, merges two `if`s into
`if / else if` (or splits an `else if`), drops an `else`, turns the `while` into an `if` / `do-while`, duplicates or
drops a statement in one of these functions changes the extracted skeleton and breaks that proof.

An `ite` / `loop` is named after the generated guard (`Gen.LogFile.<name>`) the model branches on at that point; a
condition the model has no generated guard for is printed (`mutex_`, `err`).  Expressions are canonical prints of the
source expressions (casts and smart-pointer dereferences dropped, minimal parentheses).  Core Lean only; imports
nothing.

Classes of statements that are NOT part of a skeleton (the generator ignores exactly these):
* I1 diagnostic output (`fprintf(stderr, ..)` in front of the `break` of `AppendFile::append`; the model's event is
  `Ev.failed`, i.e. the `break` itself);
* I2 declarations of locals without an initialiser or default-constructed (`char timebuf[32]`, `struct tm tm`,
  `string filename`) - storage only;
* I3 casts of every kind and `(void)x` - the model computes over `Int` / `Nat` / byte lists;
* I4 the base-class initialiser (`noncopyable`) and default-constructed members (`file_()`) of a constructor;
* I5 `MUDUO_VERIF_POINT` and empty statements.
Value getters (`file_->writtenBytes()`, `string::size/find/c_str`, `ProcessInfo::hostname()/pid()`) are printed inside
the expressions that use them, they are not actions.

Declared beyond what the model computes with (the statements are listed as the code performs them; the model's
reading is given at the function):
* D1 `getLogFileName` builds the TEXT of the name from `basename`, the formatted second, the host name and the pid; the
  model names a file by the second alone (`File.name := clk s.tick` - host name, pid and base name are constants of one
  run, so names of one run differ iff their seconds differ: `C16.roll_names_distinct`);
* D2 `MutexLockGuard lock(*mutex_)` (`lock`): `Model/LogFile.lean` is sequential; `Gen.LogFile.appendLocks/flushLocks`
  + `C16.threadsafe_paths_locked` are what make that the behaviour under several threads - the skeleton adds that the
  guard is taken BEFORE the work, in the same block.
-/
namespace MuduoVerif.LogFileSkel

/-- `while (g) body` tests before the first iteration, `do body while (g)` after it -/
inductive LoopKind | whileDo | doWhile
deriving DecidableEq, Repr

/-- one significant action; strings are canonical prints of source expressions -/
inductive Act
  | store (lhs value : String)        -- `lhs = value` on a member / through a pointer (`x += e` is the store of `x + e`)
  | assign (var value : String)       -- an initialised local, an assignment to a local; `<result>` = value of the action before
  | call (fn args : String)           -- another function of the engine: `rollFile`, `file_.append`, `write`, ...
  | sys (fn args : String)            -- a libc call: `time`, `fwrite_unlocked`, `ferror`, `fflush`, `fopen`, `fclose`, ...
  | lock (mutex : String)             -- `MutexLockGuard lock(mutex)` (released at the end of the enclosing block)
  | assertion (cond : String)         -- `assert(cond)`
  | brk                               -- `break`
  | ret (value : String)              -- `return value`
deriving DecidableEq, Repr

/-- a statement: an action, `if (guard) { thn } else { els }`, or a loop -/
inductive Skel
  | act (a : Act)
  | ite (guard : String) (thn els : List Skel)
  | loop (kind : LoopKind) (guard : String) (body : List Skel)
deriving Repr

/-! `deriving DecidableEq` does not handle the nesting through `List`; the instance is written out
(structural recursion, so `decide` evaluates it in the kernel). -/
mutual
def Skel.decEq : (x y : Skel) → Decidable (x = y)
  | .act a, .act a' => if h : a = a' then isTrue (by rw [h]) else isFalse (by intro e; cases e; exact h rfl)
  | .ite g t e, .ite g' t' e' =>
    if hg : g = g' then
      match Skel.decEqL t t' with
      | isTrue ht =>
        match Skel.decEqL e e' with
        | isTrue he => isTrue (by rw [hg, ht, he])
        | isFalse he => isFalse (by intro q; cases q; exact he rfl)
      | isFalse ht => isFalse (by intro q; cases q; exact ht rfl)
    else isFalse (by intro q; cases q; exact hg rfl)
  | .loop k g b, .loop k' g' b' =>
    if hk : k = k' then
      if hg : g = g' then
        match Skel.decEqL b b' with
        | isTrue hb => isTrue (by rw [hk, hg, hb])
        | isFalse hb => isFalse (by intro q; cases q; exact hb rfl)
      else isFalse (by intro q; cases q; exact hg rfl)
    else isFalse (by intro q; cases q; exact hk rfl)
  | .act _, .ite .. => isFalse (by intro e; cases e)
  | .act _, .loop .. => isFalse (by intro e; cases e)
  | .ite .., .act _ => isFalse (by intro e; cases e)
  | .ite .., .loop .. => isFalse (by intro e; cases e)
  | .loop .., .act _ => isFalse (by intro e; cases e)
  | .loop .., .ite .. => isFalse (by intro e; cases e)
def Skel.decEqL : (x y : List Skel) → Decidable (x = y)
  | [], [] => isTrue rfl
  | [], _ :: _ => isFalse (by intro e; cases e)
  | _ :: _, [] => isFalse (by intro e; cases e)
  | a :: as, b :: bs =>
    match Skel.decEq a b with
    | isTrue h =>
      match Skel.decEqL as bs with
      | isTrue h' => isTrue (by rw [h, h'])
      | isFalse h' => isFalse (by intro q; cases q; exact h' rfl)
    | isFalse h => isFalse (by intro q; cases q; exact h rfl)
end
instance : DecidableEq Skel := Skel.decEq
instance : DecidableEq (List Skel) := Skel.decEqL

/-! ## The skeleton each model function implements

Conventions of the reading (`s : St` is the `LogFile` object, `clk` the clock, `cfg` the three constructor arguments).
* `s.count`, `s.startOfPeriod`, `s.lastRoll`, `s.lastFlush` are the members of the same name; `s.written` is
  `file_->writtenBytes()` (`writtenBytes_` of the current `AppendFile`); `s.cur` is `*file_`, `s.closed` the files
  already destroyed.
* A call of `::time(NULL)` is `clk s.tick` together with `tick := s.tick + 1` and the event `Ev.time`; the local that
  receives it (`now`) is `clk s.tick` in the rest of the branch.
* `File.flush` is `fflush` (`AppendFile::flush`) - and what `fclose` does to the old file.  `Ev.opened` is the `fopen`
  of `AppendFile`'s constructor, `Ev.closed` the `fclose` of its destructor, `Ev.fw` one `fwrite_unlocked` call
  (`AppendFile::write`), `Ev.failed` the `break`.
* A record update that sets several fields stands for the stores in the order the source performs them (they do not
  read each other); `St.log` is newest first, so `Ev.closed .. :: Ev.opened .. :: Ev.time .. :: s.log` is the order
  time, opened, closed.
* `if g .. then A else B` on a generated guard `g` is `ite "g" A B`; a recursion of the model on the same test is
  `loop`. -/
namespace Decl

/-- `LogFile.init clk`: every field zero (`count := 0`, and `rollAllowed (clk 0) 0`, `rollStart` applied as by
`rollFile` on `lastRoll = 0`), then exactly what `rollFile` does on that state - the constructor initialises the
members and calls `rollFile()`.  The `assert` on `basename` has no counterpart (the harness passes a plain name). -/
def ctor : List Skel :=
  [ .act (.store "basename_" "basename"),
    .act (.store "rollSize_" "rollSize"),
    .act (.store "flushInterval_" "flushInterval"),
    .act (.store "checkEveryN_" "checkEveryN"),
    .act (.store "count_" "0"),
    .act (.store "mutex_" "threadSafe ? new MutexLock() : NULL"),
    .act (.store "startOfPeriod_" "0"),
    .act (.store "lastRoll_" "0"),
    .act (.store "lastFlush_" "0"),
    .act (.assertion "basename.find('/') == npos"),
    .act (.call "rollFile" "") ]

/-- `LogFile.step cfg clk s (.append rec fws) = afterAppend cfg clk (afterWrite s (appendFile rec fws))` is
`append_unlocked` and nothing else: both branches of `append` do exactly that call; with a mutex the guard is taken
first (D2). -/
def append : List Skel :=
  [ .ite "mutex_"
      [ .act (.lock "*mutex_"),
        .act (.call "append_unlocked" "logline, len") ]
      [ .act (.call "append_unlocked" "logline, len") ] ]

/-- `LogFile.step _ _ s .flush = { s with cur := s.cur.flush, log := Ev.flushed .. :: s.log }`: one
`file_->flush()` in either branch, nothing else (no clock reading, `lastFlush` untouched). -/
def flush : List Skel :=
  [ .ite "mutex_"
      [ .act (.lock "*mutex_"),
        .act (.call "file_.flush" "") ]
      [ .act (.call "file_.flush" "") ] ]

/-- `afterWrite s (appendFile rec fws)` first - the record goes to the CURRENT file before any test -, then
`LogFile.afterAppend`:
`if rollBySize s.written cfg.rollSize then (rollFile clk s).1` (count untouched)
`else if checkDue (s.count + 1) cfg.checkEveryN then` (the test sees the incremented count) - under it `count := countReset`
and ONE clock reading (`tick + 1`, `Ev.time`), `periodOf (clk s.tick)` -
`  if periodChanged .. then (rollFile clk { s with count := countReset, tick := s.tick + 1, .. }).1`
`  else if flushDue .. then { .. lastFlush := clk s.tick, cur := s.cur.flush .. } else { .. }`
`else { s with count := s.count + 1 }`. -/
def appendUnlocked : List Skel :=
  [ .act (.call "file_.append" "logline, len"),
    .ite "rollBySize"
      [ .act (.call "rollFile" "") ]
      [ .act (.store "count_" "count_ + 1"),
        .ite "checkDue"
          [ .act (.store "count_" "0"),
            .act (.sys "time" "NULL"),
            .act (.assign "now" "<result>"),
            .act (.assign "thisPeriod_" "now / kRollPerSeconds_ * kRollPerSeconds_"),
            .ite "periodChanged"
              [ .act (.call "rollFile" "") ]
              [ .ite "flushDue"
                  [ .act (.store "lastFlush_" "now"),
                    .act (.call "file_.flush" "") ]
                  [] ] ]
          [] ] ]

/-- `LogFile.rollFile clk s`: the clock is read FIRST and in both branches (`tick := s.tick + 1`, `Ev.time (clk s.tick)`:
`getLogFileName(basename_, &now)` stores `time(NULL)` into `now`), `rollStart (clk s.tick)` is `start`; then
`if rollAllowed (clk s.tick) s.lastRoll then (` `lastRoll`, `lastFlush := clk s.tick`, `startOfPeriod := rollStart ..`,
the new file created (`Ev.opened`, `written := 0`) and only then the old one closed (`closed ++ [s.cur.flush]`,
`Ev.closed`): `file_.reset(new AppendFile(filename))` `, true) else (.., false)`. -/
def rollFile : List Skel :=
  [ .act (.assign "now" "0"),
    .act (.call "getLogFileName" "basename_, &now"),
    .act (.assign "filename" "<result>"),
    .act (.assign "start" "now / kRollPerSeconds_ * kRollPerSeconds_"),
    .ite "rollAllowed"
      [ .act (.store "lastRoll_" "now"),
        .act (.store "lastFlush_" "now"),
        .act (.store "startOfPeriod_" "start"),
        .act (.call "file_.reset" "new FileUtil::AppendFile(filename)"),
        .act (.ret "true") ]
      [],
    .act (.ret "false") ]

/-- inside `LogFile.rollFile`: exactly one `time(NULL)`, stored through `now` (`clk s.tick`, `tick + 1`); the name is
a function of that second (`gmtime_r(now, ..)`, `strftime`) and of run constants (D1: `File.name := clk s.tick`). -/
def getLogFileName : List Skel :=
  [ .act (.call "filename.reserve" "basename.size() + 64"),
    .act (.assign "filename" "basename"),
    .act (.sys "time" "NULL"),
    .act (.store "*now" "<result>"),
    .act (.sys "gmtime_r" "now, &tm"),
    .act (.sys "strftime" "timebuf, sizeof(timebuf), \".%Y%m%d-%H%M%S.\", &tm"),
    .act (.assign "filename" "filename + timebuf"),
    .act (.assign "filename" "filename + hostname()"),
    .act (.sys "snprintf" "pidbuf, sizeof(pidbuf), \".%d\", pid()"),
    .act (.assign "filename" "filename + pidbuf"),
    .act (.assign "filename" "filename + \".log\""),
    .act (.ret "filename") ]

/-- the new `File` of `LogFile.rollFile` / `init`: `{ name := .., content := [], flushedAt := [] }`, `written := 0`,
`Ev.opened`: the stream is opened (append mode) and the byte counter starts at zero. -/
def fileCtor : List Skel :=
  [ .act (.sys "fopen" "filename.c_str(), \"ae\""),
    .act (.store "fp_" "<result>"),
    .act (.store "writtenBytes_" "0"),
    .act (.assertion "fp_"),
    .act (.sys "setbuffer" "fp_, buffer_, sizeof(buffer_)") ]

/-- `LogFile.close` / the old file in `rollFile`: `cur.flush` + `Ev.closed` - one `fclose` (which flushes) -/
def fileDtor : List Skel :=
  [ .act (.sys "fclose" "fp_") ]

/-- `LogFile.appendLoop rec written fws` (from `written = 0`: `appendFile`), one unfolding per iteration - the
RECURSION `appendLoop rec (appendAdvance written n) rs` is the `while`:
`if appendContinues written rec.length then` `remain := appendRemain ..`, one environment result consumed
(`n := min r.n (appendRequest remain)`: the `write` call, `Ev.fw`),
`if appendShort n remain ∧ r.err = true then` stop with `counted := written` (NOT advanced), `failed := true`
`else` recurse on `appendAdvance written n`; `ferror` is consulted only after a short count (the conjunction is the
nested `if`).  Behind the loop `afterWrite`: `written := appendTotal s.written o.counted`, once. -/
def fileAppend : List Skel :=
  [ .act (.assign "written" "0"),
    .loop .whileDo "appendContinues"
      [ .act (.assign "remain" "len - written"),
        .act (.call "write" "logline + written, remain"),
        .act (.assign "n" "<result>"),
        .ite "appendShort"
          [ .act (.sys "ferror" "fp_"),
            .act (.assign "err" "<result>"),
            .ite "err"
              [ .act .brk ]
              [] ]
          [],
        .act (.assign "written" "written + n") ],
    .act (.store "writtenBytes_" "writtenBytes_ + written") ]

/-- `File.flush`: `flushedAt := f.flushedAt ++ [f.content.length]` - one `fflush` -/
def fileFlush : List Skel :=
  [ .act (.sys "fflush" "fp_") ]

/-- one `FwRes` of the environment / one `Ev.fw name off req n`: a single `fwrite_unlocked` of the whole request
(element size 1, so the result counts bytes) -/
def fileWrite : List Skel :=
  [ .act (.sys "fwrite_unlocked" "logline, 1, len, fp_"),
    .act (.ret "<result>") ]

end Decl

end MuduoVerif.LogFileSkel
