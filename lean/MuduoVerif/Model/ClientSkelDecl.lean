import MuduoVerif.Generated.Client
/-!
# Statement skeletons of the client engine (C12): vocabulary and the skeletons the model implements

`Model/Client.lean` takes its constants, the errno table, every state test, the hand-off kinds and the destructor's
branch tests from `Generated/Client.lean`; the ORDER and NESTING of the statements inside each `Connector` /
`TcpClient` function is hand-written there.  This file states, function by function, the skeleton that the model's
definition implements (`Decl.*`, written by reading `Model/Client.lean`, each with a pointer to the model
definition).  `vlib/gen/clientskel.py` extracts the skeleton of the same functions from /repo's current sources
(`Generated/ClientSkel.lean`, in the vocabulary below), and `Proofs/ClientSkelTie.lean` proves the two equal by
`rfl`.  A source change that moves `setState(kConnected)` behind the hand-over, calls `retry(sockfd)` before the
channel is removed, merges two independent `if`s into `if / else if`, drops an `else`, moves a call into or out of a
branch, adds, drops or duplicates a statement in one of these functions changes the extracted skeleton and breaks
that proof.

An `ite` is named after the generated guard (`Gen.Client.<name>`) the model branches on at that point; `sw
"connectTable"` is the model's `match classifyConnect r with | .proceed | .retry | .giveUp`.  Core Lean only.

What the model abstracts from - and the extractor therefore leaves out (classes I1-I9 in the header of
`Generated/ClientSkel.lean`): log statements; `assertInLoopThread()`; locals that carry no action (`connName`,
`buf`); the scope of `MutexLockGuard lock(mutex_)` (every model function is one atomic step); `snprintf` of the
connection's name; the `break`s of the switch.  Actions the model does not represent as state but which are kept in
the skeleton are said so at the function (`getPeerAddr/getLocalAddr`, `++nextConnId_`, the user callbacks handed to
the connection, the `loop_ == conn->getLoop()` assertions: one loop in the model).
-/
namespace MuduoVerif.ClientSkel
open MuduoVerif.Gen.Client

/-- `channel_->op(..)` on the connector's channel -/
inductive ChanOp | enableWriting | disableAll | remove | setWriteCallback | setErrorCallback
deriving DecidableEq, Repr

/-- `newConnectionCallback_(sockfd)` (bound to `TcpClient::newConnection` by the client's constructor) -/
inductive CbKind | newConnection
deriving DecidableEq, Repr

/-- socket calls (`sockets::`); their results are the model's environment inputs -/
inductive SysOp | createNonblockingOrDie | connect | close | getSocketError | isSelfConnect | getPeerAddr | getLocalAddr
deriving DecidableEq, Repr

/-- one significant action; strings are canonical prints of source expressions (casts dropped, `->` as `.`); a functor
is printed as the function it runs, `Class::f(bound arguments)` for a member function (the object is left out when it
is `this` / `shared_from_this()`), `f(bound arguments)` for a free function -/
inductive Act
  | setState (s : States)                                -- `setState(s)` of the connector
  | chan (op : ChanOp) (arg : String)                    -- `channel_->op(..)`; `arg`: the functor of a `set*Callback`
  | chanNew (args : String)                              -- `channel_.reset(new Channel(args))`
  | chanReset                                            -- `channel_.reset()`: the channel object is destroyed
  | cb (which : CbKind) (args : String)                  -- `xxxCallback_(args)`
  | queue (what : String)                                -- `loop_->queueInLoop(functor running what)`
  | run (what : String)                                  -- `loop_->runInLoop(..)`
  | timer (delay : String) (what : String)               -- `loop_->runAfter(delay, ..)`
  | cancelTimer (member : String)                        -- `loop_->cancel(member)`: the timer whose id `member` holds
  | call (fn : String) (args : String)                   -- direct call of another member function
  | sys (op : SysOp) (args : String)
  | on (obj : String) (method : String) (args : String)  -- `obj->method(args)`: `connector_`, `connection_`, `conn`
  | create (cls : String) (args : String)                -- `new cls(args)`
  | assign (var : String) (value : String)               -- store to a member or to a local (a call in `value` is the
                                                         -- action just before it)
  | assertion (text : String)                            -- `assert(..)` over members
  | ret (value : String)
deriving DecidableEq, Repr

/-- a statement: an action, `if (guard) { thn } else { els }`, or the `switch` behind a generated errno table with one
branch per class of `Gen.Client.ConnectClass` -/
inductive Skel
  | act (a : Act)
  | ite (guard : String) (thn els : List Skel)
  | sw (table : String) (proceed retry giveUp : List Skel)
deriving Repr

/-! `deriving DecidableEq` does not handle the nesting through `List`; the instance is written out
(structural recursion, so `decide` evaluates it in the kernel). -/
mutual
def Skel.decEq : (x y : Skel) → Decidable (x = y)
  | .act a, .act a' => if h : a = a' then isTrue (by rw [h]) else isFalse (by intro e; cases e; exact h rfl)
  | .act _, .ite .. => isFalse (by intro e; cases e)
  | .act _, .sw .. => isFalse (by intro e; cases e)
  | .ite .., .act _ => isFalse (by intro e; cases e)
  | .ite .., .sw .. => isFalse (by intro e; cases e)
  | .sw .., .act _ => isFalse (by intro e; cases e)
  | .sw .., .ite .. => isFalse (by intro e; cases e)
  | .ite g t e, .ite g' t' e' =>
    if hg : g = g' then
      match Skel.decEqL t t' with
      | isTrue ht =>
        match Skel.decEqL e e' with
        | isTrue he => isTrue (by rw [hg, ht, he])
        | isFalse he => isFalse (by intro q; cases q; exact he rfl)
      | isFalse ht => isFalse (by intro q; cases q; exact ht rfl)
    else isFalse (by intro q; cases q; exact hg rfl)
  | .sw g a b c, .sw g' a' b' c' =>
    if hg : g = g' then
      match Skel.decEqL a a' with
      | isTrue ha =>
        match Skel.decEqL b b' with
        | isTrue hb =>
          match Skel.decEqL c c' with
          | isTrue hc => isTrue (by rw [hg, ha, hb, hc])
          | isFalse hc => isFalse (by intro q; cases q; exact hc rfl)
        | isFalse hb => isFalse (by intro q; cases q; exact hb rfl)
      | isFalse ha => isFalse (by intro q; cases q; exact ha rfl)
    else isFalse (by intro q; cases q; exact hg rfl)
def Skel.decEqL : (x y : List Skel) → Decidable (x = y)
  | [], [] => isTrue rfl
  | [], _ :: _ => isFalse (by intro e; cases e)
  | _ :: _, [] => isFalse (by intro e; cases e)
  | a :: as, b :: bs =>
    match Skel.decEq a b with
    | isTrue h =>
      match Skel.decEqL as bs with
      | isTrue h' => isTrue (by rw [h, h'])
      | isFalse h' => isFalse (by intro q; cases q; exact h' rfl)
    | isFalse h => isFalse (by intro q; cases q; exact h rfl)
end
instance : DecidableEq Skel := Skel.decEq
instance : DecidableEq (List Skel) := Skel.decEqL

/-! ## The skeleton each model function implements

Conventions of the reading.  The connector's fields: `cstate` is `state_` (a store is `setState`), `cConnect` is
`connect_`, `delay` is `retryDelayMs_`, `chan : Option Nat` is `channel_` (`some k`: a channel object watching socket
`k` exists - `chan := some k` is `channel_.reset(new Channel(loop_, sockfd))`, `chan := none` is `channel_.reset()`),
`chanOn` is "registered with write interest" (`chanOn := true` is `enableWriting`, `chanOn := false` is `disableAll` +
`remove`).  The client's fields: `tConnect` is `TcpClient::connect_`, `connection` is `connection_`.  `enqueue c t` /
`pending := pending ++ [t]` is `queueInLoop`; `match <x>Dispatch, w` (a generated `Dispatch`) is `runInLoop` /
`queueInLoop` as the source says; `timers := timers ++ [..]` (or `.addTimer` from a foreign thread) is `runAfter`.
`closeSock` is `sockets::close`; `popConnect` / `popSoErr` / `popSelf` are the scripted results of `::connect`,
`getSocketError`, `isSelfConnect` - the model pops each exactly where the source makes the call.  The local
`sockfd` is the model's `k`.  `if g .. then A else B` on a generated guard `g` is `ite "g" A B`. -/
namespace Decl

/-- `Client.userConnect` (second half: `Connector::start`): `cConnect := true`, then `match startDispatch, w with
| .run, .loop => startCycle c1 | _, _ => enqueue c1 .startCycle` with `startDispatch = .run` (`Generated/Client.lean`) -/
def start : List Skel :=
  [ .act (.assign "connect_" "true"), .act (.run "Connector::startCycleInLoop") ]

/-- `Client.startCycle`: `startInLoop { c with cstate := if cycleClearsState c.cstate then .kDisconnected else c.cstate,
delay := if cycleResetsDelay then kInitRetryDelayMs else c.delay, .. }` (`cycleResetsDelay` = the unconditional store
is there) -/
def startCycleInLoop : List Skel :=
  [ .ite "cycleClearsState" [.act (.setState .kDisconnected)] [],
    .act (.assign "retryDelayMs_" "kInitRetryDelayMs"),
    .act (.call "cancelRetryTimer" ""),
    .act (.call "startInLoop" "") ]

/-- `Client.startInLoop`: `if c.asserts ∧ ¬ startAssert c.cstate then <abort "state_ == kDisconnected"> else if
startConnects c.cConnect then connect c else c` -/
def startInLoop : List Skel :=
  [ .act (.assertion "state_ == kDisconnected"),
    .ite "startConnects" [.act (.call "connect" "")] [] ]

/-- `Client.connectorStop`: `cConnect := false`, then `match stopDispatch, w with | .run, .loop => stopInLoop c1
| _, _ => enqueue c1 .stopInLoop` with `stopDispatch = .queue` -/
def stop : List Skel :=
  [ .act (.assign "connect_" "false"), .act (.queue "Connector::stopInLoop") ]

/-- `Client.stopInLoop`: `if stopActs c.cstate then match c.chan with | some k => retry { c with cstate :=
.kDisconnected, chanOn := false, chan := none } k` (the branch `stopResetsChannelNow = true`): the state store, the
channel unregistered (`disableAll`, `remove`), its socket `k` taken (`channel_->fd()`), the channel object destroyed,
then `retry k` -/
def stopInLoop : List Skel :=
  [ .ite "stopCancelsRetryTimer" [.act (.call "cancelRetryTimer" "")] [],
    .ite "stopActs"
      [ .act (.setState .kDisconnected),
        .act (.chan .disableAll ""),
        .act (.chan .remove ""),
        .act (.assign "sockfd" "channel_.fd()"),
        .act .chanReset,
        .act (.call "retry" "sockfd") ]
      [] ]

/-- `Client.connect`: a new socket `k := c.nsock` (`.sockCreated k`: `createNonblockingOrDie`), `.attempt k now` and
`popConnect` (`::connect`; the model's `r` is `savedErrno`, 0 for success), then `match classifyConnect r with
| .proceed => connecting c2 k | .retry => retry c2 k | .giveUp => closeSock c2 k` -/
def connect : List Skel :=
  [ .act (.sys .createNonblockingOrDie "serverAddr_.family()"),
    .act (.assign "sockfd" "createNonblockingOrDie(serverAddr_.family())"),
    .act (.sys .connect "sockfd, serverAddr_.getSockAddr()"),
    .act (.assign "ret" "connect(sockfd, serverAddr_.getSockAddr())"),
    .act (.assign "savedErrno" "((ret == 0) ? 0 : errno)"),
    .sw "connectTable"
      [.act (.call "connecting" "sockfd")]
      [.act (.call "retry" "sockfd")]
      [.act (.sys .close "sockfd")] ]

/-- `Client.restart`: `startInLoop { c with cstate := .kDisconnected, delay := kInitRetryDelayMs, cConnect := true, .. }` -/
def restart : List Skel :=
  [ .act (.setState .kDisconnected),
    .act (.assign "retryDelayMs_" "kInitRetryDelayMs"),
    .act (.assign "connect_" "true"),
    .act (.call "startInLoop" "") ]

/-- `Client.connecting`: the state store comes first (`die { c with cstate := .kConnecting } (.abort "!channel_")`: the
assertion fails in state `kConnecting`), then `assert(!channel_)` (`connectingAssert`), then `chan := some k` (a new
`Channel` on the socket; replacing a registered one is the model's `.uaf`), `chanOn := true` (`enableWriting`).  The two
callbacks installed in between are what `Client.dispatchConnector` runs: `handleWrite` for writable, `handleError` for
an error -/
def connecting : List Skel :=
  [ .act (.setState .kConnecting),
    .act (.assertion "!channel_"),
    .act (.chanNew "loop_, sockfd"),
    .act (.chan .setWriteCallback "Connector::handleWrite"),
    .act (.chan .setErrorCallback "Connector::handleError"),
    .act (.chan .enableWriting "") ]

/-- the first lines of `Client.handleWrite` / `Client.handleError`: `c1 := { c with chanOn := false, pending :=
c.pending ++ [.resetChannel] }` with `k` from `c.chan = some k`: unregistered, the socket number taken, the destruction
of the channel object queued (`resetChannelQueued`), `k` returned -/
def removeAndResetChannel : List Skel :=
  [ .act (.chan .disableAll ""),
    .act (.chan .remove ""),
    .act (.assign "sockfd" "channel_.fd()"),
    .act (.queue "Connector::resetChannel"),
    .act (.ret "sockfd") ]

/-- `Client.resetChannel`: `{ c with chan := none }` (a registered channel destroyed: `.uaf`) -/
def resetChannel : List Skel :=
  [ .act .chanReset ]

/-- `Client.handleWrite`: `if writeActs c.cstate then` (`removeAndResetChannel`, above) `let (err, c2) := popSoErr c1;
if writeSoError err then retry c2 k else let (self, c3) := popSelf c2` - the self-connect query is made only here, in
the else branch - `if writeSelfConnect self then retry c3 k else if writeHandsOver c3.cConnect then newConnection { c3
with cstate := .kConnected } k else closeSock { c3 with cstate := .kConnected } k` - the state store precedes both the
callback and the close; `else if c.asserts ∧ ¬ writeElseAssert c.cstate then <abort "state_ == kDisconnected">` -/
def handleWrite : List Skel :=
  [ .ite "writeActs"
      [ .act (.call "removeAndResetChannel" ""),
        .act (.assign "sockfd" "removeAndResetChannel()"),
        .act (.sys .getSocketError "sockfd"),
        .act (.assign "err" "getSocketError(sockfd)"),
        .ite "writeSoError"
          [.act (.call "retry" "sockfd")]
          [ .act (.sys .isSelfConnect "sockfd"),
            .ite "writeSelfConnect"
              [.act (.call "retry" "sockfd")]
              [ .act (.setState .kConnected),
                .ite "writeHandsOver" [.act (.cb .newConnection "sockfd")] [.act (.sys .close "sockfd")] ] ] ]
      [.act (.assertion "state_ == kDisconnected")] ]

/-- `Client.handleError`: `if errorActs c.cstate then` (`removeAndResetChannel`) `let (_, c2) := popSoErr c1; retry c2 k`
- `SO_ERROR` is read (and only logged), then `retry` unconditionally -/
def handleError : List Skel :=
  [ .ite "errorActs"
      [ .act (.call "removeAndResetChannel" ""),
        .act (.assign "sockfd" "removeAndResetChannel()"),
        .act (.sys .getSocketError "sockfd"),
        .act (.assign "err" "getSocketError(sockfd)"),
        .act (.call "retry" "sockfd") ]
      [] ]

/-- `Client.retry`: `c1 := closeSock c k` (`retryClosesSocket`), `cstate := .kDisconnected` in both branches, and `if
retrySchedules c1.cConnect then` a timer at `now + retryDelayUs used` running `startInLoop` (`Client.fireTimers`:
`.retry => startInLoop c`) with `used` the delay before the update (`retryUsesOldDelay`), then `delay := nextDelay
c1.delay` -/
def retry : List Skel :=
  [ .act (.sys .close "sockfd"),
    .act (.setState .kDisconnected),
    .ite "retrySchedules"
      [ .act (.timer "retryDelayMs_ / 1000" "Connector::startInLoop"),
        .act (.assign "retryTimer_" "loop_.runAfter(retryDelayMs_ / 1000, bind Connector::startInLoop)"),
        .act (.assign "retryDelayMs_" "min(retryDelayMs_ * 2, kMaxRetryDelayMs)") ]
      [] ]

/-- `Client.cancelRetry`: the timer whose id `retry` stored last (`retryTimerStored`) is removed from the timer queue
- `timers.filter (¬ retry)`: in every guarded history at most one back-off timer is pending (`Mid.a8`), so the one
`retryTimer_` names is all of them - and the id is forgotten -/
def cancelRetryTimer : List Skel :=
  [ .act (.cancelTimer "retryTimer_"),
    .act (.assign "retryTimer_" "muduo::net::TimerId()") ]

/-- `Client.handleClose`, `| .detached => enqueue c1 (.connectDestroyed k)` -/
def detailRemoveConnection : List Skel :=
  [ .act (.queue "TcpConnection::connectDestroyed(conn)") ]

/-- `Client.fireTimers`, `| .park => c`: the parked functor does nothing (it only keeps the connector alive:
`Client.timerHolds`) -/
def detailRemoveConnector : List Skel := []

/-- `Client.userDestroy`: `match c0.connection with | some k =>` (`dtorHasConn`) `unique := useCount c0 k == 1` (taken
first, together with the copy of `connection_`), then `match dtorSetCbDispatch, w with | .run, .loop => updConn c0 k
(closeCb := .detached) | _, _ => enqueue c0 (.setCloseCb k)` (`runInLoop` of `setCloseCallback(detail::removeConnection)`),
then `if dtorForceCloses unique then connForceClose c1 k`; `| none => connectorStop c0 w`, then the park timer at `now +
dtorParkUs` (`runAfter(1, removeConnector)`).  `assert(loop_ == conn->getLoop())`: the model has one loop -/
def dtor : List Skel :=
  [ .act (.assign "unique" "false"),
    .act (.assign "unique" "connection_.unique()"),
    .act (.assign "conn" "connection_"),
    .ite "dtorHasConn"
      [ .act (.assertion "loop_ == conn->getLoop()"),
        .act (.assign "cb" "bind removeConnection(loop_, _1)"),
        .act (.run "TcpConnection::setCloseCallback(conn, cb)"),
        .ite "dtorForceCloses" [.act (.on "conn" "forceClose" "")] [] ]
      [ .act (.on "connector_" "stop" ""),
        .act (.timer "1" "removeConnector(connector_)") ] ]

/-- `Client.userConnect` (first half): `tConnect := true`, then `Connector::start` (`Decl.start`) -/
def clientConnect : List Skel :=
  [ .act (.assign "connect_" "true"), .act (.on "connector_" "start" "") ]

/-- `Client.userDisconnect`: `c1 := { c with tConnect := false }; match c1.connection with | some k => connShutdown c1 k
| none => c1` -/
def clientDisconnect : List Skel :=
  [ .act (.assign "connect_" "false"),
    .ite "connection_" [.act (.on "connection_" "shutdown" "")] [] ]

/-- `Client.userStop`: `connectorStop { c with tConnect := false, .. } w` -/
def clientStop : List Skel :=
  [ .act (.assign "connect_" "false"), .act (.on "connector_" "stop" "") ]

/-- `Client.newConnection`: `sockSt[k] := .handedOver`, `conns ++ [{ sock := k }]` (a `TcpConnection` on the socket, close
callback `.client` = `TcpClient::removeConnection`), `connection := some k`, then `.up k` (`connectEstablished`) and, inside
it, the user's callback (`runHookUp`) - the trace is `[.handedOver k, .up k]` followed by what the callback does,
`connection_` is set before the UP callback.  That order is also the generated `Gen.Client.publishBeforeEstablish`, on
which the model branches (the callback of the other order would find `connection_` empty).  Not represented in the
model's state: the addresses and the name (`getPeerAddr`, `getLocalAddr`, `nextConnId_`: a connection is named by its
socket) and the three user callbacks handed on -/
def newConnection : List Skel :=
  [ .act (.sys .getPeerAddr "sockfd"),
    .act (.assign "nextConnId_" "++nextConnId_"),
    .act (.sys .getLocalAddr "sockfd"),
    .act (.create "TcpConnection" "loop_, connName, sockfd, localAddr, peerAddr"),
    .act (.on "conn" "setConnectionCallback" "connectionCallback_"),
    .act (.on "conn" "setMessageCallback" "messageCallback_"),
    .act (.on "conn" "setWriteCompleteCallback" "writeCompleteCallback_"),
    .act (.on "conn" "setCloseCallback" "bind TcpClient::removeConnection(_1)"),
    .act (.assign "connection_" "conn"),
    .act (.on "conn" "connectEstablished" "") ]

/-- `Client.handleClose`, `| .client =>`: `if c1.asserts ∧ c1.connection ≠ some k then <abort "connection_ == conn">
else c2 := { c1 with connection := none, pending := c1.pending ++ [.connectDestroyed k] }; if reconnects c2.retry
c2.tConnect then restart c2 else c2`.  `assert(loop_ == conn->getLoop())`: the model has one loop -/
def removeConnection : List Skel :=
  [ .act (.assertion "loop_ == conn->getLoop()"),
    .act (.assertion "connection_ == conn"),
    .act (.assign "connection_" "nullptr"),
    .act (.queue "TcpConnection::connectDestroyed(conn)"),
    .ite "reconnects" [.act (.on "connector_" "restart" "")] [] ]

end Decl
end MuduoVerif.ClientSkel
