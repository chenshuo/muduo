import MuduoVerif.Generated.Poller
/-!
# Statement skeletons of the dispatch engine (C09): vocabulary and the skeletons the model implements

`Model/Poller.lean` takes every constant, mask and branch guard from `Generated/Poller.lean`; the ORDER and NESTING of
the statements inside each function is hand-written there.  This file states, function by function, the skeleton that
the model's definition implements (`Decl.*`, written by reading `Model/Poller.lean`, each with a pointer to the model
definition).  `vlib/gen/pollerskel.py` extracts the skeleton of the same functions from /repo's current
`EPollPoller.cc`, `PollPoller.cc`, `Channel.cc` and `EventLoop.cc` (`Generated/PollerSkel.lean`, in the vocabulary
below), and `Proofs/PollerSkelTie.lean` proves the two equal by `rfl`.  A source change that calls `set_index`
on the other side of `update`, reads `channelAtEnd` after the swap, computes `idx` before `push_back`, tells the
loop before `addedToLoop_` is stored, runs the error callback before the close callback, resets `eventHandling_`
before `currentActiveChannel_`, merges two independent `if`s into `if / else if`, drops an `else`, adds, drops or
duplicates a statement in one of these functions changes the extracted skeleton and breaks that proof.

An `ite` is named after the generated guard (`Gen.Poller.<name>`) the model branches on at that point; the five
conditions `vlib/gen/poller.py` does not translate (`numEvents > 0` of `PollPoller::poll`, the failure test of
`epoll_ctl`, `tied_`, `guard`, `eventHandling_`) are printed.  Core Lean only.

What the model does not have, and the extraction therefore leaves out (the same list heads
`Generated/PollerSkel.lean`): log statements below ERROR and the guarded `printActiveChannels()`;
`assertInLoopThread()`; the three assertions `channel->ownerLoop() == this` (one loop), `n == 1` (count returned by
`channels_.erase`) and `channel->fd() == pfd->fd` (`cmap` is keyed by `fdOf` by construction); locals declared without
an initialiser; casts; time stamps; errno bookkeeping and the report of a failed wait (`nret : Nat`); Channel's own
`eventHandling_`; stores to `pollfd::revents` (the entries of `State.pollfds` are `(fd, events)`); an `if` that only
logs; `MUDUO_VERIF_POINT`.

Where the model is coarser than the skeleton it implements (nothing is left out of the extraction for these; each is
repeated at the definition concerned):
* A1 `Channel::handleEvent`: the model's channels are not tied (`tied_ = false`; the tie belongs to the connection
  engine, `ConnSkel`'s `chan .tie`): `Poller.dispatch` calls `Poller.handleEvent` (= `handleEventWithGuard`) directly,
  i.e. it implements the else-branch of the declared skeleton.
* A2 one test of the model for two adjacent assertions of the source, or two for one: `s.cmap (fdOf c) ≠ some c` is
  `assert(channels_.find(fd) != channels_.end()); assert(channels_[fd] == channel)` (`none`: the first fails, another
  channel: the second); `ch.index < 0` and `s.pollfds[idx]? = none` are the two conjuncts of `assert(0 <= idx && idx <
  pollfds_.size())`.  The labels of the model's `abort` events abbreviate the source text in a few places; the
  skeletons carry the source text.
* A3 `Channel::remove` / `EventLoop::removeChannel`: the two assertions that state the documented preconditions
  (`isNoneEvent()`, "the current channel or one outside the active list") are the guard `Poller.removeOk`: a request
  outside them is rejected (`Ev.reject`) by model and harness alike instead of aborting the process.
* A4 `doPendingFunctors()` at the end of an iteration: the functor queue is the loop engine's (`Model/Loop.lean`); in
  this engine the operations between two polls are the inputs `In.op`, which `Poller.run` applies after `Poller.iter`
  has returned, i.e. after `handling := false` - the position the call has in the skeleton.
-/
namespace MuduoVerif.PollerSkel
open MuduoVerif.Gen.Poller

/-- `::epoll_wait`, `::poll`, `::epoll_ctl` -/
inductive SysOp | epollWait | poll | epollCtl
deriving DecidableEq, Repr

/-- mutating member calls through a `Channel*` -/
inductive ChanOp | setIndex | setRevents | handleEvent
deriving DecidableEq, Repr

/-- `channels_[key] = value`, `channels_.erase(key)` -/
inductive MapOp | insert | erase
deriving DecidableEq, Repr

/-- mutating operations of `pollfds_`, `events_`, `activeChannels_` / `*activeChannels` -/
inductive VecOp | pushBack | popBack | resize | clear | iterSwap
deriving DecidableEq, Repr

/-- the four callbacks of a channel -/
inductive Cb | close | error | read | write
deriving DecidableEq, Repr

/-- virtual calls through `EventLoop::poller_` -/
inductive PollerFn | poll | updateChannel | removeChannel | hasChannel
deriving DecidableEq, Repr

/-- calls through `Channel::loop_` -/
inductive LoopFn | updateChannel | removeChannel
deriving DecidableEq, Repr

/-- log statements that are events of the model (`Ev.syserr`, `Ev.fatal`) -/
inductive LogLevel | syserr | sysfatal | error | fatal
deriving DecidableEq, Repr

/-- one significant action; strings are canonical prints of source expressions (casts dropped, `->` as `.`), the
text of an assertion is its source text -/
inductive Act
  | sys (op : SysOp) (args : String)
  | zero (args : String)                                  -- `memZero(&x, sizeof x)`
  | assertion (text : String)                             -- `assert(text)`: `abort` in the model
  | chan (ptr : String) (op : ChanOp) (args : String)     -- `ptr->op(args)`
  | chanMap (op : MapOp) (key value : String)
  | vec (array : String) (op : VecOp) (args : String)
  | cb (k : Cb)                                           -- `xCallback_(..)`
  | call (fn : String) (args : String)                    -- direct call of a member function of the same class
  | poller (fn : PollerFn) (args : String)                -- `poller_->fn(args)`
  | loop (fn : LoopFn) (args : String)                    -- `loop_->fn(args)`
  | log (level : LogLevel)
  | assign (var : String) (value : String)                -- declaration with an initialiser / assignment (`&x`: reference)
  | ret
deriving DecidableEq, Repr

/-- a statement: an action, `if (guard) { thn } else { els }`, or `for (var : range) { body }` -/
inductive Skel
  | act (a : Act)
  | ite (guard : String) (thn els : List Skel)
  | each (var range : String) (body : List Skel)
deriving Repr

/-! `deriving DecidableEq` does not handle the nesting through `List`; the instance is written out
(structural recursion, so `decide` evaluates it in the kernel). -/
mutual
def Skel.decEq : (x y : Skel) → Decidable (x = y)
  | .act a, .act a' => if h : a = a' then isTrue (by rw [h]) else isFalse (by intro e; cases e; exact h rfl)
  | .ite g t e, .ite g' t' e' =>
    if hg : g = g' then
      match Skel.decEqL t t' with
      | isTrue ht =>
        match Skel.decEqL e e' with
        | isTrue he => isTrue (by rw [hg, ht, he])
        | isFalse he => isFalse (by intro q; cases q; exact he rfl)
      | isFalse ht => isFalse (by intro q; cases q; exact ht rfl)
    else isFalse (by intro q; cases q; exact hg rfl)
  | .each v r b, .each v' r' b' =>
    if hv : v = v' then
      if hr : r = r' then
        match Skel.decEqL b b' with
        | isTrue hb => isTrue (by rw [hv, hr, hb])
        | isFalse hb => isFalse (by intro q; cases q; exact hb rfl)
      else isFalse (by intro q; cases q; exact hr rfl)
    else isFalse (by intro q; cases q; exact hv rfl)
  | .act _, .ite .. => isFalse (by intro e; cases e)
  | .act _, .each .. => isFalse (by intro e; cases e)
  | .ite .., .act _ => isFalse (by intro e; cases e)
  | .ite .., .each .. => isFalse (by intro e; cases e)
  | .each .., .act _ => isFalse (by intro e; cases e)
  | .each .., .ite .. => isFalse (by intro e; cases e)
def Skel.decEqL : (x y : List Skel) → Decidable (x = y)
  | [], [] => isTrue rfl
  | [], _ :: _ => isFalse (by intro e; cases e)
  | _ :: _, [] => isFalse (by intro e; cases e)
  | a :: as, b :: bs =>
    match Skel.decEq a b with
    | isTrue h =>
      match Skel.decEqL as bs with
      | isTrue h' => isTrue (by rw [h, h'])
      | isFalse h' => isFalse (by intro q; cases q; exact h' rfl)
    | isFalse h => isFalse (by intro q; cases q; exact h rfl)
end
instance : DecidableEq Skel := Skel.decEq
instance : DecidableEq (List Skel) := Skel.decEqL

/-! ## The skeleton each model function implements

Conventions of the reading.  `s.chans c` is the `Channel` object (`channel->index()` = `ch.index`, `events()` =
`ch.events`, `set_index` = `setIndex` / `index := ..`, `set_revents` = `revents := ..`), `fdOf c` is `channel->fd()`,
`s.cmap` is `channels_` (`setCmap .. (some c)` = `channels_[fd] = channel`, `setCmap .. none` = `erase`, `s.cmap fd`
= `find` / `[]`), `s.pollfds` is `pollfds_` (`++ [e]` = `push_back`, `dropLast` = `pop_back`, `set idx last` followed
by `dropLast` = `iter_swap(begin()+idx, end()-1); pop_back()`, `set idx entry` = the stores through the reference
`pfd`), `s.evsize` is `events_.size()`, `s.active` / the accumulator of `pollFill` / `epollFill` is `*activeChannels`
(`c :: acc`, reversed at the end = `push_back`), `s.handling` / `s.cur` / `s.iteration` are `EventLoop`'s
`eventHandling_` / `currentActiveChannel_` / `iteration_`, `(s.chans c).added` is `addedToLoop_`.
`abort s "<text>"` is a failing `assert(<text>)` (the process is gone: every later test is reached only when the
earlier ones passed, which is the source's sequence of assertions); `emit s (.wait size timeout)` is the call of
`::poll` / `::epoll_wait`; `emit s (.ctl op c mask res)` is the call of `::epoll_ctl`; `.syserr` / `.fatal` are
`LOG_SYSERR` / `LOG_SYSFATAL`.  `if g .. then A else B` on a generated guard `g` is `ite "g" A B`; a branch of the
model that ends a function early (`then s`, `then setIndex ..`) while the other branch goes on is the source's
`{ ..; return; }` followed by the common tail; `List.foldl` / structural recursion over a list is `for`.  A record
update that changes several fields at once stands for the stores in the order the source performs them; `let`s name
values read before it (`let ch := s.chans c`, `let idx := ..`, `last`).  Locals that only name a value (`fd`, `index`,
`idx`, `channel`, `it`, `ch`, `pfd`, `channelAtEnd`, `guard`) are `let`s / pattern variables of the model. -/
namespace Decl

/-! ### EPollPoller.cc -/

/-- `Poller.pollerPoll`, `.epoll`: `emit s (.wait s.evsize kPollTimeMs)` (`epoll_wait` on an array of `events_.size()`
entries with the time-out handed in); `if epHasEvents nret then` `epollFill s ready []`, then `if epArrayFull nret
s1.evsize then { .. evsize := epGrowTo s1.evsize }` `else (s, [])` -/
def epollPoll : List Skel :=
  [ .act (.sys .epollWait "epollfd_, &*events_.begin(), events_.size(), timeoutMs"),
    .ite "epHasEvents"
      [ .act (.call "fillActiveChannels" "numEvents, activeChannels"),
        .ite "epArrayFull" [.act (.vec "events_" .resize "events_.size() * 2")] [] ]
      [],
    .act .ret ]

/-- `Poller.pollerPoll`, under `epHasEvents`: the test `ready.length > s.evsize ∨ nret ≠ ready.length` (`abort ..
"numEvents <= events_.size()"`; its second disjunct is the environment's well-formedness: the kernel wrote as many
entries as it says), then `Poller.epollFill`: for each reported `(c, rev)` (the kernel hands back the channel pointer `data.ptr`):
`if s.cmap (fdOf c) ≠ some c then abort ..` (A2: both assertions), `setChan s c { .. revents := rev }`, `c :: acc` -/
def epollFillActiveChannels : List Skel :=
  [ .act (.assertion "implicit_cast<size_t>(numEvents) <= events_.size()"),
    .each "i" "i = 0; i < numEvents; ++i"
      [ .act (.assign "channel" "events_[i].data.ptr"),
        .act (.assign "fd" "channel.fd()"),
        .act (.assign "it" "channels_.find(fd)"),
        .act (.assertion "it != channels_.end()"),
        .act (.assertion "it->second == channel"),
        .act (.chan "channel" .setRevents "events_[i].events"),
        .act (.vec "activeChannels" .pushBack "channel") ] ]

/-- `Poller.epollUpdate`: `let ch := s.chans c`; `if epAddBranch ch.index then (if epIsNew ch.index then` `cmap ≠ none
→ abort`, `setCmap s (fdOf c) (some c)`, `if epNewSkips ch.events then setIndex .. epIndexAfterNewSkip` (return) `else`
`cmap ≠ some c → abort` (A2), `if epDeletedSkips ch.events then s` (return)`)`, and in both arms the common tail
`ctl (setIndex .. epIndexAfterAdd) epCtlAdd c` (`set_index(kAdded)` first, then `update(EPOLL_CTL_ADD = 1, ..)`);
`else` `cmap ≠ some c → abort` (A2), `ch.index ≠ kAdded → abort`, `if epExistingDeletes ch.events then setIndex (ctl s
epCtlNoInterest c) c epIndexAfterDel` (`update(EPOLL_CTL_DEL = 2, ..)` first, then `set_index(kDeleted)`) `else ctl s
epCtlModify c` (`EPOLL_CTL_MOD = 3`) -/
def epollUpdateChannel : List Skel :=
  [ .act (.assign "index" "channel.index()"),
    .ite "epAddBranch"
      [ .act (.assign "fd" "channel.fd()"),
        .ite "epIsNew"
          [ .act (.assertion "channels_.find(fd) == channels_.end()"),
            .act (.chanMap .insert "fd" "channel"),
            .ite "epNewSkips"
              [ .act (.chan "channel" .setIndex "kDeleted"),
                .act .ret ]
              [] ]
          [ .act (.assertion "channels_.find(fd) != channels_.end()"),
            .act (.assertion "channels_[fd] == channel"),
            .ite "epDeletedSkips" [.act .ret] [] ],
        .act (.chan "channel" .setIndex "kAdded"),
        .act (.call "update" "1, channel") ]
      [ .act (.assign "fd" "channel.fd()"),
        .act (.assertion "channels_.find(fd) != channels_.end()"),
        .act (.assertion "channels_[fd] == channel"),
        .act (.assertion "index == kAdded"),
        .ite "epExistingDeletes"
          [ .act (.call "update" "2, channel"),
            .act (.chan "channel" .setIndex "kDeleted") ]
          [ .act (.call "update" "3, channel") ] ] ]

/-- `Poller.epollRemove`: `cmap ≠ some c → abort` (A2), `¬ isNoneEvent → abort`, `¬ (index = kAdded ∨ index = kDeleted)
→ abort`, `let s1 := setCmap s (fdOf c) none`, `if epRemoveDels ch.index then setIndex (ctl s1 epCtlRemove c) c
epIndexAfterRemove else setIndex s1 c epIndexAfterRemove` (`update(EPOLL_CTL_DEL = 2, ..)` under the guard,
`set_index(kNew)` in both arms = after the `if`) -/
def epollRemoveChannel : List Skel :=
  [ .act (.assign "fd" "channel.fd()"),
    .act (.assertion "channels_.find(fd) != channels_.end()"),
    .act (.assertion "channels_[fd] == channel"),
    .act (.assertion "channel->isNoneEvent()"),
    .act (.assign "index" "channel.index()"),
    .act (.assertion "index == kAdded || index == kDeleted"),
    .act (.chanMap .erase "fd" ""),
    .ite "epRemoveDels" [.act (.call "update" "2, channel")] [],
    .act (.chan "channel" .setIndex "kNew") ]

/-- `Poller.ctl`: `let fd := fdOf c`, `let mask := (s.chans c).events` (a fresh `epoll_event` whose fields are the
interest word and the channel), `emit s (.ctl op c mask res)` - one `epoll_ctl`, whose result `res` the kernel's
interest list decides; on a failure (`eexist` / `enoent`) `if epCtlFailureIsSyserr op then .syserr else .fatal` -/
def epollUpdate : List Skel :=
  [ .act (.zero "&event, sizeof(event)"),
    .act (.assign "event.events" "channel.events()"),
    .act (.assign "event.data.ptr" "channel"),
    .act (.assign "fd" "channel.fd()"),
    .act (.sys .epollCtl "epollfd_, operation, fd, &event"),
    .ite "epoll_ctl(epollfd_, operation, fd, &event) < 0"
      [ .ite "epCtlFailureIsSyserr" [.act (.log .syserr)] [.act (.log .sysfatal)] ]
      [] ]

/-! ### PollPoller.cc -/

/-- `Poller.pollerPoll`, `.poll`: `emit s (.wait s.pollfds.length kPollTimeMs)` (`::poll` over the whole array);
`if nret > 0 then pollFill s ready s.pollfds nret [] else (s, [])` -/
def pollPoll : List Skel :=
  [ .act (.sys .poll "&*pollfds_.begin(), pollfds_.size(), timeoutMs"),
    .ite "numEvents > 0" [.act (.call "fillActiveChannels" "numEvents, activeChannels")] [],
    .act .ret ]

/-- `Poller.pollFill`: scan `pollfds_` while entries and `n` remain (`[]` and `_ :: _, 0` end the loop); `if pollActive
rev then` `n + 1 ↦ n`, `match s.cmap pfd.1 with | none => abort .. "ch != channels_.end()" | some c =>` `setChan s c { ..
revents := rev }`, `c :: acc` -/
def pollFillActiveChannels : List Skel :=
  [ .each "pfd" "pfd = pollfds_.begin(); (pfd != pollfds_.end()) && (numEvents > 0); ++pfd"
      [ .ite "pollActive"
          [ .act (.assign "numEvents" "--numEvents"),
            .act (.assign "ch" "channels_.find(pfd.fd)"),
            .act (.assertion "ch != channels_.end()"),
            .act (.assign "channel" "ch.second"),
            .act (.chan "channel" .setRevents "pfd.revents"),
            .act (.vec "activeChannels" .pushBack "channel") ]
          [] ] ]

/-- `Poller.pollUpdate`: `if pollIsNew ch.index then` `cmap ≠ none → abort`; the new entry `(if pollNewIgnores ch.events
then pollNewIgnoreFd (fdOf c) else fdOf c, ch.events)` (`pfd.fd = fd; pfd.events = events; if (..) pfd.fd = -fd-1`) is
appended; `index := s.pollfds.length` (= `pollfds_.size() - 1` after the `push_back`); `cmap (fdOf c) := some c`
`else` `let idx := ch.index.toNat`; `cmap ≠ some c → abort` (A2); `s.pollfds[idx]? = none → abort` (the range assertion);
`pfd.1 ≠ fdOf c ∧ pfd.1 ≠ pollIgnoreFd (fdOf c) → abort`; `pollfds.set idx (if pollUpdateIgnores ch.events then
pollIgnoreFd (fdOf c) else fdOf c, ch.events)` -/
def pollUpdateChannel : List Skel :=
  [ .ite "pollIsNew"
      [ .act (.assertion "channels_.find(channel->fd()) == channels_.end()"),
        .act (.assign "pfd.fd" "channel.fd()"),
        .act (.assign "pfd.events" "channel.events()"),
        .ite "pollNewIgnores" [.act (.assign "pfd.fd" "-channel.fd() - 1")] [],
        .act (.vec "pollfds_" .pushBack "pfd"),
        .act (.assign "idx" "pollfds_.size() - 1"),
        .act (.chan "channel" .setIndex "idx"),
        .act (.chanMap .insert "channel.fd()" "channel") ]
      [ .act (.assertion "channels_.find(channel->fd()) != channels_.end()"),
        .act (.assertion "channels_[channel->fd()] == channel"),
        .act (.assign "idx" "channel.index()"),
        .act (.assertion "0 <= idx && idx < static_cast<int>(pollfds_.size())"),
        .act (.assign "&pfd" "pollfds_[idx]"),
        .act (.assertion "pfd.fd == channel->fd() || pfd.fd == -channel->fd()-1"),
        .act (.assign "pfd.fd" "channel.fd()"),
        .act (.assign "pfd.events" "channel.events()"),
        .ite "pollUpdateIgnores" [.act (.assign "pfd.fd" "-channel.fd() - 1")] [] ] ]

/-- `Poller.pollRemove`: `cmap ≠ some c → abort` (A2); `¬ isNoneEvent → abort`; `ch.index < 0 → abort`, `s.pollfds[idx]? =
none → abort` (A2: the two conjuncts of the range assertion); `pfd ≠ (pollIgnoreFd (fdOf c), ch.events) → abort`; `cmap'`
(`erase`); `if pollRemoveIsLast idx s.pollfds.length then` `dropLast` `else` `last := getLast` (read before the swap),
`(s.pollfds.set idx last).dropLast` (swap .. pop), `endFd := if pollEndIsIgnored last.1 then pollDecodeFd last.1 else
last.1`, `cmap' endFd = some m`, `m`'s `index := idx`; in both arms `c`'s `index := pollIndexAfterRemove` (after the `if`) -/
def pollRemoveChannel : List Skel :=
  [ .act (.assertion "channels_.find(channel->fd()) != channels_.end()"),
    .act (.assertion "channels_[channel->fd()] == channel"),
    .act (.assertion "channel->isNoneEvent()"),
    .act (.assign "idx" "channel.index()"),
    .act (.assertion "0 <= idx && idx < static_cast<int>(pollfds_.size())"),
    .act (.assign "&pfd" "pollfds_[idx]"),
    .act (.assertion "pfd.fd == -channel->fd()-1 && pfd.events == channel->events()"),
    .act (.chanMap .erase "channel.fd()" ""),
    .ite "pollRemoveIsLast"
      [ .act (.vec "pollfds_" .popBack "") ]
      [ .act (.assign "channelAtEnd" "pollfds_.back().fd"),
        .act (.vec "pollfds_" .iterSwap "pollfds_.begin() + idx, pollfds_.end() - 1"),
        .ite "pollEndIsIgnored" [.act (.assign "channelAtEnd" "-channelAtEnd - 1")] [],
        .act (.chan "channels_[channelAtEnd]" .setIndex "idx"),
        .act (.vec "pollfds_" .popBack "") ],
    .act (.chan "channel" .setIndex "-1") ]

/-! ### Channel.cc -/

/-- `Poller.applyOp`, the five `enable* / disable*` members: `updateChannel (setInterest s c k) c` - `setInterest` stores
`events` (the header's `events_ <op>= k`, `Gen.Poller.enableReading ..`) and `added := true`, then the loop is told -/
def channelUpdate : List Skel :=
  [ .act (.assign "addedToLoop_" "true"),
    .act (.loop .updateChannel "this") ]

/-- `Poller.applyOp`, `.remove`: `if removeOk s c then` (A3: `isNoneEvent` is one conjunct of the guard) `removeChannel
(setChan s c { .. added := false }) c` -/
def channelRemove : List Skel :=
  [ .act (.assertion "isNoneEvent()"),
    .act (.assign "addedToLoop_" "false"),
    .act (.loop .removeChannel "this") ]

/-- `Poller.dispatch`: `handleEvent { s with cur := some c } c` - A1: the model's channels are not tied, it implements
the else-branch -/
def channelHandleEvent : List Skel :=
  [ .ite "tied_"
      [ .act (.assign "guard" "tie_.lock()"),
        .ite "guard" [.act (.call "handleEventWithGuard" "receiveTime")] [] ]
      [ .act (.call "handleEventWithGuard" "receiveTime") ] ]

/-- `Poller.handleEvent` = `stage .write (stage .read (stage .error (stage .close s c) c) c) c`; `stage k`: `if disp k
revents ∧ subscribed k events then fire s c k` - the outer test of `revents_` (`disp`: `dispClose` ..) and, inside it,
the re-test of the current interest (`subscribed`: `guardClose` ..), no `else` on either -/
def channelHandleEventWithGuard : List Skel :=
  [ .ite "dispClose" [.ite "guardClose" [.act (.cb .close)] []] [],
    .ite "dispError" [.ite "guardError" [.act (.cb .error)] []] [],
    .ite "dispRead" [.ite "guardRead" [.act (.cb .read)] []] [],
    .ite "dispWrite" [.ite "guardWrite" [.act (.cb .write)] []] [] ]

/-! ### EventLoop.cc -/

/-- `Poller.iter`: `pollerPoll s ready nret` (starting from an empty list: `clear`, then `poller_->poll` with
`kPollTimeMs`); `{ s1 with iteration := s1.iteration + 1, active := act, handling := true }`; `dispatch`: `act.foldl (fun s
c => handleEvent { s with cur := some c } c)`; `{ s2 with cur := none, handling := false }`.  A4: `doPendingFunctors()`
is where `Poller.run` applies the `In.op`s that follow - after `handling := false` -/
def loopIteration : List Skel :=
  [ .act (.vec "activeChannels_" .clear ""),
    .act (.poller .poll "kPollTimeMs, &activeChannels_"),
    .act (.assign "iteration_" "++iteration_"),
    .act (.assign "eventHandling_" "true"),
    .each "channel" "activeChannels_"
      [ .act (.assign "currentActiveChannel_" "channel"),
        .act (.chan "currentActiveChannel_" .handleEvent "pollReturnTime_") ],
    .act (.assign "currentActiveChannel_" "nullptr"),
    .act (.assign "eventHandling_" "false"),
    .act (.call "doPendingFunctors" "") ]

/-- `Poller.updateChannel`: `match s.be with | .poll => pollUpdate s c | .epoll => epollUpdate s c` - the virtual call -/
def loopUpdateChannel : List Skel :=
  [ .act (.poller .updateChannel "channel") ]

/-- `Poller.removeOk`'s third conjunct `s.handling = true → s.cur = some c ∨ c ∉ s.active` (A3), then
`Poller.removeChannel`: `match s.be with | .poll => pollRemove s c | .epoll => epollRemove s c` -/
def loopRemoveChannel : List Skel :=
  [ .ite "eventHandling_"
      [ .act (.assertion "currentActiveChannel_ == channel || std::find(activeChannels_.begin(), activeChannels_.end(), channel) == activeChannels_.end()") ]
      [],
    .act (.poller .removeChannel "channel") ]

/-- the model has no operation of its own for it: `Poller::hasChannel` is the value `s.cmap (fdOf c) = some c` the
assertions test -/
def loopHasChannel : List Skel :=
  [ .act (.poller .hasChannel "channel"),
    .act .ret ]

end Decl
end MuduoVerif.PollerSkel
