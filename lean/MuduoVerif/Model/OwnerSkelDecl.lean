/-!
# Statement skeletons of `TcpServer.cc` (Owner engine, C02): vocabulary and the skeletons the model's steps assume

`Model/Owner.lean` takes the kind / target / hold of every hand-off, the name format, the id increment, the life token
and the final drain from `Generated/Owner.lean`; the ORDER of the statements inside each function of `TcpServer.cc` is
hand-written there, and the granularity of its steps ASSUMES an order: `Owner.accept` is ONE atomic step of the acceptor
thread that ends with the hand-over of `connectEstablished` to the connection's io loop.  From that statement on the io
thread may run `connectEstablished`, poll the descriptor and reach `TcpConnection::handleClose()` (which calls
`closeCallback_`) before the acceptor thread executes another instruction; the model lets every step of every other
loop follow `accept` immediately.  That is the behaviour of the code only if nothing the acceptor thread does to the
connection comes after the hand-over - the four callback installations and the map insertion all precede it.  This file
states, function by function, the skeleton the model's step implements (`Decl.*`, each with a pointer to the model
definition); `vlib/gen/ownerskel.py` extracts the skeleton of the same functions from /repo's current `TcpServer.cc`
(`Generated/OwnerSkel.lean`, in the vocabulary below); `Proofs/OwnerSkelTie.lean` proves the two equal by `rfl` and
reads the facts the steps rely on off the skeletons (`handover_is_last`, `erase_precedes_destroy`,
`token_expires_first`, `pool_before_listen`).

What the model does not have, and the extraction therefore leaves out (the same list heads `Generated/OwnerSkel.lean`):
log statements; `(void)x`, casts, `CHECK_NOTNULL`; locals without an initialiser and default-constructed members;
`MUDUO_VERIF_POINT`.

Where the model is coarser than the skeleton it implements (nothing is left out of the extraction for these):
* A1 `TcpServer::TcpServer`, `setThreadNum`, `start`: the model begins at `Owner.init L nameOf` - a server that has been
  constructed, given `L` io threads and started: `pool := Pool.start L` (every io loop exists before the first `accept`,
  which is `threadPool_->start(..)` preceding the hand-over of `Acceptor::listen`), `nextId := idInitial`, `alive := true`
  (the life token made by the constructor), `map := []`, the acceptor's callback is `newConnection` (the only step that
  creates a connection is `Action.accept`).
* A2 `newConnection` is one step (`Owner.accept`), `~TcpServer` is one step (`Owner.destroyServer`, a fold of `dtorOne`
  over the map in key order); the statements inside are sequential on the acceptor thread, and the only statement after
  which another thread can act on what the step touched is the hand-off - which is why its POSITION is what matters.
* A3 the trace event `new` of the model stands for the whole prefix of `newConnection` up to and including the map
  insertion (loop picked, name formatted, id incremented, connection created, entry inserted).
-/
namespace MuduoVerif.OwnerSkel

/-- `runInLoop` (inline on the loop's own thread, else queued) / `queueInLoop` (always queued) -/
inductive Dispatch | run | queue
deriving DecidableEq, Repr

/-- one significant action; strings are canonical prints of source expressions (casts dropped, `->` as `.`,
`std::bind(&C::f, a, b)` as `C::f(a, b)`, `std::weak_ptr<void>(x)` as `weak(x)`); the text of an assertion is its source
text; `<result>` is the value of the action just before -/
inductive Act
  | assertLoop (loop : String)                            -- `loop->assertInLoopThread()`: `abort` in the model
  | assertion (text : String)                             -- `assert(text)`
  | store (member value : String)                         -- constructor initialiser / store to a member
  | assign (var value : String)                           -- declaration of a local with an initialiser / assignment
  | create (type args : String)                           -- `new type(args)`
  | on (obj fn args : String)                             -- `obj->fn(args)` / `obj.fn(args)` on another object
  | call (fn args : String)                               -- direct call of a member function of `TcpServer`
  | mapInsert (key value : String)                        -- `connections_[key] = value`
  | mapErase (key : String)                               -- `connections_.erase(key)`
  | sys (fn args : String)                                -- `sockets::getLocalAddr`, `snprintf`
  | handoff (d : Dispatch) (loop functor : String)        -- `loop->runInLoop / queueInLoop(std::bind(&C::f, args))`
  | ret
deriving DecidableEq, Repr

/-- a statement: an action, `if (guard) { thn } else { els }`, or `for (var : range) { body }` -/
inductive Skel
  | act (a : Act)
  | ite (guard : String) (thn els : List Skel)
  | each (var range : String) (body : List Skel)
deriving Repr

/-! `deriving DecidableEq` does not handle the nesting through `List`; the instance is written out
(structural recursion, so `decide` evaluates it in the kernel). -/
mutual
def Skel.decEq : (x y : Skel) → Decidable (x = y)
  | .act a, .act a' => if h : a = a' then isTrue (by rw [h]) else isFalse (by intro e; cases e; exact h rfl)
  | .ite g t e, .ite g' t' e' =>
    if hg : g = g' then
      match Skel.decEqL t t' with
      | isTrue ht =>
        match Skel.decEqL e e' with
        | isTrue he => isTrue (by rw [hg, ht, he])
        | isFalse he => isFalse (by intro q; cases q; exact he rfl)
      | isFalse ht => isFalse (by intro q; cases q; exact ht rfl)
    else isFalse (by intro q; cases q; exact hg rfl)
  | .each v r b, .each v' r' b' =>
    if hv : v = v' then
      if hr : r = r' then
        match Skel.decEqL b b' with
        | isTrue hb => isTrue (by rw [hv, hr, hb])
        | isFalse hb => isFalse (by intro q; cases q; exact hb rfl)
      else isFalse (by intro q; cases q; exact hr rfl)
    else isFalse (by intro q; cases q; exact hv rfl)
  | .act _, .ite .. => isFalse (by intro e; cases e)
  | .act _, .each .. => isFalse (by intro e; cases e)
  | .ite .., .act _ => isFalse (by intro e; cases e)
  | .ite .., .each .. => isFalse (by intro e; cases e)
  | .each .., .act _ => isFalse (by intro e; cases e)
  | .each .., .ite .. => isFalse (by intro e; cases e)
def Skel.decEqL : (x y : List Skel) → Decidable (x = y)
  | [], [] => isTrue rfl
  | [], _ :: _ => isFalse (by intro e; cases e)
  | _ :: _, [] => isFalse (by intro e; cases e)
  | a :: as, b :: bs =>
    match Skel.decEq a b with
    | isTrue h =>
      match Skel.decEqL as bs with
      | isTrue h' => isTrue (by rw [h, h'])
      | isFalse h' => isFalse (by intro q; cases q; exact h' rfl)
    | isFalse h => isFalse (by intro q; cases q; exact h rfl)
end
instance : DecidableEq Skel := Skel.decEq
instance : DecidableEq (List Skel) := Skel.decEqL

/-! ## Reading a skeleton: what follows a hand-off

The facts the steps of `Model/Owner.lean` rely on are facts about POSITIONS inside a skeleton; they are decidable
functions of the skeleton, evaluated on the extracted one in `Proofs/OwnerSkelTie.lean`. -/

mutual
/-- the actions of a statement list in source order (both branches of an `if`, the body of a `for`) -/
def flatten : List Skel → List Act
  | [] => []
  | s :: ss => flatten1 s ++ flatten ss
def flatten1 : Skel → List Act
  | .act a => [a]
  | .ite _ t e => flatten t ++ flatten e
  | .each _ _ b => flatten b
end

def Act.isHandoff : Act → Bool
  | .handoff .. => true
  | _ => false

/-- is the action a hand-off of functor `f`? -/
def Act.handsOver (f : String) : Act → Bool
  | .handoff _ _ g => g == f
  | _ => false

/-- does the acting thread itself operate on object `v`: a member call on it, a store of it into the map or into a
member / local (another holder appears), its creation -/
def Act.touches (v : String) : Act → Bool
  | .on o _ _ => o == v
  | .mapInsert _ x => x == v
  | .store _ x => x == v
  | .assign x y => x == v || y == v
  | _ => false

/-- the member functions called on object `v`, in order -/
def callsOn (v : String) (as : List Act) : List String :=
  as.filterMap (fun a => match a with | .on o f _ => if o == v then some f else none | _ => none)

/-- the actions strictly after the first hand-off of functor `f` (`[]` if there is none) -/
def afterHandover (f : String) (as : List Act) : List Act := (as.dropWhile (fun a => !a.handsOver f)).drop 1

/-- the actions before the first hand-off of functor `f` -/
def beforeHandover (f : String) (as : List Act) : List Act := as.takeWhile (fun a => !a.handsOver f)

/-- **the hand-over of `v` by functor `f` is the last thing the function does to `v`**: `f` is handed over exactly once,
it is the only hand-off of the function, no action on `v` follows it, and every member function of `setup` has been
called on `v` before it -/
def HandoverLast (v f : String) (setup : List String) (sk : List Skel) : Prop :=
  ((flatten sk).filter Act.isHandoff).length = 1 ∧
  ((flatten sk).filter (Act.handsOver f)).length = 1 ∧
  (afterHandover f (flatten sk)).all (fun a => !a.touches v) = true ∧
  setup.all (fun m => (callsOn v (beforeHandover f (flatten sk))).contains m) = true

instance (v f : String) (setup : List String) (sk : List Skel) : Decidable (HandoverLast v f setup sk) := by
  unfold HandoverLast; exact inferInstance

/-- action `a` occurs, and every occurrence of an action satisfying `q` comes after the first `a` -/
def Precedes (a : Act) (q : Act → Bool) (as : List Act) : Prop :=
  as.contains a = true ∧ (as.takeWhile (fun x => x != a)).all (fun x => !q x) = true

instance (a : Act) (q : Act → Bool) (as : List Act) : Decidable (Precedes a q as) := by
  unfold Precedes; exact inferInstance

/-! ## The skeleton each step of the model assumes

Conventions of the reading.  `s.map` is `connections_` (`mapInsert s.map nm c` = `connections_[connName] = conn`,
`mapErase s.map nm` = `connections_.erase(conn->name())`, its result `n` is the `k` of `Owner.removeInLoop`: `.erase` iff
`k = 1`, `.eraseMiss` is the failing `assert(n == 1)`); `s.nextId` is `nextConnId_` (`s.nameOf s.nextId` = what `snprintf`
+ `name_ + buf` make of it, `nextId := s.nextId + idStep` = `++nextConnId_`, after the formatting); `s.pool` is
`threadPool_` (`Pool.getNextLoop s.pool` = `threadPool_->getNextLoop()`); `s.alive` is the life token `alive_`
(`alive := false` = `alive_.reset()`; the `!s.alive` test of `removeInLoop` = `alive.expired()`); `(s.conn c).loop` is the
`ioLoop` the connection was created with = `conn->getLoop()`; `s.enq l t` is `queueInLoop` on loop `l`, `if d = .run ∧ l =
target .. then <inline> else s.enq ..` is `runInLoop` / `queueInLoop` as the generated `Dispatch` says; `emit .. .abort l`
for `l ≠ 0` is the failing `loop_->assertInLoopThread()`. -/
namespace Decl

/-- `Owner.init L nameOf` (A1): `nextId := idInitial` (`Generated/Owner.lean`), `alive := true`, `map := []`,
`pool := Pool.start L` over loops that `start()` creates; the acceptor's callback is `newConnection` -/
def ctor : List Skel :=
  [ .act (.store "loop_" "loop"),
    .act (.store "ipPort_" "listenAddr.toIpPort()"),
    .act (.store "name_" "nameArg"),
    .act (.create "Acceptor" "loop, listenAddr, option == kReusePort"),
    .act (.store "acceptor_" "<result>"),
    .act (.create "EventLoopThreadPool" "loop, name_"),
    .act (.store "threadPool_" "<result>"),
    .act (.store "connectionCallback_" "defaultConnectionCallback"),
    .act (.store "messageCallback_" "defaultMessageCallback"),
    .act (.store "nextConnId_" "1"),
    .act (.create "int" "0"),
    .act (.store "alive_" "<result>"),
    .act (.on "acceptor_" "setNewConnectionCallback" "TcpServer::newConnection(this, _1, _2)") ]

/-- `Owner.destroyServer` (on the base loop's thread: `Action.destroy` / the functor `srvDtor` run by loop 0):
`{ s with map := [], alive := false }` FIRST (the life token expires before any connection is handed its
`connectDestroyed`: a `rem` functor that reaches the base loop later finds `!s.alive` and leaves the server alone), then
`foldl dtorOne` over `mapOrder s.map`: `dtorOne` = the entry is already reset (`map := []`; the local copy `conn` keeps
the object alive), `handDestroy .. dtorDispatch dtorTarget` (`runInLoop` on `conn->getLoop()`), then `reapOne` (the local
copy goes out of scope at the end of the loop body) -/
def dtor : List Skel :=
  [ .act (.assertLoop "loop_"),
    .act (.on "alive_" "reset" ""),
    .each "&item" "connections_"
      [ .act (.assign "conn" "item.second"),
        .act (.on "item.second" "reset" ""),
        .act (.handoff .run "conn.getLoop()" "TcpConnection::connectDestroyed(conn)") ] ]

/-- `Owner.init L ..` (A1): the `L` of the pool -/
def setThreadNum : List Skel :=
  [ .act (.assertion "0 <= numThreads"),
    .act (.on "threadPool_" "setThreadNum" "numThreads") ]

/-- `Owner.init L ..` (A1): once only (`startOnce`); the pool is started (all `L` loops exist) before `Acceptor::listen`
is handed to the base loop, so `accept` never sees a pool without its loops -/
def start : List Skel :=
  [ .ite "started_.getAndSet(1) == 0"
      [ .act (.on "threadPool_" "start" "threadInitCallback_"),
        .act (.assertion "!acceptor_->listening()"),
        .act (.handoff .run "loop_" "Acceptor::listen(get_pointer(acceptor_))") ] [] ]

/-- `Owner.accept` (A2, A3), one step on loop 0: `l := loopIndex (Pool.getNextLoop s.pool).1`, `nm := s.nameOf
s.nextId`, `nextId := s.nextId + idStep`, the connection `{ loop := l, name := nm, st := .kConnecting, alive := true, .. }`,
`map := mapInsert s.map nm c`, trace `new` - and LAST `s1.enq (target s1 c establishTarget) (.est c)` (or
`connectEstablished s1 0 c` inline when `L = 0`).  The step installs no callback because in the model the callbacks are
there from the connection's first event on: `handleClose` always emits `closeCb` and calls `removeConnection` - the four
installations are part of the step, ahead of the hand-over. -/
def newConnection : List Skel :=
  [ .act (.assertLoop "loop_"),
    .act (.on "threadPool_" "getNextLoop" ""),
    .act (.assign "ioLoop" "<result>"),
    .act (.sys "snprintf" "buf, sizeof(buf), \"-%s#%d\", ipPort_.c_str(), nextConnId_"),
    .act (.store "nextConnId_" "++nextConnId_"),
    .act (.assign "connName" "name_ + buf"),
    .act (.sys "getLocalAddr" "sockfd"),
    .act (.assign "localAddr" "<result>"),
    .act (.create "TcpConnection" "ioLoop, connName, sockfd, localAddr, peerAddr"),
    .act (.assign "conn" "<result>"),
    .act (.mapInsert "connName" "conn"),
    .act (.on "conn" "setConnectionCallback" "connectionCallback_"),
    .act (.on "conn" "setMessageCallback" "messageCallback_"),
    .act (.on "conn" "setWriteCompleteCallback" "writeCompleteCallback_"),
    .act (.on "conn" "setCloseCallback" "TcpServer::removeConnectionGuarded(weak(alive_), this, loop_, _1)"),
    .act (.handoff .run "ioLoop" "TcpConnection::connectEstablished(conn)") ]

/-- the unguarded form of the close callback (`removeGuarded = false` in `Owner.removeConnection` / `removeInLoop`; kept
by the source, no longer installed by `newConnection`): one hand-off to the base loop -/
def removeConnection : List Skel :=
  [ .act (.handoff .run "loop_" "TcpServer::removeConnectionInLoop(this, conn)") ]

/-- `Owner.removeConnection` (the close callback, on the connection's loop): `if removeDispatch = .run ∧ l = target s c
removeTarget then removeInLoop s l c else s.enq (target ..) (.rem c)` - one hand-off to the base loop and nothing else -/
def removeConnectionGuarded : List Skel :=
  [ .act (.handoff .run "baseLoop" "TcpServer::removeConnectionIfAlive(alive, server, conn)") ]

/-- first test of `Owner.removeInLoop`: `if !s.alive then (if removeGuarded && dtorExpiresToken then s else ..)` - the
server is touched only under the token -/
def removeConnectionIfAlive : List Skel :=
  [ .ite "!alive.expired()"
      [ .act (.on "server" "removeConnectionInLoop" "conn") ] [] ]

/-- rest of `Owner.removeInLoop`: `if l ≠ 0 then abort`, `k := ..`, `map := mapErase s.map (s.conn c).name` with the event
`erase` / `eraseMiss`, THEN `handDestroy .. destroyDispatch destroyTarget` (`queueInLoop` on `conn->getLoop()`): the
entry is gone before `connectDestroyed` can run -/
def removeConnectionInLoop : List Skel :=
  [ .act (.assertLoop "loop_"),
    .act (.mapErase "conn.name()"),
    .act (.assign "n" "<result>"),
    .act (.assertion "n == 1"),
    .act (.assign "ioLoop" "conn.getLoop()"),
    .act (.handoff .queue "ioLoop" "TcpConnection::connectDestroyed(conn)") ]

end Decl

end MuduoVerif.OwnerSkel
