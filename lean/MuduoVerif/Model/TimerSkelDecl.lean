import MuduoVerif.Generated.Timer
/-!
# Statement skeletons of the timer engine: vocabulary and the skeletons the model implements

`Model/Timer.lean` takes every constant, small integer function and branch guard from `Generated/Timer.lean`; the
ORDER and NESTING of the statements inside each function is hand-written there.  This file states, function by
function, the skeleton that the model's definition implements (`Decl.*`, written by reading `Model/Timer.lean`, each
with a pointer to the model definition).  `vlib/gen/timerskel.py` extracts the skeleton of the same functions from
/repo's current `TimerQueue.cc` / `Timer.cc` (`Generated/TimerSkel.lean`, in the vocabulary below), and
`Proofs/TimerSkelTie.lean` proves the two equal by `rfl`.  A source change that deletes a timer before its last
dereference, moves `activeTimers_.erase` out of its loop, clears `cancelingTimers_` after the callbacks, merges the
two independent `if`s at the end of `reset` into `if / else if`, re-arms unconditionally, adds, drops or duplicates a
statement in one of these functions changes the extracted skeleton and breaks that proof.

An `ite` is named after the generated guard (`Gen.Timer.<name>`) the model branches on at that point; the two
conditions that `vlib/gen/timer.py` translates as part of a whole function (`howMuchUs`'s floor, `restart`'s test) are
printed.  Core Lean only.

What the model does not have, and the extraction therefore leaves out (the same list heads `Generated/TimerSkel.lean`):
log statements; `loop_->assertInLoopThread()`; `assert(..)` (no abort event in `Model/Timer.lean`: `C06.sets_agree` is the
theorem that the size assertions hold); locals declared without an initialiser or default-constructed; casts;
an `if` that only logs; `MUDUO_VERIF_POINT`.
-/
namespace MuduoVerif.TimerSkel
open MuduoVerif.Gen.Timer

/-- the three sets of `TimerQueue`: `timers_`, `activeTimers_`, `cancelingTimers_` -/
inductive SetName | timers | active | cancelling
deriving DecidableEq, Repr

/-- mutating set operations; `eraseRange` is `erase(first, last)` -/
inductive SetOp | insert | erase | eraseRange | clear
deriving DecidableEq, Repr

/-- member calls through a `Timer*` - each one dereferences the pointer (`repeats` is `Timer::repeat()`) -/
inductive TimerOp | sequence | expiration | repeats | restart | run
deriving DecidableEq, Repr

inductive SysOp | read | timerfdSettime
deriving DecidableEq, Repr

/-- one significant action; strings are canonical prints of source expressions (casts dropped, `->` as `.`) -/
inductive Act
  | clock                                                -- `Timestamp::now()`
  | sys (op : SysOp) (args : String)                     -- `::read`, `::timerfd_settime`
  | zero (args : String)                                 -- `memZero(&x, sizeof x)`
  | alloc (what : String)                                -- `new Timer(..)`
  | free (ptr : String)                                  -- `delete ptr`
  | tmr (op : TimerOp) (ptr : String) (args : String)    -- `ptr->op(args)`
  | setOp (set : SetName) (op : SetOp) (args : String)
  | copyOut (args : String)                              -- `std::copy(first, last, back_inserter(v))`
  | run (what : String)                                  -- `loop_->runInLoop(functor running what)`
  | queue (what : String)                                -- `loop_->queueInLoop(..)`
  | call (fn : String) (args : String)                   -- direct call of another function of the engine
  | assign (var : String) (value : String)               -- declaration with an initialiser / assignment
  | ret (value : String)
deriving DecidableEq, Repr

/-- a statement: an action, `if (guard) { thn } else { els }`, or `for (var : range) { body }` -/
inductive Skel
  | act (a : Act)
  | ite (guard : String) (thn els : List Skel)
  | each (var range : String) (body : List Skel)
deriving Repr

/-! `deriving DecidableEq` does not handle the nesting through `List`; the instance is written out
(structural recursion, so `decide` evaluates it in the kernel). -/
mutual
def Skel.decEq : (x y : Skel) → Decidable (x = y)
  | .act a, .act a' => if h : a = a' then isTrue (by rw [h]) else isFalse (by intro e; cases e; exact h rfl)
  | .ite g t e, .ite g' t' e' =>
    if hg : g = g' then
      match Skel.decEqL t t' with
      | isTrue ht =>
        match Skel.decEqL e e' with
        | isTrue he => isTrue (by rw [hg, ht, he])
        | isFalse he => isFalse (by intro q; cases q; exact he rfl)
      | isFalse ht => isFalse (by intro q; cases q; exact ht rfl)
    else isFalse (by intro q; cases q; exact hg rfl)
  | .each v r b, .each v' r' b' =>
    if hv : v = v' then
      if hr : r = r' then
        match Skel.decEqL b b' with
        | isTrue hb => isTrue (by rw [hv, hr, hb])
        | isFalse hb => isFalse (by intro q; cases q; exact hb rfl)
      else isFalse (by intro q; cases q; exact hr rfl)
    else isFalse (by intro q; cases q; exact hv rfl)
  | .act _, .ite .. => isFalse (by intro e; cases e)
  | .act _, .each .. => isFalse (by intro e; cases e)
  | .ite .., .act _ => isFalse (by intro e; cases e)
  | .ite .., .each .. => isFalse (by intro e; cases e)
  | .each .., .act _ => isFalse (by intro e; cases e)
  | .each .., .ite .. => isFalse (by intro e; cases e)
def Skel.decEqL : (x y : List Skel) → Decidable (x = y)
  | [], [] => isTrue rfl
  | [], _ :: _ => isFalse (by intro e; cases e)
  | _ :: _, [] => isFalse (by intro e; cases e)
  | a :: as, b :: bs =>
    match Skel.decEq a b with
    | isTrue h =>
      match Skel.decEqL as bs with
      | isTrue h' => isTrue (by rw [h, h'])
      | isFalse h' => isFalse (by intro q; cases q; exact h' rfl)
    | isFalse h => isFalse (by intro q; cases q; exact h rfl)
end
instance : DecidableEq Skel := Skel.decEq
instance : DecidableEq (List Skel) := Skel.decEqL

/-! ## The skeleton each model function implements

Conventions of the reading.  `readNow s` is `Timestamp::now()` (`clock`).  `chk s a` is a dereference of the `Timer*`
`a` (observable as `uaf` when the object was freed) and `cellAt s a` reads the object: together they are the member
calls `a->sequence() / expiration() / repeat()`; one `chk` stands for all getter calls on the same pointer up to the
next change of the heap (a second `chk` of a live object is the identity).  `hset` on the cell's `exp` is
`Timer::restart`, `hfree` is `delete`, `allocTimer` is `new Timer`.  `timers` is `timers_` (`insEntry` = `insert`,
`filter (· ≠ e)` = `erase(e)`, `takeWhile` / `dropWhile` of the expired prefix = `std::copy(begin, end, ..)` /
`erase(begin, end)`), `active` is `activeTimers_` (`::` = `insert`, `filter` = `erase`), `cancelling` is
`cancelingTimers_`.  A record update that changes several fields at once stands for the stores in the order the
source performs them; the values it uses are read before it (`let c := cellAt ..` precedes `hfree`).
`if g .. then A else B` on a generated guard `g` is `ite "g" A B`; `List.foldl f s l` is `for (it : l) f`.
`emit .. (.registered/.restarted/.cancel ..)` are ghost events and not part of a skeleton; `emit .. (.arm ..)` is the
`timerfd_settime` call.  Locals that only name the value of the call before them (`n`, `ret`, `result`, `timer`,
`sequence`, `now`, `expired`, `when`, `earliestChanged`) are `let`s of the model. -/
namespace Decl

/-- `Timer.armFd`: `let (now, s) := readNow s; let ts := Gen.Timer.howMuchTimeFromNow when now` - one clock reading,
then the generated function (`Generated/Timer.lean`: `howMuchUs` = the difference and the 100 µs floor,
`howMuchTimeFromNow` = the two fields of the `timespec`) -/
def howMuchTimeFromNow : List Skel :=
  [ .act .clock,
    .act (.assign "microseconds" "when.microSecondsSinceEpoch() - now().microSecondsSinceEpoch()"),
    .ite "microseconds < 100" [.act (.assign "microseconds" "100")] [],
    .act (.assign "ts.tv_sec" "microseconds / kMicroSecondsPerSecond"),
    .act (.assign "ts.tv_nsec" "(microseconds % kMicroSecondsPerSecond) * 1000"),
    .act (.ret "ts") ]

/-- `Timer.handleRead`: `{ r.2 with readable := false }` - reading the descriptor drains it; the value read and a
short read only feed log lines -/
def readTimerfd : List Skel :=
  [ .act (.sys .read "timerfd, &howmany, sizeof(howmany)"),
    .act (.assign "n" "read(timerfd, &howmany, sizeof(howmany))") ]

/-- `Timer.armFd`: `howMuchTimeFromNow when now` (with its clock reading), then `emit { s with alarm := some (now +
howMuchUs when now), readable := false, .. } (.arm ..)`: a one-shot alarm (`newValue` zeroed: no `it_interval`) at the
relative time `it_value`; the old value and a failure only feed a log line -/
def resetTimerfd : List Skel :=
  [ .act (.zero "&newValue, sizeof(newValue)"),
    .act (.zero "&oldValue, sizeof(oldValue)"),
    .act (.call "howMuchTimeFromNow" "expiration"),
    .act (.assign "newValue.it_value" "howMuchTimeFromNow(expiration)"),
    .act (.sys .timerfdSettime "timerfd, 0, &newValue, &oldValue"),
    .act (.assign "ret" "timerfd_settime(timerfd, 0, &newValue, &oldValue)") ]

/-- `Timer.addL` (loop thread) and `Timer.addAlloc` + `Timer.addFinish` (foreign thread): `allocTimer` (`new Timer`);
`let seq := (cellAt s a).seq` (the sequence number is read before the hand-over: `addTimerDerefsAfterHandOver =
false`); `addInLoop s a` inline / `pending := pending ++ [.add a]` (`runInLoop`); `bindId s name a seq`
(`return TimerId(timer, sequence)`) -/
def addTimer : List Skel :=
  [ .act (.alloc "Timer(move(cb), when, interval)"),
    .act (.assign "timer" "new Timer(move(cb), when, interval)"),
    .act (.tmr .sequence "timer" ""),
    .act (.assign "sequence" "timer.sequence()"),
    .act (.run "addTimerInLoop(timer)"),
    .act (.ret "TimerId(timer, sequence)") ]

/-- `Timer.step`: `.cancel .loop v k => cancelInLoop s (lookupId s v)` inline, `.cancel .foreign v k => pending :=
pending ++ [.cancel (lookupId s v), ..]`: `runInLoop` -/
def cancel : List Skel :=
  [ .act (.run "cancelInLoop(timerId)") ]

/-- `Timer.addInLoop`: `let r := insertTimer s0 a; if addRearms r.2 then armFd (chk r.1 a) (cellAt r.1 a).exp else r.1`
(`s0` only adds the ghost event `registered`) -/
def addTimerInLoop : List Skel :=
  [ .act (.call "insert" "timer"),
    .act (.assign "earliestChanged" "insert(timer)"),
    .ite "addRearms"
      [ .act (.tmr .expiration "timer" ""),
        .act (.call "resetTimerfd" "timerfd_, timer.expiration()") ]
      [] ]

/-- `Timer.cancelInLoop`: `found := (id.addr, id.seq) ∈ s.active`; `if cancelErases found then` `chk s id.addr`,
`c := cellAt ..`, `timers := timers.filter (· ≠ (c.exp, id.addr))`, `heap := hfree ..`, `active := active.filter ..`
`else if cancelRemembers found s.calling then cancelling := (id.addr, id.seq) :: cancelling else s` -/
def cancelInLoop : List Skel :=
  [ .act (.assign "timer" "ActiveTimer(timerId.timer_, timerId.sequence_)"),
    .act (.assign "it" "activeTimers_.find(timer)"),
    .ite "cancelErases"
      [ .act (.tmr .expiration "it.first" ""),
        .act (.setOp .timers .erase "Entry(it.first.expiration(), it.first)"),
        .act (.assign "n" "timers_.erase(Entry(it.first.expiration(), it.first))"),
        .act (.free "it.first"),
        .act (.setOp .active .erase "it") ]
      [ .ite "cancelRemembers" [.act (.setOp .cancelling .insert "timer")] [] ] ]

/-- `Timer.handleRead`: `readNow`; `readable := false` (`readTimerfd`); `getExpired .. now`; `calling := true,
cancelling := []`; `g.1.foldl (runTimer now)` (`runTimer`: `chk`, the `run` event, the callback's script);
`calling := false`; `reset .. g.1 now` -/
def handleRead : List Skel :=
  [ .act .clock,
    .act (.assign "now" "now()"),
    .act (.call "readTimerfd" "timerfd_, now"),
    .act (.call "getExpired" "now"),
    .act (.assign "expired" "getExpired(now)"),
    .act (.assign "callingExpiredTimers_" "true"),
    .act (.setOp .cancelling .clear ""),
    .each "it" "expired" [.act (.tmr .run "it.second" "")],
    .act (.assign "callingExpiredTimers_" "false"),
    .act (.call "reset" "expired, now") ]

/-- `Timer.getExpired`: `expired := timers.takeWhile (isExpired now)` (`isExpired` = `Gen.Timer.entryExpired`: the
entries before the sentry `(now, sentinelAddr)`); `timers := timers.dropWhile ..`; for each expired entry `chk s e.2`
and `active := active.filter (· ≠ (e.2, (cellAt s e.2).seq))`; the result is `expired` -/
def getExpired : List Skel :=
  [ .act (.assign "sentry" "Entry(now, 18446744073709551615)"),
    .act (.assign "end" "timers_.lower_bound(sentry)"),
    .act (.copyOut "timers_.begin(), end, back_inserter(expired)"),
    .act (.setOp .timers .eraseRange "timers_.begin(), end"),
    .each "it" "expired"
      [ .act (.tmr .sequence "it.second" ""),
        .act (.assign "timer" "ActiveTimer(it.second, it.second.sequence())"),
        .act (.setOp .active .erase "timer"),
        .act (.assign "n" "activeTimers_.erase(timer)") ],
    .act (.ret "expired") ]

/-- `Timer.reset` = `rearm (expired.foldl (resetOne now) s)`.
`resetOne`: `chk s e.2`; `c := cellAt ..`; `cancelled := (e.2, c.seq) ∈ s.cancelling`; `if resetRestarts c.rep cancelled
then (insertTimer { s with heap := hset .. { c with exp := restart c.rep now c.delta, .. } } e.2).1 else { s with heap :=
hfree s.heap e.2 }`.
`rearm`: `if resetHasNext s.timers.isEmpty then ((cellAt s e.2).exp, chk s e.2)` for the first entry `else
timestampInvalid`; then, independently, `if resetRearms r.1 then armFd r.2 r.1 else r.2` -/
def reset : List Skel :=
  [ .each "it" "expired"
      [ .act (.tmr .sequence "it.second" ""),
        .act (.assign "timer" "ActiveTimer(it.second, it.second.sequence())"),
        .act (.tmr .repeats "it.second" ""),
        .ite "resetRestarts"
          [ .act (.tmr .restart "it.second" "now"),
            .act (.call "insert" "it.second") ]
          [ .act (.free "it.second") ] ],
    .ite "resetHasNext"
      [ .act (.tmr .expiration "timers_.begin().second" ""),
        .act (.assign "nextExpire" "timers_.begin().second.expiration()") ]
      [],
    .ite "resetRearms" [.act (.call "resetTimerfd" "timerfd_, nextExpire")] [] ]

/-- `Timer.insertTimer`: `chk s a`; `c := cellAt s a`; `changed := decide (insertEarliestChanged s.timers.isEmpty c.exp
(firstExp s.timers))` (initially false, set by the one `if`; `it = timers_.begin()`, `first` = its deadline);
`timers := insEntry (c.exp, a) s.timers`; `active := (a, c.seq) :: s.active`; the result is `changed` -/
def insert : List Skel :=
  [ .act (.assign "earliestChanged" "false"),
    .act (.tmr .expiration "timer" ""),
    .act (.assign "when" "timer.expiration()"),
    .act (.assign "it" "timers_.begin()"),
    .ite "insertEarliestChanged" [.act (.assign "earliestChanged" "true")] [],
    .act (.setOp .timers .insert "Entry(when, timer)"),
    .act (.assign "result" "timers_.insert(Entry(when, timer))"),
    .act (.tmr .sequence "timer" ""),
    .act (.setOp .active .insert "ActiveTimer(timer, timer.sequence())"),
    .act (.assign "result" "activeTimers_.insert(ActiveTimer(timer, timer.sequence()))"),
    .act (.ret "earliestChanged") ]

/-- `Gen.Timer.restart` (used by `Timer.resetOne`): `if repeat_ then addTime now delta else timestampInvalid` is the new
`expiration_` -/
def restart : List Skel :=
  [ .ite "repeat_"
      [.act (.assign "expiration_" "addTime(now, interval_)")]
      [.act (.assign "expiration_" "invalid()")] ]

end Decl
end MuduoVerif.TimerSkel
