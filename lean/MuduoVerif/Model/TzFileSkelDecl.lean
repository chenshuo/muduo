/-!
# The zone-file reader of `muduo/base/TimeZone.cc` (C20): vocabulary, and what the model declares it implements

`Model/TzFile.lean` is the TZif reader of muduo (`detail::File`, `detail::readDataBlock`, `detail::readTimeZoneFile`,
`TimeZone::Data::addLocalTime` / `addTransition`, `TimeZone::loadZoneFile`) over the bytes of a file.

* Its PARAMETERS - how many bytes each integer reader takes, whether the value is byte-swapped, the return type that
  decides between sign and zero extension, the texts of the exceptions, the magic, the version test, reader / type /
  order of the counters, the size of the first data block as the code computes it (with every implicit conversion), the
  skips, which reader reads a transition time, the types a value passes through on its way into the table - are
  `Gen.TzFileSkel.*`, extracted by `vlib/gen/tzfileskel.py` from /repo's current source on every run
  (`Generated/TzFileSkel.lean`); the model CALLS them.  `Decl.*` below states the value each of them has in the code the
  theorems were proved for; `Proofs/TzFileSkelTie.lean` proves `Gen.x = Decl.x`.
* The ORDER and NESTING of its statements is hand-written in the model; `Decl.<function>` is the statement skeleton the
  model's definition implements, `Gen.TzFileSkel.<function>` the one extracted from the source, equal by `rfl`.

Vocabulary of a skeleton: significant actions in source order - stores to members / through pointers (`store`),
initialised locals and assignments to locals (`assign`, `<result>` = value of the action just before), calls of other
functions of the reader or of `std::vector` / `std::string` / `std::unique_ptr` that change something or can throw
(`call`), libc calls (`sys`), `throw T("text")`, `return`; `if`, loops (`for (int i = 0; i < N; ++i)` is
`assign i 0` + `loop .forUp "i < N"`), `try { } catch (T) { }`.  Expressions are canonical prints (casts and
temporaries dropped - what the casts DO is part A -, minimal parentheses).

Not part of a skeleton: I1 diagnostic output (`fprintf(stderr, "%s\n", e.what())` of the handler); I2 declarations of
locals without an initialiser or default-constructed (`char buf[n]`, `std::vector<int64_t> trans`); I3 casts; I4 base
class initialisers; I5 `MUDUO_VERIF_POINT` and empty statements.  `File::File` (`fopen`), `File::~File` (`fclose`),
`File::valid` and `File::readToEnd` (reads whatever is left: `File.readToEnd`) are not listed.

Core Lean only; imports nothing.
-/
namespace MuduoVerif.TzFileSkel

/-! ## integer types and conversions -/

/-- a fixed-width integer type of the source -/
structure IntTy where
  bits : Nat
  signed : Bool
deriving DecidableEq, Repr

/-- C++ conversion of an integer value to `ty` (modular; two's complement for a signed target - what gcc does) -/
def conv (ty : IntTy) (v : Int) : Int :=
  let m := v % (2 ^ ty.bits : Int)
  if ty.signed ∧ m ≥ (2 ^ (ty.bits - 1) : Int) then m - (2 ^ ty.bits : Int) else m

/-- one of `File::readInt32 / readInt64 / readUInt8`: `fread(&x, 1, bytes, fp_)`, a short read throws
`std::logic_error(msg)`; the bytes are taken most significant first when `swapBits = 8 * bytes` (`beNNtoh` on this
little-endian host) and as they lie in memory when `swapBits = 0`; the value is returned as `ret` -/
structure Reader where
  bytes : Nat
  swapBits : Nat
  ret : IntTy
  msg : String
deriving DecidableEq, Repr

/-- the six counters of a TZif header, by the names `readDataBlock` gives them (`isgmtcnt` of `readTimeZoneFile` is
`isutccnt`) -/
structure Counts where
  isutccnt : Int
  isstdcnt : Int
  leapcnt : Int
  timecnt : Int
  typecnt : Int
  charcnt : Int
deriving DecidableEq, Repr

/-- the arguments of `TimeZone::Data::addLocalTime(int32_t utcOffset, bool isDst, int desigIdx)` -/
structure TTInfo where
  utcOffset : Int
  isDst : Bool
  desigIdx : Int
deriving DecidableEq, Repr

/-! ## statement skeletons -/

/-- `while (g) body`, `do body while (g)`, `for (int i = 0; g; ++i) body` (the initialisation is the `assign` in front) -/
inductive LoopKind | whileDo | doWhile | forUp
deriving DecidableEq, Repr

/-- one significant action; strings are canonical prints of source expressions -/
inductive Act
  | store (lhs value : String)        -- `lhs = value` on a member / through a pointer
  | assign (var value : String)       -- an initialised local, an assignment to a local; `<result>` = value of the action before
  | call (fn args : String)           -- another function of the reader, a mutating / throwing method of a library object
  | sys (fn args : String)            -- a libc call: `fread`, `fseek`
  | lock (mutex : String)             -- (not used by the reader; emitted by the shared walker for a lock guard)
  | assertion (cond : String)         -- `assert(cond)`
  | brk                               -- `break`
  | ret (value : String)              -- `return value`
  | throw (type text : String)        -- `throw type("text")`
deriving DecidableEq, Repr

/-- a statement: an action, `if (guard) { thn } else { els }`, a loop, `try { body } catch (exc) { handler }` -/
inductive Skel
  | act (a : Act)
  | ite (guard : String) (thn els : List Skel)
  | loop (kind : LoopKind) (guard : String) (body : List Skel)
  | tryCatch (exc : String) (body handler : List Skel)
deriving Repr

/-! `deriving DecidableEq` does not handle the nesting through `List`; the instance is written out
(structural recursion, so `decide` evaluates it in the kernel). -/
mutual
def Skel.decEq : (x y : Skel) → Decidable (x = y)
  | .act a, .act a' => if h : a = a' then isTrue (by rw [h]) else isFalse (by intro e; cases e; exact h rfl)
  | .ite g t e, .ite g' t' e' =>
    if hg : g = g' then
      match Skel.decEqL t t' with
      | isTrue ht =>
        match Skel.decEqL e e' with
        | isTrue he => isTrue (by rw [hg, ht, he])
        | isFalse he => isFalse (by intro q; cases q; exact he rfl)
      | isFalse ht => isFalse (by intro q; cases q; exact ht rfl)
    else isFalse (by intro q; cases q; exact hg rfl)
  | .loop k g b, .loop k' g' b' =>
    if hk : k = k' then
      if hg : g = g' then
        match Skel.decEqL b b' with
        | isTrue hb => isTrue (by rw [hk, hg, hb])
        | isFalse hb => isFalse (by intro q; cases q; exact hb rfl)
      else isFalse (by intro q; cases q; exact hg rfl)
    else isFalse (by intro q; cases q; exact hk rfl)
  | .tryCatch x b h, .tryCatch x' b' h' =>
    if hx : x = x' then
      match Skel.decEqL b b' with
      | isTrue hb =>
        match Skel.decEqL h h' with
        | isTrue hh => isTrue (by rw [hx, hb, hh])
        | isFalse hh => isFalse (by intro q; cases q; exact hh rfl)
      | isFalse hb => isFalse (by intro q; cases q; exact hb rfl)
    else isFalse (by intro q; cases q; exact hx rfl)
  | .act _, .ite .. => isFalse (by intro e; cases e)
  | .act _, .loop .. => isFalse (by intro e; cases e)
  | .act _, .tryCatch .. => isFalse (by intro e; cases e)
  | .ite .., .act _ => isFalse (by intro e; cases e)
  | .ite .., .loop .. => isFalse (by intro e; cases e)
  | .ite .., .tryCatch .. => isFalse (by intro e; cases e)
  | .loop .., .act _ => isFalse (by intro e; cases e)
  | .loop .., .ite .. => isFalse (by intro e; cases e)
  | .loop .., .tryCatch .. => isFalse (by intro e; cases e)
  | .tryCatch .., .act _ => isFalse (by intro e; cases e)
  | .tryCatch .., .ite .. => isFalse (by intro e; cases e)
  | .tryCatch .., .loop .. => isFalse (by intro e; cases e)
def Skel.decEqL : (x y : List Skel) → Decidable (x = y)
  | [], [] => isTrue rfl
  | [], _ :: _ => isFalse (by intro e; cases e)
  | _ :: _, [] => isFalse (by intro e; cases e)
  | a :: as, b :: bs =>
    match Skel.decEq a b with
    | isTrue h =>
      match Skel.decEqL as bs with
      | isTrue h' => isTrue (by rw [h, h'])
      | isFalse h' => isFalse (by intro q; cases q; exact h' rfl)
    | isFalse h => isFalse (by intro q; cases q; exact h rfl)
end
instance : DecidableEq Skel := Skel.decEq
instance : DecidableEq (List Skel) := Skel.decEqL


/-! ## What the model is written for

`Decl.<x>` is the value of the parameter `Gen.TzFileSkel.<x>` in the source the theorems were proved for, and
`Decl.<function>` the statement skeleton that the definition of `Model/TzFile.lean` named in its comment implements.

Reading of the model (`f : File` is the `FILE*`: content + position):
* `File.readInt f r` is one call `f.readInt32() / readInt64() / readUInt8()` (`fileReadInt32/64/UInt8`): `fread` of
  `r.bytes` bytes (`File.peek`), `.error (.logic r.msg)` on a short count (the `throw`), else the value converted to the
  return type and the position advanced;  `File.readBytes f n` is `fileReadBytes`; `File.skip` is `fileSkip`.
* `readCounts f r ty mk`: six reader calls in a row, each initialising one `const int32_t` - the run of six
  `call f.readInt32` / `assign <counter>` pairs in `readTimeZoneFile` and `readDataBlock`; which value becomes which
  counter is `Gen.headerCounts / blockCounts`.
* `dataBlock f v1` is `readDataBlock`: counters; `if rejectLeap .. / rejectIsut .. / rejectIsstd ..` = the three
  `ite .. [ret false]`; `c.timecnt < 0 → lengthError` is `trans.reserve(timecnt)`; `readTimes` the first loop with its
  `ite v1`; `readIdxs` the second; `c.typecnt < 0 → lengthError` is `data.localtimes.reserve(typecnt)`
  (`localtimes.reserve(timecnt)` between the loops cannot fail once `trans.reserve(timecnt)` passed); `readTypes` the
  third loop (three reads, `addLocalTime`); `addTransitions` the fourth (`localtimes.at` → `outOfRange`);
  `File.readBytes f (charsLen c)` → `abbreviation`; `(blockSkips ..).foldl File.skip` the three skips;
  `if readsFooter v1` the last `ite`; `.ok` = `ret true`.
* `zoneFile f` is the `try` block of `readTimeZoneFile`; an `.error` is what the handler catches (both make
  `loadZoneFile` reset the table: `parse`/`loadZone`); `File(zonefile)` / `f.valid()` are the caller's concern (the
  model starts from the bytes of a file that could be opened).
* `mkLocalTime` is `addLocalTime` + `localTimeCtor`; the record built in `addTransitions` is `addTransition` +
  `transitionCtor` (`utcTime + lt.utcOffset` = `Gen.Zone.shiftedLocal`).
-/
namespace Decl
/-! ## A. parameters of the reader -/

/-- `File::readInt32`: `fread` of 4 byte(s), `be32toh`, returned as `int32_t`; a short read throws `std::logic_error('bad int32_t data')` -/
def readInt32 : Reader :=
  { bytes := 4, swapBits := 32, ret := ⟨32, true⟩, msg := "bad int32_t data" }

/-- `File::readInt64`: `fread` of 8 byte(s), `be64toh`, returned as `int64_t`; a short read throws `std::logic_error('bad int64_t data')` -/
def readInt64 : Reader :=
  { bytes := 8, swapBits := 64, ret := ⟨64, true⟩, msg := "bad int64_t data" }

/-- `File::readUInt8`: `fread` of 1 byte(s), returned as read, returned as `uint8_t`; a short read throws `std::logic_error('bad uint8_t data')` -/
def readUInt8 : Reader :=
  { bytes := 1, swapBits := 0, ret := ⟨8, false⟩, msg := "bad uint8_t data" }

/-- `File::readBytes(n)`: text of the exception on a short read -/
def readBytesMsg : String := "no enough data"

/-- type of its parameter `n` -/
def readBytesArgTy : IntTy := ⟨32, true⟩

/-- `File::skip(bytes)`: type of the parameter handed to `fseek(fp_, bytes, whence)` -/
def skipArgTy : IntTy := ⟨64, true⟩

/-- its `whence` argument (1 = SEEK_CUR) -/
def skipWhence : Nat := 1

/-! ### `detail::readTimeZoneFile` -/

/-- length of the magic: `f.readBytes(4)` -/
def magicLen : Int := 4

/-- the file is refused when `head != "TZif"` (bytes of the literal) -/
def badHead (head : List Nat) : Prop := head ≠ [84, 90, 105, 102]
instance : Decidable (badHead head) := by unfold badHead; infer_instance

/-- text of the exception -/
def badHeadMsg : String := "bad head"

/-- `string version = f.readBytes(1)` -/
def versionLen : Int := 1

/-- reserved bytes read and dropped: `f.readBytes(15)` -/
def reservedLen : Int := 15

/-- reader of the six counters of the first header -/
def headerCountReader : Reader := readInt32

/-- type of the six variables (`const int32_t`) -/
def headerCountTy : IntTy := ⟨32, true⟩

/-- the k-th value read goes to the counter of that name: isgmtcnt, isstdcnt, leapcnt, timecnt, typecnt, charcnt -/
def headerCounts (r0 r1 r2 r3 r4 r5 : Int) : Counts :=
  { isutccnt := r0, isstdcnt := r1, leapcnt := r2, timecnt := r3, typecnt := r4, charcnt := r5 }

/-- the 64-bit block is taken when `version == "2"` -/
def isV2 (version : List Nat) : Prop := version = [50]
instance : Decidable (isV2 version) := by unfold isV2; infer_instance

/-- argument of the `skip` over the first data block, as `ssize_t` (`size_t skip = ..; f.skip(skip)`) -/
def v1BlockSkip (c : Counts) : Int :=
  conv ⟨64, true⟩ (conv ⟨64, false⟩ ((conv ⟨64, false⟩ ((conv ⟨64, false⟩ ((conv ⟨64, false⟩ ((conv ⟨64, false⟩ ((conv ⟨64, false⟩ ((conv ⟨64, false⟩ (4 * (conv ⟨64, false⟩ c.timecnt))) + (conv ⟨64, false⟩ c.timecnt))) + (conv ⟨64, false⟩ (6 * c.typecnt)))) + (conv ⟨64, false⟩ c.charcnt))) + (conv ⟨64, false⟩ (8 * c.leapcnt)))) + (conv ⟨64, false⟩ c.isstdcnt))) + (conv ⟨64, false⟩ c.isutccnt)))

/-- length of the second magic -/
def magic2Len : Int := 4

/-- the second header is refused when `head != "TZif"` -/
def badHead2 (head : List Nat) : Prop := head ≠ [84, 90, 105, 102]
instance : Decidable (badHead2 head) := by unfold badHead2; infer_instance

/-- text of that exception -/
def badHead2Msg : String := "bad head"

/-- skip over version, reserved bytes ... of the second header up to what `readDataBlock` reads -/
def header2Skip : Int := 16

/-- `v1` argument of `readDataBlock` in the version-2 branch -/
def v2BranchV1 : Bool := false

/-- the other branch: `f.skip(..)` back to the counters -/
def rewind : Int := (-4) * 6

/-- `v1` argument of `readDataBlock` there -/
def v1BranchV1 : Bool := true

/-! ### `detail::readDataBlock` -/

/-- `const int time_size = ..` -/
def timeSize (v1 : Bool) : Int :=
  conv ⟨32, true⟩ (if v1 = true then 4 else 8)

/-- reader of the six counters of a data block -/
def blockCountReader : Reader := readInt32

/-- type of the six variables (`const int32_t`) -/
def blockCountTy : IntTy := ⟨32, true⟩

/-- the k-th value read goes to the counter of that name: isutccnt, isstdcnt, leapcnt, timecnt, typecnt, charcnt -/
def blockCounts (r0 r1 r2 r3 r4 r5 : Int) : Counts :=
  { isutccnt := r0, isstdcnt := r1, leapcnt := r2, timecnt := r3, typecnt := r4, charcnt := r5 }

/-- `if (..) return false;` on leapcnt -/
def rejectLeap (c : Counts) : Prop := c.leapcnt ≠ 0
instance : Decidable (rejectLeap c) := by unfold rejectLeap; infer_instance

/-- `if (..) return false;` on isutccnt, typecnt -/
def rejectIsut (c : Counts) : Prop := c.isutccnt ≠ 0 ∧ c.isutccnt ≠ c.typecnt
instance : Decidable (rejectIsut c) := by unfold rejectIsut; infer_instance

/-- `if (..) return false;` on isstdcnt, typecnt -/
def rejectIsstd (c : Counts) : Prop := c.isstdcnt ≠ 0 ∧ c.isstdcnt ≠ c.typecnt
instance : Decidable (rejectIsstd c) := by unfold rejectIsstd; infer_instance

/-- the order in which they are tested -/
def rejectOrder : List String := ["rejectLeap", "rejectIsut", "rejectIsstd"]

/-- which reader reads a transition time (`if (v1) trans.push_back(f.readInt32()) else trans.push_back(f.readInt64())`) -/
def timeReader (v1 : Bool) : Reader := if v1 = true then readInt32 else readInt64

/-- element type of `std::vector<int64_t> trans`: what the value read is converted to -/
def timeElemTy : IntTy := ⟨64, true⟩

/-- the integer conversions the value goes through between the reader and `push_back`, innermost first (the implicit one to the element type included) -/
def timeConvs (v1 : Bool) : List IntTy := if v1 = true then [⟨64, true⟩] else []

/-- reader of a transition's type index -/
def idxReader : Reader := readUInt8

/-- type of the local it is read into (`uint8_t local`) -/
def idxVarTy : IntTy := ⟨8, false⟩

/-- element type of `std::vector<int> localtimes` -/
def idxElemTy : IntTy := ⟨32, true⟩

/-- readers of one ttinfo entry, in the order of the reads -/
def ttinfoReaders : List Reader := [readInt32, readUInt8, readUInt8]

/-- what reaches `addLocalTime(utcOffset, isDst, desigIdx)` from the k-th value read (through the types of the locals `gmtoff`,`isdst`,`abbrind` and of the parameters) -/
def ttinfo (r0 r1 r2 : Int) : TTInfo :=
  { utcOffset := r0, isDst := decide (r1 ≠ 0), desigIdx := r2 }

/-- `int localIdx = localtimes[i]` and the parameter `localtimeIdx` of `addTransition`: the index is converted to these -/
def transIdxTys : List IntTy := [⟨32, true⟩, ⟨32, true⟩]

/-- type of `addTransition`'s parameter `utcTime` -/
def transTimeTy : IntTy := ⟨64, true⟩

/-- `data->abbreviation = f.readBytes(..)`: the argument, as the parameter type of readBytes -/
def charsLen (c : Counts) : Int :=
  c.charcnt

/-- arguments of the three `f.skip(..)` behind the designations, as `ssize_t` -/
def blockSkips (c : Counts) (time_size : Int) : List Int :=
  [c.leapcnt * (time_size + 4),
   c.isstdcnt,
   c.isutccnt]

/-- the footer is read (`data->tzstring = f.readToEnd()`) when -/
def readsFooter (v1 : Bool) : Prop := ¬ (v1 = true)
instance : Decidable (readsFooter v1) := by unfold readsFooter; infer_instance

/-! ## B. statement skeletons -/

/-- `File::readBytes(int)` -/
def fileReadBytes : List Skel :=
  [
    .act (.sys "fread" "buf, 1, n, fp_"),
    .act (.assign "nr" "<result>"),
    .ite "nr != n"
      [
        .act (.throw "std::logic_error" "no enough data")
      ] [],
    .act (.ret "string(buf, n)")
  ]

/-- `File::readInt64()` -/
def fileReadInt64 : List Skel :=
  [
    .act (.assign "x" "0"),
    .act (.sys "fread" "&x, 1, sizeof(int64_t), fp_"),
    .act (.assign "nr" "<result>"),
    .ite "nr != sizeof(int64_t)"
      [
        .act (.throw "std::logic_error" "bad int64_t data")
      ] [],
    .act (.ret "__bswap_64(x)")
  ]

/-- `File::readInt32()` -/
def fileReadInt32 : List Skel :=
  [
    .act (.assign "x" "0"),
    .act (.sys "fread" "&x, 1, sizeof(int32_t), fp_"),
    .act (.assign "nr" "<result>"),
    .ite "nr != sizeof(int32_t)"
      [
        .act (.throw "std::logic_error" "bad int32_t data")
      ] [],
    .act (.ret "__bswap_32(x)")
  ]

/-- `File::readUInt8()` -/
def fileReadUInt8 : List Skel :=
  [
    .act (.assign "x" "0"),
    .act (.sys "fread" "&x, 1, sizeof(uint8_t), fp_"),
    .act (.assign "nr" "<result>"),
    .ite "nr != sizeof(uint8_t)"
      [
        .act (.throw "std::logic_error" "bad uint8_t data")
      ] [],
    .act (.ret "x")
  ]

/-- `File::skip(ssize_t)` -/
def fileSkip : List Skel :=
  [
    .act (.sys "fseek" "fp_, bytes, 1"),
    .act (.ret "<result>")
  ]

/-- `readDataBlock(detail::File &, struct TimeZone::Data *, bool)` -/
def readDataBlock : List Skel :=
  [
    .act (.assign "time_size" "v1 ? sizeof(int32_t) : sizeof(int64_t)"),
    .act (.call "f.readInt32" ""),
    .act (.assign "isutccnt" "<result>"),
    .act (.call "f.readInt32" ""),
    .act (.assign "isstdcnt" "<result>"),
    .act (.call "f.readInt32" ""),
    .act (.assign "leapcnt" "<result>"),
    .act (.call "f.readInt32" ""),
    .act (.assign "timecnt" "<result>"),
    .act (.call "f.readInt32" ""),
    .act (.assign "typecnt" "<result>"),
    .act (.call "f.readInt32" ""),
    .act (.assign "charcnt" "<result>"),
    .ite "leapcnt != 0"
      [
        .act (.ret "false")
      ] [],
    .ite "isutccnt != 0 && isutccnt != typecnt"
      [
        .act (.ret "false")
      ] [],
    .ite "isstdcnt != 0 && isstdcnt != typecnt"
      [
        .act (.ret "false")
      ] [],
    .act (.call "trans.reserve" "timecnt"),
    .act (.assign "i" "0"),
    .loop .forUp "i < timecnt"
      [
        .ite "v1"
          [
            .act (.call "f.readInt32" ""),
            .act (.call "trans.push_back" "<result>")
          ]
          [
            .act (.call "f.readInt64" ""),
            .act (.call "trans.push_back" "<result>")
          ]
      ],
    .act (.call "localtimes.reserve" "timecnt"),
    .act (.assign "i" "0"),
    .loop .forUp "i < timecnt"
      [
        .act (.call "f.readUInt8" ""),
        .act (.assign "local" "<result>"),
        .act (.call "localtimes.push_back" "local")
      ],
    .act (.call "data.localtimes.reserve" "typecnt"),
    .act (.assign "i" "0"),
    .loop .forUp "i < typecnt"
      [
        .act (.call "f.readInt32" ""),
        .act (.assign "gmtoff" "<result>"),
        .act (.call "f.readUInt8" ""),
        .act (.assign "isdst" "<result>"),
        .act (.call "f.readUInt8" ""),
        .act (.assign "abbrind" "<result>"),
        .act (.call "data.addLocalTime" "gmtoff, isdst, abbrind")
      ],
    .act (.assign "i" "0"),
    .loop .forUp "i < timecnt"
      [
        .act (.assign "localIdx" "localtimes[i]"),
        .act (.call "data.addTransition" "trans[i], localIdx")
      ],
    .act (.call "f.readBytes" "charcnt"),
    .act (.store "data.abbreviation" "<result>"),
    .act (.call "f.skip" "leapcnt * (time_size + 4)"),
    .act (.call "f.skip" "isstdcnt"),
    .act (.call "f.skip" "isutccnt"),
    .ite "!v1"
      [
        .act (.call "f.readToEnd" ""),
        .act (.store "data.tzstring" "<result>")
      ] [],
    .act (.ret "true")
  ]

/-- `readTimeZoneFile(const char *, struct TimeZone::Data *)` -/
def readTimeZoneFile : List Skel :=
  [
    .act (.assign "f" "File(zonefile)"),
    .ite "f.valid()"
      [
        .tryCatch "std::logic_error &"
          [
            .act (.call "f.readBytes" "4"),
            .act (.assign "head" "<result>"),
            .ite "head != \"TZif\""
              [
                .act (.throw "std::logic_error" "bad head")
              ] [],
            .act (.call "f.readBytes" "1"),
            .act (.assign "version" "<result>"),
            .act (.call "f.readBytes" "15"),
            .act (.call "f.readInt32" ""),
            .act (.assign "isgmtcnt" "<result>"),
            .act (.call "f.readInt32" ""),
            .act (.assign "isstdcnt" "<result>"),
            .act (.call "f.readInt32" ""),
            .act (.assign "leapcnt" "<result>"),
            .act (.call "f.readInt32" ""),
            .act (.assign "timecnt" "<result>"),
            .act (.call "f.readInt32" ""),
            .act (.assign "typecnt" "<result>"),
            .act (.call "f.readInt32" ""),
            .act (.assign "charcnt" "<result>"),
            .ite "version == \"2\""
              [
                .act (.assign "skip" "sizeof(int32_t) * timecnt + timecnt + 6 * typecnt + charcnt + 8 * leapcnt + isstdcnt + isgmtcnt"),
                .act (.call "f.skip" "skip"),
                .act (.call "f.readBytes" "4"),
                .act (.assign "head" "<result>"),
                .ite "head != \"TZif\""
                  [
                    .act (.throw "std::logic_error" "bad head")
                  ] [],
                .act (.call "f.skip" "16"),
                .act (.call "readDataBlock" "f, data, false"),
                .act (.ret "<result>")
              ]
              [
                .act (.call "f.skip" "-4 * 6"),
                .act (.call "readDataBlock" "f, data, true"),
                .act (.ret "<result>")
              ]
          ] []
      ] [],
    .act (.ret "false")
  ]

/-- `Transition::Transition(int64_t, int64_t, int)` -/
def transitionCtor : List Skel :=
  [
    .act (.store "utctime" "t"),
    .act (.store "localtime" "l"),
    .act (.store "localtimeIdx" "localIdx")
  ]

/-- `LocalTime::LocalTime(int32_t, bool, int)` -/
def localTimeCtor : List Skel :=
  [
    .act (.store "utcOffset" "offset"),
    .act (.store "isDst" "dst"),
    .act (.store "desigIdx" "idx")
  ]

/-- `Data::addLocalTime(int32_t, bool, int)` -/
def addLocalTime : List Skel :=
  [
    .act (.call "localtimes.push_back" "LocalTime(utcOffset, isDst, desigIdx)")
  ]

/-- `Data::addTransition(int64_t, int)` -/
def addTransition : List Skel :=
  [
    .act (.call "localtimes.at" "localtimeIdx"),
    .act (.assign "lt" "<result>"),
    .act (.call "transitions.push_back" "Transition(utcTime, utcTime + lt.utcOffset, localtimeIdx)")
  ]

/-- `loadZoneFile(const char *)` -/
def loadZoneFile : List Skel :=
  [
    .act (.assign "data" "unique_ptr(new TimeZone::Data())"),
    .act (.call "readTimeZoneFile" "zonefile, data.get()"),
    .ite "!<result>"
      [
        .act (.call "data.reset" "")
      ] [],
    .act (.ret "TimeZone(TimeZone(unique_ptr(data)))")
  ]

end Decl

end MuduoVerif.TzFileSkel
