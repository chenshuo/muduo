/-!
# Statement skeletons of muduo's threading primitives: vocabulary and the skeletons the models rely on

The monitor models - `Model/Monitor.lean` (C14: `BlockingQueue`, `BoundedBlockingQueue`, `CountDownLatch`),
`Model/TPool.lean` (C15), the `EventLoopThread` part of `Model/Loop.lean` (C05), `Model/AsyncLog.lean` (C16) - are
transition systems over a mutex `owner`, wait-sets `W` / `S` per condition variable and thread program counters.  They
take muduo's own wrappers as ATOMIC PRIMITIVES with the textbook meaning:

* `MutexLockGuard g(m)` .. end of block: `acq t` (`owner := some t`, enabled iff `owner = none`) .. `owner := none`;
* `c.wait()`: `Mon.parkOn` - release the mutex AND enter `W c` in one step; a thread in `S c` must take `acq` again
  before it goes on (`Mon.enter`) - i.e. "wait releases the mutex and parks; re-acquires before returning";
* `c.notify()` / `c.notifyAll()`: `WS.one` / `WS.all` - unconditionally, whoever is parked;
* `c.waitForSeconds(s)`: the same as `wait()` plus a time-out move (`AsyncLog.wake 1`);
* `latch.wait() / countDown() / getCount()`: `LState.execOp` (skeletons of `Generated/Monitor.lean`);
* `Thread::start()`: the new thread exists and runs its function from then on, and `start()` has returned only after
  the new thread has published its tid (`Loop.stepIdle .startLoop`: `phase := .born`, the caller goes on to `sCheck`;
  `TPool`: workers are at `wTest` when the callers start);
* `Thread::join()`: enabled iff the thread's function has returned (`Loop.stepDJoin`: `phase == .dead`; `TPool`
  `stopJoin i`: `pc i = wDone`); joined at most once;
* the tid cache (`Model/LogStream.lean`): `tidCall` = `CurrentThread::tid()` fills `t_cachedTid`, `t_tidString` and
  `t_tidStringLength` together, and only when the cache is empty; `afterFork` empties it and fills it again.

Under the deterministic scheduler (`harness/sched/detsched.h`) it is the `pthread_*` functions that are interposed, so
the differential runs execute muduo's wrappers themselves; what they never see is (a) the code of a wrapper on a path
no scenario takes (`~Thread` without `join`, `pthread_create` failing, the `catch` clauses), (b) the deadline
arithmetic of `waitForSeconds` (detsched ignores the `timespec`: virtual time), (c) which pthread function is asked for
what, in which order relative to the holder bookkeeping, when both orders behave alike in the scenarios run.
This file states, function by function, the skeleton the models' reading of a primitive stands for (`Decl.*`);
`vlib/gen/threadskel.py` extracts the skeleton of the same functions from /repo's current sources
(`Generated/ThreadSkel.lean`, in the vocabulary below) and `Proofs/ThreadSkelTie.lean` proves the two equal by `rfl`.
What stays TRUSTED is the semantics of the `pthread_*` / libc functions themselves (POSIX: `pthread_cond_wait` atomically
releases the mutex and blocks, re-acquires it before returning, may wake spuriously; `pthread_cond_signal` wakes at
least one waiter if there is one; `pthread_join` returns after the start routine returned; `pthread_atfork` child
handlers run in the child before `fork()` returns; `syscall(SYS_gettid)` is the kernel's thread id).

Expressions are canonical prints of the source expressions (casts dropped, minimal parentheses, macros expanded:
`ETIMEDOUT` = 110, `PR_SET_NAME` = 15, `SYS_gettid` = 186, `CLOCK_REALTIME` = 0).  An expression contains at most one
action call; it is listed in front of the statement that uses its value, which prints it as `<result>`.
Core Lean only; imports nothing.

Classes of statements that are NOT part of a skeleton (the generator ignores exactly these):
* I1 log statements below FATAL and diagnostic output (`fprintf(stderr, ..)` in the `catch` clauses of `runInThread`);
* I2 declarations of locals without an initialiser or default-constructed (`struct timespec abstime`, `char buf[32]`);
* I3 casts of every kind and `(void)x`, `std::move`, `__builtin_expect(c, v)` (= `c`);
* I4 base-class initialisers (`noncopyable`) and default-constructed members (`mutex_()`) of a constructor;
* I5 `MUDUO_VERIF_POINT` and empty statements.
Not extracted: `CurrentThread::stackTrace` (used by `Exception` only), the one-line getters.
-/
namespace MuduoVerif.ThreadSkel

/-- `while (g) body` tests before the first iteration, `do body while (g)` after it -/
inductive LoopKind | whileDo | doWhile
deriving DecidableEq, Repr

/-- one significant action; strings are canonical prints of source expressions -/
inductive Act
  | store (lhs value : String)        -- `lhs = value` on a member, a thread-local, through a pointer (`--x` is the store of `x - 1`)
  | assign (var value : String)       -- an initialised local, an assignment to a local; `<result>` = value of the action before
  | call (fn args : String)           -- another function of muduo (`tid`, `cacheTid`, `latch_.wait`, `func_`, ..)
  | sys (fn args : String)            -- a pthread / libc / system call whose result is used or dropped
  | mcheck (fn args : String)         -- `MCHECK(fn(args))`: the call, and `assert(result == 0)`
  | lock (mutex : String)             -- `MutexLockGuard g(mutex)`: `lockGuardCtor`
  | unlock (mutex : String)           -- the end of the block that declared that guard: `lockGuardDtor`
  | guard (type arg : String)         -- any other RAII guard `type g(arg)`: its constructor (`unassignGuardCtor`)
  | guardEnd (type arg : String)      -- the end of the block that declared it: its destructor (`unassignGuardDtor`)
  | assertion (cond : String)         -- `assert(cond)`, by its source text
  | delete (what : String)            -- `delete what`
  | rethrow                           -- `throw;`
  | fatal                             -- `LOG_SYSFATAL << ..` / `LOG_FATAL << ..`: logs and aborts
  | ret (value : String)              -- `return value`
deriving DecidableEq, Repr

/-- a statement: an action, `if (cond) { thn } else { els }`, a loop, `try { body }`, one `catch (decl) { body }` -/
inductive Skel
  | act (a : Act)
  | ite (cond : String) (thn els : List Skel)
  | loop (kind : LoopKind) (cond : String) (body : List Skel)
  | attempt (body : List Skel)
  | handler (decl : String) (body : List Skel)
deriving Repr

/-! `deriving DecidableEq` does not handle the nesting through `List`; the instance is written out
(structural recursion, so `decide` evaluates it in the kernel). -/
mutual
def Skel.decEq : (x y : Skel) → Decidable (x = y)
  | .act a, .act a' => if h : a = a' then isTrue (by rw [h]) else isFalse (by intro e; cases e; exact h rfl)
  | .ite g t e, .ite g' t' e' =>
    if hg : g = g' then
      match Skel.decEqL t t' with
      | isTrue ht =>
        match Skel.decEqL e e' with
        | isTrue he => isTrue (by rw [hg, ht, he])
        | isFalse he => isFalse (by intro q; cases q; exact he rfl)
      | isFalse ht => isFalse (by intro q; cases q; exact ht rfl)
    else isFalse (by intro q; cases q; exact hg rfl)
  | .loop k g b, .loop k' g' b' =>
    if hk : k = k' then
      if hg : g = g' then
        match Skel.decEqL b b' with
        | isTrue hb => isTrue (by rw [hk, hg, hb])
        | isFalse hb => isFalse (by intro q; cases q; exact hb rfl)
      else isFalse (by intro q; cases q; exact hg rfl)
    else isFalse (by intro q; cases q; exact hk rfl)
  | .attempt b, .attempt b' =>
    match Skel.decEqL b b' with
    | isTrue hb => isTrue (by rw [hb])
    | isFalse hb => isFalse (by intro q; cases q; exact hb rfl)
  | .handler d b, .handler d' b' =>
    if hd : d = d' then
      match Skel.decEqL b b' with
      | isTrue hb => isTrue (by rw [hd, hb])
      | isFalse hb => isFalse (by intro q; cases q; exact hb rfl)
    else isFalse (by intro q; cases q; exact hd rfl)
  | .act _, .ite .. => isFalse (by intro e; cases e)
  | .act _, .loop .. => isFalse (by intro e; cases e)
  | .act _, .attempt .. => isFalse (by intro e; cases e)
  | .act _, .handler .. => isFalse (by intro e; cases e)
  | .ite .., .act _ => isFalse (by intro e; cases e)
  | .ite .., .loop .. => isFalse (by intro e; cases e)
  | .ite .., .attempt .. => isFalse (by intro e; cases e)
  | .ite .., .handler .. => isFalse (by intro e; cases e)
  | .loop .., .act _ => isFalse (by intro e; cases e)
  | .loop .., .ite .. => isFalse (by intro e; cases e)
  | .loop .., .attempt .. => isFalse (by intro e; cases e)
  | .loop .., .handler .. => isFalse (by intro e; cases e)
  | .attempt .., .act _ => isFalse (by intro e; cases e)
  | .attempt .., .ite .. => isFalse (by intro e; cases e)
  | .attempt .., .loop .. => isFalse (by intro e; cases e)
  | .attempt .., .handler .. => isFalse (by intro e; cases e)
  | .handler .., .act _ => isFalse (by intro e; cases e)
  | .handler .., .ite .. => isFalse (by intro e; cases e)
  | .handler .., .loop .. => isFalse (by intro e; cases e)
  | .handler .., .attempt .. => isFalse (by intro e; cases e)
def Skel.decEqL : (x y : List Skel) → Decidable (x = y)
  | [], [] => isTrue rfl
  | [], _ :: _ => isFalse (by intro e; cases e)
  | _ :: _, [] => isFalse (by intro e; cases e)
  | a :: as, b :: bs =>
    match Skel.decEq a b with
    | isTrue h =>
      match Skel.decEqL as bs with
      | isTrue h' => isTrue (by rw [h, h'])
      | isFalse h' => isFalse (by intro q; cases q; exact h' rfl)
    | isFalse h => isFalse (by intro q; cases q; exact h rfl)
end
instance : DecidableEq Skel := Skel.decEq
instance : DecidableEq (List Skel) := Skel.decEqL

/-! ## The skeleton each primitive is modelled with -/
namespace Decl

/-! ### `MutexLock`, `MutexLockGuard`, `MutexLock::UnassignGuard` (Mutex.h)

`Mon.owner` is BOTH the pthread mutex and muduo's `holder_` field: `owner = some t` iff `t` holds `mutex_`, and
`assertLocked()` / `~MutexLock`'s assertion read `holder_`.  For the two to be one thing the holder must be written only
while the pthread mutex is held: assigned AFTER `pthread_mutex_lock` returns, cleared BEFORE `pthread_mutex_unlock`. -/

/-- a new mutex is free: `Mon.init` has `owner := none` -/
def mutexCtor : List Skel :=
  [ .act (.store "holder_" "0"),
    .act (.mcheck "pthread_mutex_init" "&mutex_, NULL") ]

/-- a mutex is destroyed only when nobody holds it (the all-blocked states of C14 / C15 / C05 name everybody who is
still inside a monitor; `clean_shutdown`, `stop_returns` end with `owner = none`) -/
def mutexDtor : List Skel :=
  [ .act (.assertion "holder_ == 0"),
    .act (.mcheck "pthread_mutex_destroy" "&mutex_") ]

/-- `holder_ == CurrentThread::tid()`: `owner = some t` seen from thread `t` -/
def isLockedByThisThread : List Skel :=
  [ .act (.call "tid" ""),
    .act (.ret "holder_ == <result>") ]

/-- `ThreadPool::isFull` starts with it (`Generated/Monitor.lean`: `pool_isFull`) -/
def assertLocked : List Skel :=
  [ .act (.assertion "isLockedByThisThread()") ]

/-- `acq t`: first the pthread mutex (blocks while `owner ≠ none`), then the holder -/
def mutexLock : List Skel :=
  [ .act (.mcheck "pthread_mutex_lock" "&mutex_"),
    .act (.call "assignHolder" "") ]

/-- `owner := none`: first the holder, then the pthread mutex -/
def mutexUnlock : List Skel :=
  [ .act (.call "unassignHolder" ""),
    .act (.mcheck "pthread_mutex_unlock" "&mutex_") ]

def unassignHolder : List Skel :=
  [ .act (.store "holder_" "0") ]

/-- the holder is the calling thread's (cached) kernel id - never 0 for a live thread (`C17.tid_field_true` needs
`0 < tid`), so `holder_ == 0` means "free" -/
def assignHolder : List Skel :=
  [ .act (.call "tid" ""),
    .act (.store "holder_" "<result>") ]

/-- `guard "UnassignGuard" m` -/
def unassignGuardCtor : List Skel :=
  [ .act (.store "owner_" "owner"),
    .act (.call "owner_.unassignHolder" "") ]

/-- `guardEnd "UnassignGuard" m` -/
def unassignGuardDtor : List Skel :=
  [ .act (.call "owner_.assignHolder" "") ]

/-- `lock m` -/
def lockGuardCtor : List Skel :=
  [ .act (.store "mutex_" "mutex"),
    .act (.call "mutex_.lock" "") ]

/-- `unlock m` -/
def lockGuardDtor : List Skel :=
  [ .act (.call "mutex_.unlock" "") ]

/-! ### `Condition` (Condition.h, Condition.cc) -/

/-- a condition variable belongs to ONE mutex, fixed at construction (`Mon` has one `owner` for `ne` and `nf`) -/
def condCtor : List Skel :=
  [ .act (.store "mutex_" "mutex"),
    .act (.mcheck "pthread_cond_init" "&pcond_, NULL") ]

def condDtor : List Skel :=
  [ .act (.mcheck "pthread_cond_destroy" "&pcond_") ]

/-- `Mon.parkOn` / `Mon.enter`: the holder is cleared (the caller holds the mutex: `Condition::wait` is only called
under a `MutexLockGuard`), `pthread_cond_wait` is asked to release THAT mutex (`mutex_.getPthreadMutex()`) and park
on THIS condition (`&pcond_`), and when it has returned - with the mutex re-acquired - the holder is assigned again.
Nothing else happens in between: no flag, no second wait, no early return. -/
def condWait : List Skel :=
  [ .act (.guard "UnassignGuard" "mutex_"),
    .act (.mcheck "pthread_cond_wait" "&pcond_, mutex_.getPthreadMutex()"),
    .act (.guardEnd "UnassignGuard" "mutex_") ]

/-- `WS.one`: unconditionally `pthread_cond_signal` on this condition -/
def condNotify : List Skel :=
  [ .act (.mcheck "pthread_cond_signal" "&pcond_") ]

/-- `WS.all`: unconditionally `pthread_cond_broadcast` on this condition -/
def condNotifyAll : List Skel :=
  [ .act (.mcheck "pthread_cond_broadcast" "&pcond_") ]

/-- the timed wait of `AsyncLogging::threadFunc` (`Model/AsyncLog.lean`: pc `waiting`, moves `wake 0/1/2`): ONE clock
reading, the deadline computed from it by the two assignments `Gen.ThreadSkel.waitForSecondsDeadline` translates
(`C14.timed_wait_deadline_valid`), then exactly the shape of `wait()` around `pthread_cond_timedwait` on the same
condition, mutex and deadline; the result says "timed out" iff pthread said `ETIMEDOUT` (110) -/
def condWaitForSeconds : List Skel :=
  [ .act (.sys "clock_gettime" "0, &abstime"),
    .act (.assign "kNanoSecondsPerSecond" "1000000000"),
    .act (.assign "nanoseconds" "seconds * kNanoSecondsPerSecond"),
    .act (.store "abstime.tv_sec" "abstime.tv_sec + (abstime.tv_nsec + nanoseconds) / kNanoSecondsPerSecond"),
    .act (.store "abstime.tv_nsec" "(abstime.tv_nsec + nanoseconds) % kNanoSecondsPerSecond"),
    .act (.guard "UnassignGuard" "mutex_"),
    .act (.sys "pthread_cond_timedwait" "&pcond_, mutex_.getPthreadMutex(), &abstime"),
    .act (.ret "110 == <result>"),
    .act (.guardEnd "UnassignGuard" "mutex_") ]

/-! ### `CountDownLatch` (CountDownLatch.cc)

The same three functions are extracted by `vlib/gen/monitor.py` in the flat token vocabulary the transition system
interprets (`Monitor.Declared.latch_*`); here they are once more in the tree vocabulary, which also sees a test in
front of the lock, a `do .. while`, the decrement's operand and the returned expression. -/

/-- the condition is bound to the latch's own mutex; the count starts at the argument (`linit count ..`) -/
def latchCtor : List Skel :=
  [ .act (.store "condition_" "mutex_"),
    .act (.store "count_" "count") ]

/-- `LState.execOp .wait`: under the mutex, `while (count_ > 0) condition_.wait()` - the test comes first, every
wake-up re-tests (`waitOf latch_wait = some ⟨true, _⟩`) -/
def latchWait : List Skel :=
  [ .act (.lock "mutex_"),
    .loop .whileDo "count_ > 0"
      [ .act (.call "condition_.wait" "") ],
    .act (.unlock "mutex_") ]

/-- `LState.execOp .countDown`: under the mutex, decrement, and `notifyAll` (not `notify`: `C14.latch_releases_all`)
exactly when the count has reached 0 -/
def latchCountDown : List Skel :=
  [ .act (.lock "mutex_"),
    .act (.store "count_" "count_ - 1"),
    .ite "count_ == 0"
      [ .act (.call "condition_.notifyAll" "") ] [],
    .act (.unlock "mutex_") ]

/-- `LState.execOp .getCount` -/
def latchGetCount : List Skel :=
  [ .act (.lock "mutex_"),
    .act (.ret "count_"),
    .act (.unlock "mutex_") ]

/-! ### the tid cache (CurrentThread.h, Thread.cc)

`Model/LogStream.lean`: `tidCall gettid t = if tidCacheEmpty t.cached then cacheTid gettid t else t`, and `cacheTid`
sets `cached`, `str`, `len` together.  `Generated/LogStream.lean` has the two guards, the format and the length
expression; the skeletons add the shape around them. -/

/-- `LogStream.tidCall`: `cacheTid()` under the emptiness test, nothing else; the result is the cached number -/
def tid : List Skel :=
  [ .ite "t_cachedTid == 0"
      [ .act (.call "cacheTid" "") ] [],
    .act (.ret "t_cachedTid") ]

/-- `LogStream.cacheTid`: number (from `detail::gettid()`), text (`snprintf` of THAT number into `t_tidString`) and length
(what `snprintf` returned) are written together, under one test -/
def cacheTid : List Skel :=
  [ .ite "t_cachedTid == 0"
      [ .act (.call "gettid" ""),
        .act (.store "t_cachedTid" "<result>"),
        .act (.sys "snprintf" "t_tidString, sizeof(t_tidString), \"%5d \", t_cachedTid"),
        .act (.store "t_tidStringLength" "<result>") ] [] ]

/-- not used by a model (the harness of C17 compares the tid field with `gettid` itself) -/
def isMainThread : List Skel :=
  [ .act (.call "tid" ""),
    .act (.ret "<result> == getpid()") ]

/-- not used by a model (tests only): `usec` split into seconds and nanoseconds, one `nanosleep` -/
def sleepUsec : List Skel :=
  [ .act (.assign "ts" "{0, 0}"),
    .act (.store "ts.tv_sec" "usec / kMicroSecondsPerSecond"),
    .act (.store "ts.tv_nsec" "usec % kMicroSecondsPerSecond * 1000"),
    .act (.sys "nanosleep" "&ts, NULL") ]

/-- `LogReq.tid` ("what `gettid` returns on this thread", an environment input of `Model/LogStream.lean`): the kernel's
id of the calling thread, `syscall(SYS_gettid)` (186 on x86-64) -/
def gettid : List Skel :=
  [ .act (.sys "syscall" "186"),
    .act (.ret "<result>") ]

/-- `LogStream.entryState (.forkChild ..) = tidRun tid parent afterForkSteps` with `afterForkSteps = [.reset, .callTid]`:
the cache copied from the parent is emptied and `tid()` is called - which recomputes number, text AND length through
`cacheTid` (`C17.tid_cache_refresh_tied`).  Writing the new number alone would leave the parent's text. -/
def afterFork : List Skel :=
  [ .act (.store "t_cachedTid" "0"),
    .act (.store "t_threadName" "\"main\""),
    .act (.call "tid" "") ]

/-- `LogStream.entryState .main = tidRun tid fresh staticInitSteps` (`[.callTid]`) and `atforkChildRegistered`: the
static initialiser fills the main thread's cache and registers `afterFork` as the CHILD handler (third argument) -/
def threadNameInitializer : List Skel :=
  [ .act (.store "t_threadName" "\"main\""),
    .act (.call "tid" ""),
    .act (.sys "pthread_atfork" "NULL, NULL, &afterFork") ]

/-! ### `Thread` (Thread.cc) -/

def threadDataCtor : List Skel :=
  [ .act (.store "func_" "move(func)"),
    .act (.store "name_" "name"),
    .act (.store "tid_" "tid"),
    .act (.store "latch_" "latch") ]

/-- the new thread: publishes its tid into the `Thread` object (`*tid_`, filling its own cache:
`LogStream.entryState .muduoThread = tidRun tid fresh threadStartSteps`, `[.callTid]`), THEN counts the latch down - so
`start()` returns with `tid_` valid -, and only then runs the user's function (`func_`): the loop thread of
`EventLoopThread` (`Loop`: `phase .born → .pre ..`), a pool worker (`TPool`: `wTest`), the logging back-end.  An
exception of the function ends the process (`abort` / rethrow out of a thread's start routine = `std::terminate`): the
models have no "thread died, others go on" move. -/
def runInThread : List Skel :=
  [ .act (.call "tid" ""),
    .act (.store "*tid_" "<result>"),
    .act (.store "tid_" "NULL"),
    .act (.call "latch_.countDown" ""),
    .act (.store "latch_" "NULL"),
    .act (.store "t_threadName" "name_.empty() ? \"muduoThread\" : name_.c_str()"),
    .act (.sys "prctl" "15, t_threadName"),
    .attempt
      [ .act (.call "func_" ""),
        .act (.store "t_threadName" "\"finished\"") ],
    .handler "const Exception & ex"
      [ .act (.store "t_threadName" "\"crashed\""),
        .act (.sys "abort" "") ],
    .handler "const std::exception & ex"
      [ .act (.store "t_threadName" "\"crashed\""),
        .act (.sys "abort" "") ],
    .handler "..."
      [ .act (.store "t_threadName" "\"crashed\""),
        .act (.rethrow) ] ]

/-- the start routine handed to `pthread_create`: run, then free the `ThreadData` (the thread's function has returned
when this returns: what `pthread_join` waits for) -/
def startThread : List Skel :=
  [ .act (.assign "data" "obj"),
    .act (.call "data.runInThread" ""),
    .act (.delete "data"),
    .act (.ret "NULL") ]

/-- a new `Thread` is neither started nor joined, has no tid, and its latch needs ONE `countDown` -/
def threadCtor : List Skel :=
  [ .act (.store "started_" "false"),
    .act (.store "joined_" "false"),
    .act (.store "pthreadId_" "0"),
    .act (.store "tid_" "0"),
    .act (.store "func_" "move(func)"),
    .act (.store "name_" "n"),
    .act (.store "latch_" "1"),
    .act (.call "setDefaultName" "") ]

/-- a started thread that was never joined is detached (its resources are released when it ends); a joined or never
started one is left alone - `pthread_detach` after `pthread_join`, or on `pthreadId_ = 0`, is undefined behaviour -/
def threadDtor : List Skel :=
  [ .ite "started_ && !joined_"
      [ .act (.sys "pthread_detach" "pthreadId_") ] [] ]

def setDefaultName : List Skel :=
  [ .act (.call "numCreated_.incrementAndGet" ""),
    .act (.assign "num" "<result>"),
    .ite "name_.empty()"
      [ .act (.sys "snprintf" "buf, sizeof(buf), \"Thread%d\", num"),
        .act (.store "name_" "buf") ] [] ]

/-- `Loop.stepIdle .startLoop` (`thread_.start()`), `Generated/Monitor.lean` `pool_start` (`act "start threads_"`),
`AsyncLogging::start`: started at most once (assertion), `started_` set BEFORE the thread exists (the new thread may
run at once), the start routine is `detail::startThread` on a fresh `ThreadData` carrying the function, the name and
the addresses of `tid_` and `latch_`; when `pthread_create` fails the flag is taken back and the process ends
(`fatal`: no model has a "start failed" move); otherwise the caller WAITS on the latch - it returns only after the new
thread has published its tid (`runInThread`) - and the tid is positive -/
def threadStart : List Skel :=
  [ .act (.assertion "!started_"),
    .act (.store "started_" "true"),
    .act (.assign "data" "new detail::ThreadData(func_, name_, &tid_, &latch_)"),
    .act (.sys "pthread_create" "&pthreadId_, NULL, &startThread, data"),
    .ite "<result>"
      [ .act (.store "started_" "false"),
        .act (.delete "data"),
        .act (.fatal) ]
      [ .act (.call "latch_.wait" ""),
        .act (.assertion "tid_ > 0") ] ]

/-- `Loop.stepDJoin` (`C05.join_terminates`), `TPool` `stopJoin i` (`C15.stop_returns`), `AsyncLogging::stop`: only a
started thread, at most once (`joined_` set BEFORE the wait, so that `~Thread` does not detach it afterwards), and the
wait is `pthread_join` on the id `pthread_create` stored -/
def threadJoin : List Skel :=
  [ .act (.assertion "started_"),
    .act (.assertion "!joined_"),
    .act (.store "joined_" "true"),
    .act (.sys "pthread_join" "pthreadId_, NULL"),
    .act (.ret "<result>") ]

end Decl

end MuduoVerif.ThreadSkel
