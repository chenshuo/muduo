/-!
# The system-call layer: what the engines' models assume of each "primitive", as statement skeletons

The models of the connection (`Model/Conn.lean`), listener (`Model/Acceptor.lean`), client (`Model/Client.lean`), dispatch
(`Model/Poller.lean`), loop (`Model/Loop.lean`), timer (`Model/Timer.lean`) and address (`Model/Inet.lean`) engines do not
look inside `sockets::write/read/readv/accept/connect/close/shutdownWrite/getSocketError/isSelfConnect/..`, `Socket::*`,
`createEventfd`, `createTimerfd`, `Poller::newDefaultPoller`, the poller constructors / destructors, `Channel::tie` and the
`InetAddress` / `sockets::toIpPort/toIp/fromIpPort` conversions: each is ONE step of the model whose result is an
environment input (`WriteRes`, `ReadRes`, `AcceptRes`, the client's `envConnect` / `envSoErr` / `envSelf`, ..) or one
function of `Model/Inet.lean`.  That reading is correct only if the wrapper is TRANSPARENT - one system call, the
arguments passed through, the result returned unchanged, a failure at most logged - or does exactly the extra work the
model knows about (the errno `switch` of `sockets::accept`, the process-ending `LOG_SYSFATAL` of the `..OrDie` functions,
the family dispatch and the byte-order conversion of the address functions).

This file states, function by function, the skeleton the models assume (`Decl.*`, written by reading where the models use
the primitive; each with the model assumption it backs).  `vlib/gen/sysskel.py` extracts the skeleton of the same
functions from /repo's current sources (`Generated/SysSkel.lean`, in the vocabulary below) and `Proofs/SysSkelTie.lean`
proves the two equal by `rfl`.  A source change that makes a wrapper retry, loop, swallow or rewrite a result, call a
different system call or pass different arguments / flags, close twice or not at all, drop the byte-order conversion of a
port, invert the back-end choice .. changes the extracted skeleton and breaks that proof.

Vocabulary.  `sys f args`: a libc / system call (NOT a function of `muduo::net`; decided by the declaration the call refers
to, so `::close` and `sockets::close` cannot be confused); `call f args`: a function of muduo, qualified relative to
`muduo::net`; `store` (members, through pointers, `errno`), `assign` (locals); `log`: `LOG_ERROR` / `LOG_SYSERR` (the
function continues) and `LOG_FATAL` / `LOG_SYSFATAL` (the process ends: `Logger::~Logger` calls `abort()` for level FATAL);
`assertion`; `label v` / `brk` inside a `switch` body (`case v:` / `default:` / `break`, fall-through as in C); `ret v`.
`<result>` is the value of the action just before it.  Expressions are canonical prints (casts dropped, minimal
parentheses); integer MACROS are printed by value - on the platform of the checks: `AF_INET` = 2, `AF_INET6` = 10,
`SOL_SOCKET` = 1, `SO_ERROR` = 4, `SO_REUSEADDR` = 2, `SO_KEEPALIVE` = 9, `SO_REUSEPORT` = 15, `SOL_TCP` = 6, `TCP_INFO` =
11, `TCP_NODELAY` = 1, `SOMAXCONN` = 4096, `INET_ADDRSTRLEN` = 16, `INET6_ADDRSTRLEN` = 46, `CLOCK_MONOTONIC` = 1,
`EPOLL_CTL_ADD/DEL/MOD` = 1/2/3, errno values as in `Generated/Acceptor.lean` - enumerators by name (`SOCK_STREAM`,
`SOCK_NONBLOCK`, `SOCK_CLOEXEC`, `IPPROTO_TCP`, `SHUT_WR`, `EFD_NONBLOCK`, `TFD_NONBLOCK`, `EPOLL_CLOEXEC`).

Not part of a skeleton (the generator ignores exactly these): I1 log statements below ERROR and the text of every log
statement; I2 locals without an initialiser / default-constructed records; I3 casts of every kind, `(void)x`; I4
argument-less base-class initialisers (`noncopyable`), default-constructed members; I5 `static_assert`,
`MUDUO_VERIF_POINT`, empty statements; I6 code the preprocessor excludes in the build the checks use (`#if VALGRIND ||
defined (NO_ACCEPT4)`: `setNonBlockAndCloseOnExec` and the `::accept` variant; `#ifndef SO_REUSEPORT`).

What stays TRUSTED after this tie: the kernel's / glibc's behaviour behind each `sys` action (that `write(2)` returns the
number of bytes it took, that `accept4` with `SOCK_NONBLOCK` yields a non-blocking descriptor, that `inet_ntop` prints
dotted quads as `Model/Inet.lean` says - the latter is additionally compared with glibc's own answer in C20's
differential run), and the canonical printer of `vlib/gen/sysskel.py`.

C20: `harness/calendar_drv.cc` does exercise `sockets::toIp`, `sockets::toIpPort` and both `sockets::fromIpPort` - not by
name (which is why the static report COVERAGE.md could not see it) but through `InetAddress(sa).toIp()`,
`.toIpPort()`, `InetAddress(ip, port)` and `InetAddress(ip, port, true)` (operations `ip4`, `parse`, `ip6`); the output is
compared with `Inet.toIp` / `Inet.toIpPort` / `Inet.parseIp` / `Inet.v6IpPort` of `Model/Inet.lean` in
`lean/Driver/CalendarDrv.lean` and with glibc's `inet_ntop` / `inet_pton` and Python's `ipaddress` by the plug-in
(checked dynamically: a host-order port in `sockets::toIpPort` and a missing `hostToNetwork16` in `sockets::fromIpPort`
are both reported by C20's differential run with a concrete `ip4` line).  Core Lean only; imports nothing.
-/
namespace MuduoVerif.SysSkel

/-- `while (g) body`, `do body while (g)`, `for (init; g; inc) body` (the guard text is `init; g; inc`) -/
inductive LoopKind | whileDo | doWhile | forDo
deriving DecidableEq, Repr

/-- `LOG_ERROR`, `LOG_SYSERR` (continue); `LOG_FATAL`, `LOG_SYSFATAL` (the process ends) -/
inductive LogLevel | error | syserr | fatal | sysfatal
deriving DecidableEq, Repr

/-- one significant action; strings are canonical prints of source expressions -/
inductive Act
  | store (lhs value : String)        -- `lhs = value` on a member / through a pointer / `errno`
  | assign (var value : String)       -- an initialised local, an assignment to a local; `<result>` = value of the action before
  | call (fn args : String)           -- a function of muduo: `sockets::close`, `memZero`, `Poller::Poller` (base initialiser), ..
  | sys (fn args : String)            -- a libc / system call: `write`, `accept4`, `close`, `inet_ntop`, `snprintf`, ..
  | log (lvl : LogLevel)              -- a log statement of level ERROR or above (the text is not part of the skeleton)
  | assertion (cond : String)         -- `assert(cond)`
  | label (value : String)            -- `case value:` / `default:` inside a `switch` body
  | brk                               -- `break`
  | cont                              -- `continue`
  | ret (value : String)              -- `return value`
deriving DecidableEq, Repr

/-- a statement: an action, `if (guard) { thn } else { els }`, a loop, or `switch (scrutinee) { body }` -/
inductive Skel
  | act (a : Act)
  | ite (guard : String) (thn els : List Skel)
  | loop (kind : LoopKind) (guard : String) (body : List Skel)
  | switch (scrutinee : String) (body : List Skel)
deriving Repr

/-! `deriving DecidableEq` does not handle the nesting through `List`; the instance is written out
(structural recursion, so `decide` evaluates it in the kernel). -/
mutual
def Skel.decEq : (x y : Skel) → Decidable (x = y)
  | .act a, .act a' => if h : a = a' then isTrue (by rw [h]) else isFalse (by intro e; cases e; exact h rfl)
  | .ite g t e, .ite g' t' e' =>
    if hg : g = g' then
      match Skel.decEqL t t' with
      | isTrue ht =>
        match Skel.decEqL e e' with
        | isTrue he => isTrue (by rw [hg, ht, he])
        | isFalse he => isFalse (by intro q; cases q; exact he rfl)
      | isFalse ht => isFalse (by intro q; cases q; exact ht rfl)
    else isFalse (by intro q; cases q; exact hg rfl)
  | .loop k g b, .loop k' g' b' =>
    if hk : k = k' then
      if hg : g = g' then
        match Skel.decEqL b b' with
        | isTrue hb => isTrue (by rw [hk, hg, hb])
        | isFalse hb => isFalse (by intro q; cases q; exact hb rfl)
      else isFalse (by intro q; cases q; exact hg rfl)
    else isFalse (by intro q; cases q; exact hk rfl)
  | .switch g b, .switch g' b' =>
    if hg : g = g' then
      match Skel.decEqL b b' with
      | isTrue hb => isTrue (by rw [hg, hb])
      | isFalse hb => isFalse (by intro q; cases q; exact hb rfl)
    else isFalse (by intro q; cases q; exact hg rfl)
  | .act _, .ite .. => isFalse (by intro e; cases e)
  | .act _, .loop .. => isFalse (by intro e; cases e)
  | .act _, .switch .. => isFalse (by intro e; cases e)
  | .ite .., .act _ => isFalse (by intro e; cases e)
  | .ite .., .loop .. => isFalse (by intro e; cases e)
  | .ite .., .switch .. => isFalse (by intro e; cases e)
  | .loop .., .act _ => isFalse (by intro e; cases e)
  | .loop .., .ite .. => isFalse (by intro e; cases e)
  | .loop .., .switch .. => isFalse (by intro e; cases e)
  | .switch .., .act _ => isFalse (by intro e; cases e)
  | .switch .., .ite .. => isFalse (by intro e; cases e)
  | .switch .., .loop .. => isFalse (by intro e; cases e)
def Skel.decEqL : (x y : List Skel) → Decidable (x = y)
  | [], [] => isTrue rfl
  | [], _ :: _ => isFalse (by intro e; cases e)
  | _ :: _, [] => isFalse (by intro e; cases e)
  | a :: as, b :: bs =>
    match Skel.decEq a b with
    | isTrue h =>
      match Skel.decEqL as bs with
      | isTrue h' => isTrue (by rw [h, h'])
      | isFalse h' => isFalse (by intro q; cases q; exact h' rfl)
    | isFalse h => isFalse (by intro q; cases q; exact h rfl)
end
instance : DecidableEq Skel := Skel.decEq
instance : DecidableEq (List Skel) := Skel.decEqL

/-- "exactly one system call `f` with the arguments `args`, its result returned unchanged": the shape the models assume
of a transparent wrapper -/
def passThrough (f args : String) : List Skel := [.act (.sys f args), .act (.ret "<result>")]

/-- the `case` labels of a `switch` body, grouped: consecutive labels share the statements that follow them -/
def labelGroups : List Skel → List (List String)
  | [] => []
  | .act (.label v) :: rest =>
    match labelGroups rest, rest with
    | g :: gs, .act (.label _) :: _ => (v :: g) :: gs
    | gs, _ => [v] :: gs
  | _ :: rest => labelGroups rest

/-! ## The skeleton the models assume of each function -/
namespace Decl

/-! ### `muduo/net/SocketsOps.cc` -/

/-- the five pointer conversions: the pointer itself, nothing else (they are printed as value calls in the skeletons
below; no model looks at an address structure except through `Model/Inet.lean`) -/
def sockaddrCastConstIn6 : List Skel := [.act (.ret "addr")]
def sockaddrCastIn6 : List Skel := [.act (.ret "addr")]
def sockaddrCastConstIn : List Skel := [.act (.ret "addr")]
def sockaddrInCast : List Skel := [.act (.ret "addr")]
def sockaddrIn6Cast : List Skel := [.act (.ret "addr")]

/-- `Client.connect`: `.sockCreated k` - a NEW descriptor per attempt, non-blocking (the model's `::connect` result is the
errno of a non-blocking connect: `EINPROGRESS` is the normal case) and close-on-exec; `Acceptor`: the listening socket.
NOT transparent: a failure ends the process (`LOG_SYSFATAL`) - the models have no "socket() failed" input, which is
sound exactly because the function does not return then. -/
def createNonblockingOrDie : List Skel :=
  [ .act (.sys "socket" "family, SOCK_STREAM | SOCK_NONBLOCK | SOCK_CLOEXEC, IPPROTO_TCP"),
    .act (.assign "sockfd" "<result>"),
    .ite "sockfd < 0" [.act (.log .sysfatal)] [],
    .act (.ret "sockfd") ]

/-- `Acceptor` construction (`Acc` starts with a bound socket): NOT transparent, a failure ends the process -/
def bindOrDie : List Skel :=
  [ .act (.sys "bind" "sockfd, addr, sizeof(sockaddr_in6)"),
    .act (.assign "ret" "<result>"),
    .ite "ret < 0" [.act (.log .sysfatal)] [] ]

/-- `Acceptor.step .listen` (`listening := listenRegisters`): NOT transparent, a failure ends the process; backlog
`SOMAXCONN` -/
def listenOrDie : List Skel :=
  [ .act (.sys "listen" "sockfd, 4096"),
    .act (.assign "ret" "<result>"),
    .ite "ret < 0" [.act (.log .sysfatal)] [] ]

/-- `Acceptor.handleRead`: `peek a : AcceptRes` is the result of ONE `accept4` (non-blocking + close-on-exec: the
descriptor handed to `TcpConnection` never blocks the loop); NOT transparent - `.err e` is classified by the
`switch (savedErrno)` that `Generated/Acceptor.lean` also extracts as `acceptTable` (`classifyAccept`): the first label
group restores `errno` and returns -1 (`.expected`: `Acceptor.failed`), the second and `default` end the process
(`LOG_FATAL`: `Ev.abort "unexpected / unknown error of ::accept"`); the `LOG_SYSERR` before the switch continues
(`acceptFatalOutsideSwitch = 0`).  `SysSkel.accept_switch_is_acceptTable` ties the label groups to that table. -/
def socketsAccept : List Skel :=
  [ .act (.assign "addrlen" "sizeof(*addr)"),
    .act (.sys "accept4" "sockfd, sockets::sockaddr_cast(addr), &addrlen, SOCK_NONBLOCK | SOCK_CLOEXEC"),
    .act (.assign "connfd" "<result>"),
    .ite "connfd < 0"
      [ .act (.assign "savedErrno" "errno"),
        .act (.log .syserr),
        .switch "savedErrno"
          [ .act (.label "11"),    -- EAGAIN
            .act (.label "103"),   -- ECONNABORTED
            .act (.label "4"),     -- EINTR
            .act (.label "71"),    -- EPROTO
            .act (.label "1"),     -- EPERM
            .act (.label "24"),    -- EMFILE
            .act (.store "errno" "savedErrno"),
            .act .brk,
            .act (.label "9"),     -- EBADF
            .act (.label "14"),    -- EFAULT
            .act (.label "22"),    -- EINVAL
            .act (.label "23"),    -- ENFILE
            .act (.label "105"),   -- ENOBUFS
            .act (.label "12"),    -- ENOMEM
            .act (.label "88"),    -- ENOTSOCK
            .act (.label "95"),    -- EOPNOTSUPP
            .act (.log .fatal),
            .act .brk,
            .act (.label "default"),
            .act (.log .fatal),
            .act .brk ] ]
      [],
    .act (.ret "connfd") ]

/-- `Client.connect`: `popConnect` = the result of ONE `::connect` on the new socket (`savedErrno = (ret == 0) ? 0 :
errno` is computed by `Connector::connect` itself, so the wrapper must neither log nor touch `errno`): transparent -/
def socketsConnect : List Skel := passThrough "connect" "sockfd, addr, sizeof(sockaddr_in6)"

/-- `Loop`: `EventLoop::handleRead` drains the eventfd with ONE `read` of 8 bytes (`ev := 0`): transparent -/
def socketsRead : List Skel := passThrough "read" "sockfd, buf, count"

/-- `Conn.handleRead` / `Buffer.readFd`: one `ReadRes` of the environment per readable event (`Ev.sysReadv`): `.got n` is
what ONE `readv` delivered into the two segments, `.err e` is -1: transparent -/
def socketsReadv : List Skel := passThrough "readv" "sockfd, iov, iovcnt"

/-- `Conn.sendInLoop` / `Conn.handleWrite`: one `WriteRes` of the environment per call (`Ev.sysWrite req res`): `.took n` is
the count ONE `write` returned (possibly short - the remainder is the connection's business: `queueRemainder`, write
interest, `handleWrite`), `.err e` is -1 with `errno = e` (`writeErrLogged` / `writeErrFatal` read it).  No retry, no
loop, no rewriting of a short count.  `Loop`: `EventLoop::wakeup` adds 1 to the eventfd with one `write`.  Transparent. -/
def socketsWrite : List Skel := passThrough "write" "sockfd, buf, count"

/-- `Client.closeSock k` (`.closed k`), `Acceptor.accepted` without a callback (`Ev.closed k`), `Conn.maybeDestroy`
(`.sysClose`, through `~Socket`): ONE `close`; a failure is only logged (no model has a "close failed" input) -/
def socketsClose : List Skel :=
  [ .act (.sys "close" "sockfd"),
    .ite "<result> < 0" [.act (.log .syserr)] [] ]

/-- `Conn.shutdownInLoop`: `.sysShutdownWr` - the WRITE side only (`SHUT_WR`: `C03.keeps_receiving` relies on the read
side staying open); a failure is only logged -/
def socketsShutdownWrite : List Skel :=
  [ .act (.sys "shutdown" "sockfd, SHUT_WR"),
    .ite "<result> < 0" [.act (.log .syserr)] [] ]

/-- `Inet.toIpPort a p = toIp a ++ ":" ++ decimal p` (IPv4) and `Inet.v6IpPort t p = "[" ++ t ++ "]:" ++ decimal p`
(IPv6): family dispatch on `sa_family` (10 = `AF_INET6`, everything else is printed as IPv4), the address text is
`sockets::toIp`'s, the port is converted with `networkToHost16` (`Inet.networkToHost 2`) and printed with `%u` behind the
text (`strlen`) -/
def socketsToIpPort : List Skel :=
  [ .ite "addr.sa_family == 10"
      [ .act (.store "buf[0]" "'['"),
        .act (.call "sockets::toIp" "buf + 1, size - 1, addr"),
        .act (.assign "end" "strlen(buf)"),
        .act (.assign "addr6" "sockets::sockaddr_in6_cast(addr)"),
        .act (.assign "port" "sockets::networkToHost16(addr6.sin6_port)"),
        .act (.assertion "size > end"),
        .act (.sys "snprintf" "buf + end, size - end, \"]:%u\", port"),
        .act (.ret "") ]
      [],
    .act (.call "sockets::toIp" "buf, size, addr"),
    .act (.assign "end" "strlen(buf)"),
    .act (.assign "addr4" "sockets::sockaddr_in_cast(addr)"),
    .act (.assign "port" "sockets::networkToHost16(addr4.sin_port)"),
    .act (.assertion "size > end"),
    .act (.sys "snprintf" "buf + end, size - end, \":%u\", port") ]

/-- `Inet.toIp a` is glibc's `inet_ntop(AF_INET, &sin_addr, ..)` (2 = `AF_INET`), the IPv6 text is
`inet_ntop(AF_INET6, &sin6_addr, ..)` (an input of `Inet.v6IpPort`); any other family leaves the buffer untouched -/
def socketsToIp : List Skel :=
  [ .ite "addr.sa_family == 2"
      [ .act (.assertion "size >= 16"),
        .act (.assign "addr4" "sockets::sockaddr_in_cast(addr)"),
        .act (.sys "inet_ntop" "2, &addr4.sin_addr, buf, size") ]
      [ .ite "addr.sa_family == 10"
          [ .act (.assertion "size >= 46"),
            .act (.assign "addr6" "sockets::sockaddr_in6_cast(addr)"),
            .act (.sys "inet_ntop" "10, &addr6.sin6_addr, buf, size") ]
          [] ] ]

/-- `Inet.parseIp s` is glibc's `inet_pton(AF_INET, ..)`; the port is stored in NETWORK order (`hostToNetwork16`:
`Inet.hostToNetwork 2`), the family is set; a text that does not parse is only logged (the address stays zero:
`parse 0 p` in C20's driver) -/
def fromIpPort4 : List Skel :=
  [ .act (.store "addr.sin_family" "2"),
    .act (.store "addr.sin_port" "sockets::hostToNetwork16(port)"),
    .act (.sys "inet_pton" "2, ip, &addr.sin_addr"),
    .ite "<result> <= 0" [.act (.log .syserr)] [] ]

/-- the IPv6 twin (`ip6` lines of C20's driver: glibc's text is the input) -/
def fromIpPort6 : List Skel :=
  [ .act (.store "addr.sin6_family" "10"),
    .act (.store "addr.sin6_port" "sockets::hostToNetwork16(port)"),
    .act (.sys "inet_pton" "10, ip, &addr.sin6_addr"),
    .ite "<result> <= 0" [.act (.log .syserr)] [] ]

/-- `Client.handleWrite` / `handleError`: `popSoErr` - ONE `getsockopt(SOL_SOCKET = 1, SO_ERROR = 4)`; the value is
`optval`, or `errno` when the query itself fails (the models' `err : Nat` covers both; `Conn.handleError` only logs it) -/
def getSocketError : List Skel :=
  [ .act (.assign "optlen" "sizeof(optval)"),
    .act (.sys "getsockopt" "sockfd, 1, 4, &optval, &optlen"),
    .ite "<result> < 0" [.act (.ret "errno")] [.act (.ret "optval")] ]

/-- names / addresses of a new connection (`TcpClient::newConnection`, `TcpServer::newConnection`) and the two halves of
`isSelfConnect`: ONE `getsockname` into a zeroed structure; a failure is only logged (the zero address is returned) -/
def getLocalAddr : List Skel :=
  [ .act (.call "memZero" "&localaddr, sizeof(localaddr)"),
    .act (.assign "addrlen" "sizeof(localaddr)"),
    .act (.sys "getsockname" "sockfd, sockets::sockaddr_cast(&localaddr), &addrlen"),
    .ite "<result> < 0" [.act (.log .syserr)] [],
    .act (.ret "localaddr") ]

/-- ONE `getpeername` into a zeroed structure; a failure is only logged -/
def getPeerAddr : List Skel :=
  [ .act (.call "memZero" "&peeraddr, sizeof(peeraddr)"),
    .act (.assign "addrlen" "sizeof(peeraddr)"),
    .act (.sys "getpeername" "sockfd, sockets::sockaddr_cast(&peeraddr), &addrlen"),
    .ite "<result> < 0" [.act (.log .syserr)] [],
    .act (.ret "peeraddr") ]

/-- `Client.handleWrite`: `popSelf` - a pure comparison of the two addresses of the socket (port AND address, per
family); no side effect on the socket -/
def isSelfConnect : List Skel :=
  [ .act (.call "sockets::getLocalAddr" "sockfd"),
    .act (.assign "localaddr" "<result>"),
    .act (.call "sockets::getPeerAddr" "sockfd"),
    .act (.assign "peeraddr" "<result>"),
    .ite "localaddr.sin6_family == 2"
      [ .act (.assign "laddr4" "&localaddr"),
        .act (.assign "raddr4" "&peeraddr"),
        .act (.ret "laddr4.sin_port == raddr4.sin_port && laddr4.sin_addr.s_addr == raddr4.sin_addr.s_addr") ]
      [ .ite "localaddr.sin6_family == 10"
          [ .act (.ret "localaddr.sin6_port == peeraddr.sin6_port && memcmp(&localaddr.sin6_addr, &peeraddr.sin6_addr, sizeof(localaddr.sin6_addr)) == 0") ]
          [ .act (.ret "false") ] ] ]

/-! ### `muduo/net/Endian.h`: `Inet.hostToNetwork n = Inet.networkToHost n = Inet.bswap n` (`htobe*` / `be*toh` expand to
glibc's `__bswap_16/32/64` on the little-endian host of the checks; `C20.be_roundtrip`, the `be` lines of C20's driver) -/
def hostToNetwork64 : List Skel := [.act (.ret "__bswap_64(host64)")]
def hostToNetwork32 : List Skel := [.act (.ret "__bswap_32(host32)")]
def hostToNetwork16 : List Skel := [.act (.ret "__bswap_16(host16)")]
def networkToHost64 : List Skel := [.act (.ret "__bswap_64(net64)")]
def networkToHost32 : List Skel := [.act (.ret "__bswap_32(net32)")]
def networkToHost16 : List Skel := [.act (.ret "__bswap_16(net16)")]

/-! ### `muduo/net/Socket.h`, `Socket.cc` -/

/-- the descriptor is stored, nothing else (no system call: `TcpConnection` / `Acceptor` own an already open socket) -/
def socketCtor : List Skel := [.act (.store "sockfd_" "sockfd")]
def socketFd : List Skel := [.act (.ret "sockfd_")]

/-- `Conn.maybeDestroy`: `.sysClose` exactly ONCE when the last reference goes away (`C02`: close once, after DOWN, never
while registered); `Acceptor.destroy` (the listening socket) -/
def socketDtor : List Skel := [.act (.call "sockets::close" "sockfd_")]

/-- not modelled (a read-only query of the kernel's counters): zeroed buffer, ONE `getsockopt(SOL_TCP = 6, TCP_INFO = 11)` -/
def getTcpInfo : List Skel :=
  [ .act (.assign "len" "sizeof(*tcpi)"),
    .act (.call "memZero" "tcpi, len"),
    .act (.sys "getsockopt" "sockfd_, 6, 11, tcpi, &len"),
    .act (.ret "<result> == 0") ]

/-- not modelled: text of the above -/
def getTcpInfoString : List Skel :=
  [ .act (.call "getTcpInfo" "&tcpi"),
    .act (.assign "ok" "<result>"),
    .ite "ok"
      [ .act (.sys "snprintf" "buf, len, \"unrecovered=%u rto=%u ato=%u snd_mss=%u rcv_mss=%u lost=%u retrans=%u rtt=%u rttvar=%u sshthresh=%u cwnd=%u total_retrans=%u\", tcpi.tcpi_retransmits, tcpi.tcpi_rto, tcpi.tcpi_ato, tcpi.tcpi_snd_mss, tcpi.tcpi_rcv_mss, tcpi.tcpi_lost, tcpi.tcpi_retrans, tcpi.tcpi_rtt, tcpi.tcpi_rttvar, tcpi.tcpi_snd_ssthresh, tcpi.tcpi_snd_cwnd, tcpi.tcpi_total_retrans") ]
      [],
    .act (.ret "ok") ]

/-- `Acceptor` construction: the listening address is bound (or the process ends) -/
def bindAddress : List Skel := [.act (.call "sockets::bindOrDie" "sockfd_, addr.getSockAddr()")]

/-- `Acceptor.step .listen` -/
def socketListen : List Skel := [.act (.call "sockets::listenOrDie" "sockfd_")]

/-- `Acceptor.handleRead`: `acceptSocket_.accept(&peerAddr)` is `sockets::accept` on the listening descriptor; the peer
address is stored ONLY for an accepted connection (`connfd >= 0`: `acceptedOk`) and the descriptor is returned unchanged -/
def socketAccept : List Skel :=
  [ .act (.call "memZero" "&addr, sizeof(addr)"),
    .act (.call "sockets::accept" "sockfd_, &addr"),
    .act (.assign "connfd" "<result>"),
    .ite "connfd >= 0" [.act (.call "peeraddr.setSockAddrInet6" "addr")] [],
    .act (.ret "connfd") ]

/-- `Conn.shutdownInLoop`: `socket_->shutdownWrite()` is `sockets::shutdownWrite` on the connection's descriptor -/
def socketShutdownWrite : List Skel := [.act (.call "sockets::shutdownWrite" "sockfd_")]

/-- the four socket options: ONE `setsockopt` each, the result is IGNORED (`FIXME CHECK` in the source) - no model has
an input or an event for them (NOT an error path of any model; `setReusePort` logs a failure when switching on) -/
def setTcpNoDelay : List Skel :=
  [ .act (.assign "optval" "on ? 1 : 0"),
    .act (.sys "setsockopt" "sockfd_, IPPROTO_TCP, 1, &optval, sizeof(optval)") ]
def setReuseAddr : List Skel :=
  [ .act (.assign "optval" "on ? 1 : 0"),
    .act (.sys "setsockopt" "sockfd_, 1, 2, &optval, sizeof(optval)") ]
def setReusePort : List Skel :=
  [ .act (.assign "optval" "on ? 1 : 0"),
    .act (.sys "setsockopt" "sockfd_, 1, 15, &optval, sizeof(optval)"),
    .act (.assign "ret" "<result>"),
    .ite "ret < 0 && on" [.act (.log .syserr)] [] ]
def setKeepAlive : List Skel :=
  [ .act (.assign "optval" "on ? 1 : 0"),
    .act (.sys "setsockopt" "sockfd_, 1, 9, &optval, sizeof(optval)") ]

/-! ### `muduo/net/InetAddress.h`, `InetAddress.cc` -/

/-- listening addresses (`InetAddress(port)`): family, any / loopback address and the port, all in NETWORK order
(`hostToNetwork32`, `hostToNetwork16`) in a zeroed structure -/
def inetCtorPort : List Skel :=
  [ .ite "ipv6"
      [ .act (.call "memZero" "&addr6_, sizeof(addr6_)"),
        .act (.store "addr6_.sin6_family" "10"),
        .act (.assign "ip" "loopbackOnly ? in6addr_loopback : in6addr_any"),
        .act (.store "addr6_.sin6_addr" "ip"),
        .act (.store "addr6_.sin6_port" "sockets::hostToNetwork16(portArg)") ]
      [ .act (.call "memZero" "&addr_, sizeof(addr_)"),
        .act (.store "addr_.sin_family" "2"),
        .act (.assign "ip" "loopbackOnly ? kInaddrLoopback : kInaddrAny"),
        .act (.store "addr_.sin_addr.s_addr" "sockets::hostToNetwork32(ip)"),
        .act (.store "addr_.sin_port" "sockets::hostToNetwork16(portArg)") ] ]

/-- `parse` / `ip4` / `ip6` of C20's driver: the text is an IPv6 address iff asked for or it contains `':'`, otherwise
IPv4 (`Inet.parseIp`); the structure is zeroed first, so a text that does not parse leaves address 0 -/
def inetCtorIpPort : List Skel :=
  [ .ite "ipv6 || strchr(ip.c_str(), ':')"
      [ .act (.call "memZero" "&addr6_, sizeof(addr6_)"),
        .act (.call "sockets::fromIpPort" "ip.c_str(), portArg, &addr6_") ]
      [ .act (.call "memZero" "&addr_, sizeof(addr_)"),
        .act (.call "sockets::fromIpPort" "ip.c_str(), portArg, &addr_") ] ]

/-- a copy of the structure, unchanged (`ip4` of C20's driver builds its `InetAddress` this way) -/
def inetCtorIn : List Skel := [.act (.store "addr_" "addr")]
def inetCtorIn6 : List Skel := [.act (.store "addr6_" "addr")]
def inetFamily : List Skel := [.act (.ret "addr_.sin_family")]
def inetGetSockAddr : List Skel := [.act (.ret "sockets::sockaddr_cast(&addr6_)")]
/-- `Socket::accept`'s peer address: a copy, unchanged -/
def inetSetSockAddrInet6 : List Skel := [.act (.store "addr6_" "addr6")]
def inetPortNetEndian : List Skel := [.act (.ret "addr_.sin_port")]

/-- `Inet.toIpPort` / `Inet.v6IpPort`: exactly `sockets::toIpPort` on the own address, into an empty 64-byte buffer -/
def inetToIpPort : List Skel :=
  [ .act (.assign "buf" "\"\""),
    .act (.call "sockets::toIpPort" "buf, sizeof(buf), getSockAddr()"),
    .act (.ret "buf") ]

/-- `Inet.toIp`: exactly `sockets::toIp` on the own address -/
def inetToIp : List Skel :=
  [ .act (.assign "buf" "\"\""),
    .act (.call "sockets::toIp" "buf, sizeof(buf), getSockAddr()"),
    .act (.ret "buf") ]

/-- the address as stored (network order); IPv4 only -/
def inetIpv4NetEndian : List Skel :=
  [ .act (.assertion "family() == 2"),
    .act (.ret "addr_.sin_addr.s_addr") ]

/-- the port in HOST order: `networkToHost16` of the stored one -/
def inetPort : List Skel := [.act (.ret "sockets::networkToHost16(portNetEndian())")]

/-- not modelled (name service): ONE `gethostbyname_r`; only the IPv4 address of `out` changes, and only on success -/
def inetResolve : List Skel :=
  [ .act (.assertion "out != NULL"),
    .act (.assign "he" "NULL"),
    .act (.assign "herrno" "0"),
    .act (.call "memZero" "&hent, sizeof(hent)"),
    .act (.sys "gethostbyname_r" "hostname.c_str(), &hent, t_resolveBuffer, sizeof(t_resolveBuffer), &he, &herrno"),
    .act (.assign "ret" "<result>"),
    .ite "ret == 0 && he != NULL"
      [ .act (.assertion "he.h_addrtype == 2 && he.h_length == sizeof(uint32_t)"),
        .act (.store "out.addr_.sin_addr" "*he.h_addr_list[0]"),
        .act (.ret "true") ]
      [ .ite "ret" [.act (.log .syserr)] [],
        .act (.ret "false") ] ]

/-- not modelled: a store to the IPv6 scope, IPv6 addresses only -/
def inetSetScopeId : List Skel :=
  [ .ite "family() == 10" [.act (.store "addr6_.sin6_scope_id" "scope_id")] [] ]

/-! ### the pollers, `Channel::tie`, the two special descriptors -/

/-- the `Backend` parameter of `Model/Poller.lean`, `Model/Conn.lean`, `Model/Client.lean`, .. (`Poller.init be`): the
harnesses choose it by setting / unsetting `MUDUO_USE_POLL` - SET means `PollPoller`, unset means `EPollPoller` -/
def newDefaultPoller : List Skel :=
  [ .act (.sys "getenv" "\"MUDUO_USE_POLL\""),
    .ite "<result>"
      [ .act (.ret "new PollPoller(loop)") ]
      [ .act (.ret "new EPollPoller(loop)") ] ]

/-- `Poller.init be`: an EMPTY channel map (`channels_` default-constructed), the owner loop stored -/
def pollerCtor : List Skel := [.act (.store "ownerLoop_" "loop")]
/-- `= default`: no statement of its own (the model's pollers hold no resource besides epoll's descriptor) -/
def pollerDtor : List Skel := []

/-- `Poller::hasChannel` is the value `s.cmap (fdOf c) = some c` the assertions of `Model/Poller.lean` test
(`PollerSkel.Decl.loopHasChannel`): present under its own descriptor AND the same object -/
def pollerHasChannel : List Skel :=
  [ .act (.call "assertInLoopThread" ""),
    .act (.assign "it" "channels_.find(channel.fd())"),
    .act (.ret "it != channels_.end() && it.second == channel") ]

/-- `Poller.init .epoll`: ONE `epoll_create1(EPOLL_CLOEXEC)` (a failure ends the process), `events_` starts with
`kInitEventListSize` entries (`evsize := kInitEventListSize`: the growth bound of `C09`) -/
def epollCtor : List Skel :=
  [ .act (.call "Poller::Poller" "loop"),
    .act (.sys "epoll_create1" "EPOLL_CLOEXEC"),
    .act (.store "epollfd_" "<result>"),
    .act (.store "events_" "kInitEventListSize"),
    .ite "epollfd_ < 0" [.act (.log .sysfatal)] [] ]

/-- the epoll descriptor is closed exactly once, with a plain `::close` (nothing is logged) -/
def epollDtor : List Skel := [.act (.sys "close" "epollfd_")]

/-- a debug string for `LOG_TRACE` / the error logs of `EPollPoller::update` (1/2/3 = `EPOLL_CTL_ADD/DEL/MOD`); no model
looks at it -/
def epollOperationToString : List Skel :=
  [ .switch "op"
      [ .act (.label "1"),
        .act (.ret "\"ADD\""),
        .act (.label "2"),
        .act (.ret "\"DEL\""),
        .act (.label "3"),
        .act (.ret "\"MOD\""),
        .act (.label "default"),
        .act (.assertion "false && \"ERROR op\""),
        .act (.ret "\"Unknown Operation\"") ] ]

/-- `Poller.init .poll`: nothing but the base class (an empty `pollfds_`) -/
def pollCtor : List Skel := [.act (.call "Poller::Poller" "loop")]
def pollDtor : List Skel := []

/-- `ConnSkel.Decl.connectEstablished`'s `.chan .tie` (the connection model's channel is always tied: `Conn.handleEvent`
does nothing once the connection is gone): the weak reference is stored and the flag set, nothing else -/
def channelTie : List Skel :=
  [ .act (.store "tie_" "obj"),
    .act (.store "tied_" "true") ]

/-- `Model/Loop.lean`'s eventfd counter `ev` starts at 0 (`Loop.init`: `ev := 0`) and is NOT a semaphore (no
`EFD_SEMAPHORE`: ONE read resets it, `ev := 0` in the `.wake` step); NON-BLOCKING (a `handleRead` on a counter that is 0
must not block the loop) and close-on-exec; a failure ends the process (`LOG_SYSERR` + `abort()`) -/
def createEventfd : List Skel :=
  [ .act (.sys "eventfd" "0, EFD_NONBLOCK | EFD_CLOEXEC"),
    .act (.assign "evtfd" "<result>"),
    .ite "evtfd < 0"
      [ .act (.log .syserr),
        .act (.sys "abort" "") ]
      [],
    .act (.ret "evtfd") ]

/-- `Model/Timer.lean`'s timerfd: monotonic clock (1 = `CLOCK_MONOTONIC`; the model's alarm is relative:
`howMuchTimeFromNow`), NON-BLOCKING (`readTimerfd` after a spurious wake-up must not block the loop), close-on-exec; a
failure ends the process -/
def createTimerfd : List Skel :=
  [ .act (.sys "timerfd_create" "1, TFD_NONBLOCK | TFD_CLOEXEC"),
    .act (.assign "timerfd" "<result>"),
    .ite "timerfd < 0" [.act (.log .sysfatal)] [],
    .act (.ret "timerfd") ]

end Decl

end MuduoVerif.SysSkel
