/-!
# Statement skeletons of the codec engine: vocabulary and the skeletons the model implements

`Model/Codec.lean` takes every constant, guard, offset and the decision tree of each `parse` from
`Generated/Codec.lean`; the ORDER and NESTING of the statements inside each function - what is appended to the buffer
in which order, when the frame is retrieved, which branch leaves the decoder loop and which goes round again, where
the raw callback is asked - is hand-written there.  This file states, function by function, the skeleton that the
model's definition implements (`Decl.*`, written by reading `Model/Codec.lean` and `Model/Stream.lean`, each with a
pointer to the model definition it mirrors).  `vlib/gen/codecskel.py` extracts the skeleton of the same functions from
/repo's current `muduo/net/protobuf/ProtobufCodecLite.cc` and `examples/protobuf/codec/codec.cc`
(`Generated/CodecSkel.lean`, in the vocabulary below) and `Proofs/CodecSkelTie.lean` proves the two equal by `rfl`.
A source change that swaps two statements, moves a call into or out of an `if`, merges two `if`s into `if / else if`,
drops an `else` or a `break`, duplicates or drops a statement in one of these functions changes the extracted
skeleton and breaks that proof.

An `ite` / `loop` is named after the generated definition (`Gen.Codec.<name>` / `Gen.ExCodec.<name>`) the model
branches on at that point (`headerAvailable`, `lenOutOfRange`, `frameAvailable`; `checksumOk`, `tagOk`, `nameLenOk`,
`typeKnown`, `payloadOk` are the inputs of the generated `parseDecision`); a condition without a generated definition
is printed.  Expressions are canonical prints of the source expressions (casts dropped, `->` as `.`, minimal
parentheses).  The actions an expression performs precede the action that uses its value; the calls a condition
performs precede its `ite`.  Core Lean only; imports nothing.

Classes of statements that are NOT part of a skeleton (the generator ignores exactly these):
* I1 protobuf's own debug check `GOOGLE_DCHECK(message.IsInitialized()) << ..` - protobuf is not modelled (whether a
  payload parses is the parameter `parsePayload`, the serialised message is the parameter `payload` of `encode`);
* I2 casts of every kind, parentheses, temporaries - the model computes over `Nat` / `Int` / byte lists;
* I3 declarations of locals without an initialiser, default-constructed smart pointers and strings (`MessagePtr message;`);
* I4 `MUDUO_VERIF_POINT` and empty statements.

Where the model ABSTRACTS from something the code does, the code's action is declared (so that moving it is noticed)
and the function's comment says what the model has in its place:
* the `google::protobuf::Message` object (`prototype_->New()`, `createMessage`, `message.get()`): the model hands the
  payload bytes over, the verdicts of protobuf (`ParseFromArray`, descriptor / prototype look-up) are the parameters
  `parsePayload`, `typeKnown`; serialisation (`ByteSizeLong`, `ensureWritableBytes`, `SerializeWithCachedSizesToArray`,
  the consistency check, `hasWritten`) is "append the parameter `payload`";
* the two `assert`s of `fillEmptyBuffer`: the first is the precondition "`buf` is empty" (`encode` builds the frame
  from nothing), the second holds by construction (`(tag ++ payload ++ checksum).length`);
* `memcpy` + `networkToHost32` is `toSigned 32 (decodeBE ..)`; zlib's `adler32` is the hand-written `Codec.adler32`
  (cross-checked by the differential run on every generated frame).
-/
namespace MuduoVerif.CodecSkel

/-- mutating operations of `muduo::net::Buffer` -/
inductive BufOp | append | appendInt32 | prepend | retrieve | ensureWritableBytes | hasWritten
deriving DecidableEq, Repr

/-- `messageCallback_`, `errorCallback_`, `rawCb_` -/
inductive CbKind | message | error | raw
deriving DecidableEq, Repr

/-- one significant action; strings are canonical prints of source expressions -/
inductive Act
  | assign (var : String) (value : String)          -- a store (initialised local, assignment, `p.reset(v)`); `<result>` = result of the action before
  | call (fn : String) (args : String)              -- another function of the codec (member, static member, the free `asInt32`)
  | lib (fn : String) (args : String)               -- `adler32`, `memcmp`, `memcpy`, `ByteSizeConsistencyError`
  | pb (obj : String) (fn : String) (args : String) -- a protobuf call on a message / descriptor pool / message factory
  | alloc (what : String)                           -- `prototype->New()`
  | bufOp (op : BufOp) (buf : String) (args : String)
  | cb (which : CbKind) (args : String)             -- `xxxCallback_(..)`
  | connSend (args : String)                        -- `conn->send(..)`
  | assertion (cond : String)                       -- `assert(cond)`
  | ret (value : String)                            -- `return value`
  | brk                                             -- `break`
  | cont                                            -- `continue`
deriving DecidableEq, Repr

/-- a statement: an action, `if (guard) { thn } else { els }`, or `while (guard) { body }` -/
inductive Skel
  | act (a : Act)
  | ite (guard : String) (thn els : List Skel)
  | loop (guard : String) (body : List Skel)
deriving Repr

/-! `deriving DecidableEq` does not handle the nesting through `List`; the instance is written out
(structural recursion, so `decide` evaluates it in the kernel). -/
mutual
def Skel.decEq : (x y : Skel) → Decidable (x = y)
  | .act a, .act a' => if h : a = a' then isTrue (by rw [h]) else isFalse (by intro e; cases e; exact h rfl)
  | .act _, .ite .. => isFalse (by intro e; cases e)
  | .act _, .loop .. => isFalse (by intro e; cases e)
  | .ite .., .act _ => isFalse (by intro e; cases e)
  | .ite .., .loop .. => isFalse (by intro e; cases e)
  | .loop .., .act _ => isFalse (by intro e; cases e)
  | .loop .., .ite .. => isFalse (by intro e; cases e)
  | .ite g t e, .ite g' t' e' =>
    if hg : g = g' then
      match Skel.decEqL t t' with
      | isTrue ht =>
        match Skel.decEqL e e' with
        | isTrue he => isTrue (by rw [hg, ht, he])
        | isFalse he => isFalse (by intro q; cases q; exact he rfl)
      | isFalse ht => isFalse (by intro q; cases q; exact ht rfl)
    else isFalse (by intro q; cases q; exact hg rfl)
  | .loop g b, .loop g' b' =>
    if hg : g = g' then
      match Skel.decEqL b b' with
      | isTrue hb => isTrue (by rw [hg, hb])
      | isFalse hb => isFalse (by intro q; cases q; exact hb rfl)
    else isFalse (by intro q; cases q; exact hg rfl)
def Skel.decEqL : (x y : List Skel) → Decidable (x = y)
  | [], [] => isTrue rfl
  | [], _ :: _ => isFalse (by intro e; cases e)
  | _ :: _, [] => isFalse (by intro e; cases e)
  | a :: as, b :: bs =>
    match Skel.decEq a b with
    | isTrue h =>
      match Skel.decEqL as bs with
      | isTrue h' => isTrue (by rw [h, h'])
      | isFalse h' => isFalse (by intro q; cases q; exact h' rfl)
    | isFalse h => isFalse (by intro q; cases q; exact h rfl)
end
instance : DecidableEq Skel := Skel.decEq
instance : DecidableEq (List Skel) := Skel.decEqL

/-! ## The skeleton each model function implements

Conventions of the reading.
* The decoder loop.  `Stream.loop step` (`Model/Stream.lean`) is the `while`: `drain` runs it on the buffer.  The
  `loop` node's guard is the outermost test of `Codec.step` (`if headerAvailable .. then .. else .need`: the loop is
  left when the guard fails); inside the body `.need` is `break`, `.fail e` is "error callback with `e`, then `break`"
  (`loop`: `.fail e => { .. dead := true, evs := [e] }` - nothing consumed, the loop is left), `.adv () evs k` is "the
  callbacks `evs`, then `retrieve(k)`, then round again" (`loop`: `.adv s' evs k => (loop step n s' (buf.drop k)).pre
  evs`) - by falling off the end of the body, or by `continue` where statements follow in the body.
* `asInt32 buf 0` read from the front of the buffer is `buf->peekInt32()`; `buf.length` is `readableBytes()`.
* `slice buf frameOffset (frameLen len)` is the pointer / length pair `buf->peek()+kHeaderLen, len` handed to `parse`.
* List concatenation in `encode` is the sequence of `append` operations, left to right; the outer
  `intBytes 4 (..).length ++ ..` is the final `prepend` of the length of what is readable then.
* `if g .. then A else B` on a generated guard `g` is `ite "g" A B`; `parseDecision a b c` applied to the three
  (four) verdicts is the nest of `ite`s over those verdicts in the order `Generated/Codec.lean` records - the model
  computes all verdicts (they are pure), the code computes a verdict only when the earlier ones are true: each
  verdict's computation is declared in front of its `ite`. -/
namespace Decl

/-! ### `muduo::net::ProtobufCodecLite` -/

/-- `Codec.encode` is the content of the buffer that `send` hands to the connection: a fresh (empty) `Buffer`,
`fillEmptyBuffer`, `conn->send`.  (The model has no connection: the driver compares the frame.) -/
def send : List Skel :=
  [ .act (.assign "buf" "Buffer()"),
    .act (.call "fillEmptyBuffer" "&buf, message"),
    .act (.connSend "&buf") ]

/-- `Codec.encode c payload = intBytes 4 (c.tag ++ payload ++ ck).length ++ (c.tag ++ payload ++ ck)` with
`ck = intBytes 4 (checksum32 adlerInit (c.tag ++ payload))`: the tag, then the serialised message (`payload`:
`serializeToBuffer`), then the checksum OF WHAT IS READABLE THEN (tag and payload), then - prepended - the length of
what is readable then (tag, payload and checksum), big-endian (`hostToNetwork32`, `intBytes`). -/
def fillEmptyBuffer : List Skel :=
  [ .act (.assertion "buf.readableBytes() == 0"),
    .act (.bufOp .append "buf" "tag_"),
    .act (.call "serializeToBuffer" "message, buf"),
    .act (.assign "byte_size" "<result>"),
    .act (.call "checksum" "buf.peek(), buf.readableBytes()"),
    .act (.assign "checkSum" "<result>"),
    .act (.bufOp .appendInt32 "buf" "checkSum"),
    .act (.assertion "buf.readableBytes() == tag_.size() + byte_size + kChecksumLen"),
    .act (.assign "len" "hostToNetwork32(buf.readableBytes())"),
    .act (.bufOp .prepend "buf" "&len, sizeof(len)") ]

/-- `Codec.step` under `Stream.loop` (= `Codec.onMessage`, `Codec.feed`): mirrors the recursion
`Stream.loop (Codec.step c)`.  `step`: `if headerAvailable .. then (if lenOutOfRange .. then .fail (.err lengthError)
else if frameAvailable .. then (if c.rawSkip <the frame, header included> then .adv () [] consumed else match parse ..
with | .kNoError => .adv () [.msg ..] consumed | e => .fail (.err e)) else .need) else .need`.
`c.rawSkip frame` is the whole condition `rawCb_ && !rawCb_(..)` (default `fun _ => false`: no raw callback); the call
it performs is declared in front of it.  `prototype_->New()` / `message.get()`: the message object protobuf parses
into - the model delivers the payload bytes (`.msg (payloadOf ..)`). -/
def onMessage : List Skel :=
  [ .loop "headerAvailable"
      [ .act (.assign "len" "buf.peekInt32()"),
        .ite "lenOutOfRange"
          [ .act (.cb .error "conn, buf, receiveTime, kInvalidLength"),
            .act .brk ]
          [ .ite "frameAvailable"
              [ .act (.cb .raw "conn, StringPiece(buf.peek(), kHeaderLen + len), receiveTime"),
                .ite "rawCb_ && !rawCb_(conn, StringPiece(buf.peek(), kHeaderLen + len), receiveTime)"
                  [ .act (.bufOp .retrieve "buf" "kHeaderLen + len"),
                    .act .cont ]
                  [],
                .act (.alloc "prototype_.New()"),
                .act (.assign "message" "<result>"),
                .act (.call "parse" "buf.peek() + kHeaderLen, len, message.get()"),
                .act (.assign "errorCode" "<result>"),
                .ite "errorCode == kNoError"
                  [ .act (.cb .message "conn, message, receiveTime"),
                    .act (.bufOp .retrieve "buf" "kHeaderLen + len") ]
                  [ .act (.cb .error "conn, buf, receiveTime, errorCode"),
                    .act .brk ] ]
              [ .act .brk ] ] ] ]

/-- `Cfg.parsePayload`: protobuf's verdict on the payload bytes (a parameter of the model; the driver records the
real verdicts and feeds them to the model) -/
def parseFromBuffer : List Skel :=
  [ .act (.pb "message" "ParseFromArray" "buf.data(), buf.size()"),
    .act (.ret "<result>") ]

/-- the `payload` argument of `Codec.encode`, appended behind the tag: room for it (`ensureWritableBytes`), the bytes
written at `beginWrite()`, `hasWritten(byte_size)`; returns its length.  `ByteSizeLong` must precede
`SerializeWithCachedSizesToArray` (it caches the sizes); the consistency check is protobuf's own. -/
def serializeToBuffer : List Skel :=
  [ .act (.pb "message" "ByteSizeLong" ""),
    .act (.assign "byte_size" "ToIntSize(message.ByteSizeLong())"),
    .act (.bufOp .ensureWritableBytes "buf" "byte_size + kChecksumLen"),
    .act (.assign "start" "buf.beginWrite()"),
    .act (.pb "message" "SerializeWithCachedSizesToArray" "start"),
    .act (.assign "end" "<result>"),
    .ite "end - start != byte_size"
      [ .act (.pb "message" "ByteSizeLong" ""),
        .act (.lib "ByteSizeConsistencyError" "byte_size, ToIntSize(message.ByteSizeLong()), end - start") ]
      [],
    .act (.bufOp .hasWritten "buf" "byte_size"),
    .act (.ret "byte_size") ]

/-- `Codec.asInt32 bs off = toSigned 32 (decodeBE (slice bs off 4))`: four bytes copied, read big-endian, signed -/
def asInt32 : List Skel :=
  [ .act (.assign "be32" "0"),
    .act (.lib "memcpy" "&be32, buf, sizeof(be32)"),
    .act (.ret "networkToHost32(be32)") ]

/-- `Codec.checksum32 adlerInit bs = toSigned 32 (adler32 adlerInit bs)` (`adlerInit = 1` is generated) -/
def checksum : List Skel :=
  [ .act (.lib "adler32" "1, buf, len"),
    .act (.ret "<result>") ]

/-- `Codec.validateChecksum body = (checksum32 adlerInit (slice body checksumFrom (checksumLen ..)) == asInt32 body
(checksumAt ..))`: the stored value (`asInt32`), the computed value (`checksum`), their comparison; both pure -/
def validateChecksum : List Skel :=
  [ .act (.call "asInt32" "buf + len - kChecksumLen"),
    .act (.assign "expectedCheckSum" "<result>"),
    .act (.call "checksum" "buf, len - kChecksumLen"),
    .act (.assign "checkSum" "<result>"),
    .act (.ret "checkSum == expectedCheckSum") ]

/-- `Codec.parse c body = parseDecision (validateChecksum body) (tagMatches c body) (c.parsePayload (payloadOf c body))`
with the generated `parseDecision checksumOk tagOk payloadOk = if checksumOk then (if tagOk then (if payloadOk then
.kNoError else .kParseError) else .kUnknownMessageType) else .kCheckSumError`; `tagMatches` is the `memcmp`,
`payloadOf` is `data` / `dataLen` -/
def parse : List Skel :=
  [ .act (.assign "error" "kNoError"),
    .act (.call "validateChecksum" "buf, len"),
    .ite "checksumOk"
      [ .act (.lib "memcmp" "buf, tag_.data(), tag_.size()"),
        .ite "tagOk"
          [ .act (.assign "data" "buf + tag_.size()"),
            .act (.assign "dataLen" "len - kChecksumLen - tag_.size()"),
            .act (.call "parseFromBuffer" "StringPiece(data, dataLen), message"),
            .ite "payloadOk"
              [ .act (.assign "error" "kNoError") ]
              [ .act (.assign "error" "kParseError") ] ]
          [ .act (.assign "error" "kUnknownMessageType") ] ]
      [ .act (.assign "error" "kCheckSumError") ],
    .act (.ret "error") ]

/-! ### the example `ProtobufCodec` (examples/protobuf/codec/codec.cc) -/

/-- `Codec.Ex.encode typeName payload`: `body := intBytes 4 (typeName.length + 1) ++ (typeName ++ [0]) ++ payload`
(name length, the name with its NUL - `append(typeName.c_str(), nameLen)` -, the serialised message, inline here),
then `intBytes 4 (checksum32 adlerInit body)` - the checksum of what is readable then -, then the length of all that
prepended -/
def exFillEmptyBuffer : List Skel :=
  [ .act (.assertion "buf.readableBytes() == 0"),
    .act (.assign "typeName" "message.GetTypeName()"),
    .act (.assign "nameLen" "typeName.size() + 1"),
    .act (.bufOp .appendInt32 "buf" "nameLen"),
    .act (.bufOp .append "buf" "typeName.c_str(), nameLen"),
    .act (.pb "message" "ByteSizeLong" ""),
    .act (.assign "byte_size" "ToIntSize(message.ByteSizeLong())"),
    .act (.bufOp .ensureWritableBytes "buf" "byte_size"),
    .act (.assign "start" "buf.beginWrite()"),
    .act (.pb "message" "SerializeWithCachedSizesToArray" "start"),
    .act (.assign "end" "<result>"),
    .ite "end - start != byte_size"
      [ .act (.pb "message" "ByteSizeLong" ""),
        .act (.lib "ByteSizeConsistencyError" "byte_size, ToIntSize(message.ByteSizeLong()), end - start") ]
      [],
    .act (.bufOp .hasWritten "buf" "byte_size"),
    .act (.lib "adler32" "1, buf.peek(), buf.readableBytes()"),
    .act (.assign "checkSum" "<result>"),
    .act (.bufOp .appendInt32 "buf" "checkSum"),
    .act (.assertion "buf.readableBytes() == sizeof(nameLen) + nameLen + byte_size + sizeof(checkSum)"),
    .act (.assign "len" "hostToNetwork32(buf.readableBytes())"),
    .act (.bufOp .prepend "buf" "&len, sizeof(len)") ]

/-- `Codec.asInt32` (the free function of codec.cc; same body as `ProtobufCodecLite::asInt32`) -/
def exAsInt32 : List Skel :=
  [ .act (.assign "be32" "0"),
    .act (.lib "memcpy" "&be32, buf, sizeof(be32)"),
    .act (.ret "networkToHost32(be32)") ]

/-- `Codec.Ex.step` under `Stream.loop` (`Codec.Ex.feed`): mirrors the recursion `Stream.loop (Ex.step c)`; as
`onMessage` above without the raw callback.  `match parse .. with | .kNoError => .adv .. | e => .fail (.err e)` is the
test `errorCode == kNoError && message`: `parseDecision` yields `.kNoError` only on the branch where `typeKnown` holds,
i.e. where `message` is not null, so the second conjunct adds nothing. -/
def exOnMessage : List Skel :=
  [ .loop "headerAvailable"
      [ .act (.assign "len" "buf.peekInt32()"),
        .ite "lenOutOfRange"
          [ .act (.cb .error "conn, buf, receiveTime, kInvalidLength"),
            .act .brk ]
          [ .ite "frameAvailable"
              [ .act (.assign "errorCode" "kNoError"),
                .act (.call "parse" "buf.peek() + kHeaderLen, len, &errorCode"),
                .act (.assign "message" "<result>"),
                .ite "errorCode == kNoError && message"
                  [ .act (.cb .message "conn, message, receiveTime"),
                    .act (.bufOp .retrieve "buf" "kHeaderLen + len") ]
                  [ .act (.cb .error "conn, buf, receiveTime, errorCode"),
                    .act .brk ] ]
              [ .act .brk ] ] ] ]

/-- `Ex.Cfg.typeKnown typeName`: "`createMessage(typeName)` finds a descriptor and a prototype" - a parameter of the
model (protobuf's registry is environment): the result is non-null exactly when both look-ups succeed -/
def exCreateMessage : List Skel :=
  [ .act (.assign "message" "NULL"),
    .act (.pb "generated_pool()" "FindMessageTypeByName" "typeName"),
    .act (.assign "descriptor" "<result>"),
    .ite "descriptor"
      [ .act (.pb "generated_factory()" "GetPrototype" "descriptor"),
        .act (.assign "prototype" "<result>"),
        .ite "prototype"
          [ .act (.alloc "prototype.New()"),
            .act (.assign "message" "<result>") ]
          [] ]
      [],
    .act (.ret "message") ]

/-- `Codec.Ex.parse c body = parseDecision (validateChecksum body) (nameLenOk (nameLenOf body) body.length)
(c.typeKnown (typeNameOf body)) (c.parsePayload (typeNameOf body) (payloadOf body))` with the generated
`parseDecision checksumOk nameLenOk typeKnown payloadOk` (nested in that order; `*error` is `kNoError` on entry).
`Ex.validateChecksum` is inline here (`asInt32` of the stored value, `adler32`, comparison = `checksumOk`);
`nameLenOf` is `asInt32(buf)`, `typeNameOf` the string built from the iterator pair, `payloadOf` is `data` / `dataLen` -/
def exParse : List Skel :=
  [ .act (.call "asInt32" "buf + len - kHeaderLen"),
    .act (.assign "expectedCheckSum" "<result>"),
    .act (.lib "adler32" "1, buf, len - kHeaderLen"),
    .act (.assign "checkSum" "<result>"),
    .ite "checksumOk"
      [ .act (.call "asInt32" "buf"),
        .act (.assign "nameLen" "<result>"),
        .ite "nameLenOk"
          [ .act (.assign "typeName" "string(buf + kHeaderLen, buf + kHeaderLen + nameLen - 1)"),
            .act (.call "createMessage" "typeName"),
            .act (.assign "message" "createMessage(typeName)"),
            .ite "typeKnown"
              [ .act (.assign "data" "buf + kHeaderLen + nameLen"),
                .act (.assign "dataLen" "len - nameLen - 2 * kHeaderLen"),
                .act (.pb "message" "ParseFromArray" "data, dataLen"),
                .ite "payloadOk"
                  [ .act (.assign "*error" "kNoError") ]
                  [ .act (.assign "*error" "kParseError") ] ]
              [ .act (.assign "*error" "kUnknownMessageType") ] ]
          [ .act (.assign "*error" "kInvalidNameLen") ] ]
      [ .act (.assign "*error" "kCheckSumError") ],
    .act (.ret "message") ]

end Decl
end MuduoVerif.CodecSkel
