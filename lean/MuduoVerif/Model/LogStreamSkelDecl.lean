import MuduoVerif.Generated.LogStream
/-!
# Statement skeletons of LogStream / Logging (C17): vocabulary and the skeletons the model implements

`Model/LogStream.lean` takes the constants, the digit tables, every space guard, the printf formats, the pieces of a
log line (incl. the statement list of `Logger::Impl::Impl`, `implSteps`, which it executes) and the branch tables of
`formatSI` / `formatIEC` from `Generated/LogStream.lean`; the ORDER and NESTING of the statements of the other
functions (the digit of the OLD value stored, the division, then the test - a `do .. while`; the sign behind the digits
and in front of the reverse; the length added only when the space test passed; the copy before `cur_` moves; the
cached second and the zone generation stored only on a cache miss, the text rebuilt in the same branch; `finish()`
before the hand-over to `g_output`) is hand-written there.  This file states, function by function, the skeleton that
the model's definition implements (`Decl.*`, written by reading `Model/LogStream.lean`, each with a pointer to the
model definition it mirrors).  `vlib/gen/logstreamskel.py` extracts the skeleton of the same functions from /repo's
current `muduo/base/LogStream.h` / `LogStream.cc` / `Logging.cc` (`Generated/LogStreamSkel.lean`, in the vocabulary
below) and `Proofs/LogStreamSkelTie.lean` proves the two equal by `rfl`.  A source change that swaps two
statements, moves a call into or out of an `if`, merges two `if`s into `if / else if`, drops an `else`, turns a
`do .. while` into a `while`, duplicates or drops a statement in one of these functions changes the extracted skeleton
and breaks that proof.

An `ite` / `loop` is named after the generated guard (`Gen.LogStream.<name>`) the model branches on at that point, the
tests of the two cascades after the table row generated from them (`siRow<i>` / `iecRow<i>`); a condition the model has
no generated guard for is printed (`i != 0`, `value < 0`, `str`, `g_logTimeZone.valid()`, `impl_.level_ == FATAL`).
Insertion chains are lists of `Gen.LogStream.Piece` - the declared ones ARE the generated piece lists the model inserts
(`finishPieces`, `timePiecesZone`, `timePiecesUtc`).  Expressions are canonical prints of the source expressions (casts
dropped, minimal parentheses).  Core Lean + `Generated/LogStream.lean`.

Classes of statements that are NOT part of a skeleton (the generator ignores exactly these):
* I1 (no log statement or diagnostic output occurs in these functions);
* I2 declarations of locals without an initialiser or default-constructed (`char buf[64]`, `struct DateTime dt`);
* I3 casts of every kind and `(void)len` - the model computes over `Int` / `Nat` / code lists (the one cast with a
  meaning, `static_cast<double>(s)` of `formatSI` / `formatIEC`, is `rnInt`; `vlib/gen/logstream.py` checks it is there);
* I4 the base-class initialiser and default-constructed members of a constructor;
* I5 `static_assert`, `MUDUO_VERIF_POINT`, empty statements.
Not declared (and not extracted): `Logger::Impl::Impl` - `Gen.LogStream.implSteps` is its statement list and
`implRun` executes it; the `Logger` constructors (`funcPieces`); the getters of `FixedBuffer` / `Fmt`.

Declared beyond what the model computes with (listed as the code performs them; the model's reading is given at the
function):
* D1 the terminating NUL of `convert` / `convertHex` (`*p = '\0'`): outside the returned range `[buf, p)`, which is all
  the model's `Bytes` hold;
* D2 the FATAL tail of `~Logger` (`g_flush(); abort();`): `logLineOf` ends with the text handed to `g_output`; that a
  FATAL statement (and only that) aborts after its line is judged by the oracle of `vlib/props/c17.py`;
* D3 `return *this` / `return s` of the insertion operators: the model's `run` folds `insert` over the items.
-/
namespace MuduoVerif.LogStreamSkel
open MuduoVerif.Gen.LogStream

/-- `while (g) body` tests before the first iteration, `do body while (g)` after it -/
inductive LoopKind | whileDo | doWhile
deriving DecidableEq, Repr

/-- one significant action; strings are canonical prints of source expressions -/
inductive Act
  | store (lhs value : String)        -- `lhs = value` on a member / global / through a pointer (`x += e` is the store of `x + e`)
  | assign (var value : String)       -- an initialised local, an assignment to a local; `<result>` = value of the action before
  | call (fn args : String)           -- another function of the engine: `convert`, `buffer_.append`, `operator<<(int)`, `g_output`, ...
  | sys (fn args : String)            -- a libc call: `memcpy`, `snprintf`, `reverse`, `abort`
  | lock (mutex : String)             -- (`MutexLockGuard`; does not occur)
  | ins (pieces : List Piece)         -- `stream_ << a << b ..`
  | fmtRow (dst bound row : String)   -- `snprintf(dst, bound, <format and argument of that row of siTable / iecTable>)`
  | assertion (cond : String)         -- `assert(cond)`
  | brk                               -- (`break`; does not occur)
  | ret (value : String)              -- `return value`
deriving DecidableEq, Repr

/-- a statement: an action, `if (guard) { thn } else { els }`, or a loop -/
inductive Skel
  | act (a : Act)
  | ite (guard : String) (thn els : List Skel)
  | loop (kind : LoopKind) (guard : String) (body : List Skel)
deriving Repr

/-! `deriving DecidableEq` does not handle the nesting through `List`; the instance is written out
(structural recursion, so `decide` evaluates it in the kernel). -/
mutual
def Skel.decEq : (x y : Skel) → Decidable (x = y)
  | .act a, .act a' => if h : a = a' then isTrue (by rw [h]) else isFalse (by intro e; cases e; exact h rfl)
  | .ite g t e, .ite g' t' e' =>
    if hg : g = g' then
      match Skel.decEqL t t' with
      | isTrue ht =>
        match Skel.decEqL e e' with
        | isTrue he => isTrue (by rw [hg, ht, he])
        | isFalse he => isFalse (by intro q; cases q; exact he rfl)
      | isFalse ht => isFalse (by intro q; cases q; exact ht rfl)
    else isFalse (by intro q; cases q; exact hg rfl)
  | .loop k g b, .loop k' g' b' =>
    if hk : k = k' then
      if hg : g = g' then
        match Skel.decEqL b b' with
        | isTrue hb => isTrue (by rw [hk, hg, hb])
        | isFalse hb => isFalse (by intro q; cases q; exact hb rfl)
      else isFalse (by intro q; cases q; exact hg rfl)
    else isFalse (by intro q; cases q; exact hk rfl)
  | .act _, .ite .. => isFalse (by intro e; cases e)
  | .act _, .loop .. => isFalse (by intro e; cases e)
  | .ite .., .act _ => isFalse (by intro e; cases e)
  | .ite .., .loop .. => isFalse (by intro e; cases e)
  | .loop .., .act _ => isFalse (by intro e; cases e)
  | .loop .., .ite .. => isFalse (by intro e; cases e)
def Skel.decEqL : (x y : List Skel) → Decidable (x = y)
  | [], [] => isTrue rfl
  | [], _ :: _ => isFalse (by intro e; cases e)
  | _ :: _, [] => isFalse (by intro e; cases e)
  | a :: as, b :: bs =>
    match Skel.decEq a b with
    | isTrue h =>
      match Skel.decEqL as bs with
      | isTrue h' => isTrue (by rw [h, h'])
      | isFalse h' => isFalse (by intro q; cases q; exact h' rfl)
    | isFalse h => isFalse (by intro q; cases q; exact h rfl)
end
instance : DecidableEq Skel := Skel.decEq
instance : DecidableEq (List Skel) := Skel.decEqL

/-! ## The skeleton each model function implements

Conventions of the reading (`b : FixedBuf` is a `FixedBuffer`, `b.data` = `[data_, cur_)`, `avail b` = `avail()`).
* `insert b it = if it.fits (avail b) then { b with data := b.data ++ it.text } else b` is every insertion operator:
  `it.fits` is the generated space guard of that operator, `b.data ++ it.text` the bytes written at `cur_` followed by
  `cur_` moving behind them.  For `Item.str / chr / bool` the write is `FixedBuffer::append` (`memcpy`, then
  `cur_ += len`); for `Item.int / ptr / dbl` the text is generated in place at `current()` and `add(len)` moves `cur_`.
* `run b items = items.foldl insert b`: the operators return the stream (D3).
* A recursion of the model on a test is `loop`; a recursion over a generated table is the `else if` cascade whose i-th
  test is that row.
* `if g .. then A else B` on a generated guard `g` is `ite "g" A B`; a `match` on `z : Zone` (`none` = invalid zone) or
  `z.isSome` is `ite "g_logTimeZone.valid()"`. -/
namespace Decl

/-- `insert b (.str s)` (also `.chr`, `.bool`): `if appendFits (avail b) s.length then { b with data := b.data ++ s }
else b` - the copy to `cur_`, then `cur_` advanced by the same length; nothing at all otherwise. -/
def bufAppend : List Skel :=
  [ .ite "appendFits"
      [ .act (.sys "memcpy" "cur_, buf, len"),
        .act (.store "cur_" "cur_ + len") ]
      [] ]

/-- `{ b with data := b.data ++ it.text }` for a text generated in place: `cur_` moves by its length -/
def bufAdd : List Skel := [ .act (.store "cur_" "cur_ + len") ]

/-- `mkBuf cap = { cap := cap, data := [] }`: `cur_` back at `data_` -/
def bufReset : List Skel := [ .act (.store "cur_" "data_") ]

/-- `insert b (.bool v)`: `Item.text = if v then boolTrue else boolFalse`, `Item.fits = appendFits room (..).length`
(both literals have length 1: `C17`'s model driver and `boolTrue/boolFalse` of `Generated/LogStream.lean`) -/
def insBool : List Skel :=
  [ .act (.call "buffer_.append" "v ? \"1\" : \"0\", 1"),
    .act (.ret "*this") ]

/-- a `float` is inserted as the `double` of the same value: `Item.dbl` -/
def insFloat : List Skel :=
  [ .act (.call "operator<<(double)" "v"),
    .act (.ret "*this") ]

/-- `insert b (.chr c)`: `text = [c]`, `fits = appendFits room 1` -/
def insChar : List Skel :=
  [ .act (.call "buffer_.append" "&v, 1"),
    .act (.ret "*this") ]

/-- `insert b (.str (cstr s))` (`cstr s = s.takeWhile (· ≠ 0)` is `strlen`); a null pointer inserts `nullText`
(6 bytes) instead -/
def insCStr : List Skel :=
  [ .ite "str"
      [ .act (.call "buffer_.append" "str, strlen(str)") ]
      [ .act (.call "buffer_.append" "\"(null)\", 6") ],
    .act (.ret "*this") ]

/-- the same `Item.str (cstr s)`: delegates to the `const char*` operator and returns ITS result -/
def insUCStr : List Skel :=
  [ .act (.call "operator<<(const char *)" "str"),
    .act (.ret "<result>") ]

/-- `insert b (.str s)`: all `size()` bytes from `c_str()` -/
def insString : List Skel :=
  [ .act (.call "buffer_.append" "v.c_str(), v.size()"),
    .act (.ret "*this") ]

/-- `insert b (.str s)`: all `size()` bytes from `data()` -/
def insPiece : List Skel :=
  [ .act (.call "buffer_.append" "v.data(), v.size()"),
    .act (.ret "*this") ]

/-- `insert b (.str other.data)`: the other buffer's `[data_, cur_)` as a `StringPiece` -/
def insBuffer : List Skel :=
  [ .act (.call "operator<<(const StringPiece &)" "v.toStringPiece()"),
    .act (.ret "*this") ]

/-- `insert b (.str s)` as used by `pieceItem` (`T`, `SourceFile`, `Fmt`): straight to `FixedBuffer::append` -/
def streamAppend : List Skel := [ .act (.call "buffer_.append" "data, len") ]

/-- `mkBuf kSmallBuffer` for the next line -/
def resetBuffer : List Skel := [ .act (.call "buffer_.reset" "") ]

/-- `pieceItem e (.us n) = .str (readN n e.usText)` reaches the buffer through `LogStream::append(data, length)` -/
def insFmt : List Skel :=
  [ .act (.call "s.append" "fmt.data(), fmt.length()"),
    .act (.ret "s") ]

/-- `LogStream.convert v = (digitLoop v.natAbs v ++ (if v < 0 then [45] else [])).reverse`.
`digitLoop fuel i` is the `do .. while`: it FIRST emits `zeroAt (Int.tmod i radixDec)` (the digit of the value before
the division: `lsd`, `i /= 10`, `*p++ = zero[lsd]`), THEN tests `Int.tdiv i radixDec = 0` (`while (i != 0)` on the
divided value) and recurses on `Int.tdiv i radixDec` - at least one digit even for 0.  The sign goes behind the digits
(`value < 0` on the ARGUMENT, not on `i`), the reverse comes last; the NUL is D1; the result is the length. -/
def convert : List Skel :=
  [ .act (.assign "i" "value"),
    .act (.assign "p" "buf"),
    .loop .doWhile "i != 0"
      [ .act (.assign "lsd" "i % 10"),
        .act (.assign "i" "i / 10"),
        .act (.store "*p++" "zero[lsd]") ],
    .ite "value < 0"
      [ .act (.store "*p++" "'-'") ]
      [],
    .act (.store "*p" "char(0)"),
    .act (.sys "reverse" "buf, p"),
    .act (.ret "p - buf") ]

/-- `LogStream.convertHex v = (hexLoop v v).reverse`; `hexLoop fuel i` is the `do .. while` in the same way:
`digitsHex.getD (i % radixHex) 0` emitted first, then `i / radixHex = 0` tested, recursion on `i / radixHex`; no sign. -/
def convertHex : List Skel :=
  [ .act (.assign "i" "value"),
    .act (.assign "p" "buf"),
    .loop .doWhile "i != 0"
      [ .act (.assign "lsd" "i % 16"),
        .act (.assign "i" "i / 16"),
        .act (.store "*p++" "digitsHex[lsd]") ],
    .act (.store "*p" "char(0)"),
    .act (.sys "reverse" "buf, p"),
    .act (.ret "p - buf") ]

/-- the `if .. else if .. else` cascade of `formatSI` / `formatIEC`: test `i` selects the `snprintf` of row `i`, its
`else` is the rest of the cascade; after the last row the final `else`.  This is the recursion of `siGo` / `iecGo` over
the generated table (`| row :: rest => if .. < bound then <format of row> else go rest`, `| [] => <last>`), preceded by
the integer test of `formatSI` / `formatIEC` themselves (row 0). -/
def cascade (pfx : String) : Nat → Nat → List Skel
  | _, 0 => [ .act (.fmtRow "buf" "sizeof(buf)" (pfx ++ "Else")) ]
  | i, k + 1 =>
    [ .ite (pfx ++ "Row" ++ toString i)
        [ .act (.fmtRow "buf" "sizeof(buf)" (pfx ++ "Row" ++ toString i)) ]
        (cascade pfx (i + 1) k) ]

/-- `LogStream.formatSI s = if s < siIntBelow then decimalNat s else siGo s siTable`: `n` is `rnInt s` (the converted
value the rows marked `true` compare); one test per row of `siTable` in table order, then `siLast`; the text is
returned. -/
def formatSI : List Skel :=
  [ .act (.assign "n" "s") ] ++ cascade "si" 0 (siTable.length + 1) ++ [ .act (.ret "buf") ]

/-- `LogStream.formatIEC s = if rnInt s < iecIntBelow then decimalNat s else iecGo (rnInt s) iecTable`: `n = rnInt s`;
the six unit constants are the powers of 1024 the generated bounds `num / den` and exponents `j` are computed from
(`vlib/gen/logstream.py` evaluates these very initialisers); one test per row of `iecTable`, then `iecLast`. -/
def formatIEC : List Skel :=
  [ .act (.assign "n" "s"),
    .act (.assign "Ki" "1024"),
    .act (.assign "Mi" "Ki * 1024"),
    .act (.assign "Gi" "Mi * 1024"),
    .act (.assign "Ti" "Gi * 1024"),
    .act (.assign "Pi" "Ti * 1024"),
    .act (.assign "Ei" "Pi * 1024") ] ++ cascade "iec" 0 (iecTable.length + 1) ++ [ .act (.ret "buf") ]

/-- `insert b (.int v)`: `if integerFits (avail b) then { b with data := b.data ++ convert v } else b` - the digits are
generated at `current()` and `cur_` moves by the length `convert` returned, both only under the guard -/
def formatInteger : List Skel :=
  [ .ite "integerFits"
      [ .act (.call "convert" "buffer_.current(), v"),
        .act (.assign "len" "<result>"),
        .act (.call "buffer_.add" "len") ]
      [] ]

/-- `Item.int v` for a `short`: the value as an `int` -/
def insShort : List Skel :=
  [ .act (.call "operator<<(int)" "v"),
    .act (.ret "*this") ]

/-- `Item.int v` for an `unsigned short`: the value as an `unsigned int` -/
def insUShort : List Skel :=
  [ .act (.call "operator<<(unsigned int)" "v"),
    .act (.ret "*this") ]

/-- `Item.int v` ("any integer type"): `formatInteger(v)`, the stream returned -/
def insInteger : List Skel :=
  [ .act (.call "formatInteger" "v"),
    .act (.ret "*this") ]

/-- `insert b (.ptr v)`: `if pointerFits (avail b) then { b with data := b.data ++ (pointerPrefix ++ convertHex v) }
else b` - the two prefix characters at `buf[0..1]`, the digits behind them, `cur_` moved by both; all under the guard -/
def insPointer : List Skel :=
  [ .act (.assign "v" "p"),
    .ite "pointerFits"
      [ .act (.assign "buf" "buffer_.current()"),
        .act (.store "buf[0]" "'0'"),
        .act (.store "buf[1]" "'x'"),
        .act (.call "convertHex" "buf + 2, v"),
        .act (.assign "len" "<result>"),
        .act (.call "buffer_.add" "len + 2") ]
      [],
    .act (.ret "*this") ]

/-- `insert b (.dbl text)`: `if doubleFits (avail b) then { b with data := b.data ++ text } else b`; `text` is what
`snprintf(current(), doubleBound, doubleFormat, v)` produced (environment input), `cur_` moves by what it returned -/
def insDouble : List Skel :=
  [ .ite "doubleFits"
      [ .act (.sys "snprintf" "buffer_.current(), kMaxNumericSize, \"%.12g\", v"),
        .act (.assign "len" "<result>"),
        .act (.call "buffer_.add" "len") ]
      [],
    .act (.ret "*this") ]

/-- `usText z us = sprintf (parseFmt ..) [splitMicros us]` (and `tidText`): one `snprintf` into `buf_`, its result is the
length -/
def fmtCtor : List Skel :=
  [ .act (.sys "snprintf" "buf_, sizeof(buf_), fmt, val"),
    .act (.store "length_" "<result>"),
    .act (.assertion "length_ < sizeof(buf_)") ]

/-- `readN n s` + `tidAssert t : (cstr t.str).length = t.len`: the helper keeps pointer and length and asserts that the
length is the `strlen` -/
def tCtor : List Skel :=
  [ .act (.store "str_" "str"),
    .act (.store "len_" "len"),
    .act (.assertion "strlen(str) == len_") ]

/-- `pieceItem e (.tid / .level n / .time n / .us n) = .str (readN ..)`: exactly `len_` bytes from `str_` -/
def insT : List Skel :=
  [ .act (.call "s.append" "v.str_, v.len_"),
    .act (.ret "s") ]

/-- `pieceItem e .base = .str (basename e.req.file)`: `size_` bytes from `data_` -/
def insSourceFile : List Skel :=
  [ .act (.call "s.append" "v.data_, v.size_"),
    .act (.ret "s") ]

/-- `cacheStep z gen c us`, then `implStep z e .formatTime`:
`let seconds := splitSeconds us` (and `splitMicros us`), `gen` read once in front of the test;
`if cacheMiss seconds c.lastSecond gen c.zoneGen then { lastSecond := seconds, zoneGen := gen (cacheStoresGen),
text := secondText z seconds } else c` - both stores and the rebuilt text in the SAME branch, `secondText` =
`zoneTime z seconds` (`match z`: local time of the zone / UTC) printed with `timeFormat`;
then, cache hit or miss, `(if z.isSome then timePiecesZone else timePiecesUtc).map (pieceItem e)` with
`usText z us = sprintf (parseFmt (if z.isSome then usFormatZone else usFormatUtc)) [splitMicros us]`. -/
def formatTime : List Skel :=
  [ .act (.assign "microSecondsSinceEpoch" "time_.microSecondsSinceEpoch()"),
    .act (.assign "seconds" "microSecondsSinceEpoch / kMicroSecondsPerSecond"),
    .act (.assign "microseconds" "microSecondsSinceEpoch % kMicroSecondsPerSecond"),
    .act (.assign "zoneGen" "g_logTimeZoneGen"),
    .ite "cacheMiss"
      [ .act (.store "t_lastSecond" "seconds"),
        .act (.store "t_lastZoneGen" "zoneGen"),
        .ite "g_logTimeZone.valid()"
          [ .act (.assign "dt" "g_logTimeZone.toLocalTime(seconds)") ]
          [ .act (.assign "dt" "toUtcTime(seconds)") ],
        .act (.sys "snprintf" "t_time, sizeof(t_time), \"%4d%02d%02d %02d:%02d:%02d\", dt.year, dt.month, dt.day, dt.hour, dt.minute, dt.second"),
        .act (.assign "len" "<result>"),
        .act (.assertion "len == 17") ]
      [],
    .ite "g_logTimeZone.valid()"
      [ .act (.assign "us" "Fmt(\".%06d \", microseconds)"),
        .act (.assertion "us.length() == 8"),
        .act (.ins timePiecesZone) ]
      [ .act (.assign "us" "Fmt(\".%06dZ \", microseconds)"),
        .act (.assertion "us.length() == 9"),
        .act (.ins timePiecesUtc) ] ]

/-- the tail of `lineItemsOf`: `.. ++ r.msg ++ finishPieces.map (pieceItem res.1)` - one insertion chain -/
def finish : List Skel := [ .act (.ins finishPieces) ]

/-- `logLineOf`: `text := (run (mkBuf kSmallBuffer) (lineItemsOf ..)).data` - `finish()` completes the line, THEN the
whole buffer (`data()`, `length()`) is handed to `g_output`, once.  The FATAL tail is D2. -/
def loggerDtor : List Skel :=
  [ .act (.call "impl_.finish" ""),
    .act (.assign "buf" "stream().buffer()"),
    .act (.call "g_output" "buf.data(), buf.length()"),
    .ite "impl_.level_ == FATAL"
      [ .act (.call "g_flush" ""),
        .act (.sys "abort" "") ]
      [] ]

end Decl

end MuduoVerif.LogStreamSkel
