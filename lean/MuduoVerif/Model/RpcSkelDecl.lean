import MuduoVerif.Model.Rpc
/-!
# Statement skeletons of the RPC engine: vocabulary and the skeletons the model implements

`Model/Rpc.lean` takes the id source, the guards, the run / free / send counts and the decision tree of the REQUEST
branch from `Generated/Rpc.lean`; the ORDER and NESTING of the statements inside each function is hand-written there
(`callBegin` / `callInsert` / `callSend`, `recvResponse` / `finish`, `recvRequest`, `doneEvents`, `destroyEvents`,
`Server.up` / `Server.down`).  This file states, function by function, the skeleton that the model's definition
implements (`Decl.*`, written by reading `Model/Rpc.lean`, each with a pointer to the model definition).
`vlib/gen/rpcskel.py` extracts the skeleton of the same functions from /repo's current `RpcChannel.cc` /
`RpcServer.cc` (`Generated/RpcSkel.lean`, in the vocabulary below), and `Proofs/RpcSkelTie.lean` proves the two equal
by `rfl`.  A source change that sets the id after the frame has left, sends a reply before its error code is set,
moves `Run()` under `if (message.has_response())`, merges two independent `if`s into `if / else if`, deletes twice in
the destructor, moves a statement into or out of a lock scope, adds, drops or duplicates a statement in one of these
functions changes the extracted skeleton and breaks that proof.

An `ite` is named after the site of `vlib/gen/rpc.py` (registry `rpc.SITES`) the model branches on at that point:

| name | condition in the source | what the model evaluates |
|---|---|---|
| `typeIsResponse`, `typeIsRequest`, `typeIsError` | `message.type() == X` (the chain) | `typeSwitch m.type` |
| `respFound` | `it != outstandings_.end()` | `lookup m.id s.outstanding` is `some k` |
| `respCompletes` | `out.response` | `s.pending` is `some (k, m)` |
| `respParses` | `message.has_response()` | `respParses m.payload.isSome m.err.isSome` |
| `respHasClosure` | `out.done` | - (always true in the model, see A2) |
| `hasServices`, `serviceFound`, `methodFound`, `requestParses` | the nested `if`s of the REQUEST branch | the arguments of `requestDecision` |
| `connUp` | `conn->connected()` | `Server.up` / `Server.down` |

What the model does not have although the code does it, kept in the skeletons and explained at the function
(nothing of this kind is dropped by the extraction):
* A1 `assert(conn == conn_)`, `assert(service != NULL)`: the model has no step for them - a channel only ever sees its
  own connection (`Server.act`), the service map holds registered, non-null services.  The RESPONSE branch has no
  assertion (`Gen.Rpc.respAssert` is `True`, `C19.assert_removed`).
* A2 `if (out.done)`: the model runs the closure `respRunCount` times unconditionally - the caller passes a non-null
  closure (assumption of C19); `if (out.response)` is the model's `pending.isSome` under the same assumption for the
  response object.
* A3 the request / response objects created while serving a request (`New()`, the `unique_ptr request`) have no `Cell`
  of their own except the response (`Cell.srvResp r`, freed by `doneCallback`) and the closure (`Cell.closure r`).
* A4 the fields `service`, `method`, `request` of an outgoing REQUEST frame: the model's event is `sent id k`.

What the extraction leaves out (the same list heads `Generated/RpcSkel.lean`): log statements; locals declared
without an initialiser or default-constructed (`RpcMessage message;`); casts; an `if` that is not a registered site
and has no action in either branch; `MUDUO_VERIF_POINT`.  Core Lean only.
-/
namespace MuduoVerif.RpcSkel
open MuduoVerif.Gen.Rpc

/-- one significant action; strings are canonical prints of source expressions (casts dropped, `->` as `.`) -/
inductive Act
  | fetchId (how : String)                               -- `id_.how`
  | setField (msg field value : String)                  -- `msg.set_field(value)` on an `RpcMessage`
  | mapInsert (map key value : String)                   -- `map[key] = value`
  | mapErase (map arg : String)                          -- `map.erase(arg)`
  | send (args : String)                                 -- `codec_.send(args)`
  | decode (args : String)                               -- `codec_.onMessage(args)`
  | parse (into src : String)                            -- `into->ParseFromString(src)`
  | alloc (what : String)                                -- `prototype.New()`, `new T(..)`
  | newCallback (what : String)                          -- `NewCallback(this, &C::f, args)`: a one-shot closure running f(args)
  | own (var ptr : String)                               -- `std::unique_ptr<..> var(ptr)`
  | freeOwned (var : String)                             -- end of the scope of the `unique_ptr` var: its object is deleted
  | free (ptr : String)                                  -- `delete ptr`
  | run (closure : String)                               -- `closure->Run()`
  | dispatch (service args : String)                     -- `service->CallMethod(args)`
  | call (obj fn args : String)                          -- `obj->fn(args)`: the setters of `RpcServer::onConnection`
  | assign (var value : String)                          -- declaration with an initialiser / assignment
  | assertion (text : String)
  | ret
deriving DecidableEq, Repr

/-- a statement: an action, `if (guard) { thn } else { els }`, the rest of a block after `MutexLockGuard lock(mutex)`,
or `for (var : range) { body }` -/
inductive Skel
  | act (a : Act)
  | ite (guard : String) (thn els : List Skel)
  | locked (mutex : String) (body : List Skel)
  | each (var range : String) (body : List Skel)
deriving Repr

/-! `deriving DecidableEq` does not handle the nesting through `List`; the instance is written out
(structural recursion, so `decide` evaluates it in the kernel). -/
mutual
def Skel.decEq : (x y : Skel) → Decidable (x = y)
  | .act a, .act a' => if h : a = a' then isTrue (by rw [h]) else isFalse (by intro e; cases e; exact h rfl)
  | .ite g t e, .ite g' t' e' =>
    if hg : g = g' then
      match Skel.decEqL t t' with
      | isTrue ht =>
        match Skel.decEqL e e' with
        | isTrue he => isTrue (by rw [hg, ht, he])
        | isFalse he => isFalse (by intro q; cases q; exact he rfl)
      | isFalse ht => isFalse (by intro q; cases q; exact ht rfl)
    else isFalse (by intro q; cases q; exact hg rfl)
  | .locked m b, .locked m' b' =>
    if hm : m = m' then
      match Skel.decEqL b b' with
      | isTrue hb => isTrue (by rw [hm, hb])
      | isFalse hb => isFalse (by intro q; cases q; exact hb rfl)
    else isFalse (by intro q; cases q; exact hm rfl)
  | .each v r b, .each v' r' b' =>
    if hv : v = v' then
      if hr : r = r' then
        match Skel.decEqL b b' with
        | isTrue hb => isTrue (by rw [hv, hr, hb])
        | isFalse hb => isFalse (by intro q; cases q; exact hb rfl)
      else isFalse (by intro q; cases q; exact hr rfl)
    else isFalse (by intro q; cases q; exact hv rfl)
  | .act _, .ite .. => isFalse (by intro e; cases e)
  | .act _, .locked .. => isFalse (by intro e; cases e)
  | .act _, .each .. => isFalse (by intro e; cases e)
  | .ite .., .act _ => isFalse (by intro e; cases e)
  | .ite .., .locked .. => isFalse (by intro e; cases e)
  | .ite .., .each .. => isFalse (by intro e; cases e)
  | .locked .., .act _ => isFalse (by intro e; cases e)
  | .locked .., .ite .. => isFalse (by intro e; cases e)
  | .locked .., .each .. => isFalse (by intro e; cases e)
  | .each .., .act _ => isFalse (by intro e; cases e)
  | .each .., .ite .. => isFalse (by intro e; cases e)
  | .each .., .locked .. => isFalse (by intro e; cases e)
def Skel.decEqL : (x y : List Skel) → Decidable (x = y)
  | [], [] => isTrue rfl
  | [], _ :: _ => isFalse (by intro e; cases e)
  | _ :: _, [] => isFalse (by intro e; cases e)
  | a :: as, b :: bs =>
    match Skel.decEq a b with
    | isTrue h =>
      match Skel.decEqL as bs with
      | isTrue h' => isTrue (by rw [h, h'])
      | isFalse h' => isFalse (by intro q; cases q; exact h' rfl)
    | isFalse h => isFalse (by intro q; cases q; exact h rfl)
end
instance : DecidableEq Skel := Skel.decEq
instance : DecidableEq (List Skel) := Skel.decEqL

/-! The generated definitions the guard names stand for, and the model functions read below (a rename on either side
stops this file from compiling). -/
example : MessageType → Branch := typeSwitch
example : Bool → Bool → Prop := respParses
example : Bool := respErasesWhenFound
example : Nat × Nat × Nat := (respRunCount, respFreeCount, doneSendCount)
example : Bool → Bool → Bool → Bool → Nat × List (IdSrc × ErrorCode) := requestDecision
example : Bool × Bool × Bool := (serverChannelPerUp, serverKeepsChannel, serverDropsChannelOnDown)
example := (Rpc.callBegin, Rpc.callInsert, Rpc.callSend, Rpc.recv, Rpc.recvResponse, Rpc.finish, Rpc.recvRequest,
  Rpc.dispatchOnce, Rpc.errorReplies, Rpc.doneEvents, Rpc.fireDone, Rpc.destroyEvents, Rpc.Server.up, Rpc.Server.down,
  Rpc.Server.act)

/-! ## The skeleton each model function implements

Conventions of the reading.  The log is newest-first: in `log := a ++ b ++ s.log` the events of `b` happen before those
of `a`.  A critical section of the source is one atomic step of the model (`callInsert`; `recvResponse` = the RESPONSE
branch up to the end of its critical section).  `insertKey i k` is `outstandings_[i] = ..`, `lookup` is `find`,
`eraseKey` is `erase`; `Ev.sent` / `Ev.reply` are `codec_.send` of a REQUEST / RESPONSE frame whose fields are the
`setField`s before it; `Ev.parse` is `ParseFromString` into the caller's response object, `Ev.ran` is `Run()`,
`Ev.free (.resp k)` is the end of the scope of `unique_ptr d(out.response)`, `Ev.free (.srvResp r)` that of
`unique_ptr d(response)` in `doneCallback`, `Ev.dispatch` is `service->CallMethod`.  `if g .. then A else B` on a
generated guard is `ite "g" A B`; `List.flatMap f l` is `for (x : l) f`. -/
namespace Decl

/-- `Rpc.destroyEvents`: `s.outstanding.flatMap (fun e => [free (.resp e.2), free (.done e.2)])` - for every registered
call, in map order, the response object, then the closure -/
def dtor : List Skel :=
  [ .each "outstanding" "outstandings_"
      [ .act (.assign "out" "outstanding.second"),
        .act (.free "out.response"),
        .act (.free "out.done") ] ]

/-- `Rpc.callBegin`, `Rpc.callInsert`, `Rpc.callSend` - three steps of the calling thread, in this order
(`callInsertBeforeSend`): `callBegin`: `idOf := (idFetch counter).1` (`fetchId`, stored in `id`; the frame is typed
`callWireType` and carries that id: `callWireIdIsFetched`); `callInsert`: `outstanding := insertKey (idOf k) k ..` - one
critical section holding nothing else; the value registered is the pair of the caller's objects (`Cell.resp k`,
`Cell.done k`); `callSend`: `log := sent (idOf k) k :: ..` outside the lock.  A4: the model does not look at the
`service` / `method` / `request` fields. -/
def callMethod : List Skel :=
  [ .act (.setField "message" "type" "REQUEST"),
    .act (.fetchId "incrementAndGet()"),
    .act (.assign "id" "id_.incrementAndGet()"),
    .act (.setField "message" "id" "id"),
    .act (.setField "message" "service" "method.service().full_name()"),
    .act (.setField "message" "method" "method.name()"),
    .act (.setField "message" "request" "request.SerializeAsString()"),
    .act (.assign "out" "{response, done}"),
    .locked "mutex_" [ .act (.mapInsert "outstandings_" "id" "out") ],
    .act (.send "conn_, message") ]

/-- framing is transparent (header of `Model/Rpc.lean`): the bytes go to the codec, which calls `onRpcMessage` once
per whole message - `Act.recv m` -/
def onMessage : List Skel :=
  [ .act (.decode "conn, buf, receiveTime") ]

/-- `Rpc.recv`: `match typeSwitch m.type with | .response => recvResponse | .request => recvRequest | .error => .. |
.none => ..` (the last two only log the ghost `arrived`).  A1 for the two assertions.

`Rpc.recvResponse` (+ `Rpc.finish`): key `m.id`; `pending` starts as `none` (`out = {NULL, NULL}`); inside the
critical section `match lookup m.id s.outstanding with | none => .. | some k => { outstanding := eraseKey m.id ..
(respErasesWhenFound), pending := some (k, m) }`; then, outside it, `finish`: `match s.pending with | some (k, m) =>`
log `[parse k]` if `respParses ..`, then `ran k ..` (A2), then `free (.resp k)`.

`Rpc.recvRequest`: `requestDecision hasServices serviceFound methodFound requestParses` (generated from the nested
`if`s, with the stores to `error`) gives the number of `dispatchOnce` (`Ev.dispatch`; the closure `NewCallback(this,
&doneCallback, response, id)` is `Cell.closure r` with the bound id `m.id`, run inside the call by `Meth.sync` or kept
in `closures` by `Meth.defer`) and then the `errorReplies` (type RESPONSE, id `replyId e.1 m.id`, code `e.2`, no
payload), each a `reply` event = `send`.  A3 for the request object. -/
def onRpcMessage : List Skel :=
  [ .act (.assertion "conn == conn_"),
    .act (.assign "message" "messagePtr"),
    .ite "typeIsResponse"
      [ .act (.assign "id" "message.id()"),
        .act (.assign "out" "{nullptr, nullptr}"),
        .locked "mutex_"
          [ .act (.assign "it" "outstandings_.find(id)"),
            .ite "respFound"
              [ .act (.assign "out" "it.second"),
                .act (.mapErase "outstandings_" "it") ]
              [] ],
        .ite "respCompletes"
          [ .act (.own "d" "out.response"),
            .ite "respParses" [ .act (.parse "out.response" "message.response()") ] [],
            .ite "respHasClosure" [ .act (.run "out.done") ] [],
            .act (.freeOwned "d") ]
          [] ]
      [ .ite "typeIsRequest"
          [ .act (.assign "error" "WRONG_PROTO"),
            .ite "hasServices"
              [ .act (.assign "it" "services_.find(message.service())"),
                .ite "serviceFound"
                  [ .act (.assign "service" "it.second"),
                    .act (.assertion "service != NULL"),
                    .act (.assign "desc" "service.GetDescriptor()"),
                    .act (.assign "method" "desc.FindMethodByName(message.method())"),
                    .ite "methodFound"
                      [ .act (.alloc "service.GetRequestPrototype(method).New()"),
                        .act (.own "request" "service.GetRequestPrototype(method).New()"),
                        .act (.parse "request" "message.request()"),
                        .ite "requestParses"
                          [ .act (.alloc "service.GetResponsePrototype(method).New()"),
                            .act (.assign "response" "service.GetResponsePrototype(method).New()"),
                            .act (.assign "id" "message.id()"),
                            .act (.newCallback "doneCallback(response, id)"),
                            .act (.dispatch "service"
                              "method, nullptr, request, response, NewCallback(this, &doneCallback, response, id)"),
                            .act (.assign "error" "NO_ERROR") ]
                          [ .act (.assign "error" "INVALID_REQUEST") ],
                        .act (.freeOwned "request") ]
                      [ .act (.assign "error" "NO_METHOD") ] ]
                  [ .act (.assign "error" "NO_SERVICE") ] ]
              [ .act (.assign "error" "NO_SERVICE") ],
            .ite "error != NO_ERROR"
              [ .act (.setField "response" "type" "RESPONSE"),
                .act (.setField "response" "id" "message.id()"),
                .act (.setField "response" "error" "error"),
                .act (.send "conn_, response") ]
              [] ]
          [ .ite "typeIsError" [] [] ] ] ]

/-- `Rpc.doneEvents r id p` = `replicate doneFreeCount (free (.srvResp r)) ++ replicate doneSendCount (reply r (replyId
doneIdSrc id) (some p) none)`: the reply (type RESPONSE, the bound id, the serialized response, no error code) leaves
first, then the response object is freed - the `unique_ptr` declared first dies last -/
def doneCallback : List Skel :=
  [ .act (.own "d" "response"),
    .act (.setField "message" "type" "RESPONSE"),
    .act (.setField "message" "id" "id"),
    .act (.setField "message" "response" "response.SerializeAsString()"),
    .act (.send "conn_, message"),
    .act (.freeOwned "d") ]

/-- `Rpc.Server.up`: `chans := (c, init sv.asserts serverSetsServices) :: ..` - a fresh channel (`serverChannelPerUp`)
with the server's services, which from then on receives the messages of `c` (`Server.act`; `serverRoutesMessages`) and is
kept as long as the connection (`serverKeepsChannel`); `Rpc.Server.down`: `chans.filter (·.1 ≠ c)`
(`serverDropsChannelOnDown`) -/
def onConnection : List Skel :=
  [ .ite "connUp"
      [ .act (.alloc "new RpcChannel(conn)"),
        .act (.assign "channel" "new RpcChannel(conn)"),
        .act (.call "channel" "setServices" "&services_"),
        .act (.call "conn" "setMessageCallback" "bind(&onMessage, channel, _1, _2, _3)"),
        .act (.call "conn" "setContext" "channel") ]
      [ .act (.call "conn" "setContext" "RpcChannelPtr()") ] ]

end Decl
end MuduoVerif.RpcSkel
