/-!
# Statement skeletons of the Buffer engine: vocabulary and the skeletons the model implements

`Model/Buffer.lean` takes every branch guard and constant from `Generated/Buffer.lean`; WHICH index moves by how
much, in which ORDER, under which guard, what `makeSpace` copies where and how `readFd` splits the delivered bytes
between the writable area and the spill buffer is hand-written there.  This file states, function by function, the
skeleton that the model's definition implements (`Decl.*`, written by reading `Model/Buffer.lean`, each with a
pointer to the model definition it mirrors).  `vlib/gen/bufferskel.py` extracts the skeleton of the same functions
from /repo's current `muduo/net/Buffer.h` / `Buffer.cc` (`Generated/BufferSkel.lean`, in the vocabulary below) and
`Proofs/BufferSkelTie.lean` proves the two equal by `rfl`.  A source change that swaps two index stores, moves the
copy of `makeSpace` behind them, moves a call into or out of an `if`, merges two `if`s, drops an `else`, duplicates
or drops a statement in one of these functions changes the extracted skeleton and breaks that proof.

An `ite` is named after the generated guard (`Gen.Buffer.<name>`) the model branches on at that point; a condition
the model has no generated guard for is printed (`n < 0`).  Expressions are canonical prints of the source
expressions (casts dropped, minimal parentheses).  Core Lean only; imports nothing.

Classes of statements that are NOT part of a skeleton (the generator ignores exactly these):
* I1 declarations of locals without an initialiser (`char extrabuf[65536]`, `struct iovec vec[2]`) - storage only;
  size and storage class of `extrabuf` are tied by `Gen.Buffer.extrabufSize` / `extrabufPerCall`;
* I2 casts of every kind - the model computes over `Nat` / `Int` / byte lists;
* I3 the base-class initialiser of the constructor (`muduo::copyable`);
* I4 `MUDUO_VERIF_POINT` and empty statements.
Value getters are printed inside the expressions that use them, they are not actions; their own definitions
(`readableBytes`, `writableBytes`, `prependableBytes`, `peek`, `beginWrite`, `toStringPiece`) are skeletons below.
-/
namespace MuduoVerif.BufferSkel

inductive SysOp | readv
deriving DecidableEq, Repr

/-- one significant action; strings are canonical prints of source expressions -/
inductive Act
  | setReader (value : String)                    -- `readerIndex_ = value` (`readerIndex_ += e` is the store of `readerIndex_ + e`)
  | setWriter (value : String)                    -- `writerIndex_ = value`
  | resize (size : String)                        -- `buffer_.resize(size)`; in the constructor: `buffer_(size)`
  | copy (first last dst : String)                -- `std::copy(first, last, dst)`
  | memcpy (dst src n : String)                   -- `::memcpy(dst, src, n)`
  | swap (a b : String)                           -- `std::swap(a, b)` / `a.swap(b)`
  | call (fn : String) (args : String)            -- another member function, on `this` (`fn`) or on a local Buffer (`obj.fn`)
  | sys (op : SysOp) (args : String)
  | assign (var : String) (value : String)        -- any other store; an initialised local; `<result>` = value of the action before
  | assertion (cond : String)                     -- `assert(cond)`
  | ret (value : String)                          -- `return value`
deriving DecidableEq, Repr

/-- a statement: an action, or `if (guard) { thn } else { els }` -/
inductive Skel
  | act (a : Act)
  | ite (guard : String) (thn els : List Skel)
deriving Repr

/-! `deriving DecidableEq` does not handle the nesting through `List`; the instance is written out
(structural recursion, so `decide` evaluates it in the kernel). -/
mutual
def Skel.decEq : (x y : Skel) → Decidable (x = y)
  | .act a, .act a' => if h : a = a' then isTrue (by rw [h]) else isFalse (by intro e; cases e; exact h rfl)
  | .act _, .ite .. => isFalse (by intro e; cases e)
  | .ite .., .act _ => isFalse (by intro e; cases e)
  | .ite g t e, .ite g' t' e' =>
    if hg : g = g' then
      match Skel.decEqL t t' with
      | isTrue ht =>
        match Skel.decEqL e e' with
        | isTrue he => isTrue (by rw [hg, ht, he])
        | isFalse he => isFalse (by intro q; cases q; exact he rfl)
      | isFalse ht => isFalse (by intro q; cases q; exact ht rfl)
    else isFalse (by intro q; cases q; exact hg rfl)
def Skel.decEqL : (x y : List Skel) → Decidable (x = y)
  | [], [] => isTrue rfl
  | [], _ :: _ => isFalse (by intro e; cases e)
  | _ :: _, [] => isFalse (by intro e; cases e)
  | a :: as, b :: bs =>
    match Skel.decEq a b with
    | isTrue h =>
      match Skel.decEqL as bs with
      | isTrue h' => isTrue (by rw [h, h'])
      | isFalse h' => isFalse (by intro q; cases q; exact h' rfl)
    | isFalse h => isFalse (by intro q; cases q; exact h rfl)
end
instance : DecidableEq Skel := Skel.decEq
instance : DecidableEq (List Skel) := Skel.decEqL

/-! ## The skeleton each model function implements

Conventions of the reading (`b : Buf` is the object, `b.data` = `buffer_`, `b.reader` = `readerIndex_`,
`b.writer` = `writerIndex_`).
* `{ b with reader := e }` is `setReader`, `{ b with writer := e }` is `setWriter`; in a record update that sets
  several fields the right-hand sides are written over the OLD `b`, so a store that the code performs after another
  one and that reads the stored index appears in the model with the new value substituted
  (`makeSpace`: `writerIndex_ = readerIndex_ + readable` after `readerIndex_ = kCheapPrepend` is
  `writer := kCheapPrepend + readable b`; `prepend`: the copy to `begin() + readerIndex_` after
  `readerIndex_ -= len` is the splice at `b.reader - x.length`).
* `resize b.data n` is `buffer_.resize(n)`; `List.replicate n 0` in `mk` is the fresh `buffer_(n)`.
* `splice d pos x` is a copy of `x` to `begin() + pos` (`std::copy` / the kernel's store through an iovec).
* `content b` is the range `[begin() + readerIndex_, begin() + writerIndex_)` = `[peek(), beginWrite())`
  = `toStringPiece()`; positions of the searches and of `retrieveUntil` are offsets from `peek()`.
* `readable b`, `writable b`, `prependable b` are the three getters.
* A `*Pre` predicate (`retrievePre`, `hasWrittenPre`, `unwritePre`, `prependPre`, `peekIntPre`) is the leading
  `assert` of the function; a trailing `assert` is a lemma of `Proofs/Buffer.lean` (named at the function).
* `if g .. then A else B` on a generated guard `g` is `ite "g" A B`.
* The byte-order conversions + `sizeof` are `intBytes bytes v` (big-endian two's complement) / `peekInt`. -/
namespace Decl

/-- `Buffer.mk initial`: `data := List.replicate (kCheapPrepend + initial) 0`, `reader := kCheapPrepend`,
`writer := kCheapPrepend`.  The three assertions are `mk_content`/`mk_sizes` of `Proofs/Buffer.lean`. -/
def ctor : List Skel :=
  [ .act (.resize "kCheapPrepend + initialSize"),
    .act (.setReader "kCheapPrepend"),
    .act (.setWriter "kCheapPrepend"),
    .act (.assertion "readableBytes() == 0"),
    .act (.assertion "writableBytes() == initialSize"),
    .act (.assertion "prependableBytes() == kCheapPrepend") ]

/-- `Buffer.step b (.swapFresh i x) = append (mk i) x` and the last step of `Buffer.shrink`: after `swap(other)` the
object IS the other buffer - all three fields `data`, `reader`, `writer` exchanged, none left behind. -/
def swap : List Skel :=
  [ .act (.swap "buffer_" "rhs.buffer_"),
    .act (.swap "readerIndex_" "rhs.readerIndex_"),
    .act (.swap "writerIndex_" "rhs.writerIndex_") ]

/-- `Buffer.readable b = b.writer - b.reader` -/
def readableBytes : List Skel := [ .act (.ret "writerIndex_ - readerIndex_") ]

/-- `Buffer.writable b = b.data.length - b.writer` -/
def writableBytes : List Skel := [ .act (.ret "buffer_.size() - writerIndex_") ]

/-- `Buffer.prependable b = b.reader` -/
def prependableBytes : List Skel := [ .act (.ret "readerIndex_") ]

/-- `Buffer.content b = (b.data.drop b.reader).take ..`: the window starts at `begin() + readerIndex_` -/
def peek : List Skel := [ .act (.ret "begin() + readerIndex_") ]

/-- `Buffer.findCRLF b 0` (the driver maps the argument-less call to `start = 0`): first occurrence of `[13, 10]`
(`kCRLF`, two bytes) inside `(content b).drop 0` = `[peek(), beginWrite())`; `none` iff the search returns its end. -/
def findCRLF : List Skel :=
  [ .act (.assign "crlf" "search(peek(), beginWrite(), kCRLF, kCRLF + 2)"),
    .act (.ret "crlf == beginWrite() ? NULL : crlf") ]

/-- `Buffer.findCRLF b start = (findSub [13, 10] ((content b).drop start) 0).map (· + start)`; the two assertions
are the driver's `start ≤ readable b` (offsets are naturals, so `peek() <= start` is implicit). -/
def findCRLFFrom : List Skel :=
  [ .act (.assertion "peek() <= start"),
    .act (.assertion "start <= beginWrite()"),
    .act (.assign "crlf" "search(start, beginWrite(), kCRLF, kCRLF + 2)"),
    .act (.ret "crlf == beginWrite() ? NULL : crlf") ]

/-- `Buffer.findEOL b 0 = findByte 10 (content b)`: `memchr` over the `readableBytes()` bytes from `peek()` -/
def findEOL : List Skel :=
  [ .act (.assign "eol" "memchr(peek(), char(10), readableBytes())"),
    .act (.ret "eol") ]

/-- `Buffer.findEOL b start = (findByte 10 ((content b).drop start)).map (· + start)` -/
def findEOLFrom : List Skel :=
  [ .act (.assertion "peek() <= start"),
    .act (.assertion "start <= beginWrite()"),
    .act (.assign "eol" "memchr(start, char(10), beginWrite() - start)"),
    .act (.ret "eol") ]

/-- `Buffer.retrieve b n = if retrieveKeeps n (readable b) then { b with reader := b.reader + n } else retrieveAll b`;
the assertion is `retrievePre` -/
def retrieve : List Skel :=
  [ .act (.assertion "len <= readableBytes()"),
    .ite "retrieveKeeps"
      [ .act (.setReader "readerIndex_ + len") ]
      [ .act (.call "retrieveAll" "") ] ]

/-- positions are offsets from `peek()` in the model: `retrieveUntil(end)` is `Buffer.retrieve b (end - peek())`
with `end - peek() ≤ readable b` (`retrievePre`) for the two assertions -/
def retrieveUntil : List Skel :=
  [ .act (.assertion "peek() <= end"),
    .act (.assertion "end <= beginWrite()"),
    .act (.call "retrieve" "end - peek()") ]

/-- the `retrieve b bytes` of `Buffer.readInt b bytes`, `bytes = 8` -/
def retrieveInt64 : List Skel := [ .act (.call "retrieve" "sizeof(int64_t)") ]
/-- `bytes = 4` -/
def retrieveInt32 : List Skel := [ .act (.call "retrieve" "sizeof(int32_t)") ]
/-- `bytes = 2` -/
def retrieveInt16 : List Skel := [ .act (.call "retrieve" "sizeof(int16_t)") ]
/-- `bytes = 1` -/
def retrieveInt8 : List Skel := [ .act (.call "retrieve" "sizeof(int8_t)") ]

/-- `Buffer.retrieveAll b = { b with reader := kCheapPrepend, writer := kCheapPrepend }` -/
def retrieveAll : List Skel :=
  [ .act (.setReader "kCheapPrepend"),
    .act (.setWriter "kCheapPrepend") ]

/-- `retrieveAsString` with `len = readable b` -/
def retrieveAllAsString : List Skel :=
  [ .act (.call "retrieveAsString" "readableBytes()"),
    .act (.ret "<result>") ]

/-- driver `retrieveAsString n`: `okOp b (.retrieve n)` (the assertion), the returned bytes are
`(content b).take n` of the buffer BEFORE the step, then `step b (.retrieve n)` -/
def retrieveAsString : List Skel :=
  [ .act (.assertion "len <= readableBytes()"),
    .act (.assign "result" "std::string(peek(), len)"),
    .act (.call "retrieve" "len"),
    .act (.ret "result") ]

/-- `Buffer.content b`: `readable b` bytes from `peek()` -/
def toStringPiece : List Skel := [ .act (.ret "StringPiece(peek(), readableBytes())") ]

/-- the three `append` overloads are the one `Buffer.append b x` (`x` = the `len` bytes at `data`) -/
def appendPiece : List Skel := [ .act (.call "append" "str.data(), str.size()") ]

/-- `Buffer.append b x = let b' := ensureWritable b x.length;
{ b' with data := splice b'.data b'.writer x, writer := b'.writer + x.length }`
= `hasWritten { b' with data := splice b'.data b'.writer x } x.length` (`append_eq`, `writeAtEnd`): ensure first, then
the copy to `beginWrite()` of the ENSURED buffer, then the write index -/
def append : List Skel :=
  [ .act (.call "ensureWritableBytes" "len"),
    .act (.copy "data" "data + len" "beginWrite()"),
    .act (.call "hasWritten" "len") ]

def appendVoid : List Skel := [ .act (.call "append" "data, len") ]

/-- `Buffer.ensureWritable b len = if ensureNeedsSpace (writable b) len then makeSpace b len else b`; the trailing
assertion is `ensureWritable_spec` (`len ≤ writable (ensureWritable b len)`) -/
def ensureWritableBytes : List Skel :=
  [ .ite "ensureNeedsSpace"
      [ .act (.call "makeSpace" "len") ] [],
    .act (.assertion "writableBytes() >= len") ]

/-- the window of `Buffer.content b` ends, and `append`/`readFd` splice, at `b.writer` -/
def beginWrite : List Skel := [ .act (.ret "begin() + writerIndex_") ]
def beginWriteConst : List Skel := [ .act (.ret "begin() + writerIndex_") ]

/-- `Buffer.hasWritten b n = { b with writer := b.writer + n }`; the assertion is `hasWrittenPre` -/
def hasWritten : List Skel :=
  [ .act (.assertion "len <= writableBytes()"),
    .act (.setWriter "writerIndex_ + len") ]

/-- `Buffer.unwrite b n = { b with writer := b.writer - n }`; the assertion is `unwritePre` -/
def unwrite : List Skel :=
  [ .act (.assertion "len <= readableBytes()"),
    .act (.setWriter "writerIndex_ - len") ]

/-- `Buffer.appendInt b bytes v = append b (intBytes bytes v)`, `bytes = 8`: convert, then append the `sizeof` bytes -/
def appendInt64 : List Skel :=
  [ .act (.assign "be64" "hostToNetwork64(x)"),
    .act (.call "append" "&be64, sizeof(be64)") ]
def appendInt32 : List Skel :=
  [ .act (.assign "be32" "hostToNetwork32(x)"),
    .act (.call "append" "&be32, sizeof(be32)") ]
def appendInt16 : List Skel :=
  [ .act (.assign "be16" "hostToNetwork16(x)"),
    .act (.call "append" "&be16, sizeof(be16)") ]
/-- one byte has no byte order: `intBytes 1 v` -/
def appendInt8 : List Skel := [ .act (.call "append" "&x, sizeof(x)") ]

/-- `Buffer.readInt b bytes = (retrieve b bytes, peekInt b bytes)`: the value is peeked on `b`, BEFORE the retrieve -/
def readInt64 : List Skel :=
  [ .act (.assign "result" "peekInt64()"),
    .act (.call "retrieveInt64" ""),
    .act (.ret "result") ]
def readInt32 : List Skel :=
  [ .act (.assign "result" "peekInt32()"),
    .act (.call "retrieveInt32" ""),
    .act (.ret "result") ]
def readInt16 : List Skel :=
  [ .act (.assign "result" "peekInt16()"),
    .act (.call "retrieveInt16" ""),
    .act (.ret "result") ]
def readInt8 : List Skel :=
  [ .act (.assign "result" "peekInt8()"),
    .act (.call "retrieveInt8" ""),
    .act (.ret "result") ]

/-- `Buffer.peekInt b bytes = toSigned (8 * bytes) (decodeBE ((content b).take bytes))`: the first `bytes` bytes at
`peek()`, big-endian, as a signed value; the assertion is `peekIntPre`; the buffer is not changed -/
def peekInt64 : List Skel :=
  [ .act (.assertion "readableBytes() >= sizeof(int64_t)"),
    .act (.assign "be64" "0"),
    .act (.memcpy "&be64" "peek()" "sizeof(be64)"),
    .act (.ret "networkToHost64(be64)") ]
def peekInt32 : List Skel :=
  [ .act (.assertion "readableBytes() >= sizeof(int32_t)"),
    .act (.assign "be32" "0"),
    .act (.memcpy "&be32" "peek()" "sizeof(be32)"),
    .act (.ret "networkToHost32(be32)") ]
def peekInt16 : List Skel :=
  [ .act (.assertion "readableBytes() >= sizeof(int16_t)"),
    .act (.assign "be16" "0"),
    .act (.memcpy "&be16" "peek()" "sizeof(be16)"),
    .act (.ret "networkToHost16(be16)") ]
def peekInt8 : List Skel :=
  [ .act (.assertion "readableBytes() >= sizeof(int8_t)"),
    .act (.assign "x" "*peek()"),
    .act (.ret "x") ]

/-- `Buffer.prependInt b bytes v = prepend b (intBytes bytes v)` -/
def prependInt64 : List Skel :=
  [ .act (.assign "be64" "hostToNetwork64(x)"),
    .act (.call "prepend" "&be64, sizeof(be64)") ]
def prependInt32 : List Skel :=
  [ .act (.assign "be32" "hostToNetwork32(x)"),
    .act (.call "prepend" "&be32, sizeof(be32)") ]
def prependInt16 : List Skel :=
  [ .act (.assign "be16" "hostToNetwork16(x)"),
    .act (.call "prepend" "&be16, sizeof(be16)") ]
def prependInt8 : List Skel := [ .act (.call "prepend" "&x, sizeof(x)") ]

/-- `Buffer.prepend b x = { b with reader := b.reader - x.length, data := splice b.data (b.reader - x.length) x }`:
the read index moves down first, the bytes go to the NEW `begin() + readerIndex_`; the assertion is `prependPre` -/
def prepend : List Skel :=
  [ .act (.assertion "len <= prependableBytes()"),
    .act (.setReader "readerIndex_ - len"),
    .act (.assign "d" "data"),
    .act (.copy "d" "d + len" "begin() + readerIndex_") ]

/-- `Buffer.shrink b reserve = append (ensureWritable (mk kInitialSize) (readable b + reserve)) (content b)`:
a default-constructed buffer, made large enough, receives the content; the object becomes that buffer (`swap`) -/
def shrink : List Skel :=
  [ .act (.assign "other" "Buffer(kInitialSize)"),
    .act (.call "other.ensureWritableBytes" "readableBytes() + reserve"),
    .act (.call "other.append" "toStringPiece()"),
    .act (.call "swap" "other") ]

/-- `Buffer.makeSpace b len = if makeSpaceGrows (writable b) (prependable b) len then
{ b with data := resize b.data (b.writer + len) } else
{ data := splice b.data kCheapPrepend (content b), reader := kCheapPrepend, writer := kCheapPrepend + readable b }`:
the slide copies the OLD window `[begin()+readerIndex_, begin()+writerIndex_)` to `begin()+kCheapPrepend`, `readable`
is taken from the OLD indices, then the read index, then the write index from the new read index.  First assertion:
`makeSpace_slide_assert` (Props.C10 `makeSpace_assert_holds`); last one: `readable (makeSpace b len) = readable b`,
inside `makeSpace_spec` / `ensureWritable_spec`. -/
def makeSpace : List Skel :=
  [ .ite "makeSpaceGrows"
      [ .act (.resize "writerIndex_ + len") ]
      [ .act (.assertion "kCheapPrepend < readerIndex_"),
        .act (.assign "readable" "readableBytes()"),
        .act (.copy "begin() + readerIndex_" "begin() + writerIndex_" "begin() + kCheapPrepend"),
        .act (.setReader "kCheapPrepend"),
        .act (.setWriter "readerIndex_ + readable"),
        .act (.assertion "readable == readableBytes()") ] ]

/-- `Buffer.readFd b d`, `Buffer.readFdCapacity`, and the driver's `readFd`.
`writable b` is taken first; the first iovec is the writable area (`begin() + writerIndex_`, `writable` bytes), the
second the whole spill buffer, `readFdIovcnt (writable b)` of them are passed (`readFdCapacity`); `readv` delivers
`d` (`n = d.length`).  `n < 0` (the driver's `readFd-error`) is not a `Buffer.readFd` step: the buffer is unchanged,
only the out-parameter is written.  Otherwise `if readFdFits d.length (writable b) then { b with data := splice
b.data b.writer d, writer := b.writer + d.length } else` the kernel filled the writable area with `d.take w`,
`writer := b.data.length` (`buffer_.size()`), and the rest `d.drop w` (`n - writable` bytes of `extrabuf`) is
appended - in this order. -/
def readFd : List Skel :=
  [ .act (.assign "writable" "writableBytes()"),
    .act (.assign "vec[0].iov_base" "begin() + writerIndex_"),
    .act (.assign "vec[0].iov_len" "writable"),
    .act (.assign "vec[1].iov_base" "extrabuf"),
    .act (.assign "vec[1].iov_len" "sizeof(extrabuf)"),
    .act (.assign "iovcnt" "Gen.readFdIovcnt(writable)"),
    .act (.sys .readv "fd, vec, iovcnt"),
    .act (.assign "n" "<result>"),
    .ite "n < 0"
      [ .act (.assign "*savedErrno" "errno") ]
      [ .ite "readFdFits"
          [ .act (.setWriter "writerIndex_ + n") ]
          [ .act (.setWriter "buffer_.size()"),
            .act (.call "append" "extrabuf, n - writable") ] ],
    .act (.ret "n") ]

end Decl
end MuduoVerif.BufferSkel
