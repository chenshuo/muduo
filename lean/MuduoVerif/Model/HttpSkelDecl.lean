/-!
# Statement skeletons of the HTTP engine: vocabulary and the skeletons the model implements

`Model/Http.lean` takes the tables, separators, the guard on the request-target and the list of parse states that have
an arm from `Generated/Http.lean`; the ORDER and NESTING of the statements of `HttpContext::processRequestLine`,
`HttpContext::parseRequest` and of the `HttpRequest` setters they call - when the line is consumed, which arm clears
`hasMore`, when `state_` moves on, what `addHeader` trims in which order - is hand-written there.  This file states,
function by function, the skeleton that the model's definition implements (`Decl.*`, written by reading
`Model/Http.lean`, each with a pointer to the model definition it mirrors).  `vlib/gen/httpskel.py` extracts the
skeleton of the same functions from /repo's current `muduo/net/http/HttpContext.cc` / `HttpRequest.h`
(`Generated/HttpSkel.lean`, in the vocabulary below) and `Proofs/HttpSkelTie.lean` proves the two equal by `rfl`.
A source change that swaps two statements, moves a call into or out of an `if`, merges two `if`s into `if / else if`,
drops an `else`, turns a `while` into an `if`, duplicates or drops a statement in one of these functions changes the
extracted skeleton and breaks that proof.

An `ite` is named after the generated guard (`Gen.Http.targetAccepted`) where the model branches on one; every other
condition is printed.  Expressions are canonical prints of the source expressions (casts dropped, `->` as `.`, minimal
parentheses, characters as `' '`).  The one action a condition may perform is a setter of `request_`; it precedes the
`ite`.  Every `if` is part of the skeleton, also one with two empty branches.  Core Lean only; imports nothing.

Classes of statements that are NOT part of a skeleton (the generator ignores exactly these):
* I2 casts of every kind, parentheses, temporaries;
* I3 declarations of locals without an initialiser;
* I4 `MUDUO_VERIF_POINT` and empty statements.

Where the model ABSTRACTS from something the code does, the code's action is declared (so that moving it is noticed)
and the function's comment says what the model has in its place:
* `request_.setReceiveTime(receiveTime)` / `receiveTime_`: the model's `Request` has no receive time;
* `assert(method_ == kInvalid)` in `setMethod`: the model has no such test - it holds on every path the model covers
  (a request line is only processed on a fresh or `reset()` context; after a rejected line the stream is abandoned:
  assumption of C18, `Http.feed` does nothing once `dead`);
* a REJECTED request line: the code has already stored `method_` (inside the first condition) and `path_` / `query_`
  (before the version test) when it returns false; `Http.processRequestLine` returns `none` and `Http.lineStep` leaves
  the request untouched.  Not observable under the same assumption (stated at `Http.processRequestLine`); the
  skeleton below is the code's order.
-/
namespace MuduoVerif.HttpSkel

/-- the setters of `HttpRequest` that `HttpContext` calls on `request_` -/
inductive ReqOp | setMethod | setPath | setQuery | setVersion | addHeader | setReceiveTime
deriving DecidableEq, Repr

/-- mutating operations of `muduo::net::Buffer` used by the parser -/
inductive BufOp | retrieveUntil
deriving DecidableEq, Repr

/-- one significant action; strings are canonical prints of source expressions -/
inductive Act
  | assign (var : String) (value : String)              -- a store (initialised local, assignment, `++p` = `p + 1`); `<result>` = result of the action before
  | call (fn : String) (args : String)                  -- `processRequestLine(..)`
  | req (op : ReqOp) (args : String)                    -- `request_.op(..)`
  | bufOp (op : BufOp) (buf : String) (args : String)
  | strOp (obj : String) (op : String) (args : String)  -- `path_.assign(..)`, `value.resize(..)`
  | mapStore (map : String) (key : String) (value : String)   -- `headers_[key] = value`
  | assertion (cond : String)                           -- `assert(cond)`
  | ret (value : String)                                -- `return value`
deriving DecidableEq, Repr

/-- a statement: an action, `if (guard) { thn } else { els }`, or `while (guard) { body }` -/
inductive Skel
  | act (a : Act)
  | ite (guard : String) (thn els : List Skel)
  | loop (guard : String) (body : List Skel)
deriving Repr

/-! `deriving DecidableEq` does not handle the nesting through `List`; the instance is written out
(structural recursion, so `decide` evaluates it in the kernel). -/
mutual
def Skel.decEq : (x y : Skel) → Decidable (x = y)
  | .act a, .act a' => if h : a = a' then isTrue (by rw [h]) else isFalse (by intro e; cases e; exact h rfl)
  | .act _, .ite .. => isFalse (by intro e; cases e)
  | .act _, .loop .. => isFalse (by intro e; cases e)
  | .ite .., .act _ => isFalse (by intro e; cases e)
  | .ite .., .loop .. => isFalse (by intro e; cases e)
  | .loop .., .act _ => isFalse (by intro e; cases e)
  | .loop .., .ite .. => isFalse (by intro e; cases e)
  | .ite g t e, .ite g' t' e' =>
    if hg : g = g' then
      match Skel.decEqL t t' with
      | isTrue ht =>
        match Skel.decEqL e e' with
        | isTrue he => isTrue (by rw [hg, ht, he])
        | isFalse he => isFalse (by intro q; cases q; exact he rfl)
      | isFalse ht => isFalse (by intro q; cases q; exact ht rfl)
    else isFalse (by intro q; cases q; exact hg rfl)
  | .loop g b, .loop g' b' =>
    if hg : g = g' then
      match Skel.decEqL b b' with
      | isTrue hb => isTrue (by rw [hg, hb])
      | isFalse hb => isFalse (by intro q; cases q; exact hb rfl)
    else isFalse (by intro q; cases q; exact hg rfl)
def Skel.decEqL : (x y : List Skel) → Decidable (x = y)
  | [], [] => isTrue rfl
  | [], _ :: _ => isFalse (by intro e; cases e)
  | _ :: _, [] => isFalse (by intro e; cases e)
  | a :: as, b :: bs =>
    match Skel.decEq a b with
    | isTrue h =>
      match Skel.decEqL as bs with
      | isTrue h' => isTrue (by rw [h, h'])
      | isFalse h' => isFalse (by intro q; cases q; exact h' rfl)
    | isFalse h => isFalse (by intro q; cases q; exact h rfl)
end
instance : DecidableEq Skel := Skel.decEq
instance : DecidableEq (List Skel) := Skel.decEqL

/-! ## The skeleton each model function implements

Conventions of the reading.
* Pointers into the line are offsets: `find ch l` is `std::find(first, last, ch) - first`, `p != last` is
  `find ch l < l.length`; `splitAt ch l = some (l.take .., l.drop (.. + 1))` is "found, and `start = p + 1`".
* `Http.findCRLF buf = some k` is `crlf != NULL` with `crlf = peek() + k`; `buf.take k` is the line `[peek(), crlf)`;
  consuming `k + crlfLen` bytes (`parseLoop`: `buf.drop k'`) is `retrieveUntil(crlf + 2)`.
* `LineOut`: `.need`, `.fail`, `.done ..` end `parseLoop` - the code clears `hasMore`; `.next ..` and `.spin` recurse -
  `hasMore` stays true.  `.fail` makes `parseLoop` return `ok := false`: the code's `ok` is the value
  `processRequestLine` returned.
* a record update `{ ctx with state := s }` / `{ r with f := v }` is the store to `state_` / the setter of `request_`. -/
namespace Decl

/-- `Http.processRequestLine line`.
`match splitAt methodSep line with | none => none | some (m, rest) => if methodAccepted (setMethod m) then ..`: the
first `find`, and the condition `space != end && request_.setMethod(start, space)` (the setter it calls is declared in
front of it; `rest` is `[start, end)` after `start = space+1`).
`if targetAccepted (find targetSep rest) rest.length (find querySep (rest.take ..)) (findIf isControl ..) then`: the
second and third `find` and the generated guard.
`path := target.take q`, `query := target.drop q` with `q = find querySep target`: `setPath(start, question)`,
`setQuery(question, space)` when `question != space`; otherwise `q = target.length`, the path is the whole target and
the query `[]`, which `lineStep` treats as "`setQuery` was not called" (`query := if l.query = [] then ctx.req.query`).
`versionOf (rest.drop (find targetSep rest + 1))`: `start = space+1`, `succeed = end-start == 8 && equal(..)` (`tok.length
= versionLen ∧ tok.take (versionLen - 1) = versionPrefix`), then the chain over the last character
(`versionTable.find?`: `'1'` first, then `'0'`), anything else `none` (`succeed = false`).
The model evaluates the version before it builds the result; the code has stored path and query by then (see the
header: not tracked for a rejected line). -/
def processRequestLine : List Skel :=
  [ .act (.assign "succeed" "false"),
    .act (.assign "start" "begin"),
    .act (.assign "space" "find(start, end, ' ')"),
    .act (.req .setMethod "start, space"),
    .ite "space != end && request_.setMethod(start, space)"
      [ .act (.assign "start" "space + 1"),
        .act (.assign "space" "find(start, end, ' ')"),
        .act (.assign "question" "find(start, space, '?')"),
        .ite "targetAccepted"
          [ .ite "question != space"
              [ .act (.req .setPath "start, question"),
                .act (.req .setQuery "question, space") ]
              [ .act (.req .setPath "start, space") ],
            .act (.assign "start" "space + 1"),
            .act (.assign "succeed" "end - start == 8 && equal(start, end - 1, \"HTTP/1.\")"),
            .ite "succeed"
              [ .ite "*(end - 1) == '1'"
                  [ .act (.req .setVersion "kHttp11") ]
                  [ .ite "*(end - 1) == '0'"
                      [ .act (.req .setVersion "kHttp10") ]
                      [ .act (.assign "succeed" "false") ] ] ]
              [] ]
          [] ]
      [],
    .act (.ret "succeed") ]

/-- `Http.parseRequest` = `Http.parseLoop` over `Http.lineStep`: the `loop` node mirrors the recursion `parseLoop`
(one iteration = one `lineStep`; fuel `buf.length + 1`).
`lineStep`, `.kExpectRequestLine`: `match findCRLF buf with | none => .need | some k => match processRequestLine
(buf.take k) with | some l => .next { state := .kExpectHeaders, req := .. } (k + crlfLen) | none => .fail`.
`.kExpectHeaders`: `match findCRLF buf with | none => .need | some k => if find headerSep (buf.take k) < (buf.take
k).length then .next { ctx with req := addHeader .. } (k + crlfLen) else .done { ctx with state := .kGotAll } (k +
crlfLen)` - the line is consumed on BOTH paths (`retrieveUntil` behind the inner `if`).
`spins st` (no arm, or an empty arm: `Gen.Http.parseArms` / `emptyArms`) is the end of the chain: `.kExpectBody` has
the empty arm, `.kGotAll` none; there `hasMore` stays true (`.spin => parseLoop n ctx buf`).
`setReceiveTime`: no counterpart in the model. -/
def parseRequest : List Skel :=
  [ .act (.assign "ok" "true"),
    .act (.assign "hasMore" "true"),
    .loop "hasMore"
      [ .ite "state_ == kExpectRequestLine"
          [ .act (.assign "crlf" "buf.findCRLF()"),
            .ite "crlf"
              [ .act (.call "processRequestLine" "buf.peek(), crlf"),
                .act (.assign "ok" "<result>"),
                .ite "ok"
                  [ .act (.req .setReceiveTime "receiveTime"),
                    .act (.bufOp .retrieveUntil "buf" "crlf + 2"),
                    .act (.assign "state_" "kExpectHeaders") ]
                  [ .act (.assign "hasMore" "false") ] ]
              [ .act (.assign "hasMore" "false") ] ]
          [ .ite "state_ == kExpectHeaders"
              [ .act (.assign "crlf" "buf.findCRLF()"),
                .ite "crlf"
                  [ .act (.assign "colon" "find(buf.peek(), crlf, ':')"),
                    .ite "colon != crlf"
                      [ .act (.req .addHeader "buf.peek(), colon, crlf") ]
                      [ .act (.assign "state_" "kGotAll"),
                        .act (.assign "hasMore" "false") ],
                    .act (.bufOp .retrieveUntil "buf" "crlf + 2") ]
                  [ .act (.assign "hasMore" "false") ] ]
              [ .ite "state_ == kExpectBody" [] [] ] ] ],
    .act (.ret "ok") ]

/-- `lineStep`: `version := l.version` -/
def setVersion : List Skel :=
  [ .act (.assign "version_" "v") ]

/-- `Http.setMethod tok = match methodTable.find? (fun e => e.1 == tok) with | some e => e.2 | none => methodDefault`
and `methodAccepted`: the token as a string, the chain of comparisons in the order of the generated `methodTable`
(first match wins), the generated default in the final `else`, the generated test as the value returned.
The leading `assert`: see the header. -/
def setMethod : List Skel :=
  [ .act (.assertion "method_ == kInvalid"),
    .act (.assign "m" "string(start, end)"),
    .ite "m == \"GET\""
      [ .act (.assign "method_" "kGet") ]
      [ .ite "m == \"POST\""
          [ .act (.assign "method_" "kPost") ]
          [ .ite "m == \"HEAD\""
              [ .act (.assign "method_" "kHead") ]
              [ .ite "m == \"PUT\""
                  [ .act (.assign "method_" "kPut") ]
                  [ .ite "m == \"DELETE\""
                      [ .act (.assign "method_" "kDelete") ]
                      [ .act (.assign "method_" "kInvalid") ] ] ] ] ],
    .act (.ret "method_ != kInvalid") ]

/-- `lineStep`: `path := l.path` -/
def setPath : List Skel :=
  [ .act (.strOp "path_" "assign" "start, end") ]

/-- `lineStep`: `query := ..  l.query` -/
def setQuery : List Skel :=
  [ .act (.strOp "query_" "assign" "start, end") ]

/-- no counterpart in the model (`Request` has no receive time) -/
def setReceiveTime : List Skel :=
  [ .act (.assign "receiveTime_" "t") ]

/-- `Http.addHeader r line = { r with headers := mapInsert (line.take (find headerSep line)) (trimValue (line.drop
(find headerSep line + 1))) r.headers }`: the field is `[start, colon)`; `++colon` is the `+ 1`; `trimValue v =
((v.dropWhile isspace).reverse.dropWhile isspace).reverse` - the FIRST loop mirrors the inner `dropWhile` (leading
white space, on the pointer), then the value is built, the SECOND loop mirrors the outer `dropWhile` on the reversed
list (trailing white space, one `resize` per byte); `mapInsert` is `headers_[field] = value` -/
def addHeader : List Skel :=
  [ .act (.assign "field" "string(start, colon)"),
    .act (.assign "colon" "colon + 1"),
    .loop "colon < end && isspace(*colon)"
      [ .act (.assign "colon" "colon + 1") ],
    .act (.assign "value" "string(colon, end)"),
    .loop "!value.empty() && isspace(value[value.size() - 1])"
      [ .act (.strOp "value" "resize" "value.size() - 1") ],
    .act (.mapStore "headers_" "field" "value") ]

end Decl
end MuduoVerif.HttpSkel
