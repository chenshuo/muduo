import MuduoVerif.Proofs.LogFile
import MuduoVerif.Proofs.AsyncLog
import MuduoVerif.Proofs.LogFileSkelTie
import MuduoVerif.Proofs.ThreadSkelTie
/-!
# C16 — every log record handed to the back-end is written exactly once, whole, in order

Sequential half: `Model/LogFile.lean` is `LogFile::append_unlocked` / `rollFile` /
`AppendFile::append` as a pure function of the records, of every value `time()` returns and of
every `fwrite_unlocked` result; all its guards and the period arithmetic are the definitions of
`Generated/LogFile.lean`, re-extracted from /repo on every run.  The `tie_*` theorems pin each
generated definition to the comparison the property text relies on, so a changed operator or
constant in /repo makes an obligation fail even when the structure of the code is unchanged.

Concurrent half (second part of this file): `Model/AsyncLog.lean` is a transition system with arbitrary
interleaving of `AsyncLogging::append` calls (any number of threads), the phases of the back-end thread,
`start` and `stop`; the statements of every critical section and phase are the statement lists of
`Generated/AsyncLog.lean`, re-extracted from /repo on every run, and the model only interprets them.
The proofs (`Proofs/AsyncLog.lean`) evaluate those lists, so a dropped or reordered statement (the final
collect losing its `swap`, say) or a changed comparison (`>` → `>=` in the front-end's space test) makes an
obligation fail.
-/
namespace MuduoVerif.C16
open MuduoVerif.LogFile MuduoVerif.Gen.LogFile

/-- the models below are sequential: that is `LogFile`'s behaviour under several threads only because both public
entry points that touch the file, `append` and `flush`, do all their work under `*mutex_` when the file was created
thread safe (`AppendFile` writes with `fwrite_unlocked`, so the stdio lock protects nothing).  Extracted from the
source on every run; the free-running scenario `harness/logfile_mt.cc` turns a broken tie into a failing input. -/
theorem threadsafe_paths_locked : appendLocks = true ∧ flushLocks = true := by decide

theorem tie_logfile_guards (written rollSize count checkEveryN now lastFlush flushInterval lastRoll thisPeriod startOfPeriod : Int) :
    (rollBySize written rollSize ↔ rollSize < written) ∧
    (checkDue count checkEveryN ↔ checkEveryN ≤ count) ∧ countReset = 0 ∧
    (periodChanged thisPeriod startOfPeriod ↔ thisPeriod ≠ startOfPeriod) ∧
    (flushDue now lastFlush flushInterval ↔ flushInterval < now - lastFlush) ∧
    (rollAllowed now lastRoll ↔ lastRoll < now) := by
  unfold rollBySize checkDue countReset periodChanged flushDue rollAllowed
  exact ⟨gt_iff_lt, ge_iff_le, rfl, Iff.rfl, gt_iff_lt, gt_iff_lt⟩

theorem tie_period (now : Int) :
    kRollPerSeconds = 86400 ∧ periodOf now = now.tdiv 86400 * 86400 ∧ rollStart now = periodOf now := by
  simp only [kRollPerSeconds, periodOf, rollStart, and_self]

theorem tie_append_loop (written len n remain : Nat) (total w : Int) :
    (appendContinues written len ↔ written ≠ len) ∧ appendRemain len written = len - written ∧
    appendOffset written = written ∧ appendRequest remain = remain ∧
    (appendShort n remain ↔ n ≠ remain) ∧ appendAdvance written n = written + n ∧
    appendTotal total w = total + w := by
  unfold appendContinues appendRemain appendOffset appendRequest appendShort appendAdvance appendTotal
  exact ⟨Iff.rfl, rfl, Nat.zero_add _, rfl, Iff.rfl, rfl, rfl⟩

/-- **append_all**: whatever counts the stream accepts per call (every split pattern, including
zero-length progress), the bytes handed to the stream are a prefix of the record, in order and
without gaps or repetition; unless the stream reports an error the prefix is the whole record and
`writtenBytes_` grows by exactly its length. -/
theorem append_all (rec : Bytes) (fws : List FwRes) :
    (∃ k, k ≤ rec.length ∧ (appendFile rec fws).out = rec.take k ∧ (appendFile rec fws).counted ≤ k) ∧
    ((appendFile rec fws).failed = false →
      (appendFile rec fws).out = rec ∧ (appendFile rec fws).counted = rec.length) :=
  have ok := appendLoop_ok rec 0 fws
  ⟨⟨_, ok.pre.length_le, List.prefix_iff_eq_take.1 ok.pre, ok.le⟩, appendFile_all rec fws⟩

/-- the requests are contiguous: what reaches the stream is the concatenation, in call order, of
the accepted part of each request (`offset` bytes into the record, `accepted` bytes long) -/
theorem append_calls_contiguous (rec : Bytes) (fws : List FwRes) :
    (appendFile rec fws).out =
      ((appendFile rec fws).calls.map fun c => (rec.drop c.1).take c.2.2).flatten :=
  (appendLoop_ok rec 0 fws).calls

/-- the loop is left through `break` only when the environment raised the error flag -/
theorem append_fails_only_on_error (rec : Bytes) (fws : List FwRes) (h : ∀ r ∈ fws, r.err = false) :
    (appendFile rec fws).failed = false :=
  (appendLoop_ok rec 0 fws).err h

/-- **files_concat**: for every operation sequence, clock sequence and split pattern, the files in
creation order consist of whole groups of consecutive delivered records (no record is split across
two files: the roll happens after an append), and concatenated they are the delivered sequence. -/
theorem files_concat (cfg : Cfg) (clk : Nat → Int) (s0 : St) (h0 : init clk = some s0) (ops : List Op) :
    ∃ groups : List (List Bytes), groups.flatten = delivered ops ∧
      (run cfg clk s0 ops).files.map File.content = groups.map List.flatten := by
  obtain ⟨groups, cg, h1, h2, h3⟩ := run_inv cfg clk FilesInv.grow FilesInv.roll ops (init_FilesInv h0)
  refine ⟨groups ++ [cg], by simpa using h3, ?_⟩
  simp [St.files, h1, h2]

/-- … and when no append is cut short by a stream error these are the appended records themselves,
byte for byte, exactly once, in order -/
theorem files_concat_records (cfg : Cfg) (clk : Nat → Int) (s0 : St) (h0 : init clk = some s0) (ops : List Op)
    (hok : noError ops) :
    ((run cfg clk s0 ops).files.map File.content).flatten = (records ops).flatten ∧
    ∃ groups : List (List Bytes), groups.flatten = records ops ∧
      (run cfg clk s0 ops).files.map File.content = groups.map List.flatten := by
  obtain ⟨groups, h1, h2⟩ := files_concat cfg clk s0 h0 ops
  rw [delivered_eq_records ops hok] at h1
  refine ⟨?_, groups, h1, h2⟩
  rw [h2, ← h1]
  simp [List.flatten_flatten]

/-- **roll_rate** (1): the names of the files — the seconds they were created in — are strictly
increasing, for every clock sequence (monotone or not): at most one new file per second, and no
file is ever opened a second time. -/
theorem roll_rate (cfg : Cfg) (clk : Nat → Int) (s0 : St) (h0 : init clk = some s0) (ops : List Op) :
    ((run cfg clk s0 ops).files.map File.name).Pairwise (· < ·) :=
  (run_inv (P := fun s _ => NamesInv s) (outs := []) cfg clk NamesInv.grow (NamesInv.roll clk) ops (init_NamesInv h0)).1

theorem roll_names_distinct (cfg : Cfg) (clk : Nat → Int) (s0 : St) (h0 : init clk = some s0) (ops : List Op) :
    ((run cfg clk s0 ops).files.map File.name).Nodup :=
  (roll_rate cfg clk s0 h0 ops).imp (fun h => Int.ne_of_lt h)

/-- **roll_rate** (2): an `append` opens a new file exactly when the guards say so — the current
file grew beyond `rollSize_`, or the `checkEveryN_`-th append since the last check sees a new
period — and in both cases only if the clock has moved past the second of the last roll. -/
theorem roll_exactly (cfg : Cfg) (clk : Nat → Int) (s : St) (rec : Bytes) (fws : List FwRes) :
    let w := s.written + ((appendFile rec fws).counted : Int)
    let s' := step cfg clk s (.append rec fws)
    (s'.closed.length = s.closed.length + 1 ↔
      (cfg.rollSize < w ∧ s.lastRoll < clk s.tick) ∨
      (¬ cfg.rollSize < w ∧ cfg.checkEveryN ≤ s.count + 1 ∧
        (clk s.tick).tdiv 86400 * 86400 ≠ s.startOfPeriod ∧ s.lastRoll < clk (s.tick + 1))) ∧
    (s'.closed.length = s.closed.length ∨ s'.closed.length = s.closed.length + 1) := by
  simp only [step, afterAppend, apply_ite St.closed, rollFile_closed, rollBySize, checkDue, periodChanged, periodOf,
    kRollPerSeconds, flushDue, gt_iff_lt, ge_iff_le, ne_eq, afterWrite, appendTotal]
  -- the guards in the order `afterAppend` tests them
  by_cases h1 : cfg.rollSize < s.written + ((appendFile rec fws).counted : Int)
  · by_cases h2 : s.lastRoll < clk s.tick <;> simp [h1, h2]
  · by_cases h3 : cfg.checkEveryN ≤ s.count + 1
    · by_cases h4 : (clk s.tick).tdiv 86400 * 86400 = s.startOfPeriod
      · simp [h1, h3, h4]
      · by_cases h5 : s.lastRoll < clk (s.tick + 1) <;> simp [h1, h3, h4, h5]
    · simp [h1, h3]

/-- **roll_rate** (3): an `append` flushes exactly when it is a clock-check append that does not
roll and more than `flushInterval_` seconds passed since the last flush. -/
theorem flush_exactly (cfg : Cfg) (clk : Nat → Int) (s : St) (rec : Bytes) (fws : List FwRes) :
    let w := s.written + ((appendFile rec fws).counted : Int)
    let s' := step cfg clk s (.append rec fws)
    ((s'.closed = s.closed ∧ s'.cur.flushedAt.length = s.cur.flushedAt.length + 1) ↔
      (¬ cfg.rollSize < w ∧ cfg.checkEveryN ≤ s.count + 1 ∧
        (clk s.tick).tdiv 86400 * 86400 = s.startOfPeriod ∧ cfg.flushInterval < clk s.tick - s.lastFlush)) := by
  simp only [step, afterAppend, apply_ite St.closed, apply_ite St.cur, apply_ite File.flushedAt, rollFile_closed,
    rollFile_flushedAt, rollBySize, checkDue, periodChanged, periodOf, kRollPerSeconds, flushDue, gt_iff_lt, ge_iff_le,
    ne_eq, afterWrite, appendTotal, File.flush]
  by_cases h1 : cfg.rollSize < s.written + ((appendFile rec fws).counted : Int)
  · by_cases h2 : s.lastRoll < clk s.tick <;> simp [h1, h2]
  · by_cases h3 : cfg.checkEveryN ≤ s.count + 1
    · by_cases h4 : (clk s.tick).tdiv 86400 * 86400 = s.startOfPeriod
      · by_cases h6 : cfg.flushInterval < clk s.tick - s.lastFlush <;> simp [h1, h3, h4, h6]
      · by_cases h5 : s.lastRoll < clk (s.tick + 1) <;> simp [h1, h3, h4, h5]
    · simp [h1, h3]

/-- hypotheses of the theorems above are satisfiable by a non-trivial run: three records, a short
write, a roll by size refused within the same second and granted in the next -/
example :
    ∃ s0, init (fun i => [100, 100, 101].getD i 101) = some s0 ∧
      ((run { rollSize := 3, flushInterval := 3, checkEveryN := 1024 } (fun i => [100, 100, 101].getD i 101) s0
        [.append [1, 2] [], .append [3, 4] [⟨1, false⟩], .append [5] [], .append [6] []]).files.map File.content)
        = [[1, 2, 3, 4, 5], [6]] := by
  refine ⟨_, rfl, ?_⟩
  decide

/-- T1, statement order: in the functions of `LogFile` / `FileUtil::AppendFile` the model implements (constructor,
`append`, `flush`, `append_unlocked`, `rollFile`, `getLogFileName`; `AppendFile`'s constructor, destructor, `append`,
`flush`, `write`) the source performs the same stores (of the same expressions), engine calls, libc calls, lock
acquisitions, assertions, `break`s and returns, in the same order and under the same nesting of the generated guards
and of the write loop as `Model/LogFile.lean` (`Model/LogFileSkelDecl.lean`); re-extracted from /repo on every run
(`Generated/LogFileSkel.lean`), proved in `Proofs/LogFileSkelTie.lean` -/
theorem statement_order_tied :
    Gen.LogFileSkel.ctor = LogFileSkel.Decl.ctor ∧
    Gen.LogFileSkel.append = LogFileSkel.Decl.append ∧
    Gen.LogFileSkel.flush = LogFileSkel.Decl.flush ∧
    Gen.LogFileSkel.appendUnlocked = LogFileSkel.Decl.appendUnlocked ∧
    Gen.LogFileSkel.rollFile = LogFileSkel.Decl.rollFile ∧
    Gen.LogFileSkel.getLogFileName = LogFileSkel.Decl.getLogFileName ∧
    Gen.LogFileSkel.fileCtor = LogFileSkel.Decl.fileCtor ∧
    Gen.LogFileSkel.fileDtor = LogFileSkel.Decl.fileDtor ∧
    Gen.LogFileSkel.fileAppend = LogFileSkel.Decl.fileAppend ∧
    Gen.LogFileSkel.fileFlush = LogFileSkel.Decl.fileFlush ∧
    Gen.LogFileSkel.fileWrite = LogFileSkel.Decl.fileWrite :=
  LogFileSkel.skeletons_agree

end MuduoVerif.C16

namespace MuduoVerif.C16
open MuduoVerif.Gen.LogFile (fixedAppendFits kLargeBuffer)
open MuduoVerif.AsyncLog MuduoVerif.Gen.AsyncLog

/-- **front_fits_is_fixed_fits**: a record `AsyncLogging::append` decides to put into the current buffer is
really stored by `FixedBuffer::append` (which silently ignores a record unless its own test holds). -/
theorem front_fits_is_fixed_fits (a l : Nat) : frontFits a l → fixedAppendFits a l :=
  frontFits_fixed a l

/-- … and conversely the front-end switches buffers only when the current one really cannot take the record -/
theorem fixed_fits_is_front_fits (a l : Nat) : fixedAppendFits a l → frontFits a l := by
  simp only [frontFits, fixedAppendFits]; omega

/-- a fresh buffer takes every record shorter than itself; the real class uses `FixedBuffer<kLargeBuffer>` -/
theorem fresh_buffer_takes (cap l : Nat) (h : l < cap) :
    fixedAppendFits (avail cap []) l ∧ asyncBufferSize = kLargeBuffer :=
  ⟨empty_takes cap l h, by simp [asyncBufferSize, kLargeBuffer]⟩

/-- **async_order**: for every buffer size, every number of threads, every history (interleaving of `append`
calls with the back-end's steps, `start`, `stop`) in which each record is shorter than a buffer: the ledger of
what the back-end has written or dropped, then the buffers it holds, then the queued buffers, then the current
buffer are — as lists of whole records — exactly the `append` calls of the history in the order of their
critical sections; the records in the file are the kept part of the ledger, in that order; and no null buffer
pointer is ever used. -/
theorem async_order (cap : Nat) (steps : List Step) (s : St) (hrun : run (init cap) steps = some s)
    (hfit : ∀ r ∈ fronts steps, r.len < cap) :
    expand s.ledger ++ (inflight s).flatten ++ s.bufs.flatten ++ s.cur = fronts steps ∧
    recsOf s.disk = keptOf s.ledger ∧ s.fault = false := by
  have h := AInv_run cap steps (init cap) s (AInv_init cap) hfit hrun
  exact ⟨by rw [h.eq, (run_ghost hrun).1]; rfl, h.kept, h.ok.2.1⟩

/-- exactly once, never split, in order: what is in the file or still in some buffer is a sub-list of the
appended records (mutex order), hence each record occurs at most as often as it was appended and relative
order is kept -/
theorem async_exactly_once_in_order (cap : Nat) (steps : List Step) (s : St) (hrun : run (init cap) steps = some s)
    (hfit : ∀ r ∈ fronts steps, r.len < cap) :
    (recsOf s.disk ++ (inflight s).flatten ++ s.bufs.flatten ++ s.cur).Sublist (fronts steps) := by
  obtain ⟨h1, h2, _⟩ := async_order cap steps s hrun hfit
  rw [← h1, h2]
  exact (((keptOf_sublist_expand _).append_right _).append_right _).append_right _

/-- each thread's records reach the file in that thread's order -/
theorem async_thread_order (cap : Nat) (steps : List Step) (s : St) (hrun : run (init cap) steps = some s)
    (hfit : ∀ r ∈ fronts steps, r.len < cap) (t : Nat) :
    ((recsOf s.disk).filter (·.tid = t)).Sublist ((fronts steps).filter (·.tid = t)) := by
  have h := async_exactly_once_in_order cap steps s hrun hfit
  refine List.Sublist.filter _ (List.Sublist.trans ?_ h)
  simp only [List.append_assoc]
  exact List.sublist_append_left _ _

/-- **drop_only_announced**: the announcements in the file are, one for one and in order, the groups of
buffers the back-end discarded, each reporting the number of buffers of its group; the same announcements
went to stderr; and when there is no announcement the file holds the whole ledger — nothing vanished. -/
theorem drop_only_announced (cap : Nat) (steps : List Step) (s : St) (hrun : run (init cap) steps = some s)
    (hfit : ∀ r ∈ fronts steps, r.len < cap) :
    notesOf s.disk = dropsOf s.ledger ∧ s.errNotes = notesOf s.disk ∧
    (notesOf s.disk = [] →
      recsOf s.disk ++ (inflight s).flatten ++ s.bufs.flatten ++ s.cur = fronts steps) := by
  have h := AInv_run cap steps (init cap) s (AInv_init cap) hfit hrun
  obtain ⟨h1, h2, _⟩ := async_order cap steps s hrun hfit
  refine ⟨h.notes, h.err, fun hn => ?_⟩
  rw [← h1, h2, expand_eq_keptOf _ (h.notes ▸ hn)]

/-- **oversize_guard**, the excluded branch: a record that does not fit even an empty buffer is counted as
appended but stored nowhere — `FixedBuffer::append` ignores it without any announcement (the buffer switch
happens all the same).  Hence the hypothesis `r.len < cap` of the theorems above. -/
theorem oversize_dropped (s : St) (r : Rec) (hok : s.curOk = true) (h : s.cap ≤ r.len) :
    (front s r).bufs.flatten ++ (front s r).cur = s.bufs.flatten ++ s.cur ∧
    (front s r).appended = s.appended ++ [r] ∧ (front s r).bufs = s.bufs ++ [s.cur] := by
  have hnf := (oversize_refused s.cap s.cur r.len h).1
  have hnx := (oversize_refused s.cap [] r.len h).2
  have hb : bufAppend s.cap [] r = [] := by unfold bufAppend; rw [if_neg hnx]
  unfold front
  simp [hok, hnf, runOps_frontElse r s hok, hb]

/-- the buffer switch signals a waiting back-end -/
theorem switch_signals (s : St) (r : Rec) (hok : s.curOk = true) (hnf : ¬ frontFits (avail s.cap s.cur) r.len)
    (hw : s.pc = .waiting) : (front s r).woken = true := by
  unfold front
  simp [hok, hnf, runOps_frontElse r s hok, notified, hw]

/-- **stop_flushes**: when `stop()` has returned (which it does only after the back-end thread has ended),
everything appended before the call — `fronts pre` — is in the ledger of written-or-announced records, in
order; everything handed to the file is flushed; and without a drop announcement it is all in the file. -/
theorem stop_flushes (cap : Nat) (pre post : List Step) (s : St)
    (hrun : run (init cap) (pre ++ Step.stopCall :: post) = some s)
    (hfit : ∀ r ∈ fronts (pre ++ Step.stopCall :: post), r.len < cap) (hret : s.stopReturned = true) :
    s.pc = .done ∧ fronts pre <+: expand s.ledger ∧ s.flushed = s.disk.length ∧
    (notesOf s.disk = [] → fronts pre <+: recsOf s.disk) := by
  have h := AInv_run cap _ (init cap) s (AInv_init cap) hfit hrun
  obtain ⟨s1, h1, hrun⟩ := run_append_some.1 hrun
  obtain ⟨s2, h2, hrun⟩ := run_cons_some.1 hrun
  -- `atStop` is `appended` at the `stopCall` step, that is `fronts pre`, and no later step writes it
  obtain ⟨ha, hc⟩ := (step_ghost h2).2.2 rfl
  have hat : s.atStop = fronts pre := by
    rw [(run_ghost hrun).2 hc, ha, (run_ghost h1).1]; rfl
  have hd := h.done_of_returned hret
  obtain ⟨hp, hfl⟩ := h.fin hd
  refine ⟨hd, hat ▸ hp, hfl, fun hn => ?_⟩
  rw [h.kept, ← expand_eq_keptOf _ (h.notes ▸ hn)]
  exact hat ▸ hp

/-- the hypotheses are satisfiable, exact-fit record: the second record is exactly as long as the space left
(it must go to the next buffer), `stop()` is called while both buffers are still with the front-end -/
example :
    ∃ s, run (init 10) [.start, .test, .front ⟨1, 0, 5⟩, .front ⟨1, 1, 5⟩, .front ⟨2, 0, 3⟩, .stopCall,
                         .enter, .write, .test, .final, .stopJoin] = some s ∧
      s.stopReturned = true ∧ recsOf s.disk = [⟨1, 0, 5⟩, ⟨1, 1, 5⟩, ⟨2, 0, 3⟩] ∧ s.bufs = [] ∧ notesOf s.disk = [] :=
  ⟨_, rfl, rfl, rfl, rfl, rfl⟩

/-- … `stop()` right after a buffer switch, with the back-end past its last swap (it sees `running_ == false`
at once): the final collect writes the queued buffer and the current one -/
example :
    ∃ s, run (init 10) [.start, .test, .enter, .wake 1, .write, .front ⟨1, 0, 6⟩, .front ⟨1, 1, 6⟩, .stopCall,
                         .test, .final, .stopJoin] = some s ∧
      s.stopReturned = true ∧ recsOf s.disk = [⟨1, 0, 6⟩, ⟨1, 1, 6⟩] ∧ s.flushed = 2 :=
  ⟨_, rfl, rfl, rfl, rfl⟩

/-- … and the overload valve: 27 buffers between two cycles, 2 are written, 25 announced as dropped -/
example :
    ∃ s, run (init 2) ((List.range 27).map (fun i => Step.front ⟨0, i, 1⟩) ++
                        [.start, .test, .enter, .write, .stopCall, .test, .final, .stopJoin]) = some s ∧
      s.stopReturned = true ∧ recsOf s.disk = [⟨0, 0, 1⟩, ⟨0, 1, 1⟩] ∧ notesOf s.disk = [25] ∧ dropsOf s.ledger = [25] :=
  ⟨_, rfl, rfl, rfl, rfl, rfl⟩

end MuduoVerif.C16

namespace MuduoVerif.C16

/-- **backend_primitives_tied**: what `Model/AsyncLog.lean` takes as atomic - `MutexLockGuard lock(mutex_)` in `append` and
in the back-end's critical section, `cond_.notify()`, the timed wait `cond_.waitForSeconds(flushInterval_)` (pc `waiting`,
moves `wake 0 / 1 / 2`), `thread_.start()` followed by `latch_.wait()` in `start()`, `latch_.countDown()` at the head of
`threadFunc`, `thread_.join()` in `stop()` - is what muduo's wrappers ask pthread for: statement skeletons re-extracted
from /repo on every run (`Generated/ThreadSkel.lean`), equal to `Model/ThreadSkelDecl.lean`.  In particular the timed wait
is ONE clock reading, the two deadline assignments, and then the shape of `wait()` around `pthread_cond_timedwait` on the
same condition, mutex and deadline, reporting "timed out" iff pthread said `ETIMEDOUT`. -/
theorem backend_primitives_tied :
    (Gen.ThreadSkel.lockGuardCtor = ThreadSkel.Decl.lockGuardCtor ∧
     Gen.ThreadSkel.lockGuardDtor = ThreadSkel.Decl.lockGuardDtor ∧
     Gen.ThreadSkel.mutexLock = ThreadSkel.Decl.mutexLock ∧
     Gen.ThreadSkel.mutexUnlock = ThreadSkel.Decl.mutexUnlock) ∧
    (Gen.ThreadSkel.condNotify = ThreadSkel.Decl.condNotify ∧
     Gen.ThreadSkel.condWaitForSeconds = ThreadSkel.Decl.condWaitForSeconds ∧
     Gen.ThreadSkel.unassignGuardCtor = ThreadSkel.Decl.unassignGuardCtor ∧
     Gen.ThreadSkel.unassignGuardDtor = ThreadSkel.Decl.unassignGuardDtor) ∧
    (Gen.ThreadSkel.latchWait = ThreadSkel.Decl.latchWait ∧
     Gen.ThreadSkel.latchCountDown = ThreadSkel.Decl.latchCountDown ∧
     Gen.ThreadSkel.threadStart = ThreadSkel.Decl.threadStart ∧
     Gen.ThreadSkel.runInThread = ThreadSkel.Decl.runInThread ∧
     Gen.ThreadSkel.threadJoin = ThreadSkel.Decl.threadJoin) :=
  ⟨⟨ThreadSkel.skeleton_lockGuardCtor, ThreadSkel.skeleton_lockGuardDtor, ThreadSkel.skeleton_mutexLock,
    ThreadSkel.skeleton_mutexUnlock⟩,
   ⟨ThreadSkel.skeleton_condNotify, ThreadSkel.skeleton_condWaitForSeconds, ThreadSkel.skeleton_unassignGuardCtor,
    ThreadSkel.skeleton_unassignGuardDtor⟩,
   ⟨ThreadSkel.skeleton_latchWait, ThreadSkel.skeleton_latchCountDown, ThreadSkel.skeleton_threadStart,
    ThreadSkel.skeleton_runInThread, ThreadSkel.skeleton_threadJoin⟩⟩

/-- **flush_wait_deadline**: the deadline of the back-end's timed wait, `flushInterval` being the constructor's `int`
(the product `flushInterval * 10^9` is exact in a `double`): for `flushInterval ≥ 0` it is a valid `timespec`, exactly
`flushInterval` seconds after the clock reading; for `flushInterval < 0` - nothing in `AsyncLogging` or `Condition`
excludes it - it is an INVALID one (negative `tv_nsec`) unless the reading happens to have `tv_nsec = 0`:
`pthread_cond_timedwait` then fails with `EINVAL` at once, `waitForSeconds` reports "not timed out", and `threadFunc` goes
round its loop without ever blocking.  Hence the assumption `flushInterval ≥ 0` of this property. -/
theorem flush_wait_deadline (now : Gen.ThreadSkel.Timespec) (flushInterval : Int)
    (h0 : 0 ≤ now.tv_nsec) (h1 : now.tv_nsec < 1000000000) :
    (0 ≤ flushInterval →
      (Gen.ThreadSkel.waitForSecondsDeadline now (flushInterval * 1000000000)).tv_sec = now.tv_sec + flushInterval ∧
      (Gen.ThreadSkel.waitForSecondsDeadline now (flushInterval * 1000000000)).tv_nsec = now.tv_nsec) ∧
    (flushInterval < 0 → 0 < now.tv_nsec →
      (Gen.ThreadSkel.waitForSecondsDeadline now (flushInterval * 1000000000)).tv_nsec < 0) :=
  ThreadSkel.deadline_whole_seconds now flushInterval h0 h1

end MuduoVerif.C16
