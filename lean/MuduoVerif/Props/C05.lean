import MuduoVerif.Proofs.LoopOwner
import MuduoVerif.Proofs.Pool
import MuduoVerif.Proofs.ThreadSkelTie
import MuduoVerif.Proofs.LoopSkelTie
/-!
# C05 — quit() always ends the loop; loop threads and pools start, serve, join cleanly

The transition system is the one of C04 (`Model/Loop.lean`) with `quit()` = flag store · wake-up, the position of
the `quit_ = false` re-arming inside `loop()`, the destruction of the loop object, and `EventLoopThread`
(`startLoop` / `threadFunc` / destructor as monitor code over `mutex_`, `cond_`, `loop_`).  Any number of threads,
any programs, any schedule; no poll timeout, so "without waiting for the poll timeout" and "without hanging" are
statements about states in which no thread can move.  The places of the flag reset, the lock in the destructor,
the `while` around `cond_.wait()`, the notification in `threadFunc` and the wake condition of `quit()` are
definitions of `Generated/Loop.lean`; the pool's guards, subscripts and cursor update are `Generated/Pool.lean`.

A plain loop may be entered again after `loop()` has returned (`again` segments of the owner's program, C04): `qreq`,
`selfQuit` speak about ONE run of `loop()` (from `loop:entry` to `returned`); a flag store made after the return — the
return re-armed `quit_` — is a request to the next run (`relaunch`: `qreq := quit`).  So `quit_not_lost`,
`quit_ends_loop`, `quit_in_callback`, `returns_only_after_quit` hold of every run.  An `EventLoopThread` calls `loop()` once.
-/
namespace MuduoVerif.C05
open MuduoVerif.Loop MuduoVerif.Gen.Loop

/-- `quit()` stores the flag first and then wakes the loop exactly when called from another thread; `loop()` tests
the flag in its `while`, re-arms it after the `while` (not before) -/
theorem tie_quit (isLoopThread : Bool) :
    (quitWakes isLoopThread ↔ isLoopThread = false) ∧ quitStoresFirst = true ∧ whileTestsQuit = true ∧
    quitResetAtEntry = false ∧ quitResetAtExit = true := by
  refine ⟨?_, shape_tie_quit.1, shape_tie_quit.2.1, quitResetAtEntry_tie, quitResetAtExit_tie⟩
  unfold quitWakes; cases isLoopThread <;> simp

/-- `~EventLoopThread` tests `loop_` and calls `quit()` under `mutex_` and joins whenever the thread was started;
`threadFunc` publishes and clears `loop_` under `mutex_` and notifies, and when it clears `loop_` it also records
`finished_` and notifies again; `startLoop` re-tests after every wake-up and waits only while `loop_ == NULL` **and**
the thread has not finished -/
theorem tie_thread :
    dtorLocks = true ∧ dtorJoinsIfStarted = true ∧ publishLocks = true ∧ publishNotifies = true ∧
    clearLocks = true ∧ finishSets = true ∧ finishNotifies = true ∧ startWaitsWhile = true ∧
    startChecksFinished = true :=
  ⟨dtorLocks_tie, dtorJoinsIfStarted_tie, shape_tie_quit.2.2, publishNotifies_tie, clearLocks_tie, finishSets_tie,
   finishNotifies_tie, startWaitsWhile_tie, startChecksFinished_tie⟩

/-! ## quit() -/

/-- **quit_not_lost**: once any `quit()` call has stored its flag — before `loop()` was entered, at its entry,
during poll, dispatch or a drain, from any thread or callback — the flag stays set until `loop()` has returned -/
theorem quit_not_lost (s : St) (h : Reachable s) (hq : s.qreq = true) :
    s.quit = true ∨ s.phase = .returned ∨ s.phase = .dead := by
  have hi := h.quit
  rcases hi.kept hq with h1 | h1
  · exact Or.inl h1
  · right; cases hp : s.phase <;> simp_all [exited]

/-- … and a loop that sleeps in `poll` while the flag is set has its eventfd readable, or the quitter stands
between its store and its `wakeup()`: `quit()` never waits for the poll timeout -/
theorem quit_wakes_poll (s : St) (h : Reachable s) (hp : s.phase = .polling) (hq : s.quit = true) :
    0 < s.ev ∨ ∃ j, j ≠ s.L ∧ ((s.thr j).pc = .quitStored ∨ (s.thr j).pc = .dStored) := by
  have hi := h.quit
  rcases hi.woken hp hq with h1 | ⟨j, hj, hpc⟩ | ⟨j, hj, hpc⟩
  · exact Or.inl h1
  · exact Or.inr ⟨j, hj, Or.inl hpc⟩
  · exact Or.inr ⟨j, hj, Or.inr hpc⟩

/-- **quit_ends_loop**: the next test of the flag after a `quit()` — at the entry of `loop()` (a quit that completed
before `loop()` started) or at the end of the current iteration — leaves the `while`.
Limitation, stated rather than hidden: leaving the `while` is what `quit()` guarantees.  `loop()` *returns* after the
drain that follows the `while` has found the queue empty (`do { doPendingFunctors(); } while (queueSize() > 0);`,
C04 `final_drain_repeats` / `returns_only_with_empty_queue`); in that phase the loop thread is never blocked, and it
returns as soon as the functors stop queueing further functors — a functor that always re-queues itself keeps
`loop()` from returning (C04 `requeue_forever_never_returns_witness`). -/
theorem quit_ends_loop (s : St) (h : Reachable s) (hq : s.qreq = true)
    (hp : s.phase = .entered ∨ s.phase = .looptest) : (stepLoop s).phase = .atExit := by
  have hquit : s.quit = true := by
    rcases quit_not_lost s h hq with h1 | h1 | h1
    · exact h1
    · rcases hp with hp | hp <;> simp [hp] at h1
    · rcases hp with hp | hp <;> simp [hp] at h1
  have := quitResetAtEntry_tie
  rcases hp with hp | hp <;> simp [stepLoop, stepLoopFD, stepLoopG, hp, testQuit, hquit, this]

/-- **quit_in_callback**: after a `quit()` called on the loop thread itself (from a functor, an I/O handler, or before
`loop()`), the loop never enters `poll` again: it finishes the current iteration and returns -/
theorem quit_in_callback (s : St) (h : Reachable s) (hq : s.selfQuit = true) : s.phase ≠ .polling :=
  h.quit.selfNoPoll hq

/-- the loop leaves its `while` only because somebody called `quit()` -/
theorem returns_only_after_quit (s : St) (h : Reachable s)
    (hp : s.phase = .atExit ∨ s.phase = .returned ∨ s.phase = .dead) : s.qreq = true := by
  have hi := h.quit
  exact hi.goneReq (by rcases hp with h | h | h <;> simp [h, exited])

/-! ## EventLoopThread -/

/-- **no_dead_access**: no step of `~EventLoopThread` (the test of `loop_`, the flag store and the eventfd write
inside `loop_->quit()`) touches a loop that has been destroyed — at any timing of the destruction relative to the
loop thread's start-up and to a loop that quits by itself -/
theorem no_dead_access (s : St) (h : Reachable s) : s.uafDtor = false :=
  h.elt.noUaf

/-- why: between the destructor's test of `loop_` and the end of its `quit()` it holds `mutex_`, `loop_` is still
published and the loop object exists; at most one thread is in that window -/
theorem dtor_window (s : St) (h : Reachable s) (k : Nat) (hk : k ≠ s.L)
    (hpc : (s.thr k).pc = .dBeforeQuit ∨ (s.thr k).pc = .dStored) :
    s.mtx = true ∧ s.loopPtr = true ∧ s.alive = true ∧
    ∀ j, j ≠ s.L → ((s.thr j).pc = .dBeforeQuit ∨ (s.thr j).pc = .dStored) → j = k := by
  have hi := h.elt
  have hH : inH (s.thr k).pc = true := by rcases hpc with h | h <;> simp [h, inH]
  obtain ⟨hm, hl⟩ := hi.holder k hk hH
  refine ⟨hm, hl, ?_, ?_⟩
  · rw [hi.alive]; exact running_hasLoop (hi.ptr hl).1
  · intro j hj hjp
    exact hi.unique j k hj hk (by rcases hjp with h | h <;> simp [h, inH]) hH

/-- the loop object exists exactly from its construction on the new thread until `threadFunc` has cleared `loop_`;
`loop_` is published exactly while it can be used -/
theorem loop_lifetime (s : St) (h : Reachable s) :
    s.alive = hasLoop s.phase ∧ (s.loopPtr = true → running s.phase = true) ∧
    (s.elt = true → running s.phase = true → s.loopPtr = true) := by
  have hi := h.elt
  exact ⟨hi.alive, fun hl => (hi.ptr hl).1, hi.ptrElt⟩

/-- **startLoop_owned**: when `startLoop()` returns a loop, `loop_` is published, the loop object exists, it was
constructed by and belongs to the new thread (the caller is another thread), and it accepts tasks: the step that
returns is taken while the loop is between publication and the end of `loop()`.  The only other way `startLoop()`
returns is with NULL, and only when the loop thread has already left `loop()` and destroyed its loop — which requires
that somebody called `quit()` before `startLoop()` had looked (e.g. the thread-init callback). -/
theorem startLoop_owned (s : St) (h : Reachable s) (k : Nat) (hk : k ≠ s.L)
    (hout : (step s k).out = some .started ∨ (step s k).out = some .startedNull) :
    ((step s k).out = some .started ∧ s.loopPtr = true ∧ s.alive = true ∧ running s.phase = true ∧ s.mtx = false) ∨
    ((step s k).out = some .startedNull ∧ s.loopPtr = false ∧ s.phase = .dead ∧ s.alive = false ∧ s.qreq = true) := by
  have hi := h.elt
  rw [step_other hk] at hout ⊢
  rcases (stepOther_step s k).started_out hout with ⟨ho, hl, hm⟩ | ⟨ho, hl, hf⟩
  · refine Or.inl ⟨ho, hl, ?_, (hi.ptr hl).1, hm⟩
    rw [hi.alive]; exact running_hasLoop (hi.ptr hl).1
  · have hd := hi.fin.2.mp hf
    refine Or.inr ⟨ho, hl, hd, ?_, returns_only_after_quit s h (Or.inr (Or.inr hd))⟩
    rw [hi.alive, hd]; rfl

/-- **stuck_states**: a reachable state in which no thread can move looks like this — every thread other than the
loop thread has finished its program, except a destructor that ran before `loop_` was published (`EarlyDestroy`: the
object was destroyed while `startLoop()` had not returned); and the loop thread has finished, or sleeps in `poll`
with no byte in the pipe, the eventfd not readable and **no `quit()` outstanding**.  In particular no thread is ever
blocked forever inside `startLoop()`, whoever quits the loop and whenever. -/
theorem stuck_states (s : St) (h : Reachable s) (hs : Stuck s) :
    (∀ k, k ≠ s.L → finished s k = true ∨ EarlyDestroy s k) ∧
    (finished s s.L = true ∨ IdleInPoll s) :=
  stuck_analysis h.quit h.elt hs

/-- **join_terminates**: a destructor that waits in `join()` after a `quit()` was issued (by itself or by anybody) is
never in an all-blocked state: some thread can move until the loop thread has finished.  (No hang; that the loop
thread does finish additionally needs the functors to stop re-queueing, see `quit_ends_loop`.) -/
theorem join_terminates (s : St) (h : Reachable s) (k : Nat) (hk : k ≠ s.L) (hpc : (s.thr k).pc = .dJoin)
    (hq : s.qreq = true) : ∃ j, enabled s j = true := by
  apply Classical.byContradiction
  intro hne
  rcases (stuck_states s h (stuck_of_none hne)).1 k hk with h1 | h1
  · simp [finished, hk, hpc] at h1
  · simp [EarlyDestroy, hq] at h1

/-- the destructor's own path: from its test of `loop_` to `join()` it is never blocked (it holds the mutex), and a
destructor that saw `loop_ != NULL` has issued `quit()` when it reaches `join()` -/
theorem dtor_quits_before_join (s : St) (k : Nat) (hk : k ≠ s.L) (hpc : (s.thr k).pc = .dBeforeQuit) :
    enabled s k = true ∧ (step s k).qreq = true ∧ (step s k).quit = true ∧ ((step s k).thr k).pc = .dStored ∧
    enabled (step s k) k = true := by
  have h1 : enabled s k = true := by simp [enabled, hk, otherEnabled, hpc]
  rw [step_other hk]
  have hL : (stepOther s k).L = s.L := L_of_elt (by simp [stepOther, hpc, doQuitStore])
  have hpc' : ((stepOther s k).thr k).pc = .dStored := by simp [stepOther, hpc, doQuitStore]
  refine ⟨h1, ?_, ?_, hpc', ?_⟩
  · simp [stepOther, hpc, doQuitStore]
  · simp [stepOther, hpc, doQuitStore]
  · rw [enabled, hL, if_neg hk]; simp [otherEnabled, hpc']

/-- **startLoop_terminates**: a thread inside `startLoop()` is never in an all-blocked state — also when the loop is
quit (by the thread-init callback, by a functor it queued, by anybody) before `startLoop()` has seen `loop_` -/
theorem startLoop_terminates (s : St) (h : Reachable s) (k : Nat) (hk : k ≠ s.L)
    (hpc : (s.thr k).pc = .sCheck ∨ (s.thr k).pc = .sWaiting) :
    ∃ j, enabled s j = true := by
  apply Classical.byContradiction
  intro hne
  rcases (stuck_states s h (stuck_of_none hne)).1 k hk with h1 | h1
  · rcases hpc with hpc | hpc <;> simp [finished, hk, hpc] at h1
  · rcases hpc with hpc | hpc <;> simp [EarlyDestroy, hpc] at h1

/-- **clean_shutdown**: the documented use of `EventLoopThread` — one owner thread calls `startLoop()`, then hands any
number of tasks to the loop (`queueInLoop`, `runInLoop`, bytes for an I/O handler; task bodies, the destructors of what
the functor objects own and the thread-init callback submit more work but do not call `quit()`), then optionally
destroys the object.  For **every** schedule, a
state in which no thread can move is a clean end: the owner has finished its program, no step touched a destroyed
loop, and either the object was destroyed — then the loop was told to quit, `loop()` returned, the loop object is
gone and the join has returned — or it was not, and the loop idles in `poll` with nothing asked of it.  In
particular neither `startLoop()` nor the destructor's `join()` can hang, at any timing of the destructor relative to
the new thread's start-up. -/
theorem clean_shutdown (wl : Bool) (tbl dtbl : TaskId → List Sub) (pre body tail : List Sub) (sched : List Nat)
    (htbl : ∀ x, userOnly (tbl x) = true) (hdtbl : ∀ x, userOnly (dtbl x) = true) (hpre : userOnly pre = true)
    (hbody : userOnly body = true) (htail : tail = [] ∨ tail = [.destroy]) :
    let s := run (init true wl tbl dtbl pre [] (fun k => if k = 0 then .startLoop :: (body ++ tail) else [])) sched
    Stuck s →
      (s.thr 0).pc = .idle ∧ (s.thr 0).prog = [] ∧ s.uafDtor = false ∧
      ((tail = [.destroy] ∧ s.phase = .dead ∧ s.qreq = true) ∨ (tail = [] ∧ IdleInPoll s)) := by
  intro s hs
  exact owner_stuck
    (run_invariant (fun _ k h => step_owner htail k h) (init_owner wl tbl dtbl pre body tail htbl hdtbl hpre hbody) sched) hs

/-! ## EventLoopThreadPool -/

open MuduoVerif.Pool in
/-- **round robin**: the `i`-th of `k` successive `getNextLoop()` calls on a pool of `n > 0` threads is loop `i % n`;
on a pool without threads every call answers with the base loop -/
theorem pool_round_robin (n k i : Nat) (hi : i < k) :
    (nextSeq (start n) k)[i]? = some (if n = 0 then .base else .worker (i % n)) :=
  nextSeq_get n k i hi

open MuduoVerif.Pool in
/-- any `n` consecutive calls hand out `n` distinct loops, and every loop of the pool among them -/
theorem pool_window (n k i : Nat) (hn : 0 < n) :
    (∀ j, i < j → j < i + n → j < k → (nextSeq (start n) k)[i]? ≠ (nextSeq (start n) k)[j]?) ∧
    (∀ w, w < n → i + n ≤ k → ∃ j, i ≤ j ∧ j < i + n ∧ (nextSeq (start n) k)[j]? = some (.worker w)) :=
  ⟨fun j hij hjn hjk => window_distinct n k i j hij hjn hjk, fun w hw hik => window_covers n k i w hw hik⟩

open MuduoVerif.Pool in
/-- **hash**: `getLoopForHash(h)` is loop `h % n` (the base loop when `n = 0`); equal hash codes map to the same loop
however many `getNextLoop()` calls happen in between -/
theorem pool_hash (p : Pool) (h k : Nat) :
    getLoopForHash (afterNext p k) h = (if p.n = 0 then .base else .worker (h % p.n)) := by
  rw [hash_eq, afterNext_n]; rfl

open MuduoVerif.Pool in
/-- **all loops**: `getAllLoops()` is the list of the `n` worker loops in creation order, or the base loop alone;
whatever `getNextLoop()` / `getLoopForHash()` hand out is one of them -/
theorem pool_all_loops (n k h : Nat) :
    getAllLoops (afterNext (start n) k) = (if n = 0 then [.base] else (List.range n).map .worker) ∧
    (getNextLoop (afterNext (start n) k)).1 ∈ getAllLoops (afterNext (start n) k) ∧
    getLoopForHash (afterNext (start n) k) h ∈ getAllLoops (afterNext (start n) k) := by
  rw [afterNext_start]
  exact ⟨allLoops _, getNextLoop_state n k ▸ pick_mem_allLoops (state n k) k, hash_eq _ h ▸ pick_mem_allLoops _ h⟩

/-- `EventLoopThread`: the owner starts the loop, queues task 1 and destroys the object; under this schedule the
task runs, the destructor's `quit()` ends the loop, the loop object is destroyed and the join returns -/
example :
    let s := run (init true false (fun _ => []) (fun _ => []) [] [] (fun k => if k = 0 then [.startLoop, .queue 1, .destroy] else []))
                 [0, 1, 1, 1, 1, 1, 0, 0, 0, 0, 0, 0, 0, 1, 1, 1, 1, 1, 1, 1, 1, 1, 1, 1, 1, 1, 1, 0]
    s.executed = [1] ∧ s.phase = .dead ∧ s.uafDtor = false ∧ (s.thr 0).pc = .idle ∧ (s.thr 0).prog = [] ∧
    s.qreq = true := by
  decide +kernel

/-- the hypotheses of `clean_shutdown` are satisfiable and its conclusion is reached: the run above is such a program
(`body = [queue 1]`, `tail = [destroy]`) and ends in a state where nobody can move -/
example :
    let s := run (init true false (fun _ => []) (fun _ => []) [] [] (fun k => if k = 0 then .startLoop :: ([.queue 1] ++ [.destroy]) else []))
                 [0, 1, 1, 1, 1, 1, 0, 0, 0, 0, 0, 0, 0, 1, 1, 1, 1, 1, 1, 1, 1, 1, 1, 1, 1, 1, 1, 0]
    enabled s 0 = false ∧ enabled s 1 = false ∧ s.phase = .dead ∧ userOnly [Sub.queue 1] = true := by
  decide +kernel

/-- `clean_shutdown` with a functor object that owns something: the destructor of what task 1's functor owns queues task 2
(`dtbl`, `userOnly`); the owner starts the loop, queues task 1 and destroys the object: both tasks run — task 2 is
queued while the batch is destroyed, inside `doPendingFunctors` — the loop ends, the join returns, nobody can move -/
example :
    let s := run (init true false (fun _ => []) (fun t => if t = 1 then [.queue 2] else []) [] []
                    (fun k => if k = 0 then .startLoop :: ([.queue 1] ++ [.destroy]) else []))
                 [0, 0, 1, 1, 1, 1, 0, 0, 0, 0, 0, 0, 0, 0, 1, 1, 1, 1, 1, 1, 1, 1, 1, 1, 1, 1, 1, 1, 1, 1, 1, 1, 0]
    s.executed = [1, 2] ∧ s.phase = .dead ∧ s.uafDtor = false ∧ enabled s 0 = false ∧ enabled s 1 = false ∧
    (s.thr 0).pc = .idle ∧ (s.thr 0).prog = [] ∧ userOnly [Sub.queue 2] = true := by
  decide +kernel

/-- the thread-init callback quits the loop and the loop thread runs to its end before the owner looks: `startLoop()`
returns NULL instead of waiting forever, the owner's destructor joins -/
example :
    let s := run (init true false (fun _ => []) (fun _ => []) [.quit] [] (fun k => if k = 0 then [.startLoop, .destroy] else []))
                 [0, 1, 1, 1, 1, 1, 1, 1, 1, 1, 1, 1, 0, 0, 0, 0]
    s.phase = .dead ∧ s.finished = true ∧ (s.thr 0).pc = .idle ∧ (s.thr 0).prog = [] ∧ s.uafDtor = false ∧
    (step (run (init true false (fun _ => []) (fun _ => []) [.quit] [] (fun k => if k = 0 then [.startLoop, .destroy] else []))
            [0, 1, 1, 1, 1, 1, 1, 1, 1, 1, 1, 1]) 0).out = some .startedNull := by
  decide +kernel

/-- a `quit()` that completes before `loop()` starts: the flag is still set when the loop tests it -/
example :
    let s := run (init false false (fun _ => []) (fun _ => []) [] [] (fun k => if k = 1 then [.quit] else [])) [1, 1, 0]
    s.qreq = true ∧ s.quit = true ∧ s.phase = .entered := by
  decide

open MuduoVerif.Pool in
/-- the pool: three workers, seven calls wrap twice; hash 4 picks worker 1 whatever the cursor is; no workers → base -/
example :
    nextSeq (start 3) 7 = [.worker 0, .worker 1, .worker 2, .worker 0, .worker 1, .worker 2, .worker 0] ∧
    getLoopForHash (afterNext (start 3) 5) 4 = .worker 1 ∧ nextSeq (start 0) 2 = [.base, .base] ∧
    getAllLoops (start 0) = [.base] := by
  decide

end MuduoVerif.C05

namespace MuduoVerif.C05

/-- **thread_start_join_tied**: the two places where `Model/Loop.lean` relies on `muduo::Thread` -
`EventLoopThread::startLoop` calls `thread_.start()` and then finds a thread that exists and runs `threadFunc`
(`stepIdle .startLoop`: `phase := .born`; `startLoop_owned`, `startLoop_terminates`), and `~EventLoopThread` waits in
`thread_.join()` exactly until that function has returned (`stepDJoin`: enabled iff `phase == .dead`;
`join_terminates`, `clean_shutdown`) - are what `Thread.cc` does: `start` = assert not started; `started_ = true`; a
fresh `ThreadData(func_, name_, &tid_, &latch_)`; `pthread_create(&pthreadId_, NULL, &startThread, data)`; on failure
`started_ = false`, `delete data`, `LOG_SYSFATAL` (abort), otherwise `latch_.wait()` and `assert(tid_ > 0)`;
`startThread` = `runInThread()`, `delete data`; `runInThread` publishes the tid, counts the latch down, and only THEN
calls the function (an exception ends the process); `join` = assert started, assert not joined, `joined_ = true`,
`pthread_join(pthreadId_, NULL)`; `~Thread` detaches only a started and never joined thread.  Statement skeletons
re-extracted from /repo on every run (`Generated/ThreadSkel.lean`), equal to `Model/ThreadSkelDecl.lean`.  The latch
the hand-shake uses and the mutex / condition under it are tied by `C14.primitives_tied`. -/
theorem thread_start_join_tied :
    Gen.ThreadSkel.threadCtor = ThreadSkel.Decl.threadCtor ∧
    Gen.ThreadSkel.setDefaultName = ThreadSkel.Decl.setDefaultName ∧
    Gen.ThreadSkel.threadStart = ThreadSkel.Decl.threadStart ∧
    Gen.ThreadSkel.threadDataCtor = ThreadSkel.Decl.threadDataCtor ∧
    Gen.ThreadSkel.startThread = ThreadSkel.Decl.startThread ∧
    Gen.ThreadSkel.runInThread = ThreadSkel.Decl.runInThread ∧
    Gen.ThreadSkel.threadJoin = ThreadSkel.Decl.threadJoin ∧
    Gen.ThreadSkel.threadDtor = ThreadSkel.Decl.threadDtor ∧
    Gen.ThreadSkel.latchWait = ThreadSkel.Decl.latchWait ∧
    Gen.ThreadSkel.latchCountDown = ThreadSkel.Decl.latchCountDown :=
  ⟨ThreadSkel.skeleton_threadCtor, ThreadSkel.skeleton_setDefaultName, ThreadSkel.skeleton_threadStart,
   ThreadSkel.skeleton_threadDataCtor, ThreadSkel.skeleton_startThread, ThreadSkel.skeleton_runInThread,
   ThreadSkel.skeleton_threadJoin, ThreadSkel.skeleton_threadDtor, ThreadSkel.skeleton_latchWait,
   ThreadSkel.skeleton_latchCountDown⟩

/-- **loopthread_statement_order_tied** (T1, statement order of what ends a loop and of what owns loop threads).
`EventLoop::quit`, every function of /repo's current `EventLoopThread.cc` and `EventLoopThreadPool.cc` have the statement
skeleton the steps of `Model/Loop.lean` / `Model/Pool.lean` assume (`Model/LoopSkelDecl.lean`; re-extracted on every run
by `vlib/gen/loopskel.py`, proved equal in `Proofs/LoopSkelTie.lean`), and the orders this property rests on hold of the
EXTRACTED skeletons: (b) `quit` stores the flag before `wakeup()`, which is called exactly off the loop thread; (g)
`threadFunc` publishes `loop_` and notifies inside the critical section, before `loop.loop()` (which runs outside it), and
clears `loop_`, sets `finished_` and notifies inside a critical section after it; `~EventLoopThread` calls `loop_->quit()`
inside the critical section only when `loop_ != NULL` and joins afterwards, outside it; `startLoop` starts the thread
before it waits, waits in `while (loop_ == NULL && !finished_)` inside the critical section and reads `loop_` there; (h)
`EventLoopThreadPool::start` sets `started_`, then per index in increasing order creates the thread, appends it to
`threads_`, and appends the result of its `startLoop()` to `loops_`; `cb(baseLoop_)` only under `numThreads_ == 0 && cb`;
`getNextLoop` reads `loops_[next_]` before it advances the cursor. -/
theorem loopthread_statement_order_tied :
    Gen.LoopSkel.quit = LoopSkel.Decl.quit ∧
    (Gen.LoopSkel.threadCtor = LoopSkel.Decl.threadCtor ∧
     Gen.LoopSkel.threadDtor = LoopSkel.Decl.threadDtor ∧
     Gen.LoopSkel.startLoop = LoopSkel.Decl.startLoop ∧
     Gen.LoopSkel.threadFunc = LoopSkel.Decl.threadFunc ∧
     Gen.LoopSkel.poolCtor = LoopSkel.Decl.poolCtor ∧
     Gen.LoopSkel.poolDtor = LoopSkel.Decl.poolDtor ∧
     Gen.LoopSkel.poolStart = LoopSkel.Decl.poolStart ∧
     Gen.LoopSkel.getNextLoop = LoopSkel.Decl.getNextLoop ∧
     Gen.LoopSkel.getLoopForHash = LoopSkel.Decl.getLoopForHash ∧
     Gen.LoopSkel.getAllLoops = LoopSkel.Decl.getAllLoops) ∧
    -- (b)
    (LoopSkel.before (.store "quit_" "true") (.call "wakeup" "") (LoopSkel.flat Gen.LoopSkel.quit) = true ∧
     LoopSkel.onlyUnder "!isInLoopThread()" (.call "wakeup" "") Gen.LoopSkel.quit = true) ∧
    -- (g) threadFunc
    (LoopSkel.inOrder [.assign "loop" "EventLoop()", .call "callback_" "&loop", .store "loop_" "&loop",
                       .call "cond_.notify" "", .call "loop.loop" "", .store "loop_" "NULL", .store "finished_" "true",
                       .call "cond_.notifyAll" ""] (LoopSkel.flat Gen.LoopSkel.threadFunc) = true ∧
     LoopSkel.insideLock "mutex_" (.store "loop_" "&loop") (LoopSkel.flat Gen.LoopSkel.threadFunc) = true ∧
     LoopSkel.insideLock "mutex_" (.call "cond_.notify" "") (LoopSkel.flat Gen.LoopSkel.threadFunc) = true ∧
     LoopSkel.outsideLock "mutex_" (.call "loop.loop" "") (LoopSkel.flat Gen.LoopSkel.threadFunc) = true ∧
     LoopSkel.insideLock "mutex_" (.store "loop_" "NULL") (LoopSkel.flat Gen.LoopSkel.threadFunc) = true ∧
     LoopSkel.insideLock "mutex_" (.store "finished_" "true") (LoopSkel.flat Gen.LoopSkel.threadFunc) = true ∧
     LoopSkel.insideLock "mutex_" (.call "cond_.notifyAll" "") (LoopSkel.flat Gen.LoopSkel.threadFunc) = true) ∧
    -- (g) ~EventLoopThread
    (LoopSkel.insideLock "mutex_" (.call "loop_.quit" "") (LoopSkel.flat Gen.LoopSkel.threadDtor) = true ∧
     LoopSkel.onlyUnder "loop_ != NULL" (.call "loop_.quit" "") Gen.LoopSkel.threadDtor = true ∧
     LoopSkel.inOrder [.store "exiting_" "true", .call "loop_.quit" "", .call "unlock" "mutex_", .call "thread_.join" ""]
       (LoopSkel.flat Gen.LoopSkel.threadDtor) = true ∧
     LoopSkel.outsideLock "mutex_" (.call "thread_.join" "") (LoopSkel.flat Gen.LoopSkel.threadDtor) = true) ∧
    -- (g) startLoop
    (LoopSkel.inOrder [.call "thread_.start" "", .call "cond_.wait" "", .assign "loop" "loop_", .ret "loop"]
       (LoopSkel.flat Gen.LoopSkel.startLoop) = true ∧
     LoopSkel.insideLock "mutex_" (.call "cond_.wait" "") (LoopSkel.flat Gen.LoopSkel.startLoop) = true ∧
     LoopSkel.insideLock "mutex_" (.assign "loop" "loop_") (LoopSkel.flat Gen.LoopSkel.startLoop) = true ∧
     LoopSkel.loopBody .whileDo "loop_ == NULL && !finished_" Gen.LoopSkel.startLoop = [.act (.call "cond_.wait" "")]) ∧
    -- (h)
    (LoopSkel.flat (LoopSkel.loopBody .forDo "i = 0; i < numThreads_; ++i" Gen.LoopSkel.poolStart) =
       [.sys "snprintf" "buf, sizeof(buf), \"%s%d\", name_.c_str(), i", .assign "t" "new EventLoopThread(cb, buf)",
        .call "threads_.push_back" "t", .call "t.startLoop" "", .call "loops_.push_back" "<result>"] ∧
     LoopSkel.inOrder [.call "baseLoop_.assertInLoopThread" "", .store "started_" "true",
                       .assign "t" "new EventLoopThread(cb, buf)", .call "threads_.push_back" "t", .call "t.startLoop" "",
                       .call "loops_.push_back" "<result>"] (LoopSkel.flat Gen.LoopSkel.poolStart) = true ∧
     LoopSkel.onlyUnder "numThreads_ == 0 && cb" (.call "cb" "baseLoop_") Gen.LoopSkel.poolStart = true ∧
     LoopSkel.inOrder [.assign "loop" "baseLoop_", .assign "loop" "loops_[next_]", .store "next_" "next_ + 1",
                       .store "next_" "0", .ret "loop"] (LoopSkel.flat Gen.LoopSkel.getNextLoop) = true) :=
  ⟨LoopSkel.skeleton_quit, LoopSkel.skeletons_agree_thread_pool, LoopSkel.quit_store_precedes_wakeup,
   ⟨LoopSkel.threadFunc_order.1, LoopSkel.threadFunc_order.2.1, LoopSkel.threadFunc_order.2.2.1,
    LoopSkel.threadFunc_order.2.2.2.1, LoopSkel.threadFunc_order.2.2.2.2.2.1, LoopSkel.threadFunc_order.2.2.2.2.2.2.1,
    LoopSkel.threadFunc_order.2.2.2.2.2.2.2.1⟩,
   ⟨LoopSkel.threadDtor_order.1, LoopSkel.threadDtor_order.2.1, LoopSkel.threadDtor_order.2.2.1,
    LoopSkel.threadDtor_order.2.2.2.1⟩,
   ⟨LoopSkel.startLoop_order.1, LoopSkel.startLoop_order.2.2.1, LoopSkel.startLoop_order.2.2.2.1,
    LoopSkel.startLoop_order.2.2.2.2.1⟩,
   ⟨LoopSkel.poolStart_order.2.1, LoopSkel.poolStart_order.2.2.1, LoopSkel.poolStart_order.2.2.2,
    LoopSkel.pool_selectors.1⟩⟩

end MuduoVerif.C05
