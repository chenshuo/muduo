import MuduoVerif.Proofs.RaceExamples
import MuduoVerif.Proofs.OwnerSkelTie
/-!
# C08 — the thread-safe API is free of data races; the loop-confined API fails fast off-thread

`lockset_sound`, once and for all traces: an execution in which every access is initialising or obeys the discipline
of its location (immutable / atomic / guarded by m / confined to a thread) has no data race (`Proofs/Race.lean`).  Per
run, by kernel evaluation (`checks`): the table that T1 regenerates from /repo's clang AST passes the checks of
`Model/Race.lean` against the hand-written policy.  The bridge between the two (`row_event_discipline`,
`table_race_free`): an execution whose accesses are instances of table rows with *truthful* contexts respects the
discipline; what "truthful" means is the hypotheses `hlocks`, `hctx`, `hown`, `hpre` (the conjuncts of `InstanceOfTable`).
`assert_aborts` models `assertInLoopThread()`; `setup_before_handover` reads the statement order of
`TcpServer::newConnection` (`Proofs/OwnerSkelTie.lean`).

What this does **not** cover is listed in `vlib/props/c08.py` (trusted base): the policy is
hand-written; the extractor sees accesses to members of `this` only (no aliasing, nothing inside
the standard library or user callbacks); memory orderings weaker than the lock discipline.
-/
namespace MuduoVerif.C08
open MuduoVerif.Race MuduoVerif.Gen.Race

/-- **lockset soundness**: for every trace with mutual exclusion of mutexes and every assignment
of disciplines to locations, if every access is initialising (happens-before every access of the
location by other threads) or obeys its location's discipline — guarded ⇒ the thread holds the
mutex at that event; confined ⇒ the thread is the owner; atomic ⇒ the event is atomic;
immutable ⇒ the event is a read; unused ⇒ there is no such access — then any two conflicting
accesses of different threads to one location are ordered by happens-before. -/
theorem lockset_sound (tr : Trace) (pol : Loc → Disc) (wf : WellFormed tr)
    (h : Respects tr pol) : RaceFree tr :=
  respects_raceFree wf h

/- All checks of the generated table in one evaluation.  The kernel decodes a string literal into its
bytes once per run, at a cost quadratic in its length, and the table holds some 500 distinct ones which the
checks share: so they are evaluated together, and the theorems below are the parts.  It compares two decoded
strings byte by byte but two numerals in one step: hence every `==` on strings is first rewritten into `==`
on their `key`s (`beq_key`); `lookup_find` and `List.contains_eq_any_beq` bring the comparisons hidden in
`lookup` and `contains` to the surface.  Evaluating the checks as they stand, one by one, is the obvious
way and costs about twice as much to check. -/
private theorem checks :
    rows.all rowOk = true ∧ fields.all fieldOk = true ∧
    (confinedOps.all confinedOk = true ∧ roots.all confinedListed = true ∧
      requiredConfined.all (fun (c, f) => confinedOps.any (fun o => o.cls == c && o.fn == f)) = true) ∧
    (requiredRoots.all rootPresent = true ∧ safeCallees.all calleeCovered = true) ∧
    (policies.all (fun cp => cp.fields.all (fun (f, _) =>
      fields.any (fun g => g.cls == cp.cls && g.name == f))) = true ∧
    policies.all (fun cp => (policies.filter (fun cq => cq.cls == cp.cls)).length == 1) = true) := by
  unfold rowOk fieldOk confinedOk confinedListed rootPresent calleeCovered policyOfClass confinedOpAsserts selfOk
  simp only [lookup_find, List.contains_eq_any_beq, beq_key]
  decide +kernel

/-- the per-run obligation: every row of the generated access table respects the policy -/
theorem table_ok : rows.all rowOk = true := checks.1

/-- every member of every analysed class has a policy that fits its declaration (atomic ⇒
`std::atomic`/`AtomicIntegerT`; immutable ⇒ written by set-up methods only; guarded m ⇒ m is a
`MutexLock` member; sync ⇒ mutex/condition/latch) and agrees with its `GUARDED_BY` annotation -/
theorem fields_ok : fields.all fieldOk = true := checks.2.1

/-- every `GUARDED_BY` annotation of the code sits on a member the policy guards by the same mutex, or on a
condition variable the policy calls `sync` (part of `fields_ok`, singled out) -/
theorem annotations_agree :
    (fields.filter (fun f => f.guardedBy != "")).all
      (fun f => match policyOfClass f.cls with
        | none => false
        | some cp => match lookup f.name cp.fields with
          | some (.guarded m) => m == f.guardedBy
          | some .sync => f.tc == .cond
          | _ => false) = true := by
  rw [List.all_eq_true]
  intro f hf
  obtain ⟨hm, hg⟩ := List.mem_filter.mp hf
  have h := List.all_eq_true.mp fields_ok f hm
  unfold fieldOk at h
  -- `fieldOk` demands the same match or `guardedBy == ""`, which `hg` excludes
  cases hc : policyOfClass f.cls with
  | none => simp [hc] at h
  | some cp =>
    cases hl : lookup f.name cp.fields with
    | none => simp [hc, hl] at h
    | some p => cases p <;> simp_all

/-- every loop-confined operation has the owner-thread assertion of its class's own loop as an
unconditional top-level statement; (with `table_ok`) nothing but debug-only `assert` reads and
accesses that need no confinement precede it; and the operations the property names are there -/
theorem confined_guarded :
    confinedOps.all confinedOk = true ∧ roots.all confinedListed = true ∧
    requiredConfined.all (fun (c, f) => confinedOps.any (fun o => o.cls == c && o.fn == f)) = true :=
  checks.2.2.1

/-- the cross-thread operations the property names are roots of the table, and every function
the policy declares callable from any thread is itself analysed (thread-safe or fail-fast root) -/
theorem lists_covered :
    requiredRoots.all rootPresent = true ∧ safeCallees.all calleeCovered = true :=
  checks.2.2.2.1

/-- the policy has no stale entries: every member it names is a declared member of an analysed
class (so a renamed or removed member cannot keep a policy nobody checks), and no class has two
policy entries (`policyOfClass` takes the first it finds: a second one would be checked by nobody) -/
theorem policy_fields_exist :
    policies.all (fun cp => cp.fields.all (fun (f, _) =>
      fields.any (fun g => g.cls == cp.cls && g.name == f))) = true ∧
    policies.all (fun cp => (policies.filter (fun cq => cq.cls == cp.cls)).length == 1) = true :=
  checks.2.2.2.2

/-- no operation of the thread-safe lists reaches an owner-thread assertion unconditionally (directly
or through a method of its class called unconditionally at top level): none of them is loop-confined
in disguise, i.e. none aborts when called from a foreign thread.  (`TcpServer::start` reaches
`EventLoopThreadPool::start` only under its once-only test: its *first* call is loop-thread only,
which the plug-in states as an assumption and observes with an abort child.) -/
theorem ts_ops_do_not_assert : tsAsserting.isEmpty = true := by decide

/-- **one row, one event**: an event that is an instance of a (non-exempt, non-synchronisation)
row of the generated table, in a context that is *truthful*, obeys the trace-level discipline of its
member.  Truthful means, spelled out as hypotheses:
* `hlocks` — the thread holds every mutex whose `MutexLockGuard` the row has in scope;
* `hctx` — a dominating `assertInLoopThread()` / `isInLoopThread()` test of the class's own loop (or
  a loop callback: channel, timer, queued functor) means the thread is the owner;
* `hown` — the single-owner API is called by the owner;
* `hpre` — a debug-only read inside `assert(...)` *ahead of* the owner assertion of a loop-confined
  operation (`assert(!looping_)` in `loop()`, `assert(!started_)` in `EventLoopThreadPool::start`)
  is covered for calls made on the owner thread only.  On a foreign thread that read is followed by
  `abort` and by nothing else (`assert_aborts`); it is outside this theorem and named in the
  plug-in's `level_note`. -/
theorem row_event_discipline (r : Row) (hr : r ∈ rows) (cp : ClassPolicy) (p : Policy)
    (hcp : policyOfClass r.cls = some cp) (hp : lookup r.field cp.fields = some p)
    (hex : (r.rootKind == .other && (cp.setup.contains r.fn || cp.notThreadSafe.contains r.fn)) = false)
    (hthis : (r.field == "(this)") = false) (hsync : p ≠ .sync)
    (tr : Trace) (i : Nat) (t : Tid) (e : Ev) (mtx : String → Mtx) (owner : Tid)
    (hk : kindMatches r.kind e)
    (hlocks : ∀ m, r.locks.contains m = true → Holds tr t (mtx m) i)
    (hctx : (r.inLoop.any cp.ownerChecks.contains || r.rootKind == .handler) = true → t = owner)
    (hown : r.rootKind = .owner → t = owner)
    (hpre : r.inAssert = true → r.rootKind = .confined → t = owner) :
    DiscOk tr (p.disc mtx owner) i t e := by
  have hrow : rowOk r = true := List.all_eq_true.mp table_ok r hr
  unfold rowOk at hrow
  rw [hcp] at hrow
  simp only [hex, hthis, hp, Bool.false_eq_true, if_false, Bool.and_eq_true] at hrow
  refine selfOk_discOk mtx owner hk hsync hlocks hctx (fun h => hown (by simpa using h)) ?_ hrow.1
  intro h
  simp only [Bool.and_eq_true, beq_iff_eq] at h
  exact hpre h.1.1.1 h.1.2

/-- an access event of a trace is an instance of a table row with a truthful context -/
def InstanceOfTable (tr : Trace) (pol : Loc → Disc) (i : Nat) (t : Tid) (e : Ev) (x : Loc) : Prop :=
  ∃ r ∈ rows, ∃ cp p mtx owner,
    policyOfClass r.cls = some cp ∧ lookup r.field cp.fields = some p ∧
    (r.rootKind == .other && (cp.setup.contains r.fn || cp.notThreadSafe.contains r.fn)) = false ∧
    (r.field == "(this)") = false ∧ p ≠ .sync ∧
    pol x = p.disc mtx owner ∧ kindMatches r.kind e ∧
    (∀ m, r.locks.contains m = true → Holds tr t (mtx m) i) ∧
    ((r.inLoop.any cp.ownerChecks.contains || r.rootKind == .handler) = true → t = owner) ∧
    (r.rootKind = .owner → t = owner) ∧ (r.inAssert = true → r.rootKind = .confined → t = owner)

/-- **the table discipline gives race freedom**: in every execution with mutual exclusion in
which each access is initialising or an instance of a row of the generated table with a truthful
context, conflicting accesses of different threads are ordered by happens-before. -/
theorem table_race_free (tr : Trace) (pol : Loc → Disc) (wf : WellFormed tr)
    (h : ∀ i t e x, Access tr i t e x → Initial tr i t x ∨ InstanceOfTable tr pol i t e x) :
    RaceFree tr := by
  apply lockset_sound tr pol wf
  intro i t e x ha
  rcases h i t e x ha with hi | ⟨r, hr, cp, p, mtx, owner, h1, h2, h3, h4, h5, h6, h7, h8, h9, h10, h11⟩
  · exact Or.inl hi
  · right
    rw [h6]
    exact row_event_discipline r hr cp p h1 h2 h3 h4 h5 tr i t e mtx owner h7 h8 h9 h10 h11

/-- **the owner-thread assertion aborts**: a loop-confined operation of the guarded shape —
debug-only reads, `assertInLoopThread()`, body — executed by a thread other than the loop's owner
yields exactly those reads and an `abort` event: no write and no event of the body occurs; on
the owner thread the assertion is transparent. -/
theorem assert_aborts (o t : Tid) (pre : List Ev) (body : List Act) (hpre : ∀ e ∈ pre, e.isWrite = false) :
    (t ≠ o →
      runOp o t (pre.map Act.access ++ Act.assertOwner :: body) = pre.map (fun e => ⟨t, e⟩) ++ [⟨t, .abort⟩] ∧
      ∀ ev ∈ runOp o t (pre.map Act.access ++ Act.assertOwner :: body), ev.ev.isWrite = false) ∧
    runOp o o (pre.map Act.access ++ Act.assertOwner :: body) = pre.map (fun e => ⟨o, e⟩) ++ runOp o o body := by
  refine ⟨fun hne => ?_, runOp_owner o pre body⟩
  rw [runOp_foreign o t pre body hne]
  refine ⟨rfl, ?_⟩
  intro ev hev
  rcases List.mem_append.mp hev with h | h
  · obtain ⟨e, he, rfl⟩ := List.mem_map.mp h
    exact hpre e he
  · simp only [List.mem_singleton] at h
    subst h
    rfl

/-- a disciplined two-thread execution (constructor write published by `fork`, a member under a
mutex, an atomic member, a confined member) satisfies the hypotheses of `lockset_sound` -/
example : WellFormed goodTrace ∧ Respects goodTrace goodPol ∧ RaceFree goodTrace :=
  ⟨goodTrace_wf, goodTrace_respects, lockset_sound _ _ goodTrace_wf goodTrace_respects⟩

/-- a racy execution (second thread writes without the lock) is well-formed, is rejected by the
discipline, and does have a data race -/
example : WellFormed racyTrace ∧ ¬ Respects racyTrace goodPol ∧ ¬ RaceFree racyTrace :=
  ⟨racyTrace_wf, racyTrace_rejected, racyTrace_races⟩

/-- the table is not trivially accepted: the pre-fix shape of `TcpConnection::send` (a plain read
of `state_` on a foreign thread) is rejected by the same check -/
example : rowOk {
    cls := "TcpConnection", root := "send", rootKind := .ts, fn := "send",
    file := "TcpConnection.cc", line := 94, field := "state_", kind := .rd, callee := "",
    locks := [], inLoop := [], inAssert := false } = false := by decide +kernel

/-- … and so is an unlocked read of `pendingFunctors_` or an owner-less touch of `connections_` -/
example : rowOk {
    cls := "EventLoop", root := "queueSize", rootKind := .ts, fn := "queueSize",
    file := "EventLoop.cc", line := 191, field := "pendingFunctors_", kind := .rd, callee := "",
    locks := [], inLoop := [], inAssert := false } = false
  ∧ rowOk {
    cls := "TcpServer", root := "start", rootKind := .ts, fn := "start",
    file := "TcpServer.cc", line := 62, field := "connections_", kind := .rd, callee := "",
    locks := [], inLoop := [], inAssert := false } = false := by decide +kernel

/-- the guarded shape is what the generated confined operations have: e.g. `EventLoop::loop`
reads `looping_` in `assert(!looping_)`, then asserts, then runs -/
example : runOp 1 2 ([Ev.rd 0].map Act.access ++ Act.assertOwner :: [Act.access (.wr 0), Act.access (.wr 1)])
    = [⟨2, .rd 0⟩, ⟨2, .abort⟩] := by decide

/-- the bridge is not vacuous either: the generated table has a thread-safe row reading
`EventLoop::pendingFunctors_` under `mutex_` (in `queueSize`), and the one-access execution
`acq m; rd x; rel m` of a foreign thread is an instance of it with a truthful context, so
`table_race_free` applies to it -/
example : ∃ r ∈ rows, r.cls = "EventLoop" ∧ r.fn = "queueSize" ∧ r.field = "pendingFunctors_" ∧
    InstanceOfTable [⟨5, .acq 0⟩, ⟨5, .rd 7⟩, ⟨5, .rel 0⟩] (fun _ => .guarded 0) 1 5 (.rd 7) 7 := by
  have hfind : (rows.find? (fun r => r.cls == "EventLoop" && r.fn == "queueSize" && r.field == "pendingFunctors_"
      && r.rootKind == .ts && r.kind == .rd && r.locks == ["mutex_"])).isSome = true := by decide +kernel
  obtain ⟨r, hr⟩ := Option.isSome_iff_exists.mp hfind
  have hmem := List.mem_of_find?_eq_some hr
  have hp := List.find?_some hr
  simp only [Bool.and_eq_true, beq_iff_eq] at hp
  obtain ⟨⟨⟨⟨⟨hcls, hfn⟩, hfield⟩, hrk⟩, hkind⟩, hlocks⟩ := hp
  refine ⟨r, hmem, hcls, hfn, hfield, r, hmem, (policies.find? (·.cls == "EventLoop")).get (by decide), .guarded "mutex_",
    (fun _ => 0), 5, ?_, ?_, ?_, ?_, ?_, rfl, ?_, ?_, fun _ => rfl, fun _ => rfl, fun _ _ => rfl⟩
  · simp [policyOfClass, hcls]
  · rw [hfield]; decide
  · rw [hrk]; rfl
  · rw [hfield]; decide
  · intro h; cases h
  · rw [hkind]; exact ⟨7, rfl⟩
  · intro m _
    exact ⟨0, by omega, rfl, by intro k h1 h2; omega⟩

/-- **the library's own set-up calls precede the hand-over**: the policy exempts the rows of `TcpConnection`'s set-up
setters (`setConnectionCallback`, `setMessageCallback`, `setWriteCompleteCallback`, `setCloseCallback` write the
`confined` callback members from whatever thread calls them) on the ground that they run "before the object is shared".
For the one caller inside the library that shares the object with ANOTHER thread this is a fact about statement order,
read off /repo's current `TcpServer::newConnection` (`Generated/OwnerSkel.lean`, re-extracted on every run,
`Proofs/OwnerSkelTie.lean`): the acceptor thread hands the connection to its io loop exactly once
(`ioLoop->runInLoop(connectEstablished)`), all four setters are called before that statement and nothing touches the
connection after it - from there on the io thread may be reading and calling the members.  (`TcpClient::newConnection`
runs `connectEstablished` inline on the same loop thread: `ClientSkel`, C12.) -/
theorem setup_before_handover :
    (match policyOfClass "TcpConnection" with
      | some cp => ["setConnectionCallback", "setMessageCallback", "setWriteCompleteCallback", "setCloseCallback"].all cp.setup.contains
      | none => false) = true ∧
    OwnerSkel.HandoverLast "conn" "TcpConnection::connectEstablished(conn)"
      ["setConnectionCallback", "setMessageCallback", "setWriteCompleteCallback", "setCloseCallback"]
      Gen.OwnerSkel.newConnection :=
  ⟨by decide, OwnerSkel.handover_is_last⟩

end MuduoVerif.C08
