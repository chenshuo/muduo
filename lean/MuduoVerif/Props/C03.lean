import MuduoVerif.Proofs.ConnFlow
import MuduoVerif.Proofs.ConnLifeTrace
import MuduoVerif.Proofs.ConnClose
import MuduoVerif.Proofs.ConnFin
import MuduoVerif.Proofs.ConnSkelTie
/-!
# C03 — shutdown() flushes everything before FIN; forceClose() closes at once, safely

The property theorems with their proofs (lemmas: `Proofs/ConnFlow.lean`, `ConnLife.lean`, `ConnLifeTrace.lean`,
`ConnClose.lean`, `ConnFin.lean`); the statements about one operation in an arbitrary state are proved here, from the model.
Quantification as in C01/C02: every configuration, every history of operations from the loop
thread, other threads and callbacks, every result sequence of the system calls, every order of
shutdown / peer close / forced close, every delay.

The half-close is the event `sysShutdownWr`; the model sets the ghost flag `shutWr` when it is
emitted.  How `shutdown()` and the drain path of `handleWrite` hand `shutdownInLoop` to the
loop (`shutdownDispatch`, `drainShutdownDispatch`) is extracted from the source; the proofs
need both to be `.queue` — with the inline call the unchanged upstream code made,
`fin_after_data` is false (corpus/conn/F3-…, F21-…).
-/
namespace MuduoVerif.C03
open MuduoVerif.Conn MuduoVerif.Gen.Conn

abbrev reach (c0 : Conn) (ins : List Input) : Conn := run (step c0 .establish) ins

section
variable (c0 : Conn) (h0 : Fresh c0) (ins : List Input) (hne : ∀ i ∈ ins, i.notEstablish)
include h0 hne

/-- **fin_after_data**: whenever the write side has been shut down on a connection that is
still up, the output buffer is empty, no `send()` accepted earlier is still waiting in the
loop's queue, and — unless a fatal write error dropped data — every accepted byte was handed
to the kernel before the FIN -/
theorem fin_after_data :
    (reach c0 ins).shutWr = true → (reach c0 ins).st = .kDisconnecting →
      (reach c0 ins).outBuf = [] ∧ (reach c0 ins).queue.all (fun t => !t.isSend) = true ∧
      ((reach c0 ins).discarded = false → (reach c0 ins).wrote = (reach c0 ins).accepted) :=
  Conn.fin_after_data c0 h0 ins hne

/-- while the connection is fully connected (no `shutdown()`/`forceClose()` yet) no half-close
has been made or queued -/
theorem no_fin_while_connected :
    (reach c0 ins).st = .kConnected →
      (reach c0 ins).shutWr = false ∧ (reach c0 ins).queue.all (fun t => !t.isShut) = true := by
  intro h
  obtain ⟨a, b⟩ := (reach_flow c0 h0 ins hne).connQ h
  exact ⟨b, a⟩

/-- every `send()` queued by another thread stays ahead of every queued half-close -/
theorem sends_before_fin : okQ (reach c0 ins).queue = true := (reach_flow c0 h0 ins hne).q

/-- **force_once**: whatever forced closes, delayed closes, timer firings, peer closes and
shutdowns a history contains, DOWN is reported at most once and nothing aborts or touches a
destroyed object -/
theorem force_once :
    C02.cnt C02.isDownEv (reach c0 ins).trace ≤ 1 ∧ C02.cnt C02.isBadEv (reach c0 ins).trace = 0 := by
  have hc := (reach_life c0 h0 ins hne).counts
  exact ⟨by rw [hc.down]; split <;> omega, hc.bad⟩

end

/-- **forceClose closes at once**: `forceClose()` on any thread, in any reachable state, with
anything else queued and whatever events the next poll reports: after ONE loop iteration the
connection is down, DOWN was reported exactly once, nothing aborted - it does not wait for the peer -/
theorem forceClose_brings_down (c0 : Conn) (h0 : Fresh c0) (ins : List Input) (hne : ∀ i ∈ ins, i.notEstablish)
    (f : Bool) (a : List Src) :
    (iter (act (reach c0 ins) f .forceClose) a).st = .kDisconnected ∧
    C02.cnt C02.isDownEv (iter (act (reach c0 ins) f .forceClose) a).trace = 1 ∧
    C02.cnt C02.isBadEv (iter (act (reach c0 ins) f .forceClose) a).trace = 0 :=
  have hl := reach_life c0 h0 ins hne
  have hd := Conn.forceClose_brings_down _ f a hl
  have hc := (iter_life _ a (act_life _ f .forceClose hl)).counts
  ⟨hd, by rw [hc.down, if_pos hd], hc.bad⟩

/-- **delayed forced close**: `forceCloseWithDelay(us)` on the loop thread, the clock advanced by at
least `us`, then one iteration in which the timer descriptor is reported: the connection is down.
Called on another thread it takes one iteration more (the first one arms the timer); the bound is
tight (`delayed_close_foreign_needs_two` in `Proofs/ConnClose.lean`) -/
theorem delayed_close_brings_down (c0 : Conn) (h0 : Fresh c0) (ins : List Input) (hne : ∀ i ∈ ins, i.notEstablish)
    (us d : Nat) (a1 a2 : List Src) (hd : us ≤ d) (hm : Src.timer ∈ a2) :
    (iter (step (act (reach c0 ins) false (.forceCloseDelay us)) (.advance d)) a2).st = .kDisconnected ∧
    (iter (step (iter (act (reach c0 ins) true (.forceCloseDelay us)) a1) (.advance d)) a2).st = .kDisconnected :=
  have hl := reach_life c0 h0 ins hne
  ⟨Conn.delayed_close_brings_down _ us d a2 hl hd hm, delayed_close_foreign_brings_down _ us d a1 a2 hl hd hm⟩

/-- **the FIN is sent**: `shutdown()` on any thread on a connected connection with nothing left to
write and no earlier `send()` still queued: the next loop iteration half-closes the socket,
whatever events arrive in it -/
theorem shutdown_sends_fin (c0 : Conn) (h0 : Fresh c0) (ins : List Input) (hne : ∀ i ∈ ins, i.notEstablish)
    (f : Bool) (a : List Src) (hst : (reach c0 ins).st = .kConnected) (ho : (reach c0 ins).outBuf = [])
    (hq : (reach c0 ins).queue.all (fun t => !t.isSend) = true) :
    (iter (act (reach c0 ins) f .shutdown) a).shutWr = true :=
  Conn.shutdown_sends_fin _ f a (reach_life c0 h0 ins hne) (reach_flow c0 h0 ins hne) hst ho hq

/-- … and with a backlog: once the backlog has drained and nothing is queued ahead of the deferred
half-close, the next iteration sends the FIN -/
theorem fin_after_drain (c0 : Conn) (h0 : Fresh c0) (ins : List Input) (hne : ∀ i ∈ ins, i.notEstablish)
    (a : List Src) (hst : (reach c0 ins).st = .kDisconnecting) (ho : (reach c0 ins).outBuf = [])
    (hq : (reach c0 ins).queue.all (fun t => !t.isSend) = true) (hs : ∃ t ∈ (reach c0 ins).queue, t.isShut = true) :
    (iter (reach c0 ins) a).shutWr = true :=
  fin_progress_of_queued_shut _ a (reach_life c0 h0 ins hne) (reach_flow c0 h0 ins hne) hst ho hq hs

/-- the model performs the state test and the state store of `shutdown()` / `forceClose()` /
`forceCloseWithDelay()` as ONE step (`act`).  That is what the code does only because each is a
single atomic compare-and-swap on the state word - extracted from the source on every run.  With a
separate test and store, a close on the loop thread can slip in between and the store revives the
connection: it is then taken down, and reported DOWN, a second time (F27). -/
theorem gate_atomic : gateAtomic = true := rfl

/-- the moment the FIN is emitted on a connection that is up, the backlog is empty -/
theorem fin_emitted_clean (c : Conn) (hi : FlowInv c) (hu : c.st ≠ .kDisconnected)
    (h : (shutdownInLoop c).shutWr = true) (h0 : c.shutWr = false) : c.outBuf = [] :=
  Conn.fin_emitted_clean c hi hu h h0

/-- **late_send_discarded**: `send()` on any thread once `shutdown()` or `forceClose()` was
called, or after DOWN, changes nothing: it can neither interleave into nor truncate what was
accepted before -/
theorem late_send_discarded (c : Conn) (f : Bool) (d : Bytes) (h : c.st ≠ .kConnected) : act c f (.send d) = c :=
  Conn.late_send_discarded c f d h

/-- `shutdown()` and `forceClose()` take the connection out of `kConnected` inside the call, on
whatever thread: later `send()`s are therefore late -/
theorem shutdown_closes_the_gate (c : Conn) (f : Bool) (h : c.st = .kConnected) :
    (act c f .shutdown).st = .kDisconnecting ∧ (act c f .forceClose).st = .kDisconnecting := by
  rw [act_shutdown, if_pos h, act_forceClose, if_pos (show c.isUp from .inl h)]
  exact ⟨rfl, rfl⟩

/-- **keeps_receiving**: `shutdown()` does not touch the read side: read interest, input buffer and
what was delivered stay as they are -/
theorem keeps_receiving (c : Conn) (f : Bool) :
    (act c f .shutdown).ch.evRead = c.ch.evRead ∧ (act c f .shutdown).inBuf = c.inBuf ∧
    (act c f .shutdown).delivered = c.delivered ∧ (act c f .shutdown).reading = c.reading := by
  rw [act_shutdown]
  split <;> exact ⟨rfl, rfl, rfl, rfl⟩

/-- a delayed forced close that fires when the object is gone does nothing at all; one that fires
when the connection is already down does nothing either -/
theorem delayed_close_noop (c : Conn) :
    (c.alive = false → fireDelay c = c) ∧ (c.st = .kDisconnected → fireDelay c = c) ∧
    (c.st = .kConnecting → fireDelay c = c) := by
  refine ⟨?_, ?_, ?_⟩
  · intro h
    have hw : forceCloseDelayHold.eff weakCallbackLocks = Hold.weak := by decide   -- the timer holds a weak callback that locks before it calls (extracted)
    simp [fireDelay, h, hw]
  · intro h; unfold fireDelay; split
    · simp [actLoop, act, forceCloseAccepts, h]
    · rfl
  · intro h; unfold fireDelay; split
    · simp [actLoop, act, forceCloseAccepts, h]
    · rfl

/-- a forced close on a connection that is already down (or gone) is a no-op as well -/
theorem forceClose_noop (c : Conn) (f : Bool) (h : c.st = .kDisconnected) : act c f .forceClose = c := by
  rw [act_forceClose, if_neg fun hu => isUp_ne hu h]

/-- and the functor it queued does nothing if the connection went down before it runs -/
theorem forceCloseInLoop_noop (c : Conn) (ha : c.alive = true) (h : c.st = .kDisconnected) :
    runTask c .forceCloseInLoop = c :=
  runTask_idle c _ ha h

/-- T1, statement order: in every `TcpConnection` member function the model implements (and in
`Channel::handleEventWithGuard`) the source performs the same significant actions - state stores, channel
operations, callbacks, hand-offs to the loop, member calls, system calls, buffer operations - in the same order
and under the same nesting of the generated guards as `Model/Conn.lean` (`Model/ConnSkelDecl.lean`); re-extracted
from /repo on every run (`Generated/ConnSkel.lean`), proved in `Proofs/ConnSkelTie.lean` -/
theorem statement_order_tied :
    Gen.ConnSkel.sendInLoop = ConnSkel.Decl.sendInLoop ∧
    Gen.ConnSkel.shutdown = ConnSkel.Decl.shutdown ∧
    Gen.ConnSkel.shutdownInLoop = ConnSkel.Decl.shutdownInLoop ∧
    Gen.ConnSkel.forceClose = ConnSkel.Decl.forceClose ∧
    Gen.ConnSkel.forceCloseWithDelay = ConnSkel.Decl.forceCloseWithDelay ∧
    Gen.ConnSkel.forceCloseInLoop = ConnSkel.Decl.forceCloseInLoop ∧
    Gen.ConnSkel.startReadInLoop = ConnSkel.Decl.startReadInLoop ∧
    Gen.ConnSkel.stopReadInLoop = ConnSkel.Decl.stopReadInLoop ∧
    Gen.ConnSkel.connectEstablished = ConnSkel.Decl.connectEstablished ∧
    Gen.ConnSkel.connectDestroyed = ConnSkel.Decl.connectDestroyed ∧
    Gen.ConnSkel.handleRead = ConnSkel.Decl.handleRead ∧
    Gen.ConnSkel.handleWrite = ConnSkel.Decl.handleWrite ∧
    Gen.ConnSkel.handleClose = ConnSkel.Decl.handleClose ∧
    Gen.ConnSkel.handleError = ConnSkel.Decl.handleError ∧
    Gen.ConnSkel.handleEventWithGuard = ConnSkel.Decl.handleEventWithGuard :=
  ConnSkel.skeletons_agree

/-- T1, the weak functors: `WeakCallback::operator()` (what `makeWeakCallback(shared_from_this(), &TcpConnection::f)`
runs: `shutdown()`'s and the drain path's `shutdownInLoop`, a `send()` from another thread, `startRead/stopRead`, the
delayed forced close) and the notification trampolines lock the weak pointer, test the result and only then call,
on the locked object (`weakCallbackLocks`, `notifyLocks`: extracted; the model's "a weak functor whose object is
gone does nothing" - `delayed_close_noop`, `runTask` - uses them through `Hold.eff`), and the statement skeleton of
`WeakCallback::operator()` is the one `Model/ConnSkelDecl.lean` declares -/
theorem weak_functors_lock_first :
    weakCallbackLocks = true ∧ notifyLocks = true ∧
    (∀ t : Task, t.hold ≠ .raw) ∧
    Gen.ConnSkel.weakCallbackCall = ConnSkel.Decl.weakCallbackCall :=
  ⟨rfl, rfl, no_raw, ConnSkel.skeleton_weakCallbackCall⟩

end MuduoVerif.C03
