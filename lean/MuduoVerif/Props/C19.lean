import MuduoVerif.Proofs.RpcLife
import MuduoVerif.Proofs.RpcSkelTie
import MuduoVerif.Proofs.RpcLock
/-!
# C19 — every RPC completes exactly once with the response that carries its own id

Quantification: `reach asserts hasServices acts` is the channel after **any** list `acts` of the model's
atomic steps (`Model/Rpc.lean`): any number of `CallMethod` calls, each split into id fetch / insert under
the lock / send, interleaved in any way with each other (= any number of calling threads) and with the loop
thread's steps; arriving messages of every type with any id (answers in any order, duplicated, never sent,
for ids not handed out yet or never), with payload, unparsable payload, error, both, neither; requests for
known / unknown services and methods with parsable / unparsable payload, answered inside `CallMethod` or
later (`fireDone`, at any time, any number of times); both build flavours (`asserts`), channels with and
without services.  Steps that the code cannot take in a state (a `callSend` before its `callInsert`, a
`recv` while the loop thread is between its critical section and the completion) are no-ops of the model,
so arbitrary lists are exactly the interleavings.

The log is newest-first: in `log = post ++ e :: pre` the events of `pre` happened before `e`, those of
`post` after it.
-/
namespace MuduoVerif.C19
open MuduoVerif.Rpc MuduoVerif.Gen.Rpc

/-- the channel after a history of atomic steps -/
abbrev reach (asserts hasServices : Bool) (acts : List Act) : Chan := run asserts hasServices acts

/-- the lock scopes the atomic steps of the model stand for (extracted from the source) -/
theorem tie_locks : callInsertUnderLock = true ∧ respLookupUnderLock = true ∧ respRunOutsideLock = true ∧ callSendOutsideLock = true := by
  decide

/-- T1, statement order: in `~RpcChannel`, `CallMethod`, `onMessage`, `onRpcMessage` (RESPONSE, REQUEST and ERROR
branch), `doneCallback` and `RpcServer::onConnection` the source performs the same significant actions - id fetch,
field sets of the outgoing frames, insert / erase on `outstandings_`, sends, parses, allocations, `unique_ptr` scopes,
`delete`s, `Run()`, `service->CallMethod`, stores, assertions - in the same order and under the same nesting of the
same sites (generated guards, `MutexLockGuard` scopes, the destructor's loop) as `Model/Rpc.lean`
(`Model/RpcSkelDecl.lean`); re-extracted from /repo on every run (`Generated/RpcSkel.lean`), proved in
`Proofs/RpcSkelTie.lean` -/
theorem statement_order_tied :
    Gen.RpcSkel.dtor = RpcSkel.Decl.dtor ∧
    Gen.RpcSkel.callMethod = RpcSkel.Decl.callMethod ∧
    Gen.RpcSkel.onMessage = RpcSkel.Decl.onMessage ∧
    Gen.RpcSkel.onRpcMessage = RpcSkel.Decl.onRpcMessage ∧
    Gen.RpcSkel.doneCallback = RpcSkel.Decl.doneCallback ∧
    Gen.RpcSkel.onConnection = RpcSkel.Decl.onConnection :=
  RpcSkel.skeletons_agree

/-- the RESPONSE branch asserts nothing about the peer's message (T1: `respAssert` is re-extracted from
`RpcChannel::onRpcMessage` on every run; with the `assert(has_response || has_error)` that finding C19-F1 was
about, this theorem - and with it `complete_once` - does not compile) -/
theorem assert_removed : ∀ a b : Bool, respAssert a b := fun _ _ => trivial

section
variable (asserts hs : Bool) (acts : List Act)

/-- the model's process never stops: no assertion of the channel can fail on any input, in either flavour -/
theorem never_halts : (reach asserts hs acts).halted = false ∧ Ev.abort ∉ (reach asserts hs acts).log := by
  have hi : HaltInv (reach asserts hs acts) := HaltInv.run asserts hs acts
  have hh : (reach asserts hs acts).halted = false := by
    cases h : (reach asserts hs acts).halted with
    | false => rfl
    | true =>
      obtain ⟨m, _, hw⟩ := hi.halt h
      exact absurd (assert_removed _ _) hw
  exact ⟨hh, hi.noAbort hh⟩

/-- **ids_unique**: the ids handed out on a channel are pairwise distinct, for any number of calling
threads; they are positive; a REQUEST frame carries the id of its call; two frames with the same id
belong to the same call; a call sends at most one frame -/
theorem ids_unique :
    (∀ j k, j < (reach asserts hs acts).nextCall → k < (reach asserts hs acts).nextCall → j ≠ k →
      (reach asserts hs acts).idOf j ≠ (reach asserts hs acts).idOf k) ∧
    (∀ k, k < (reach asserts hs acts).nextCall →
      1 ≤ (reach asserts hs acts).idOf k ∧ (reach asserts hs acts).idOf k ≤ (reach asserts hs acts).counter) ∧
    (∀ i k, Ev.sent i k ∈ (reach asserts hs acts).log →
      i = (reach asserts hs acts).idOf k ∧ k < (reach asserts hs acts).nextCall) ∧
    (∀ i j k, Ev.sent i j ∈ (reach asserts hs acts).log → Ev.sent i k ∈ (reach asserts hs acts).log → j = k) ∧
    (∀ k, sentCount k (reach asserts hs acts).log ≤ 1) := by
  have inv : CallInv (reach asserts hs acts) := CallInv.run asserts hs acts
  have ti : TraceInv (reach asserts hs acts) := TraceInv.run asserts hs acts
  have hw : ∀ i k, Ev.sent i k ∈ (reach asserts hs acts).log →
      i = (reach asserts hs acts).idOf k ∧ k < (reach asserts hs acts).nextCall := by
    intro i k h
    obtain ⟨a, b⟩ := inv.wire i k h
    exact ⟨a, inv.alive k (by rw [b]; simp)⟩
  refine ⟨?_, inv.idpos, hw, ?_, ?_⟩
  · intro j k hj hk hne he
    exact hne (inv.inj j k hj hk he)
  · intro i j k h1 h2
    obtain ⟨a1, b1⟩ := hw i j h1
    obtain ⟨a2, b2⟩ := hw i k h2
    exact inv.inj j k b1 b2 (a1.symm.trans a2)
  · intro k
    rw [ti.sentOnce k]
    split <;> omega

/-- **complete_once**, the direction that needs no hypothesis: a closure runs at most once -/
theorem complete_at_most_once (k : Nat) : ranCount k (reach asserts hs acts).log ≤ 1 :=
  ((CallInv.run asserts hs acts).once k).1

/-- **complete_once**, "with its own response": whenever the closure of call `k` runs, the message that
made it run is a RESPONSE carrying the id of call `k`, it is the message that arrived last before the
closure ran, and what the closure finds in its response object is the parsed payload of that very
message (nothing, if the message has no payload or the payload does not parse) -/
theorem complete_with_own_response (post pre : List Ev) (k i : Nat) (v : Option Nat)
    (h : (reach asserts hs acts).log = post ++ Ev.ran k i v :: pre) :
    i = (reach asserts hs acts).idOf k ∧
    ∃ m mid pre', pre = mid ++ Ev.arrived m :: pre' ∧ m.type = .RESPONSE ∧ m.id = i ∧
      v = m.payload.bind Body.parse ∧ ∀ e ∈ mid, e.isArrived = false := by
  have inv : CallInv (reach asserts hs acts) := CallInv.run asserts hs acts
  have ti : TraceInv (reach asserts hs acts) := TraceInv.run asserts hs acts
  refine ⟨(inv.own k i v (by rw [h]; simp)).1, ?_⟩
  obtain ⟨m, mid, pre', a, b, c, d, e⟩ := ti.cause post pre k i v h
  exact ⟨m, mid, pre', a, b, c, by rw [d, view_eq], e⟩

/-- **complete_once**, "exactly once if a response with its id arrives", in both build flavours and for
every RESPONSE (with payload, unparsable payload, error, both, neither).  A RESPONSE `m` arrives after the
REQUEST frame of call `k` left with the id `m` carries.  Then the closure of `k` has run exactly once (or
the loop thread stands between its critical section and the completion of `k`); and if `m` is the first
such response, the closure ran after this arrival with the payload of `m` (or the loop thread is about to
run it with `m`) -/
theorem complete_once (post pre : List Ev) (m : Msg) (k : Nat)
    (h : (reach asserts hs acts).log = post ++ Ev.arrived m :: pre) (ht : m.type = .RESPONSE)
    (hs' : Ev.sent m.id k ∈ pre) :
    (ranCount k (reach asserts hs acts).log = 1 ∨ ∃ m', (reach asserts hs acts).pending = some (k, m')) ∧
    (ranCount k pre = 0 →
      (Ev.ran k m.id (m.payload.bind Body.parse) ∈ post ∧ ranCount k (reach asserts hs acts).log = 1) ∨
      (reach asserts hs acts).pending = some (k, m)) := by
  have inv : CallInv (reach asserts hs acts) := CallInv.run asserts hs acts
  have ti : TraceInv (reach asserts hs acts) := TraceInv.run asserts hs acts
  have hle := (inv.once k).1
  have hmono : ranCount k pre ≤ ranCount k (reach asserts hs acts).log := by
    rw [h, ranCount, ranCount, List.countP_append, List.countP_cons]; omega
  have hfirst : ranCount k pre = 0 →
      (Ev.ran k m.id (m.payload.bind Body.parse) ∈ post ∧ ranCount k (reach asserts hs acts).log = 1) ∨
      (reach asserts hs acts).pending = some (k, m) := fun hr =>
    (ti.first post pre m k h ht hs' hr (.inr (assert_removed _ _))).imp_left fun h1 => by
      rw [view_eq] at h1
      have : 0 < ranCount k (reach asserts hs acts).log :=
        List.countP_pos_iff.mpr ⟨_, by rw [h]; exact List.mem_append_left _ h1, by simp [isRan]⟩
      exact ⟨h1, by omega⟩
  refine ⟨?_, hfirst⟩
  by_cases hr : ranCount k pre = 0
  · exact (hfirst hr).imp (·.2) (⟨m, ·⟩)
  · exact .inl (by omega)

/-- **complete_once**, one message at a time: in any reachable state in which the loop thread is idle, a
RESPONSE whose id is that of a registered call `k` that has not completed - whether its REQUEST frame has
left already or not - completes exactly that call: the entry is erased, the payload is parsed into the
response object of `k` (if the message has one), the closure of `k` runs once and sees the parsed payload,
the response object is freed once; no other call is affected -/
theorem response_completes (m : Msg) (k : Nat) (ht : m.type = .RESPONSE)
    (hp : (reach asserts hs acts).pending = none)
    (hk : Registered (reach asserts hs acts) k) (hid : (reach asserts hs acts).idOf k = m.id)
    (hr : ranCount k (reach asserts hs acts).log = 0) :
    (reach asserts hs (acts ++ [.recv m, .finish])).log =
      Ev.free (.resp k) :: Ev.ran k m.id (m.payload.bind Body.parse) ::
        ((if m.payload.isSome then [Ev.parse k] else []) ++ Ev.arrived m :: (reach asserts hs acts).log) ∧
    (reach asserts hs (acts ++ [.recv m, .finish])).outstanding = eraseKey m.id (reach asserts hs acts).outstanding ∧
    (reach asserts hs (acts ++ [.recv m, .finish])).pending = none ∧
    (∀ j, ranCount j (reach asserts hs (acts ++ [.recv m, .finish])).log =
      (if j = k then 1 else 0) + ranCount j (reach asserts hs acts).log) ∧
    (∀ j, freeCount j (reach asserts hs (acts ++ [.recv m, .finish])).log =
      (if j = k then 1 else 0) + freeCount j (reach asserts hs acts).log) := by
  have hlook : lookup m.id (reach asserts hs acts).outstanding = some k :=
    hid ▸ (CallInv.run asserts hs acts).reg k hk hr (by simp [hp])
  have hc := fun j => counts_finish k j m.id (m.payload.bind Body.parse) m.payload.isSome
    (Ev.arrived m :: (reach asserts hs acts).log)
  simp only [reach, run_append, List.foldl] at *
  simp only [recv_finish_response _ m (never_halts asserts hs acts).1 hp ht (.inr (assert_removed _ _)), hlook]
  exact ⟨trivial, trivial, trivial, fun j => by rw [(hc j).1, ranCount_cons_of_false j _ _ rfl],
    fun j => by rw [(hc j).2, freeCount_cons_of_false j _ _ rfl]⟩

/-- what a **bare RESPONSE** does (neither payload nor error - the message finding C19-F1 was about), in
both flavours: it is an answer like any other; the call with its id completes, its closure runs once and
finds the response object untouched (nothing is parsed into it), the object is freed once -/
theorem bare_response_completes (m : Msg) (k : Nat) (ht : m.type = .RESPONSE)
    (hbare : m.payload = none ∧ m.err = none)
    (hp : (reach asserts hs acts).pending = none)
    (hk : Registered (reach asserts hs acts) k) (hid : (reach asserts hs acts).idOf k = m.id)
    (hr : ranCount k (reach asserts hs acts).log = 0) :
    (reach asserts hs (acts ++ [.recv m, .finish])).log =
      Ev.free (.resp k) :: Ev.ran k m.id none :: Ev.arrived m :: (reach asserts hs acts).log ∧
    (reach asserts hs (acts ++ [.recv m, .finish])).halted = false ∧
    ranCount k (reach asserts hs (acts ++ [.recv m, .finish])).log = 1 ∧
    freeCount k (reach asserts hs (acts ++ [.recv m, .finish])).log = 1 := by
  obtain ⟨h1, _, _, h4, h5⟩ := response_completes asserts hs acts m k ht hp hk hid hr
  have inv : CallInv (reach asserts hs acts) := CallInv.run asserts hs acts
  have hf0 : freeCount k (reach asserts hs acts).log = 0 :=
    (inv.out ((reach asserts hs acts).idOf k) k (inv.reg k hk hr (by rw [hp]; simp))).2.2.2.1
  refine ⟨?_, (never_halts asserts hs _).1, ?_, ?_⟩
  · rw [h1]; simp [hbare.1]
  · rw [h4 k, hr]; simp
  · rw [h5 k, hf0]; simp

/-- **no_foreign_completion**: the loop thread is idle and a RESPONSE arrives whose id is unknown (no
registered call has it: never handed out, not inserted yet, foreign) or already consumed (the call with
this id has completed).  Handling it (`recv` and the completion step) logs the arrival and nothing else -
no closure runs, nothing is parsed into, nothing is freed - and `outstandings_` is left as it was -/
theorem no_foreign_completion (m : Msg) (ht : m.type = .RESPONSE)
    (hp : (reach asserts hs acts).pending = none)
    (hun : ∀ k, Registered (reach asserts hs acts) k → (reach asserts hs acts).idOf k = m.id →
      1 ≤ ranCount k (reach asserts hs acts).log) :
    (reach asserts hs (acts ++ [.recv m, .finish])).log = Ev.arrived m :: (reach asserts hs acts).log ∧
    (reach asserts hs (acts ++ [.recv m, .finish])).outstanding = (reach asserts hs acts).outstanding ∧
    (reach asserts hs (acts ++ [.recv m, .finish])).pending = none ∧
    (∀ k, ranCount k (reach asserts hs (acts ++ [.recv m, .finish])).log = ranCount k (reach asserts hs acts).log) ∧
    (∀ k, freeCount k (reach asserts hs (acts ++ [.recv m, .finish])).log = freeCount k (reach asserts hs acts).log) := by
  have inv : CallInv (reach asserts hs acts) := CallInv.run asserts hs acts
  have hlook : lookup m.id (reach asserts hs acts).outstanding = none := by
    cases hl : lookup m.id (reach asserts hs acts).outstanding with
    | none => rfl
    | some k =>
      obtain ⟨a, b, c, _⟩ := inv.out m.id k hl
      have := hun k b a
      omega
  simp only [reach, run_append, List.foldl] at *
  simp only [recv_finish_response _ m (never_halts asserts hs acts).1 hp ht (.inr (assert_removed _ _)), hlook]
  exact ⟨trivial, trivial, hp, fun k => ranCount_cons_of_false k _ _ rfl, fun k => freeCount_cons_of_false k _ _ rfl⟩

/-- **no double free, no use after free** (the heap-cell events of the model): the response object of a
call is freed at most once - exactly when its closure has run -; after the free no event touches it (no
parse, no closure run, no second free, no use); the caller side never uses a dead object at all -/
theorem no_double_free_no_use_after_free :
    (∀ k, freeCount k (reach asserts hs acts).log ≤ 1) ∧
    (∀ k, freeCount k (reach asserts hs acts).log = ranCount k (reach asserts hs acts).log) ∧
    (∀ post pre k, (reach asserts hs acts).log = post ++ Ev.free (.resp k) :: pre → ∀ e ∈ post, touches k e = false) ∧
    (∀ c, Ev.uaf c ∈ (reach asserts hs acts).log → ∃ r, c = .closure r) := by
  have inv : CallInv (reach asserts hs acts) := CallInv.run asserts hs acts
  have ti : TraceInv (reach asserts hs acts) := TraceInv.run asserts hs acts
  exact ⟨fun k => (inv.once k).2, ti.freeEq, ti.afterFree, ti.noUaf⟩

/-- `~RpcChannel` (on the loop thread, between two messages): destructor and completions together free the
response object of every registered call exactly once, and of no other call -/
theorem destroy_frees_once (hp : (reach asserts hs acts).pending = none) (k : Nat) :
    freeCount k (destroyEvents (reach asserts hs acts)) + freeCount k (reach asserts hs acts).log =
      if Registered (reach asserts hs acts) k then 1 else 0 :=
  Rpc.destroy_frees_once (CallInv.run asserts hs acts) (TraceInv.run asserts hs acts) hp k

/-- **outstanding_exact**: `outstandings_` maps `i` to call `k` exactly when `k` fetched the id `i`, was
inserted, has not completed and is not being completed by the loop thread right now; no key occurs twice,
so the list is that map -/
theorem outstanding_exact :
    (∀ i k, lookup i (reach asserts hs acts).outstanding = some k ↔
      ((reach asserts hs acts).idOf k = i ∧ Registered (reach asserts hs acts) k ∧
       ranCount k (reach asserts hs acts).log = 0 ∧ ∀ m, (reach asserts hs acts).pending ≠ some (k, m))) ∧
    ((reach asserts hs acts).outstanding.map Prod.fst).Nodup ∧
    (∀ i k, (i, k) ∈ (reach asserts hs acts).outstanding ↔ lookup i (reach asserts hs acts).outstanding = some k) := by
  have inv : CallInv (reach asserts hs acts) := CallInv.run asserts hs acts
  have ti : TraceInv (reach asserts hs acts) := TraceInv.run asserts hs acts
  refine ⟨?_, ti.keys, ?_⟩
  · intro i k
    constructor
    · intro h
      obtain ⟨a, b, c, _, e⟩ := inv.out i k h
      exact ⟨a, b, c, e⟩
    · rintro ⟨a, b, c, e⟩
      rw [← a]
      exact inv.reg k b c e
  · intro i k
    exact ⟨lookup_of_mem _ ti.keys i k, mem_of_lookup _ i k⟩

/-- a call that is registered has either completed, or is being completed, or is in `outstandings_`:
an inserted call is never lost -/
theorem registered_accounted (k : Nat) (h : Registered (reach asserts hs acts) k) :
    ranCount k (reach asserts hs acts).log = 1 ∨ (∃ m, (reach asserts hs acts).pending = some (k, m)) ∨
    lookup ((reach asserts hs acts).idOf k) (reach asserts hs acts).outstanding = some k := by
  have inv : CallInv (reach asserts hs acts) := CallInv.run asserts hs acts
  by_cases hr : ranCount k (reach asserts hs acts).log = 0
  · by_cases hp : ∃ m, (reach asserts hs acts).pending = some (k, m)
    · exact Or.inr (Or.inl hp)
    · exact Or.inr (Or.inr (inv.reg k h hr (fun m hm => hp ⟨m, hm⟩)))
  · have := (inv.once k).1
    left; omega

/-- **one_reply**.  Request number `r` (the `r`-th REQUEST the channel handled) was the message `m`.
Hypothesis on the service (`ServiceDoneOnce`): it invokes a done-callback only while it holds it.  Then:
the channel has sent at most one RESPONSE for `r`; exactly one unless the service still holds the
done-callback (possible only for a valid request to a method that answers later); every RESPONSE for `r`
carries the id of `m` and is the reply `expected` demands (`expected_spec`: the service's answer, or
NO_SERVICE / NO_METHOD / INVALID_REQUEST); the service was called exactly once if the request is valid,
else not at all, with the parsed request; the reply's response object is freed at most once; no
done-callback is used after it deleted itself -/
theorem one_reply (hsvc : ServiceDoneOnce asserts hs acts) (r : Nat) (m : Msg)
    (hr : (reach asserts hs acts).reqs r = some m) :
    replyCount r (reach asserts hs acts).log ≤ 1 ∧
    (held r (reach asserts hs acts).closures = 0 → replyCount r (reach asserts hs acts).log = 1) ∧
    (held r (reach asserts hs acts).closures ≠ 0 → m.meth = some .defer ∧ (expected hs m).1.isSome = true) ∧
    (∀ id p e, Ev.reply r id p e ∈ (reach asserts hs acts).log → id = m.id ∧ (p, e) = expected hs m) ∧
    dispatchCount r (reach asserts hs acts).log = (if (expected hs m).1.isSome then 1 else 0) ∧
    (∀ p, Ev.dispatch r p ∈ (reach asserts hs acts).log → m.request.parse = some p) ∧
    freeSrvCount r (reach asserts hs acts).log ≤ 1 ∧
    (∀ c, Ev.uaf c ∉ (reach asserts hs acts).log) := by
  have si : SrvInv (reach asserts hs acts) := SrvInv.run asserts hs acts
  obtain ⟨h1, h2, h3, h4, h5⟩ := (run_consts asserts hs acts).2 ▸ si.account hr
  refine ⟨by rw [h1]; split <;> omega, fun h => by simp [h1, h], fun h => ?_, h4, h2, h5,
    Nat.le_trans h3 (by rw [h1]; split <;> omega), no_uaf_foldl acts _ (by simp [init]) hsvc⟩
  obtain ⟨c, hc, hcr⟩ := List.countP_pos_iff.mp (Nat.pos_of_ne_zero h)
  obtain ⟨m', a, _, c', d⟩ := si.clos c hc
  cases hr.symm.trans ((of_decide_eq_true hcr) ▸ a)
  exact ⟨d, by rw [← (run_consts asserts hs acts).2, c']; rfl⟩

/-- the part of `one_reply` that does not need the hypothesis on the service: in the model a second
invocation of a done-callback is a use-after-free event, not a second reply -/
theorem at_most_one_reply (r : Nat) : replyCount r (reach asserts hs acts).log ≤ 1 := by
  have si : SrvInv (reach asserts hs acts) := SrvInv.run asserts hs acts
  cases hr : (reach asserts hs acts).reqs r with
  | some m => rw [(si.account hr).1]; split <;> omega
  | none =>
    have := si.log r
    rw [hr] at this
    rw [replyCount, countP_ofReq (r := r) (by intro e; cases e <;> simp [isReply, Ev.ofReq]), this]; simp

/-- every REQUEST the channel handled has a request number (so `one_reply` speaks about every request),
and the numbered requests are exactly the REQUESTs that arrived -/
theorem requests_numbered :
    (∀ m, Ev.arrived m ∈ (reach asserts hs acts).log → m.type = .REQUEST → ∃ r, (reach asserts hs acts).reqs r = some m) ∧
    (∀ r m, (reach asserts hs acts).reqs r = some m →
      r < (reach asserts hs acts).nextReq ∧ m.type = .REQUEST ∧ Ev.arrived m ∈ (reach asserts hs acts).log) := by
  have si : SrvInv (reach asserts hs acts) := SrvInv.run asserts hs acts
  exact ⟨si.numbered, fun r m h => ⟨si.lt_of_req h, si.known r m h⟩⟩

end

/-- what `expected` says, case by case: no services or unknown service → NO_SERVICE; unknown method →
NO_METHOD; request does not parse → INVALID_REQUEST; else the service's answer to the parsed request -/
theorem expected_spec (hs : Bool) (m : Msg) :
    ((hs = false ∨ m.serviceFound = false) → expected hs m = (none, some .NO_SERVICE)) ∧
    (hs = true → m.serviceFound = true → m.meth = none → expected hs m = (none, some .NO_METHOD)) ∧
    (hs = true → m.serviceFound = true → m.meth.isSome = true → m.request.parse = none →
      expected hs m = (none, some .INVALID_REQUEST)) ∧
    (∀ p, hs = true → m.serviceFound = true → m.meth.isSome = true → m.request.parse = some p →
      expected hs m = (some p, none)) := by
  unfold expected
  refine ⟨fun h => if_pos h, fun h1 h2 h3 => ?_, fun h1 h2 h3 h4 => ?_, fun p h1 h2 h3 h4 => ?_⟩
  · rw [if_neg (by simp [h1, h2]), h3]
  · obtain ⟨me, hme⟩ := Option.isSome_iff_exists.mp h3
    rw [if_neg (by simp [h1, h2]), hme, h4]
  · obtain ⟨me, hme⟩ := Option.isSome_iff_exists.mp h3
    rw [if_neg (by simp [h1, h2]), hme, h4]

/-- `RpcServer`: after any history of connections coming up, going down and channel steps, a connection
has at most one channel, and that channel is a reachable state of a channel with services - every theorem
above holds for it; a step on one connection leaves every other connection's channel alone -/
theorem server_channels (asserts : Bool) (ops : List SrvOp) :
    ((Server.runOps asserts ops).chans.map Prod.fst).Nodup ∧
    (∀ c ch, (Server.runOps asserts ops).chan? c = some ch → ∃ acts, ch = reach asserts true acts) ∧
    (∀ c c' a, c' ≠ c → ((Server.runOps asserts ops).act c a).chan? c' = (Server.runOps asserts ops).chan? c') := by
  have h := ServerInv.runOps asserts ops
  refine ⟨h.one, ?_, fun c c' a hne => Server.act_other _ c c' a hne⟩
  intro c ch hc
  obtain ⟨e, hf, rfl⟩ := Option.map_eq_some_iff.mp hc
  exact h.reach e (List.mem_of_find?_eq_some hf)

/-! ### finding C19-F1 (repaired): a bare RESPONSE used to abort an asserts-on build -/

/-- corpus/C19/F1-bare-response-asserts.case (and bare-response-ndebug.case): two calls; a RESPONSE for
id 1 with neither payload nor error; a good RESPONSE for id 2 -/
def f1Acts : List Act :=
  [.callBegin, .callInsert 0, .callSend 0, .callBegin, .callInsert 1, .callSend 1,
   .recv { type := .RESPONSE, id := 1 }, .finish,
   .recv { type := .RESPONSE, id := 2, payload := some (.ok 5) }, .finish]

/-- the witness of the old defect on the model, now in both flavours alike: nothing halts, both calls
complete once - the first with an untouched response object -, nothing stays registered -/
theorem f1_witness_passes (asserts : Bool) :
    (reach asserts false f1Acts).halted = false ∧
    Ev.ran 0 1 none ∈ (reach asserts false f1Acts).log ∧ Ev.ran 1 2 (some 5) ∈ (reach asserts false f1Acts).log ∧
    ranCount 0 (reach asserts false f1Acts).log = 1 ∧ ranCount 1 (reach asserts false f1Acts).log = 1 ∧
    (reach asserts false f1Acts).outstanding = [] := by
  cases asserts <;> decide

/-! ### the hypotheses are satisfiable, the statements are not vacuous -/

/-- `complete_once` on the corpus case in the build with `assert`: the first call is completed by the bare
response with id 1 (the closure sees nothing), the second by the response with id 2, with payload 5 -/
example : ∃ post pre m k, (reach true false f1Acts).log = post ++ Ev.arrived m :: pre ∧ m.type = .RESPONSE ∧
    Ev.sent m.id k ∈ pre ∧ ranCount k pre = 0 ∧ ¬ m.wellFormed ∧ Ev.ran k m.id none ∈ post :=
  ⟨[.free (.resp 1), .ran 1 2 (some 5), .parse 1, .arrived { type := .RESPONSE, id := 2, payload := some (.ok 5) },
     .free (.resp 0), .ran 0 1 none],
    [.sent 2 1, .sent 1 0], { type := .RESPONSE, id := 1 }, 0,
    by decide, rfl, by decide, by decide, by decide, by decide⟩

example : ∃ post pre m k, (reach true false f1Acts).log = post ++ Ev.arrived m :: pre ∧ m.type = .RESPONSE ∧
    Ev.sent m.id k ∈ pre ∧ ranCount k pre = 0 ∧ m.wellFormed ∧ Ev.ran k m.id (some 5) ∈ post :=
  ⟨[.free (.resp 1), .ran 1 2 (some 5), .parse 1],
    [.free (.resp 0), .ran 0 1 none, .arrived { type := .RESPONSE, id := 1 }, .sent 2 1, .sent 1 0],
    { type := .RESPONSE, id := 2, payload := some (.ok 5) }, 1,
    by decide, rfl, by decide, by decide, by decide, by decide⟩

/-- `response_completes` / `bare_response_completes` apply to a call that is inserted but whose REQUEST
frame has not left yet (the peer guessed the id) -/
example : Registered (reach true false [.callBegin, .callInsert 0]) 0 ∧
    (reach true false [.callBegin, .callInsert 0]).idOf 0 = 1 ∧
    ranCount 0 (reach true false [.callBegin, .callInsert 0]).log = 0 ∧
    (reach true false [.callBegin, .callInsert 0]).pending = none ∧
    (reach true false [.callBegin, .callInsert 0]).halted = false ∧
    Ev.sent 1 0 ∉ (reach true false [.callBegin, .callInsert 0]).log := by
  decide

/-- a duplicate of an answered id and an id that was never handed out satisfy the hypothesis of
`no_foreign_completion` -/
example : (reach true false f1Acts).pending = none ∧
    ∀ i, i = 2 ∨ i = 7 → ∀ k, k < 2 → Registered (reach true false f1Acts) k → (reach true false f1Acts).idOf k = i →
      1 ≤ ranCount k (reach true false f1Acts).log := by
  refine ⟨by decide, ?_⟩
  intro i hi k hk
  have : k = 0 ∨ k = 1 := by omega
  rcases this with h | h <;> subst h <;> rcases hi with h | h <;> subst h <;> decide

/-- a server history: a synchronous request, a deferred one answered later, an unknown method -/
def srvActs : List Act :=
  [.recv { type := .REQUEST, id := 7, serviceFound := true, meth := some .sync, request := .ok 100 },
   .recv { type := .REQUEST, id := 7, serviceFound := true, meth := some .defer, request := .ok 101 },
   .recv { type := .REQUEST, id := 9, serviceFound := true, meth := none, request := .ok 103 },
   .fireDone 1]

example : ServiceDoneOnce true true srvActs := by
  intro pre r post h
  unfold srvActs at h
  rcases cons_split h with ⟨_, h2, _⟩ | ⟨p1, e1, h⟩
  · cases h2
  rcases cons_split h with ⟨_, h2, _⟩ | ⟨p2, e2, h⟩
  · cases h2
  rcases cons_split h with ⟨_, h2, _⟩ | ⟨p3, e3, h⟩
  · cases h2
  rcases cons_split h with ⟨e4, h2, _⟩ | ⟨p4, e4, h⟩
  · injection h2 with h2
    subst h2
    rw [e1, e2, e3, e4]
    decide
  · simp at h

example : (reach true true srvActs).log =
    [.free (.srvResp 1), .reply 1 7 (some 101) none,
     .reply 2 9 none (some .NO_METHOD), .arrived { type := .REQUEST, id := 9, serviceFound := true, meth := none, request := .ok 103 },
     .dispatch 1 101, .arrived { type := .REQUEST, id := 7, serviceFound := true, meth := some .defer, request := .ok 101 },
     .free (.srvResp 0), .reply 0 7 (some 100) none, .dispatch 0 100,
     .arrived { type := .REQUEST, id := 7, serviceFound := true, meth := some .sync, request := .ok 100 }] := by
  decide

/-- a second invocation of a done-callback violates `ServiceDoneOnce`, and the model shows the use after free -/
example : ¬ ServiceDoneOnce true true (srvActs ++ [.fireDone 1]) ∧
    Ev.uaf (.closure 1) ∈ (reach true true (srvActs ++ [.fireDone 1])).log := by
  refine ⟨?_, by decide⟩
  intro h
  have := h srvActs 1 [] rfl
  revert this
  decide

/-! ### the channel's mutex; completion closures that call back into their own channel (chained calls)

`Model/RpcLock.lean`: the machine `LChan` = the channel of `Model/Rpc.lean` + `held` (the loop thread keeps `mutex_` beyond
an atomic step - decided by the extracted lock scope of the RESPONSE branch) + the effect of a running closure (it may
issue `CallMethod` on its own channel: `chainBegin` · `chainInsert` · `chainSend`, any number of times, while other
threads' steps interleave) + the outcome `deadlocked`.  `lreach asserts hasServices acts` quantifies over **any** list of
its steps. -/

/-- the channel with its mutex after a history in which completion closures may call back into their channel -/
abbrev lreach (asserts hasServices : Bool) (acts : List LAct) : LChan := lrun asserts hasServices acts

section
variable (asserts hs : Bool) (acts : List LAct)

/-- **refinement**: whatever the closures do to their channel and however the mutex delays the other threads, the channel is
in a state that `Model/Rpc.lean` reaches by some history of its own steps (a chained call's steps are call steps; a
blocked or disabled step is no step) -/
theorem locked_refines : ∃ base, (lreach asserts hs acts).ch = reach asserts hs base :=
  lfoldl_refines asserts hs acts _ ⟨[], rfl⟩

/-- ... hence every statement proved for all histories of `Model/Rpc.lean` - every theorem above - holds for all
histories with chained calls -/
theorem chained_histories_inherit (P : Chan → Prop) (h : ∀ base, P (reach asserts hs base)) :
    P (lreach asserts hs acts).ch := by
  obtain ⟨base, hb⟩ := locked_refines asserts hs acts
  rw [hb]; exact h base

/-- **closure_runs_unlocked** (T1: `respLookupUnderLock`, `respRunOutsideLock` are re-extracted from
`RpcChannel::onRpcMessage` on every run; with a guard whose scope covers the completion the first conjunct - and with it
`Proofs/RpcLock.lean` - does not compile): the lock scope of the RESPONSE branch ends before parse and `Run()`; in every
reachable state the loop thread does not hold `mutex_` between two steps - in particular not while a completion closure
runs (from the look-up that found the call to the closure's return) -; nothing is ever deadlocked -/
theorem closure_runs_unlocked :
    lockHeldIntoCompletion = false ∧
    (lreach asserts hs acts).held = false ∧
    (∀ k m, (lreach asserts hs acts).ch.pending = some (k, m) → (lreach asserts hs acts).held = false) ∧
    (lreach asserts hs acts).deadlocked = false :=
  have h := LockInv.run asserts hs acts
  ⟨lockHeldIntoCompletion_eq, h.unlocked, fun _ _ _ => h.unlocked, h.live⟩

/-- **chained_call_registers**: the loop thread is running the closure of call `k` (it found `k` for the message `m` and has
not finished it) and the closure is not inside `CallMethod` already.  The closure issues a call on its own channel
(`chainOnce` = id fetch, insert under the lock, send).  Then: nothing deadlocks and the lock is free again; the new call is
call number `nextCall`, recorded as chained by `k`; it got the id `counter + 1`, which no earlier call has; the ids of the
earlier calls are untouched; it is registered: `outstandings_` maps its id to it and is otherwise unchanged; its REQUEST
frame left (the only new event); the completion of `k` is still in progress, with the same message; the new call's closure
has not run -/
theorem chained_call_registers (k : Nat) (m : Msg)
    (hp : (lreach asserts hs acts).ch.pending = some (k, m)) (hc : (lreach asserts hs acts).chain = none) :
    (lreach asserts hs (acts ++ chainOnce)).deadlocked = false ∧
    (lreach asserts hs (acts ++ chainOnce)).held = false ∧
    (lreach asserts hs (acts ++ chainOnce)).chain = none ∧
    (lreach asserts hs (acts ++ chainOnce)).chained =
      ((lreach asserts hs acts).ch.nextCall, k) :: (lreach asserts hs acts).chained ∧
    (lreach asserts hs (acts ++ chainOnce)).ch.nextCall = (lreach asserts hs acts).ch.nextCall + 1 ∧
    (lreach asserts hs (acts ++ chainOnce)).ch.idOf (lreach asserts hs acts).ch.nextCall = (lreach asserts hs acts).ch.counter + 1 ∧
    (∀ j, j < (lreach asserts hs acts).ch.nextCall →
      (lreach asserts hs (acts ++ chainOnce)).ch.idOf j = (lreach asserts hs acts).ch.idOf j ∧
      (lreach asserts hs acts).ch.idOf j ≠ (lreach asserts hs acts).ch.counter + 1) ∧
    Registered (lreach asserts hs (acts ++ chainOnce)).ch (lreach asserts hs acts).ch.nextCall ∧
    (∀ i, lookup i (lreach asserts hs (acts ++ chainOnce)).ch.outstanding =
      if i = (lreach asserts hs acts).ch.counter + 1 then some (lreach asserts hs acts).ch.nextCall
      else lookup i (lreach asserts hs acts).ch.outstanding) ∧
    (lreach asserts hs (acts ++ chainOnce)).ch.log =
      Ev.sent ((lreach asserts hs acts).ch.counter + 1) (lreach asserts hs acts).ch.nextCall :: (lreach asserts hs acts).ch.log ∧
    (lreach asserts hs (acts ++ chainOnce)).ch.pending = some (k, m) ∧
    ranCount (lreach asserts hs acts).ch.nextCall (lreach asserts hs (acts ++ chainOnce)).ch.log = 0 := by
  have hl := LockInv.run asserts hs acts
  obtain ⟨base, hb⟩ := locked_refines asserts hs acts
  have inv : CallInv (lreach asserts hs acts).ch := by rw [hb]; exact CallInv.run asserts hs base
  have hh : (lreach asserts hs acts).ch.halted = false := by rw [hb]; exact (never_halts asserts hs base).1
  simp only [lreach, lrun_append] at *
  generalize lrun asserts hs acts = s at *
  -- the state after the three steps, written out; every conjunct is read off it
  rw [chainOnce_eq hl.live hh hl.unlocked hp hc]
  have hborn := inv.born s.ch.nextCall (Nat.le_refl _)
  have hfr := inv.fresh s.ch.nextCall (by simp [Registered, hborn])
  refine ⟨hl.live, hl.unlocked, rfl, rfl, rfl, by simp [setAt_same], ?_, ?_, ?_, rfl, hp, ?_⟩
  · intro j hj
    have := inv.idpos j hj
    refine ⟨by simp [setAt, Nat.ne_of_lt hj], by omega⟩
  · right; simp [setAt_same]
  · intro i
    simp only [lookup_insertKey]
    by_cases h : i = s.ch.counter + 1
    · simp [h]
    · have : ¬ s.ch.counter + 1 = i := fun h' => h h'.symm
      simp [h, this]
  · show ranCount s.ch.nextCall (Ev.sent _ _ :: s.ch.log) = 0
    rw [ranCount_cons_of_false _ _ _ rfl]; exact hfr.1


/-- **chained histories**, restated for every history in which closures call back into their channel:
`complete_at_most_once`, `complete_with_own_response`, `complete_once` in full; of `ids_unique`: distinct ids, a wire id
names one call, one frame per call; of `no_double_free_no_use_after_free`: free = ran, no use after free on the caller
side; of `outstanding_exact`: the map and its distinct keys (the remaining conjuncts follow the same way from
`chained_histories_inherit`).  The chained calls are calls like any other: they get ids of their own, complete once,
with their own response -/
theorem chained_histories :
    ((∀ j k, j < (lreach asserts hs acts).ch.nextCall → k < (lreach asserts hs acts).ch.nextCall → j ≠ k →
        (lreach asserts hs acts).ch.idOf j ≠ (lreach asserts hs acts).ch.idOf k) ∧
      (∀ i j k, Ev.sent i j ∈ (lreach asserts hs acts).ch.log → Ev.sent i k ∈ (lreach asserts hs acts).ch.log → j = k) ∧
      (∀ k, sentCount k (lreach asserts hs acts).ch.log ≤ 1)) ∧
    (∀ k, ranCount k (lreach asserts hs acts).ch.log ≤ 1) ∧
    (∀ post pre k i v, (lreach asserts hs acts).ch.log = post ++ Ev.ran k i v :: pre →
      i = (lreach asserts hs acts).ch.idOf k ∧
      ∃ m mid pre', pre = mid ++ Ev.arrived m :: pre' ∧ m.type = .RESPONSE ∧ m.id = i ∧
        v = m.payload.bind Body.parse ∧ ∀ e ∈ mid, e.isArrived = false) ∧
    (∀ post pre m k, (lreach asserts hs acts).ch.log = post ++ Ev.arrived m :: pre → m.type = .RESPONSE →
      Ev.sent m.id k ∈ pre →
      (ranCount k (lreach asserts hs acts).ch.log = 1 ∨ ∃ m', (lreach asserts hs acts).ch.pending = some (k, m')) ∧
      (ranCount k pre = 0 →
        (Ev.ran k m.id (m.payload.bind Body.parse) ∈ post ∧ ranCount k (lreach asserts hs acts).ch.log = 1) ∨
        (lreach asserts hs acts).ch.pending = some (k, m))) ∧
    ((∀ k, freeCount k (lreach asserts hs acts).ch.log = ranCount k (lreach asserts hs acts).ch.log) ∧
      (∀ c, Ev.uaf c ∈ (lreach asserts hs acts).ch.log → ∃ r, c = .closure r)) ∧
    ((∀ i k, lookup i (lreach asserts hs acts).ch.outstanding = some k ↔
        ((lreach asserts hs acts).ch.idOf k = i ∧ Registered (lreach asserts hs acts).ch k ∧
         ranCount k (lreach asserts hs acts).ch.log = 0 ∧ ∀ m, (lreach asserts hs acts).ch.pending ≠ some (k, m))) ∧
      ((lreach asserts hs acts).ch.outstanding.map Prod.fst).Nodup) := by
  obtain ⟨base, hb⟩ := locked_refines asserts hs acts
  rw [hb]
  have hu := ids_unique asserts hs base
  have hf := no_double_free_no_use_after_free asserts hs base
  have ho := outstanding_exact asserts hs base
  exact ⟨⟨hu.1, hu.2.2.2.1, hu.2.2.2.2⟩, complete_at_most_once asserts hs base,
    fun post pre k i v h => complete_with_own_response asserts hs base post pre k i v h,
    fun post pre m k h ht hs' => complete_once asserts hs base post pre m k h ht hs',
    ⟨hf.2.1, hf.2.2.2⟩, ⟨ho.1, ho.2.1⟩⟩

/-- `response_completes` for the machine with the mutex: a RESPONSE for a registered call that has not completed - a
chained one (`chained_call_registers` puts it into this state) or any other - handled by an idle loop thread runs exactly
that call's closure once, with the message's payload, and leaves the lock free -/
theorem chained_call_completes (m : Msg) (k : Nat) (ht : m.type = .RESPONSE)
    (hp : (lreach asserts hs acts).ch.pending = none) (hc : (lreach asserts hs acts).chain = none)
    (hk : Registered (lreach asserts hs acts).ch k) (hid : (lreach asserts hs acts).ch.idOf k = m.id)
    (hr : ranCount k (lreach asserts hs acts).ch.log = 0) :
    (lreach asserts hs (acts ++ [.base (.recv m), .base .finish])).ch.log =
      Ev.free (.resp k) :: Ev.ran k m.id (m.payload.bind Body.parse) ::
        ((if m.payload.isSome then [Ev.parse k] else []) ++ Ev.arrived m :: (lreach asserts hs acts).ch.log) ∧
    (lreach asserts hs (acts ++ [.base (.recv m), .base .finish])).ch.outstanding =
      eraseKey m.id (lreach asserts hs acts).ch.outstanding ∧
    (lreach asserts hs (acts ++ [.base (.recv m), .base .finish])).ch.pending = none ∧
    (∀ j, ranCount j (lreach asserts hs (acts ++ [.base (.recv m), .base .finish])).ch.log =
      (if j = k then 1 else 0) + ranCount j (lreach asserts hs acts).ch.log) ∧
    (lreach asserts hs (acts ++ [.base (.recv m), .base .finish])).held = false ∧
    (lreach asserts hs (acts ++ [.base (.recv m), .base .finish])).deadlocked = false := by
  have hl := LockInv.run asserts hs acts
  have hl' := LockInv.run asserts hs (acts ++ [.base (.recv m), .base .finish])
  obtain ⟨base, hb⟩ := locked_refines asserts hs acts
  have key : (lreach asserts hs (acts ++ [.base (.recv m), .base .finish])).ch =
      reach asserts hs (base ++ [.recv m, .finish]) := by
    simp only [lreach, reach, lrun_append, run_append, List.foldl]
    rw [(lstep_recv_finish _ m hl.live hp hc).1, show (lrun asserts hs acts).ch = run asserts hs base from hb]
  rw [hb] at hp hk hid hr
  obtain ⟨a, b, c, d, _⟩ := response_completes asserts hs base m k ht hp hk hid hr
  rw [key, hb]
  exact ⟨a, b, c, d, hl'.unlocked, hl'.live⟩

end

/-- the **deadlock outcome**: had the loop thread kept `mutex_` into the completion (`held`), the `CallMethod` that a closure
issues on its own channel would block at its `MutexLockGuard` for ever: the machine is `deadlocked`, the chained call is
never registered, and whatever is attempted afterwards (`acts`) changes nothing - no closure of any call still outstanding
ever runs.  (`closure_runs_unlocked`: with the lock scopes of the source this state is not reachable.) -/
theorem reentry_under_lock_deadlocks (s : LChan) (k' : Nat) (hd : s.deadlocked = false) (hh : s.ch.halted = false)
    (hu : s.held = true) (hc : s.chain = some k') (hst : atInsert s.ch k' = true) (acts : List LAct) :
    (acts.foldl lstep (lstep s .chainInsert)).deadlocked = true ∧
    (acts.foldl lstep (lstep s .chainInsert)).ch = s.ch ∧
    ¬ Registered s.ch k' := by
  rw [chainInsert_deadlocks hd hh hu hc hst, lfoldl_deadlocked acts _ rfl]
  refine ⟨rfl, rfl, ?_⟩
  simp only [atInsert, insertBeforeSend_eq, if_true, decide_eq_true_eq] at hst
  simp [Registered, hst]

/-! ### chained calls: the statements are not vacuous -/

/-- a chain of depth 2: call 0 (id 1); its closure, run for an answer with payload 5, issues call 1 (id 2); the closure
of call 1, run for an error reply, issues call 2 (id 3); call 2 is answered with payload 7 -/
def chainActs : List LAct :=
  [.base .callBegin, .base (.callInsert 0), .base (.callSend 0),
   .base (.recv { type := .RESPONSE, id := 1, payload := some (.ok 5) })] ++ chainOnce ++ [.base .finish,
   .base (.recv { type := .RESPONSE, id := 2, err := some 3 })] ++ chainOnce ++ [.base .finish,
   .base (.recv { type := .RESPONSE, id := 3, payload := some (.ok 7) }), .base .finish]

example : (lreach true false chainActs).chained = [(2, 1), (1, 0)] ∧
    (lreach true false chainActs).deadlocked = false ∧ (lreach true false chainActs).held = false ∧
    (lreach true false chainActs).ch.outstanding = [] ∧
    (lreach true false chainActs).ch.log =
      [.free (.resp 2), .ran 2 3 (some 7), .parse 2, .arrived { type := .RESPONSE, id := 3, payload := some (.ok 7) },
       .free (.resp 1), .ran 1 2 none, .sent 3 2, .arrived { type := .RESPONSE, id := 2, err := some 3 },
       .free (.resp 0), .ran 0 1 (some 5), .parse 0, .sent 2 1, .arrived { type := .RESPONSE, id := 1, payload := some (.ok 5) },
       .sent 1 0] := by
  decide

/-- the hypotheses of `chained_call_registers` hold while the first closure runs -/
example : (lreach true false (chainActs.take 4)).ch.pending = some (0, { type := .RESPONSE, id := 1, payload := some (.ok 5) }) ∧
    (lreach true false (chainActs.take 4)).chain = none := by
  decide

/-- the state that `reentry_under_lock_deadlocks` speaks about: the same history, had the lock been kept -/
example : ∃ s : LChan, s.deadlocked = false ∧ s.ch.halted = false ∧ s.held = true ∧ s.chain = some 1 ∧ atInsert s.ch 1 = true ∧
    ranCount 0 s.ch.log = 0 :=
  ⟨{ lreach true false (chainActs.take 5) with held := true }, by decide⟩

end MuduoVerif.C19
