import MuduoVerif.Proofs.Fold
import MuduoVerif.Proofs.Client
import MuduoVerif.Proofs.ClientSkelTie
/-!
# C12 — a client connects once per cycle, backs off, obeys stop/disconnect

The property theorems with their proofs (lemmas: `Proofs/Client*.lean`).  The model is `Model/Client.lean`
(`Connector` + `TcpClient` + the parts of `TcpConnection`, `Channel`, `TimerQueue` and the functor
queue a client's user can observe); constants, the delay update, the errno table, every state test,
the destructor's branches and how `shutdown()`'s functor holds the connection are generated from the
sources (`Generated/Client.lean`, `Generated/Conn.lean`).

**Quantification.**  `ins : List In` is any history of `connect / disconnect / stop / enableRetry /
destroy / holdRef / dropRef` (from the loop thread or a foreign thread), of operations the user's
connection callback performs on the client from inside the UP / DOWN report (`hookUp op`, `hookDown op`
register `disconnect / stop / connect / query connection()` for the next report; the model runs them at
the point where `connectEstablished()` / `handleClose()` call the callback), clock advances, loop
iterations with *any* list of reported channels and event masks, and any results of `::connect`,
`SO_ERROR`, self-connect test and `readv`; both build flavours (`asserts`).  The scope guard
`Guarded` (a decidable predicate on the history, `Proofs/ClientOps.lean`) says:
* `connect()` only while no attempt, connection, pending retry timer or queued `connect()` of that
  client is outstanding (the property's own quantifier), and only on a live client; since the F33 fix a pending
  retry timer of a cycle that `stop()` has ended is no obstacle: `connect()` on the loop thread with that timer still
  armed is inside (`connectOk`), and once the loop has run `stop()`'s functor the timer is gone anyway
  (`stale_timer_cancelled`).  Still outside: `connect()` from ANOTHER thread in the window in which `stop()`'s functor
  is still queued and the stopped cycle's timer still armed (the timer may fire before the queued functors run; the
  invariant does not cover an attempt with a `connect()` queued behind it) - the harness runs these histories against
  the oracle only;
* `disconnect() / stop() / enableRetry()` only on a live client;
* from inside the UP callback never `connect()` (a connection is outstanding: the same quantifier); from inside
  the DOWN callback `connect()` only by a client that does not reconnect by itself (`enableRetry` and a registered
  `hookDown connect` exclude each other: both would start an attempt);
* `~TcpClient` on the loop thread (`Who.loop`; the foreign-thread case is F11, see the end);
* the user drops a connection reference only if the connection is down or somebody else still
  holds it (`TcpConnection`'s own contract: its destructor asserts `kDisconnected`).

**How the statements are phrased.**  `scan` (`Proofs/ClientSpec.lean`) is an automaton over event
traces that does not mention the model; the invariant proved for all guarded histories says that
the model's trace is accepted by it and that its summary matches the model's state.  The theorems
below unfold what acceptance means.  The ghost marks `Ev.ghost` in a trace are the user's calls
(`stop_marks`, `connect_marks`, `destroy_marks`) and the start of a connect cycle
(`Connector::startCycleInLoop`, `Connector::restart`).
-/
namespace MuduoVerif.C12
open MuduoVerif.Client MuduoVerif.Gen.Client

/-- the property's schedule: delay before the i-th consecutive retry of a cycle, in ms -/
abbrev specDelay (i : Nat) : Nat := Client.specDelay i

/-- the T1-translated update of `Connector::retry` walks the schedule -/
theorem next_delay_spec (i : Nat) : nextDelay (specDelay i) = specDelay (i + 1) := nextDelay_spec i

theorem spec_delay_formula (i : Nat) : specDelay i = min (500 * 2 ^ i) 30000 := rfl

section
variable (asserts : Bool) (ins : List In) (hg : Guarded (init asserts) ins)
include hg

/-- **no_abort**: in no guarded history, in either build flavour, does an assertion fail or does a
step touch a destroyed object; the process never dies -/
theorem no_abort :
    (reach asserts ins).dead = false ∧
    ∀ w, Ev.abort w ∉ (reach asserts ins).trace ∧ Ev.uaf w ∉ (reach asserts ins).trace :=
  bnd_no_bad (reach_bnd asserts ins hg)

/-- **socket_once**: every socket is created once; it is handed over to a connection xor closed by
the connector, exactly once — unless it is the socket of the attempt in progress, of which there is
at most one and which is watched by the connector's channel; a handed-over descriptor is closed by
`~TcpConnection` at most once, after DOWN, which comes after UP, which comes after the hand-over -/
theorem socket_once (k : Nat) :
    (reach asserts ins).trace.count (.sockCreated k) = (if k < (reach asserts ins).nsock then 1 else 0) ∧
    (k < (reach asserts ins).nsock →
      (reach asserts ins).trace.count (.handedOver k) + (reach asserts ins).trace.count (.sockClosed k) =
        (if (reach asserts ins).sockSt[k]? = some .opened then 0 else 1)) ∧
    ((reach asserts ins).sockSt[k]? = some .opened →
      (reach asserts ins).cstate = .kConnecting ∧ (reach asserts ins).chan = some k ∧ (reach asserts ins).chanOn = true) ∧
    (reach asserts ins).trace.count (.connClosed k) ≤ (reach asserts ins).trace.count (.down k) ∧
    (reach asserts ins).trace.count (.down k) ≤ (reach asserts ins).trace.count (.up k) ∧
    (reach asserts ins).trace.count (.up k) ≤ (reach asserts ins).trace.count (.handedOver k) ∧
    (reach asserts ins).trace.count (.handedOver k) ≤ 1 :=
  bnd_socket (reach_bnd asserts ins hg) k

/-- no socket leaks in a quiescent state: when no attempt is in progress every socket ever created
has been handed over or closed (stop while connecting, error + writable in one dispatch,
self-connect, refused connects, destruction in any state: all are histories) -/
theorem no_leak_quiescent (hq : (reach asserts ins).cstate ≠ .kConnecting) (k : Nat) (hk : k < (reach asserts ins).nsock) :
    (reach asserts ins).trace.count (.handedOver k) + (reach asserts ins).trace.count (.sockClosed k) = 1 := by
  obtain ⟨_, h2, h3, _⟩ := socket_once asserts ins hg k
  rw [h2 hk, if_neg]
  intro ho; exact hq (h3 ho).1

/-- and after a loop iteration every `TcpConnection` that still exists is referred to by the user,
by the live client or by a queued functor: none is forgotten with its descriptor open -/
theorem no_conn_leak (a : List Src) (y : ConnRec) (hy : y ∈ (iter (reach asserts ins) a).conns)
    (hd : y.destroyed = false) : connHeld (iter (reach asserts ins) a) y = true :=
  iter_no_conn_leak _ (reach_bnd asserts ins hg) a y hy hd

/-- **backoff**: the i-th retry scheduled since the cycle began (`i` counted from the last cycle
mark before it) waits `min(500·2^i, 30000)` ms -/
theorem backoff {pre post : List Ev} {i ms t : Nat}
    (h : (reach asserts ins).trace = pre ++ .retryScheduled i ms t :: post) :
    i = (cyc pre).2 ∧ ms = specDelay i :=
  bnd_backoff (reach_bnd asserts ins hg) h

/-- **one_up_per_cycle**: an UP is the first of its cycle, is reported on a socket that was handed
over (and not closed), and is reported once per socket -/
theorem one_up_per_cycle {pre post : List Ev} {k : Nat}
    (h : (reach asserts ins).trace = pre ++ .up k :: post) :
    (cyc pre).1 = 0 ∧ Ev.handedOver k ∈ pre ∧ Ev.up k ∉ pre ∧ Ev.sockClosed k ∉ pre :=
  bnd_one_up (reach_bnd asserts ins hg) h

/-- **stop_silences**: from the moment `stop()` returns (not only after its functor ran) until the
next `connect()`, nothing is started: no attempt, no UP, no retry timer -/
theorem stop_silences {pre post : List Ev} {e : Ev}
    (h : (reach asserts ins).trace = pre ++ e :: post) (hs : stoppedAfter pre = true) : e.starts = false :=
  bnd_silence (reach_bnd asserts ins hg) h (.inl hs)

/-- once `~TcpClient` has run nothing is started on behalf of the client either: no attempt, no
retry timer, no UP callback into the destroyed client -/
theorem destroyed_silent {pre post : List Ev} {e : Ev}
    (h : (reach asserts ins).trace = pre ++ e :: post) (hs : goneAfter pre = true) : e.starts = false :=
  bnd_silence (reach_bnd asserts ins hg) h (.inr hs)

/-- **disconnect_graceful**: `disconnect()` on the established connection clears the client's
`connect_`, queues the half-close, and the next loop iteration — whatever the poller reports in it —
performs `shutdown(SHUT_WR)` on that connection -/
theorem disconnect_graceful (w : Who) (k : Nat) (x : ConnRec)
    (hal : (reach asserts ins).clientAlive = true) (hcn : (reach asserts ins).connection = some k)
    (hx : findIn (reach asserts ins).conns k = some x) (hst : x.st = .connected) :
    (step (reach asserts ins) (.disconnect w)).tConnect = false ∧
    (step (reach asserts ins) (.disconnect w)).pending = (reach asserts ins).pending ++ [.shutdownInLoop k] ∧
    ∀ a, ∃ d, (step (step (reach asserts ins) (.disconnect w)) (.iter a)).trace = (reach asserts ins).trace ++ d ∧
      Ev.shutdownWr k ∈ d := by
  obtain ⟨h1, _, h3, h4⟩ := disconnect_leads _ (reach_bnd asserts ins hg) hal w k x hcn hx hst
  exact ⟨h1, h3, h4⟩

/-- **connection_visible_in_callback**: whenever the user's callback, while it reports connection `k` (UP or
DOWN), reads `client.connection()`, it gets that very connection - and `k` has been reported UP before -/
theorem connection_visible_in_callback {pre post : List Ev} {k : Nat} {seen : Option Nat}
    (h : (reach asserts ins).trace = pre ++ .query k seen :: post) : seen = some k ∧ Ev.up k ∈ pre :=
  bnd_query (reach_bnd asserts ins hg) h

/-- **disconnect_in_callback_graceful**: `disconnect()` issued from inside the UP callback - wherever in the
history that callback is registered and whichever iteration reports the connection: if `disconnect()` is the
callback's next operation and the callback runs in the iteration `iter a`, then that iteration reports a
connection `k` UP and, after it, performs `shutdown(SHUT_WR)` on `k` (in its functor phase, behind the data
queued before) - whatever the poller reports in it.  (DOWN follows when the peer closes: `retry_policy`,
`callback_disconnect_then_down`.) -/
theorem disconnect_in_callback_graceful (rest : List HookOp) (hh : (reach asserts ins).hooksUp = .disconnect :: rest)
    (a : List Src) (hf : (step (reach asserts ins) (.iter a)).hooksUp ≠ (reach asserts ins).hooksUp) :
    ∃ k d0 d1, (step (reach asserts ins) (.iter a)).trace = (reach asserts ins).trace ++ d0 ++ d1 ∧
      Ev.up k ∈ d0 ∧ Ev.shutdownWr k ∈ d1 := by
  have hb := reach_bnd asserts ins hg
  rw [step_iter _ a hb.notDead] at hf ⊢
  exact iter_callback_disconnect _ hb rest hh a hf

/-- and the callback does run when an UP is reported: an iteration that reports a connection UP consumes the
next operation registered for the UP callback (if there is one) -/
theorem up_runs_callback (a : List Src) (k : Nat) (hk : Ev.up k ∈ (step (reach asserts ins) (.iter a)).trace)
    (hnk : Ev.up k ∉ (reach asserts ins).trace) :
    (reach asserts ins).hooksUp = [] ∨ (step (reach asserts ins) (.iter a)).hooksUp ≠ (reach asserts ins).hooksUp := by
  have hb := reach_bnd asserts ins hg
  rw [step_iter _ a hb.notDead] at hk ⊢
  exact iter_up_runs_callback _ hb a k hk hnk

/-- **destroy_safe_inloop** (`Who.loop`), first part: after `~TcpClient` the client is gone and one
loop iteration later no socket of an attempt is open any more (it was closed or, had the attempt
completed before, handed over) — in whatever state the client was destroyed -/
theorem destroy_safe_inloop_sockets (hal : (reach asserts ins).clientAlive = true) :
    (step (reach asserts ins) (.destroy .loop)).clientAlive = false ∧
    ∀ (a : List Src) (k : Nat),
      (step (step (reach asserts ins) (.destroy .loop)) (.iter a)).sockSt[k]? ≠ some SockSt.opened :=
  destroy_quiet _ (reach_bnd asserts ins hg) hal

/-- second part: an established connection that nobody but the client holds goes DOWN and is
destroyed (descriptor closed) within two loop iterations.  This needs `shutdown()`'s functor to hold
the connection weakly (`Gen.Conn.shutdownHold = .weak`, the F26 fix; `gen_shutdown_weak`): with
`.strong` a pending `disconnect()` makes `connection_.unique()` false, nobody closes the connection,
and `reap` finds it destroyed while still connected (corpus/C12/F26-…) -/
theorem destroy_safe_inloop_connection (hal : (reach asserts ins).clientAlive = true) (k : Nat) (x : ConnRec)
    (hcn : (reach asserts ins).connection = some k) (hx : findIn (reach asserts ins).conns k = some x)
    (hur : x.userRef = false) (a b : List Src) :
    Ev.down k ∈ (step (step (step (reach asserts ins) (.destroy .loop)) (.iter a)) (.iter b)).trace ∧
    Ev.connClosed k ∈ (step (step (step (reach asserts ins) (.destroy .loop)) (.iter a)) (.iter b)).trace :=
  destroy_leads _ (reach_bnd asserts ins hg) hal k x hcn hx hur a b

end

/-- the marks in the trace are the user's calls -/
theorem marks (c : C) (hb : Bnd c) (hal : c.clientAlive = true) (w : Who) :
    (step c (.stop w)).trace = c.trace ++ [.ghost .stop] ∧
    c.trace ++ [.ghost .connect] <+: (step c (.connect w)).trace ∧
    c.trace ++ [.ghost .destroy] <+: (step c (.destroy .loop)).trace :=
  ⟨stop_marks c w hb.notDead hal, connect_marks c w hb.notDead hal, destroy_marks c hb hal⟩

/-- T1: `TcpClient::newConnection` stores `connection_` before `conn->connectEstablished()` (re-extracted on
every run, `Generated/Client.lean`); the two theorems below and `disconnect_in_callback_graceful` above rest on it -/
theorem connection_published_before_up : publishBeforeEstablish = true := gen_publishBeforeEstablish

/-- **connection_visible_in_up_callback**: in whatever state a live client's `newConnection(k)` runs, a callback
that reads `client.connection()` on UP finds the connection being reported: the events are hand-over, UP, and the
query answered with `k` -/
theorem connection_visible_in_up_callback (c : C) (k : Nat) (hal : c.clientAlive = true) (rest : List HookOp)
    (hh : c.hooksUp = .query :: rest) :
    (newConnection c k).trace = c.trace ++ [.handedOver k, .up k, .query k (some k)] ∧
    (newConnection c k).hooksUp = rest := by
  rw [newConnection_eq c k hal]
  unfold runHookUp
  rw [if_pos (show (estab c k).clientAlive = true from hal), show (estab c k).hooksUp = .query :: rest from hh]
  simp [hookOp, emit, estab]

/-- **disconnect_in_up_callback**: `disconnect()` called by the UP callback of a live client for the fresh
connection `k` acts on that connection: `connect_` is cleared, the connection is `kDisconnecting`, its half-close
is queued right behind what was queued before, and the client still refers to it -/
theorem disconnect_in_up_callback (c : C) (k : Nat) (hal : c.clientAlive = true) (hn : findIn c.conns k = none)
    (rest : List HookOp) (hh : c.hooksUp = .disconnect :: rest) :
    (newConnection c k).tConnect = false ∧
    (newConnection c k).pending = c.pending ++ [.shutdownInLoop k] ∧
    (newConnection c k).trace = c.trace ++ [.handedOver k, .up k] ∧
    (newConnection c k).connection = some k ∧ connSt (newConnection c k) k = .disconnecting ∧
    (newConnection c k).hooksUp = rest := by
  rw [newConnection_eq c k hal]
  unfold runHookUp
  rw [if_pos (show (estab c k).clientAlive = true from hal), show (estab c k).hooksUp = .disconnect :: rest from hh]
  simp only
  rw [disconnect_in_estab c k hn rest]
  refine ⟨rfl, rfl, rfl, rfl, ?_, rfl⟩
  have hnew : findIn (c.conns ++ [({ sock := k } : ConnRec)]) k = some { sock := k } := by
    rw [findIn_append_new _ rfl, hn]; simp
  show ((findIn ((c.conns ++ [({ sock := k } : ConnRec)]).map (updRec k toDisconnecting)) k).map (·.st)).getD .disconnected = _
  rw [findIn_upd k k toDisconnecting (fun _ => rfl), hnew]
  simp [updRec, toDisconnecting]

/-- every cycle starts at 500 ms (the F13 fix, `Gen.Client.cycleResetsDelay`): the first retry
after a cycle mark waits `specDelay 0 = 500` ms -/
theorem backoff_cycle_starts_at_500 (asserts : Bool) (ins : List In) (hg : Guarded (init asserts) ins)
    {pre mid post : List Ev} {i ms t : Nat}
    (h : (reach asserts ins).trace = pre ++ .ghost .cycle :: mid ++ .retryScheduled i ms t :: post)
    (hm : ∀ e ∈ mid, ∀ i' ms' t', e ≠ .retryScheduled i' ms' t') : i = 0 ∧ ms = 500 := by
  have h' : (reach asserts ins).trace = (pre ++ .ghost .cycle :: mid) ++ .retryScheduled i ms t :: post := by
    rw [h]
  obtain ⟨h1, h2⟩ := backoff asserts ins hg h'
  have : (cyc (pre ++ .ghost .cycle :: mid)).2 = 0 := by
    unfold cyc
    rw [List.foldl_append, List.foldl_cons]
    refine foldl_inv (P := fun a : Nat × Nat => a.2 = 0) mid (fun a e he ha => ?_) _ rfl
    cases e with
    | retryScheduled i' ms' t' => exact absurd rfl (hm _ he i' ms' t')
    | ghost g => cases g <;> first | rfl | exact ha
    | _ => exact ha
  rw [this] at h1
  subst h1
  exact ⟨rfl, h2⟩

/-- what `Connector::retry` arms: the timer fires `specDelay nretry` ms after the failure, and the
retry timer does not fire before it is due -/
theorem backoff_timer (c : C) (r : List Task) (ph : Bool) (hi : Mid c r ph) (k : Nat) (hcc : c.cConnect = true) :
    (retry c k).timers = c.timers ++ [(c.now + specDelay c.nretry * 1000, .retry)] ∧
    (retry c k).trace = c.trace ++ [.sockClosed k, .retryScheduled c.nretry (specDelay c.nretry) c.now] ∧
    ((∀ t ∈ c.timers, c.now < t.1) → (fireTimers c).trace = c.trace ∧ (fireTimers c).nsock = c.nsock) := by
  obtain ⟨h1, h2, _⟩ := retry_arms c k hcc hi.g1
  exact ⟨h1, h2, fireTimers_not_due c r ph hi⟩

/-- **retry_policy**: in every state `c` the loop can be in during a guarded history (`Mid`), when
the established connection `k` of a live client goes down (`TcpConnection::handleClose` with
`TcpClient::removeConnection` behind it; the connector's channel is gone: `c.chan = none`), the user's callback
is told DOWN first - `downCb c k` is the state in which it returns, with whatever it did to the client - and then
a new cycle with a new attempt starts in the same dispatch iff `retry_ ∧ connect_` hold at that moment; otherwise
nothing further happens -/
theorem retry_policy (c : C) (r : List Task) (ph : Bool) (hi : Mid c r ph) (k : Nat) (x : ConnRec)
    (hx : findIn c.conns k = some x) (hst : x.st ≠ .disconnected) (hcb : x.closeCb = .client) (hch : c.chan = none) :
    ((downCb c k).retry = true ∧ (downCb c k).tConnect = true →
      ∃ tail, (handleClose c k).trace = (downCb c k).trace ++
        [.ghost .cycle, .sockCreated (downCb c k).nsock, .attempt (downCb c k).nsock (downCb c k).now] ++ tail) ∧
    (¬ ((downCb c k).retry = true ∧ (downCb c k).tConnect = true) →
      (handleClose c k).trace = (downCb c k).trace ∧ (handleClose c k).nsock = (downCb c k).nsock) :=
  handleClose_client_trace c r ph hi k x hx hst hcb hch

/-- the DOWN callback starts with the DOWN report; a callback with no operation registered adds nothing -/
theorem down_callback_state (c : C) (k : Nat) :
    c.trace ++ [.down k] <+: (downCb c k).trace ∧
    (c.hooksDown = [] → (downCb c k).trace = c.trace ++ [.down k] ∧ (downCb c k).retry = c.retry ∧
      (downCb c k).tConnect = c.tConnect ∧ (downCb c k).nsock = c.nsock ∧ (downCb c k).now = c.now) := by
  refine ⟨(runHookDown_grow (downState c k) k).tr, fun h => ?_⟩
  unfold downCb
  rw [runHookDown_none _ k (show (downState c k).hooksDown = [] from h)]
  exact ⟨rfl, rfl, rfl, rfl, rfl⟩

/-- **retry_policy** for a callback that does nothing on DOWN: a new cycle with a new attempt starts in the same
dispatch iff `retry_ ∧ connect_`; otherwise DOWN is all that happens -/
theorem retry_policy_plain (c : C) (r : List Task) (ph : Bool) (hi : Mid c r ph) (k : Nat) (x : ConnRec)
    (hx : findIn c.conns k = some x) (hst : x.st ≠ .disconnected) (hcb : x.closeCb = .client) (hch : c.chan = none)
    (hh : c.hooksDown = []) :
    (c.retry = true ∧ c.tConnect = true →
      ∃ tail, (handleClose c k).trace =
        c.trace ++ [.down k, .ghost .cycle, .sockCreated c.nsock, .attempt c.nsock c.now] ++ tail) ∧
    (¬ (c.retry = true ∧ c.tConnect = true) →
      (handleClose c k).trace = c.trace ++ [.down k] ∧ (handleClose c k).nsock = c.nsock) := by
  obtain ⟨h1, h2⟩ := retry_policy c r ph hi k x hx hst hcb hch
  obtain ⟨e1, e2, e3, e4, e5⟩ := (down_callback_state c k).2 hh
  rw [e1, e2, e3, e4, e5] at h1
  rw [e1, e2, e3, e4] at h2
  refine ⟨fun h => ?_, h2⟩
  obtain ⟨tail, ht⟩ := h1 h
  exact ⟨tail, by rw [ht]; simp⟩

/-- a DOWN callback that calls `disconnect()` or `stop()` prevents the reconnect even with retry enabled -/
theorem down_callback_disconnect_no_reconnect (c : C) (r : List Task) (ph : Bool) (hi : Mid c r ph) (k : Nat) (x : ConnRec)
    (hx : findIn c.conns k = some x) (hst : x.st ≠ .disconnected) (hcb : x.closeCb = .client) (hch : c.chan = none)
    (op : HookOp) (rest : List HookOp) (hh : c.hooksDown = op :: rest) (hop : op = .disconnect ∨ op = .stop) :
    (handleClose c k).nsock = c.nsock ∧ (handleClose c k).tConnect = false := by
  obtain ⟨hxm, hxs⟩ := findIn_some hx
  obtain ⟨hal, hcn⟩ := hi.c6 x hxm hst hcb
  have hdt : (downCb c k).tConnect = false ∧ (downCb c k).nsock = c.nsock := by
    unfold downCb runHookDown
    rw [if_pos (show (downState c k).clientAlive = true from hal), show (downState c k).hooksDown = op :: rest from hh]
    simp only
    rcases hop with rfl | rfl
    · rw [show hookOp _ k .disconnect = userDisconnect _ from rfl, userDisconnect_down _ k (hxs ▸ hcn)
        (connSt_eq (x := goDown x) (findIn_upd_self goDown (fun _ => rfl) hx))]
      exact ⟨rfl, rfl⟩
    · rw [show hookOp _ k .stop = userStop _ .loop from rfl, userStop_eq]
      exact ⟨rfl, rfl⟩
  have h2 := (retry_policy c r ph hi k x hx hst hcb hch).2 (by rw [hdt.1]; simp)
  refine ⟨h2.2.trans hdt.2, ?_⟩
  rw [handleClose_client_eq c r ph hi k x hx hst hcb hch, if_neg (by simp [reconnects, hdt.1])]
  exact hdt.1

/-- **callback_disconnect_then_down**: after such a `disconnect()` (the client's `connect_` is false) the peer's
close takes the connection down and that is all: DOWN, no new attempt - even with retry enabled (`c`: any
state of a guarded history in which connection `k` is still the client's, no DOWN operation registered) -/
theorem callback_disconnect_then_down (c : C) (r : List Task) (ph : Bool) (hi : Mid c r ph) (k : Nat) (x : ConnRec)
    (hx : findIn c.conns k = some x) (hst : x.st ≠ .disconnected) (hcb : x.closeCb = .client) (hch : c.chan = none)
    (hh : c.hooksDown = []) (htc : c.tConnect = false) :
    (handleClose c k).trace = c.trace ++ [.down k] ∧ (handleClose c k).nsock = c.nsock :=
  (retry_policy_plain c r ph hi k x hx hst hcb hch hh).2 (by rw [htc]; simp)

/-- T1, statement order: in every `Connector` / `TcpClient` function the model implements (and in
`detail::removeConnection`, `detail::removeConnector`) the source performs the same significant actions - state
stores, channel operations (creation and destruction of the channel included), the new-connection callback, hand-offs
to the loop, member calls, calls on the connector / the connection, socket calls, stores to members and locals,
assertions - in the same order and under the same nesting of the generated guards (and of the classes of the
generated errno table) as `Model/Client.lean` (`Model/ClientSkelDecl.lean`); re-extracted from /repo on every run
(`Generated/ClientSkel.lean`), proved in `Proofs/ClientSkelTie.lean` -/
theorem statement_order_tied :
    Gen.ClientSkel.start = ClientSkel.Decl.start ∧
    Gen.ClientSkel.startCycleInLoop = ClientSkel.Decl.startCycleInLoop ∧
    Gen.ClientSkel.startInLoop = ClientSkel.Decl.startInLoop ∧
    Gen.ClientSkel.stop = ClientSkel.Decl.stop ∧
    Gen.ClientSkel.stopInLoop = ClientSkel.Decl.stopInLoop ∧
    Gen.ClientSkel.connect = ClientSkel.Decl.connect ∧
    Gen.ClientSkel.restart = ClientSkel.Decl.restart ∧
    Gen.ClientSkel.connecting = ClientSkel.Decl.connecting ∧
    Gen.ClientSkel.removeAndResetChannel = ClientSkel.Decl.removeAndResetChannel ∧
    Gen.ClientSkel.resetChannel = ClientSkel.Decl.resetChannel ∧
    Gen.ClientSkel.handleWrite = ClientSkel.Decl.handleWrite ∧
    Gen.ClientSkel.handleError = ClientSkel.Decl.handleError ∧
    Gen.ClientSkel.retry = ClientSkel.Decl.retry ∧
    Gen.ClientSkel.cancelRetryTimer = ClientSkel.Decl.cancelRetryTimer ∧
    Gen.ClientSkel.detailRemoveConnection = ClientSkel.Decl.detailRemoveConnection ∧
    Gen.ClientSkel.detailRemoveConnector = ClientSkel.Decl.detailRemoveConnector ∧
    Gen.ClientSkel.dtor = ClientSkel.Decl.dtor ∧
    Gen.ClientSkel.clientConnect = ClientSkel.Decl.clientConnect ∧
    Gen.ClientSkel.clientDisconnect = ClientSkel.Decl.clientDisconnect ∧
    Gen.ClientSkel.clientStop = ClientSkel.Decl.clientStop ∧
    Gen.ClientSkel.newConnection = ClientSkel.Decl.newConnection ∧
    Gen.ClientSkel.removeConnection = ClientSkel.Decl.removeConnection :=
  ClientSkel.skeletons_agree

/-! ### the hypotheses are satisfiable -/

/-- a guarded history with a refused attempt, a retry, an established connection, `disconnect()`,
the peer's close and the destruction of the client -/
def sampleHistory : List In :=
  [.enableRetry, .envConnect 111, .connect .loop, .advance 500000, .iter [.timer], .iter [.connector 4],
   .holdRef, .disconnect .foreign, .iter [], .envRead (some 0), .iter [.conn 1 1], .dropRef, .stop .loop, .iter [],
   .connect .foreign, .iter [], .iter [.connector 4], .destroy .loop, .iter [], .iter []]

example : Guarded (init true) sampleHistory := by decide
example : Guarded (init false) sampleHistory := by decide
example : (reach true sampleHistory).trace.count (.up 1) = 1 ∧ (reach true sampleHistory).trace.count (.up 2) = 1 ∧
    Ev.retryScheduled 0 500 0 ∈ (reach true sampleHistory).trace ∧ Ev.shutdownWr 1 ∈ (reach true sampleHistory).trace ∧
    Ev.connClosed 2 ∈ (reach true sampleHistory).trace := by decide

/-- the hypotheses of `disconnect_graceful` and `destroy_safe_inloop_connection` hold after `connect(); iter` -/
example : Guarded (init true) [.connect .loop, .iter [.connector 4]] ∧
    (reach true [.connect .loop, .iter [.connector 4]]).clientAlive = true ∧
    (reach true [.connect .loop, .iter [.connector 4]]).connection = some 0 ∧
    findIn (reach true [.connect .loop, .iter [.connector 4]]).conns 0 = some { sock := 0 } := by decide

/-- the hypotheses of `retry_policy`: the same state is a `Mid` state (it is a boundary state) -/
example : Mid (reach true [.connect .loop, .iter [.connector 4]]) [] true :=
  reach_bnd true _ (by decide)

/-- a guarded history with operations performed inside the connection callback: the first UP callback reads
`connection()`, the DOWN callback of that connection reads it too, the client (retry enabled) reconnects, and the
UP callback of the second connection calls `disconnect()` -/
def hookHistory : List In :=
  [.enableRetry, .hookUp .query, .hookUp .disconnect, .hookDown .query, .connect .loop, .iter [.connector 4],
   .envRead (some 0), .iter [.conn 0 1], .iter [.connector 4], .envRead (some 0), .iter [.conn 1 1], .iter []]

example : Guarded (init true) hookHistory := by decide
example : Guarded (init false) hookHistory := by decide
example : (reach true hookHistory).trace.count (.query 0 (some 0)) = 2 ∧ Ev.shutdownWr 1 ∈ (reach true hookHistory).trace ∧
    Ev.down 1 ∈ (reach true hookHistory).trace ∧ (reach true hookHistory).nsock = 2 := by decide

/-- the hypotheses of `disconnect_in_callback_graceful` hold before the iteration that reports the second connection -/
example : Guarded (init true) (hookHistory.take 8) ∧ (reach true (hookHistory.take 8)).hooksUp = [.disconnect] ∧
    (step (reach true (hookHistory.take 8)) (.iter [.connector 4])).hooksUp ≠ (reach true (hookHistory.take 8)).hooksUp := by
  decide

/-- `connect()` from inside the DOWN callback of a client that does not reconnect by itself, `stop()` from inside
the UP callback of the connection that follows -/
def hookHistory2 : List In :=
  [.hookDown .connect, .hookUp .query, .hookUp .stop, .connect .loop, .iter [.connector 4], .envRead (some 0),
   .iter [.conn 0 1], .iter [.connector 4], .iter [], .destroy .loop, .iter [], .iter []]

example : Guarded (init true) hookHistory2 := by decide
example : Ev.attempt 1 0 ∈ (reach true hookHistory2).trace ∧ Ev.up 1 ∈ (reach true hookHistory2).trace ∧
    stoppedAfter (reach true hookHistory2).trace = true ∧ Ev.connClosed 1 ∈ (reach true hookHistory2).trace := by decide

/-- outside the scope guard: `connect()` from the UP callback; `connect()` from the DOWN callback of a client with
retry enabled (two attempts: the model shows the failed assertion `!channel_`) -/
example : ¬ Guarded (init true) [.hookUp .connect] := by decide
example : ¬ Guarded (init true) [.enableRetry, .hookDown .connect] := by decide
example : (reach true [.hookDown .connect, .enableRetry, .connect .loop, .iter [.connector 4], .envRead (some 0),
    .iter [.conn 0 1]]).dead = true := by decide

/-! ### the back-off timer is an object that is cancelled (F33) -/

/-- **stale_timer_cancelled**: (1) when the loop runs `stop()`'s functor and `stop()` is still the user's last word
(`connect_` is false), no back-off timer is pending afterwards - neither the one that was armed, nor a new one;
(2) a new cycle begins (`startCycleInLoop`) by cancelling whatever back-off timer the previous cycle left;
(3) a cancelled timer never starts an attempt: in a state without a pending back-off timer the timer dispatch creates
no socket and makes no attempt, whatever the clock says.
[`stopCancelsRetryTimer`, `cycleStartCancelsRetryTimer`, `retryTimerStored` are generated from the source; the tree
before a9261b3 extracts `False` / `false` / `false` and these statements fail to type-check against it] -/
theorem stale_timer_cancelled (c : C) :
    (c.cConnect = false → nRetry (stopInLoop c).timers = 0) ∧
    nRetry (cancelIf cycleStartCancelsRetryTimer c).timers = 0 ∧
    ∀ d : C, nRetry d.timers = 0 → (fireTimers d).nsock = d.nsock ∧ ∀ k t, Ev.attempt k t ∈ (fireTimers d).trace → Ev.attempt k t ∈ d.trace := by
  refine ⟨fun hs => ?_, cancelRetry_none c, fun d hd => ?_⟩
  · have hc : cancelIf (decide (stopCancelsRetryTimer c.cConnect)) c = cancelRetry c := by
      simp [cancelIf, stopCancelsRetryTimer, hs]
    unfold stopInLoop; rw [hc]
    have h0 := cancelRetry_none c
    have hcc : (cancelRetry c).cConnect = false := hs
    generalize cancelRetry c = e at h0 hcc
    unfold stopInLoopCore
    split
    · split
      · -- `retry` with `connect_` false closes the socket and arms nothing
        simp only [stopResetsChannelNow, if_true]
        rw [retry_eq, if_neg (by simp [hcc])]; exact h0
      · exact h0
    · exact h0
  · have hz := nRetry_zero hd
    unfold fireTimers
    simp only
    -- none of the due timers is a back-off timer (`hz`), so every step of the fold is the identity
    rw [foldl_fix _ _ _ (by
      intro t ht
      have hr := hz t (List.mem_filter.mp ht).1
      split
      · rfl
      · split
        · rename_i h2; exact absurd h2 hr
        · rfl)]
    simp only
    split
    · exact ⟨rfl, fun _ _ h => h⟩
    · refine reapConnector_cases (P := fun c' => c'.nsock = d.nsock ∧ ∀ k t, Ev.attempt k t ∈ c'.trace → Ev.attempt k t ∈ d.trace)
        _ ?_ (fun _ => ?_) (fun _ => ?_) ?_
      all_goals exact ⟨rfl, fun k t h => by simpa [die] using h⟩

/-- F33 inside the scope guard: the first attempt is refused (timer at +500 ms), `stop()` during the wait, `connect()`
again on the loop thread while the stopped cycle's timer is still armed (the relaxed clause of `connectOk`): the new
cycle cancels it; the stale `stop()` functor then ends the new attempt and schedules its retry (`connect_` is true
again), which connects; the old deadline and everything after pass without a second attempt chain -/
def f33History : List In :=
  [.envConnect 111, .connect .loop, .stop .loop, .connect .loop, .iter [.timer], .advance 500000, .iter [.timer],
   .iter [.connector 4], .advance 40000000, .iter [.timer]]

example : Guarded (init true) f33History := by decide
example : Guarded (init false) f33History := by decide
example : nRetry (reach true (f33History.take 3)).timers = 1 ∧ (reach true (f33History.take 3)).cConnect = false ∧
    nRetry (reach true (f33History.take 4)).timers = 0 := by decide
example : (reach false f33History).trace.count (.up 2) = 1 ∧ (reach false f33History).nsock = 3 ∧
    (reach false f33History).dead = false := by decide

/-- **negation witness for the shape before a9261b3** (no cancellation: `stopInLoopCore`, `startCycleCore` are the model's
`stopInLoop`, `startCycle` when the generated flags are false): refused attempt, `stop()`, the loop runs its functor,
`connect()` starts a new cycle (attempt in progress) and the clock reaches the stale timer's deadline -/
def f33Pre (asserts : Bool) : C :=
  let c1 := run (init asserts) [.envConnect 111, .envConnect 115, .connect .loop, .stop .loop]
  let c2 := stopInLoopCore { c1 with pending := [] }
  let c3 := startCycleCore { c2 with tConnect := true, cConnect := true, stopReq := false }
  { c3 with now := c3.now + 500000 }

/-- ... then the stale timer is still pending while the new attempt is in progress, and firing it runs `startInLoop()` inside
the new cycle: with assertions `assert(state_ == kDisconnected)` fails; without, a second socket is created while the
first attempt is outstanding (two attempt chains in one cycle) -/
theorem stale_timer_fires_without_cancel :
    nRetry (f33Pre true).timers = 1 ∧ (f33Pre true).cstate = .kConnecting ∧
    (fireTimers (f33Pre true)).dead = true ∧ Ev.abort "state_ == kDisconnected" ∈ (fireTimers (f33Pre true)).trace ∧
    (fireTimers (f33Pre false)).sockSt = [.closed, .opened, .opened] := by decide

/-! ### destruction from another thread (F11): outside the theorems above -/

/-- the scope guard without the restriction of `~TcpClient` to the loop thread -/
def okInAny (c : C) : In → Prop
  | .destroy _ => c.clientAlive = true
  | i => okIn c i
instance (c : C) (i : In) : Decidable (okInAny c i) := by
  cases i <;> unfold okInAny <;> infer_instance

def GuardedAny (c : C) : List In → Prop
  | [] => True
  | i :: is => okInAny c i ∧ GuardedAny (step c i) is
instance : (c : C) → (ins : List In) → Decidable (GuardedAny c ins)
  | _, [] => by unfold GuardedAny; infer_instance
  | c, i :: is => by
    unfold GuardedAny
    have := instDecidableGuardedAny (step c i) is
    infer_instance

/-- `destroy_safe` for any thread: what one would like to have -/
def destroy_safe_full : Prop :=
  ∀ (asserts : Bool) (ins : List In), GuardedAny (init asserts) ins → ∀ w, Ev.uaf w ∉ (reach asserts ins).trace

/-- the history on which the model shows the use after free: the connection is up; `~TcpClient`
runs on a foreign thread, so `setCloseCallback(detail::removeConnection)` is only *queued*
(`TcpClient.cc`: "FIXME: not 100% safe, if we are in different thread"); the loop reports the
peer's hang-up first and `TcpConnection::handleClose` calls `TcpClient::removeConnection` on the
destroyed client -/
def f11Witness : List In := [.connect .loop, .iter [.connector 4], .destroy .foreign, .iter [.conn 0 16]]

theorem destroy_safe_full_false : ¬ destroy_safe_full := by
  intro h
  exact h true f11Witness (by decide) "TcpClient::removeConnection" (by decide)

end MuduoVerif.C12
