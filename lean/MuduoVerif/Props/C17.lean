import MuduoVerif.Proofs.LogStream
import MuduoVerif.Proofs.LogStreamTid
import MuduoVerif.Proofs.LogStreamNum
import MuduoVerif.Proofs.LogStreamSkelTie
import MuduoVerif.Proofs.ThreadSkelTie
/-!
# C17 — log text equals printf output, stays in bounds and carries true metadata

The property theorems with their proofs; the lemmas live in `Proofs/LogStream*.lean`.  The model
(`Model/LogStream.lean`) uses the constants, digit tables, space guards, printf formats,
line pieces, the statement order of `Logger::Impl::Impl`, the tid-cache guards / initial values / start-up steps,
macro gates and the `formatSI`/`formatIEC` branch tables of
`Generated/LogStream.lean`, re-extracted from /repo on every run.
-/
namespace MuduoVerif.C17
open MuduoVerif.LogStream MuduoVerif.Gen.LogStream

/-- `%d`/`%u`/`%ld`/… specification used below is the canonical decimal numeral (core's `Nat.toDigits 10`,
the digits of `Nat.repr`), with a leading `-` for negative values -/
theorem decimal_canonical (v : Int) :
    decimal v = (if v < 0 then [45] else []) ++ (Nat.toDigits 10 v.natAbs).map Char.toNat := by
  unfold decimal; rw [decimalNat_eq_toDigits]; split <;> rfl

/-- **the digit loop of `detail::convert` prints exactly the canonical decimal text**, for every integer
(no bound: in particular every type minimum, where `i % 10` is negative and `-i` would overflow) -/
theorem convert_spec (v : Int) : convert v = decimal v := convert_eq_decimal v

/-- `detail::convertHex` prints `%X` (upper case, no leading zeros), and a pointer is `0x` followed by it -/
theorem convertHex_spec (v : Nat) :
    convertHex v = (Nat.toDigits 16 v).map (fun c => c.toUpper.toNat) ∧
    (Item.ptr v).text = [48, 120] ++ hexUpper v := by
  refine ⟨by rw [convertHex_eq, hexUpper_eq_toDigits], ?_⟩
  simp only [Item.text, convertHex_eq]; rfl

/-- a value of any integer type of at most 64 bits needs at most 20 characters, a pointer at most 18,
both less than `kMaxNumericSize - 1`: the in-place write (digits and the terminating NUL) stays inside
the headroom `formatInteger` / `operator<<(const void*)` tested -/
theorem convert_len (v : Int) (h1 : -2 ^ 63 ≤ v) (h2 : v < 2 ^ 64) :
    (convert v).length ≤ 20 ∧ 20 < kMaxNumericSize := by
  rw [convert_eq_decimal]; exact ⟨decimal_length_le v h1 h2, by decide⟩

theorem pointer_len (v : Nat) (h : v < 2 ^ 64) :
    (Item.ptr v).text.length ≤ 18 ∧ 18 < kMaxNumericSize := by
  exact ⟨ptr_text_length v h, by decide⟩

/-- **every insertion sequence stays inside the buffer and loses only whole items, only for lack of space**:
from any buffer that is within its capacity, after any sequence of items (of any length, also far
beyond the capacity) the content is within the capacity; it is what `Fill` specifies — each item
appended whole when the space was not short for it (`≥ kMaxNumericSize` for numbers, `> length` for
everything else), left out whole otherwise — hence the old content followed by the texts of a
sub-sequence of the items -/
theorem buffer_inv (b : FixedBuf) (items : List Item) (hb : b.data.length ≤ b.cap)
    (hok : ∀ it ∈ items, it.ok) :
    (run b items).cap = b.cap ∧ (run b items).data.length ≤ b.cap ∧
    Fill b.cap b.data items (run b items).data ∧
    ∃ kept : List Item, kept.Sublist items ∧ (run b items).data = b.data ++ kept.flatMap Item.text :=
  ⟨run_cap items b, fill_length (run_fill items b) hb hok, run_fill items b, fill_sublist (run_fill items b)⟩

/-- an accepted item is strictly shorter than the space that was available: the copy (and the NUL that
`debugString` / the in-place conversions store behind it) never leaves the array -/
theorem insert_in_bounds (b : FixedBuf) (it : Item) (hok : it.ok) (hf : it.fits (avail b)) :
    (insert b it).data = b.data ++ it.text ∧ it.text.length < avail b :=
  ⟨by simp [MuduoVerif.LogStream.insert, hf], text_lt_room _ it hok ((fits_iff_not_short _ _).1 hf)⟩

/-- the hypotheses of `buffer_inv` are satisfiable by a sequence that overflows the buffer -/
example : ∃ items : List Item, (∀ it ∈ items, it.ok) ∧ (run (mkBuf 8) items).data = [97, 98, 99, 100, 49] :=
  ⟨[.str [97, 98, 99, 100], .int (-5), .str [1, 2, 3, 4], .bool true], by decide, by decide⟩

/-- **the gate of the `LOG_*` macros** (from the generated macro table): a TRACE, DEBUG or INFO statement
emits a line iff its level is at least the configured level; WARN, ERROR, FATAL, SYSERR and SYSFATAL
statements always do; and every macro constructs the Logger with its own level -/
theorem gate : ∀ m, m < numMacros → ∀ configured, configured < numLogLevels →
    (emits m configured ↔ (configured ≤ macroLevel m ∨ levelWARN ≤ macroLevel m)) ∧
    macroLevel m = [levelTRACE, levelDEBUG, levelINFO, levelWARN, levelERROR, levelFATAL, levelERROR, levelFATAL].getD m 0 := by
  decide

/-- **`SourceFile` keeps what follows the last `/`**: the path is a directory part, empty or ending in
`/`, followed by the base name, which contains no `/` -/
theorem basename_spec (path : Bytes) :
    ∃ dir : Bytes, path = dir ++ basename path ∧ 47 ∉ basename path ∧ (dir = [] ∨ dir.getLast? = some 47) := by
  refine ⟨(path.reverse.dropWhile (· ≠ 47)).reverse, basename_split path, basename_no_slash path, ?_⟩
  have := List.head?_dropWhile_not (· ≠ 47) path.reverse
  rw [List.getLast?_reverse]
  cases h : (path.reverse.dropWhile (· ≠ 47)).head? with
  | none => left; rw [List.head?_eq_none_iff.mp h]; rfl
  | some x => right; rw [h] at this; exact congrArg some (Classical.not_not.mp (of_decide_eq_false this))

/-- the extracted `Logger::Impl::Impl` calls `CurrentThread::tid()` before it reads `tidString()` (the Boolean the
generator computed from the AST is the one the model's reading of the statement list gives) -/
theorem tid_cached_before_use : tidCachedBeforeUse = true ∧ cachedBeforeUse implSteps = true :=
  ⟨by decide, by rw [← tidCachedBeforeUse_tie]; decide⟩

/-- **each emitted line carries the calling thread's id**: for every state of the thread's tid cache — nothing
cached yet (a thread that reaches the logger without having run any other muduo code, whatever its three
thread-local variables hold) or its own id cached — the line consists of the time stamp (17 characters and the
8 / 9 characters of the microsecond field), then exactly the `"%5d "` rendering of `gettid()` of the calling thread
(right-aligned in five columns, then a space), then the rest; the `assert` of the helper class `T` holds (no abort
in a build with asserts), and afterwards the thread has its own id cached.  It is the call
`CurrentThread::tid();` in `Impl::Impl` in front of the first read (`tid_cached_before_use`) that makes the two cases
equal: the field is `tidField (tidCall …)` (`implRun_shape`), and `tidCall` leaves either cache as `TidState.of` (`tidCall_ok`). -/
theorem tid_field_true (z : Zone) (gen : Int) (c : TimeCache) (t : TidState) (r : LogReq)
    (hpos : 0 < r.tid) (hmax : r.tid < 2 ^ 31)
    (ht : t.cached = 0 ∨ t = TidState.of r.tid) :
    (∃ stamp rest, stamp.length = 17 + usWidth z ∧
      (logLine z gen c t r).text = stamp ++ (fmtInt false 5 r.tid ++ [32]) ++ rest) ∧
    (logLine z gen c t r).asserts = true ∧ (logLine z gen c t r).tid = TidState.of r.tid := by
  have h0 : r.tid ≠ 0 := by omega
  -- the call `CurrentThread::tid();` in front of the first read leaves the thread's own id cached, whatever was cached before
  have hc : tidCall r.tid t = TidState.of r.tid := tidCall_ok _ _ h0 ht
  refine ⟨?_, implAsserts_ok z _ h0 ht, ?_⟩
  · obtain ⟨tail, e⟩ := implRun_shape z (lineEnv z gen c t r)
    exact line_three implSteps z gen c t r _ _ _ (readN_length _ _) (readN_length _ _)
      (fmtInt_space_length r.tid (by omega) (by omega))
      ⟨tail, by rw [e]; simp only [lineEnv, hc, tidField_of, tidText_eq]; rfl⟩
  · simp [logLine, logLineOf, implSteps, implRun, implStep, lineEnv, hc]

/-- **the excluded branch** — what the line would be without the call (the statement list of `Impl::Impl` with
`CurrentThread::tid();` taken out) on a thread that has run nothing of muduo: in place of the id, six bytes of the
zero-filled `t_tidString` (`t_tidStringLength` is statically 6), and the `assert` of `T` fails -/
theorem tid_field_without_call (z : Zone) (gen : Int) (c : TimeCache) (r : LogReq) :
    (∃ stamp rest, stamp.length = 17 + usWidth z ∧
      (logLineOf (implSteps.filter (· ≠ .callTid)) z gen c TidState.fresh r).text = stamp ++ List.replicate 6 0 ++ rest) ∧
    (logLineOf (implSteps.filter (· ≠ .callTid)) z gen c TidState.fresh r).asserts = false := by
  constructor
  · obtain ⟨tail, e⟩ := implRun_shape_nocall z (lineEnv z gen c TidState.fresh r)
    exact line_three _ z gen c TidState.fresh r _ _ _ (readN_length _ _) (readN_length _ _) (by decide)
      ⟨tail, by rw [e]; simp only [lineEnv, tidField_fresh.1]; rfl⟩
  · have := tidField_fresh.2
    simp only [logLineOf]
    rw [implSteps_nocall]
    simp [implAsserts, implStep, lineEnv, this]

/-- **every kind of thread reaches its first log statement in a state `tid_field_true` covers**: the main thread (the
static initialiser called `tid()`), a `muduo::Thread` (`runInThread` calls it), a thread made with `pthread_create`
(nothing cached, or its own id when it called `tid()` itself), and the child of a `fork()` — whose cache, copied
from the forking thread with the *parent's* id in it, was reset and refilled by the registered `afterFork`
handler, so that the child's line carries the child's id -/
theorem entry_state_ok (tid : Int) (kind : ThreadKind) :
    (entryState tid kind).cached = 0 ∨ entryState tid kind = TidState.of tid := by
  cases kind with
  | main => right; show tidCall tid TidState.fresh = _; exact tidCall_empty tid _ rfl
  | muduoThread => right; show tidCall tid TidState.fresh = _; exact tidCall_empty tid _ rfl
  | foreign called =>
    cases called
    · left; rfl
    · right; show tidCall tid TidState.fresh = _; exact tidCall_empty tid _ rfl
  | forkChild ptid parent =>
    right
    have hr : atforkChildRegistered = true := by decide
    simp only [entryState, hr, if_true, afterForkSteps, tidRun, List.foldl_cons, List.foldl_nil, tidStep]
    exact tidCall_empty tid _ rfl

/-- **… on every kind of thread, also in a forked child**: the line of a thread of any kind carries that thread's
own id; for the child of a `fork()` this holds whatever the forking thread had cached (in particular its own,
different, id) -/
theorem tid_field_true_all_kinds (z : Zone) (gen : Int) (c : TimeCache) (r : LogReq) (kind : ThreadKind)
    (hpos : 0 < r.tid) (hmax : r.tid < 2 ^ 31) :
    ∃ stamp rest, stamp.length = 17 + usWidth z ∧
      (logLine z gen c (entryState r.tid kind) r).text = stamp ++ (fmtInt false 5 r.tid ++ [32]) ++ rest :=
  (tid_field_true z gen c _ r hpos hmax (entry_state_ok r.tid kind)).1

/-- the hypotheses are satisfiable, and the field is what one expects: thread 1234 that has cached nothing logs ` 1234 ` -/
example : ((logLine none 0 TimeCache.fresh TidState.fresh
    { level := 2, errno := 0, errText := [], func := none, file := [97], line := 1, tid := 1234, us := 1000000,
      msg := [] }).text.drop 26).take 6 = [32, 49, 50, 51, 52, 32] := by decide

/-- one line: when the cached text is rebuilt, or was built for this second in the configured zone, the line starts
with the first 17 characters of `"%4d%02d%02d %02d:%02d:%02d"` of `toLocalTime` / `toUtcTime` of that second -/
theorem line_time_step (z : Zone) (gen : Int) (c : TimeCache) (t : TidState) (r : LogReq)
    (h : cacheMiss (splitSeconds r.us) c.lastSecond gen c.zoneGen ∨ c.text = secondText z (splitSeconds r.us)) :
    ∃ rest, (logLine z gen c t r).text = readN 17 (secondText z (splitSeconds r.us)) ++ rest := by
  have ht : (lineEnv z gen c t r).timeText = secondText z (splitSeconds r.us) := by
    simp only [lineEnv, cacheStep]
    by_cases hm : cacheMiss (splitSeconds r.us) c.lastSecond gen c.zoneGen
    · simp [hm]
    · simp [hm, h.resolve_left hm]
  obtain ⟨tail, e⟩ := implRun_shape z (lineEnv z gen c t r)
  simp only [logLine, logLineOf, lineItemsOf, e, List.cons_append, ht]
  rw [run_str _ _ _ (by simp [readN_length, avail, mkBuf, kSmallBuffer])]
  obtain ⟨more, em⟩ := run_prefix { mkBuf kSmallBuffer with data := (mkBuf kSmallBuffer).data ++ readN 17 (secondText z (splitSeconds r.us)) } _
  exact ⟨more, by rw [em]; simp [mkBuf]⟩

/-- **the time field of every line is the break-down of the logged instant in the zone that is configured when the
line is logged** — after any history of log statements and `Logger::setTimeZone` calls on the process, also when the
zone was changed inside the second the thread has cached (F18, repaired: `setTimeZone` bumps `g_logTimeZoneGen`, and
`formatTime` rebuilds the text when the second *or the generation* differs from what the thread cached).  Both for
the thread whose history `ops` is and for a thread that logs its first line at that moment (fresh cache).  Instants
inside epoch second 0 are left out (`hops`, `hr`): `t_lastSecond` is zero-initialised, see `TimeInv`. -/
theorem line_time (t : TidState) (ops : List LogOp) (r : LogReq)
    (hops : ∀ r', LogOp.log r' ∈ ops → splitSeconds r'.us ≠ 0) (hr : splitSeconds r.us ≠ 0) :
    let s := logAfter (LogState.init t) ops
    (∃ rest, (logLine s.zone s.gen s.cache s.tid r).text = readN 17 (secondText s.zone (splitSeconds r.us)) ++ rest) ∧
    (∀ t', ∃ rest, (logLine s.zone s.gen TimeCache.fresh t' r).text = readN 17 (secondText s.zone (splitSeconds r.us)) ++ rest) := by
  intro s
  have hinv : TimeInv s := timeInv_after ops (LogState.init t) (timeInv_init t) hops
  refine ⟨line_time_step _ _ _ _ _ ?_, fun t' => line_time_step _ _ _ _ _ (Or.inl ?_)⟩
  · exact timeInv_hit_or_miss s r hinv hr
  · exact cacheMiss_fresh _ _ hr

/-- **`formatSI` renders every `0 ≤ n < 2^63` in at most 5 characters** (on the exact model of the `int64 → double`
conversion, the correctly rounded division and `%.Nf`; the branch table is the extracted one) -/
theorem formatSI_width (n : Nat) (h : n < 2 ^ 63) : (formatSI n).length ≤ 5 := by
  unfold formatSI
  split
  · rename_i hlt
    have : n < 10 ^ (2 + 1) := by simp only [siIntBelow] at hlt; omega
    have := decimalNat_length_le 2 n this
    omega
  · exact siGo_length siTable siTable_ok n h

/-- **`formatIEC` renders every `0 ≤ n < 2^63` in at most 6 characters** (all comparisons are made on the value
converted to `double`: a bound like `Pi*99.95` is itself a `double`, and the converted value below it is at most the
`double` in front of it) -/
theorem formatIEC_width (n : Nat) (h : n < 2 ^ 63) : (formatIEC n).length ≤ 6 := by
  unfold formatIEC
  split
  · rename_i hlt
    have h2 : n < 1024 := rnInt_lt_small n 1024 (by omega) (by simpa [iecIntBelow] using hlt)
    have := decimalNat_length_le 3 n (by omega)
    omega
  · exact iecGo_length_double iecTable iecTable_ok n (rnInt_le n _ (by omega) (rep_two_pow 63))

/-- T1, statement order: in the functions of `LogStream.h` / `LogStream.cc` / `Logging.cc` the model implements
(`FixedBuffer::append` / `add` / `reset`, every insertion operator, `LogStream::append`, `convert`, `convertHex`,
`formatInteger`, `formatSI`, `formatIEC`, `Fmt`'s and `T`'s constructors, `Impl::formatTime`, `Impl::finish`,
`~Logger`; `Impl::Impl` itself is `implSteps`) the source performs the same stores (of the same expressions), engine
calls, libc calls, insertion chains (of the same pieces), assertions and returns, in the same order and under the same
nesting of the generated guards, table rows and digit loops as `Model/LogStream.lean`
(`Model/LogStreamSkelDecl.lean`); re-extracted from /repo on every run (`Generated/LogStreamSkel.lean`), proved in
`Proofs/LogStreamSkelTie.lean` -/
theorem statement_order_tied :
    Gen.LogStreamSkel.bufAppend = LogStreamSkel.Decl.bufAppend ∧
    Gen.LogStreamSkel.bufAdd = LogStreamSkel.Decl.bufAdd ∧
    Gen.LogStreamSkel.bufReset = LogStreamSkel.Decl.bufReset ∧
    Gen.LogStreamSkel.insBool = LogStreamSkel.Decl.insBool ∧
    Gen.LogStreamSkel.insFloat = LogStreamSkel.Decl.insFloat ∧
    Gen.LogStreamSkel.insChar = LogStreamSkel.Decl.insChar ∧
    Gen.LogStreamSkel.insCStr = LogStreamSkel.Decl.insCStr ∧
    Gen.LogStreamSkel.insUCStr = LogStreamSkel.Decl.insUCStr ∧
    Gen.LogStreamSkel.insString = LogStreamSkel.Decl.insString ∧
    Gen.LogStreamSkel.insPiece = LogStreamSkel.Decl.insPiece ∧
    Gen.LogStreamSkel.insBuffer = LogStreamSkel.Decl.insBuffer ∧
    Gen.LogStreamSkel.streamAppend = LogStreamSkel.Decl.streamAppend ∧
    Gen.LogStreamSkel.resetBuffer = LogStreamSkel.Decl.resetBuffer ∧
    Gen.LogStreamSkel.insFmt = LogStreamSkel.Decl.insFmt ∧
    Gen.LogStreamSkel.convert = LogStreamSkel.Decl.convert ∧
    Gen.LogStreamSkel.convertHex = LogStreamSkel.Decl.convertHex ∧
    Gen.LogStreamSkel.formatSI = LogStreamSkel.Decl.formatSI ∧
    Gen.LogStreamSkel.formatIEC = LogStreamSkel.Decl.formatIEC ∧
    Gen.LogStreamSkel.formatInteger = LogStreamSkel.Decl.formatInteger ∧
    Gen.LogStreamSkel.insShort = LogStreamSkel.Decl.insShort ∧
    Gen.LogStreamSkel.insUShort = LogStreamSkel.Decl.insUShort ∧
    Gen.LogStreamSkel.insInt = LogStreamSkel.Decl.insInteger ∧
    Gen.LogStreamSkel.insUInt = LogStreamSkel.Decl.insInteger ∧
    Gen.LogStreamSkel.insLong = LogStreamSkel.Decl.insInteger ∧
    Gen.LogStreamSkel.insULong = LogStreamSkel.Decl.insInteger ∧
    Gen.LogStreamSkel.insLongLong = LogStreamSkel.Decl.insInteger ∧
    Gen.LogStreamSkel.insULongLong = LogStreamSkel.Decl.insInteger ∧
    Gen.LogStreamSkel.insPointer = LogStreamSkel.Decl.insPointer ∧
    Gen.LogStreamSkel.insDouble = LogStreamSkel.Decl.insDouble ∧
    Gen.LogStreamSkel.fmtCtor = LogStreamSkel.Decl.fmtCtor ∧
    Gen.LogStreamSkel.tCtor = LogStreamSkel.Decl.tCtor ∧
    Gen.LogStreamSkel.insT = LogStreamSkel.Decl.insT ∧
    Gen.LogStreamSkel.insSourceFile = LogStreamSkel.Decl.insSourceFile ∧
    Gen.LogStreamSkel.formatTime = LogStreamSkel.Decl.formatTime ∧
    Gen.LogStreamSkel.finish = LogStreamSkel.Decl.finish ∧
    Gen.LogStreamSkel.loggerDtor = LogStreamSkel.Decl.loggerDtor :=
  LogStreamSkel.skeletons_agree

/-- the functions behind the tid field of a log line do what `Model/LogStream.lean` takes
them to do (`tidCall`, `cacheTid`, `entryState`): `CurrentThread::tid()` calls `cacheTid()` exactly when the cached
number is 0 and returns the cached number; `cacheTid()` writes the number (`detail::gettid()` =
`syscall(SYS_gettid)`), its text (`snprintf` of THAT number into `t_tidString`) and the text's length together, under
one test; `detail::afterFork` - the `pthread_atfork` CHILD handler the static `ThreadNameInitializer` registers -
empties the cache and calls `tid()`, i.e. recomputes both cached forms (number AND text) through `cacheTid`, it does
not patch the number alone; a `muduo::Thread` fills its cache in `runInThread` before it runs anything else.
Statement skeletons re-extracted from /repo on every run (`Generated/ThreadSkel.lean`), equal to
`Model/ThreadSkelDecl.lean`. -/
theorem tid_cache_refresh_tied :
    Gen.ThreadSkel.tid = ThreadSkel.Decl.tid ∧
    Gen.ThreadSkel.cacheTid = ThreadSkel.Decl.cacheTid ∧
    Gen.ThreadSkel.gettid = ThreadSkel.Decl.gettid ∧
    Gen.ThreadSkel.afterFork = ThreadSkel.Decl.afterFork ∧
    Gen.ThreadSkel.threadNameInitializer = ThreadSkel.Decl.threadNameInitializer ∧
    Gen.ThreadSkel.runInThread = ThreadSkel.Decl.runInThread ∧
    Gen.ThreadSkel.isMainThread = ThreadSkel.Decl.isMainThread :=
  ⟨ThreadSkel.skeleton_tid, ThreadSkel.skeleton_cacheTid, ThreadSkel.skeleton_gettid, ThreadSkel.skeleton_afterFork,
   ThreadSkel.skeleton_threadNameInitializer, ThreadSkel.skeleton_runInThread, ThreadSkel.skeleton_isMainThread⟩

end MuduoVerif.C17
