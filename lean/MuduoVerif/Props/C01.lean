import MuduoVerif.Proofs.ConnFlow
import MuduoVerif.Proofs.ConnRead
import MuduoVerif.Proofs.ConnBlocks
import MuduoVerif.Proofs.ConnDrain
import MuduoVerif.Proofs.ConnSkelTie
/-!
# C01 — TCP payload is delivered complete, in order and exactly once, both directions

The property theorems, each a short step from the lemmas of `Proofs/ConnStream.lean`, `ConnBlocks.lean`,
`ConnRead.lean`, `ConnFlow.lean`, `ConnDrain.lean`.  Every statement quantifies over every history of the connection model:
any configuration, any block sizes and contents, `send()` on the loop thread or on other
threads or from inside callbacks, any result sequence of `write`/`readv` (partial writes,
`EAGAIN`, `EINTR`, fatal errors), any poll results, any placement of `stopRead`/`startRead`,
both poller back-ends.  The three `send` overloads reach the same `sendInLoop`
(`send_overloads_agree` ties their state tests and hand-offs; the copies they make are
compared by the correspondence run).

Ghost fields of the model used here: `accepted` (bytes of the blocks `sendInLoop` took on, in
processing order), `blocks` (the same block by block, tagged with "came through the functor
queue"), `offeredL`/`offeredF` (blocks for which `send()` passed its state test on the loop
thread / on other threads, in call order), `wrote` (bytes the kernel took, in order),
`outBuf` (the output buffer), `discarded` (a fatal write error dropped data),
`peerAll`/`peerPending`/`delivered`/`inBuf` for the receive direction.

What this does not say: that the kernel delivers `wrote` to the peer (assumed: TCP), and
progress without the fairness hypothesis of `drain_progress`.
-/
namespace MuduoVerif.C01
open MuduoVerif.Conn MuduoVerif.Gen.Conn

abbrev reach (c0 : Conn) (ins : List Input) : Conn := run (step c0 .establish) ins

section
variable (c0 : Conn) (h0 : Fresh c0) (ins : List Input) (hne : ∀ i ∈ ins, i.notEstablish)
include h0 hne

/-- **stream_inv** (send direction): unless a fatal write error (`EPIPE`/`ECONNRESET`) made the
code drop data, the bytes handed to the kernel followed by the bytes still buffered are exactly
the accepted blocks, concatenated in the order they were processed: nothing lost, duplicated,
reordered or interleaved, however the kernel split the writes -/
theorem stream_inv :
    (reach c0 ins).discarded = false →
      (reach c0 ins).wrote ++ (reach c0 ins).outBuf = ((reach c0 ins).blocks.map (·.2)).flatten := by
  intro hd
  rw [← (per_thread_fifo c0 h0 ins hne).flat]
  exact reach_stream c0 h0 ins hne hd

/-- **per_thread_fifo**: the accepted blocks that were sent on the loop thread are exactly the
blocks `send()` took there, in call order (each is processed inside the call); the accepted
blocks that were sent on other threads are an initial segment of what `send()` took there, in
call order, and as long as the connection is not down the rest is still queued, in order -/
theorem per_thread_fifo :
    (reach c0 ins).lBlocks = (reach c0 ins).offeredL ∧
    (reach c0 ins).fBlocks <+: (reach c0 ins).offeredF ∧
    ((reach c0 ins).st ≠ .kDisconnected →
      (reach c0 ins).fBlocks ++ (reach c0 ins).queuedSends = (reach c0 ins).offeredF) :=
  let h := Conn.per_thread_fifo c0 h0 ins hne
  ⟨h.loopOrder, h.foreignPrefix, h.foreignAll⟩

/-- **write_interest_inv**: while the connection is not down, the channel asks for writability
exactly while there is a backlog (so a backlog is never left without a wake-up, and an empty
one never spins the loop) -/
theorem write_interest_inv :
    (reach c0 ins).st ≠ .kDisconnected →
      ((reach c0 ins).ch.evWrite = true ↔ (reach c0 ins).outBuf ≠ []) :=
  write_interest c0 h0 ins hne

/-- **read_inv** (receive direction): what was appended to the input buffer so far, followed by
what the peer wrote and was not read yet, is everything the peer wrote, in order; and the input
buffer (what the message callback is shown) is the not yet retrieved tail of what was appended -/
theorem read_inv :
    (reach c0 ins).delivered ++ (reach c0 ins).peerPending = (reach c0 ins).peerAll ∧
    (reach c0 ins).inBuf <:+ (reach c0 ins).delivered :=
  Conn.read_inv c0 h0 ins hne

end

/-- the message callback is shown the whole unconsumed input, new bytes included -/
theorem msg_sees_tail (c : Conn) (n : Nat) :
    let seen := c.inBuf ++ c.peerPending.take (n+1)
    c.trace ++ [Ev.msg seen.length (fnv64 seen)] <+: (handleReadRes c (.got (n+1))).trace :=
  Conn.msg_sees_tail c n

/-- **pause_resume**: `stopRead`/`startRead` act on the read interest only: the bytes of both directions, the functor
queues, the state word, the trace, the ownership flags and the write interest are as before (`SameButInterest`) -/
theorem pause_resume (c : Conn) :
    SameButInterest c (stopReadInLoop c) ∧ SameButInterest c (startReadInLoop c) :=
  stopStart_only_read_interest c

/-- **drain_step**: a writable event on a connection with a backlog of `k` bytes of which the
kernel takes `n+1` leaves `k - (n+1)` bytes, and these are the tail of the old backlog -/
theorem drain_step (c : Conn) (n : Nat) (hw : c.ch.evWrite = true) (hr : peekWrite c = .took (n+1)) :
    (handleWrite c).outBuf = c.outBuf.drop (n+1) := by
  rw [handleWrite_outBuf, if_pos hw, hr]

/-- **drain_progress**: under the fairness hypothesis `EnvFairWrites` (every iteration reports
writability and the kernel takes at least one byte: `Draining.fair`) and with nothing else queued
that sends, closes or destroys, a backlog of at most `k` bytes is written out completely after
`k` iterations -/
theorem drain_progress (k : Nat) (c : Conn) (hd : Draining c) (hk : c.outBuf.length ≤ k) :
    (pollOut c k).outBuf = [] :=
  (Conn.drain_progress k c hd hk).1

/-- the three overloads of `send` apply the same state test and hand over the same way -/
theorem send_overloads_agree :
    (∀ st, sendAcceptsBuf st ↔ sendAcceptsPiece st) ∧ sendBufDispatch = sendPieceDispatch ∧
    sendBufHold = sendPieceHold := by
  refine ⟨fun st => Iff.rfl, rfl, rfl⟩

/-- non-vacuity: a 3-send history with a short write, an `EAGAIN`, and a sender on another thread -/
example :
    let ins : List Input :=
      [.envWrite (.took 1), .act false (.send [1, 2, 3]), .act true (.send [4, 5]), .envWrite (.err 11), .iter [.conn 4],
       .act false (.send [6]), .envWrite (.took 6), .iter [.conn 4]]
    Fresh ({} : Conn) ∧ (reach {} ins).discarded = false ∧ (reach {} ins).wrote = [1, 2, 3, 4, 5, 6] ∧
    (reach {} ins).blocks = [(false, [1, 2, 3]), (true, [4, 5]), (false, [6])] := by
  refine ⟨fresh_default .epoll true true true _ _ [] [] [], ?_, ?_, ?_⟩ <;> decide

/-- T1, statement order: in every `TcpConnection` member function the model implements (and in
`Channel::handleEventWithGuard`) the source performs the same significant actions - state stores, channel
operations, callbacks, hand-offs to the loop, member calls, system calls, buffer operations - in the same order
and under the same nesting of the generated guards as `Model/Conn.lean` (`Model/ConnSkelDecl.lean`); re-extracted
from /repo on every run (`Generated/ConnSkel.lean`), proved in `Proofs/ConnSkelTie.lean` -/
theorem statement_order_tied :
    Gen.ConnSkel.sendInLoop = ConnSkel.Decl.sendInLoop ∧
    Gen.ConnSkel.shutdown = ConnSkel.Decl.shutdown ∧
    Gen.ConnSkel.shutdownInLoop = ConnSkel.Decl.shutdownInLoop ∧
    Gen.ConnSkel.forceClose = ConnSkel.Decl.forceClose ∧
    Gen.ConnSkel.forceCloseWithDelay = ConnSkel.Decl.forceCloseWithDelay ∧
    Gen.ConnSkel.forceCloseInLoop = ConnSkel.Decl.forceCloseInLoop ∧
    Gen.ConnSkel.startReadInLoop = ConnSkel.Decl.startReadInLoop ∧
    Gen.ConnSkel.stopReadInLoop = ConnSkel.Decl.stopReadInLoop ∧
    Gen.ConnSkel.connectEstablished = ConnSkel.Decl.connectEstablished ∧
    Gen.ConnSkel.connectDestroyed = ConnSkel.Decl.connectDestroyed ∧
    Gen.ConnSkel.handleRead = ConnSkel.Decl.handleRead ∧
    Gen.ConnSkel.handleWrite = ConnSkel.Decl.handleWrite ∧
    Gen.ConnSkel.handleClose = ConnSkel.Decl.handleClose ∧
    Gen.ConnSkel.handleError = ConnSkel.Decl.handleError ∧
    Gen.ConnSkel.handleEventWithGuard = ConnSkel.Decl.handleEventWithGuard :=
  ConnSkel.skeletons_agree

/-- T1, the public entry points: `startRead()` / `stopRead()` hand their request to the loop unconditionally, the
`send` overloads test the state and then the thread (`Proofs/ConnSkelTie.lean`) -/
theorem entry_points_tied :
    Gen.ConnSkel.startRead = ConnSkel.Decl.startRead ∧
    Gen.ConnSkel.stopRead = ConnSkel.Decl.stopRead ∧
    Gen.ConnSkel.sendPiece = ConnSkel.Decl.sendPiece ∧
    Gen.ConnSkel.sendBuf = ConnSkel.Decl.sendBuf ∧
    Gen.ConnSkel.sendPtr = ConnSkel.Decl.sendPtr ∧
    Gen.ConnSkel.sendInLoopPiece = ConnSkel.Decl.sendInLoopPiece ∧
    Gen.ConnSkel.setTcpNoDelay = ConnSkel.Decl.setTcpNoDelay :=
  ConnSkel.entry_points_agree

/-- **pause/resume requests are never dropped in the calling thread**: from another thread `stopRead()` /
`startRead()` ALWAYS queue their functor, whatever `reading` shows at that moment (it does not yet reflect requests
that are still queued); on the loop thread they run at once -/
theorem read_requests_unconditional (c : Conn) :
    (act c true .stopRead).pending = c.pending ++ [Task.stopReadInLoop] ∧
    (act c true .startRead).pending = c.pending ++ [Task.startReadInLoop] ∧
    act c false .stopRead = stopReadInLoop c ∧ act c false .startRead = startReadInLoop c := by
  refine ⟨?_, ?_, ?_, ?_⟩ <;> simp [act, handOff, enqueue, stopReadDispatch, startReadDispatch]

/-- **the last request wins**: on a connection that is up, a pause followed by a resume (processed in that order by
the loop: the functor queue is FIFO, `C04`) ends with read interest ON, and the reverse ends with it OFF - whatever
the state was before; together with `read_requests_unconditional`: `stopRead(); startRead();` issued back to back
from another thread resumes reading -/
theorem last_read_request_wins (c : Conn) (hu : c.st = .kConnected ∨ c.st = .kDisconnecting) :
    (startReadInLoop (stopReadInLoop c)).ch.evRead = true ∧ (startReadInLoop (stopReadInLoop c)).reading = true ∧
    (stopReadInLoop (startReadInLoop c)).ch.evRead = false ∧ (stopReadInLoop (startReadInLoop c)).reading = false := by
  have h1 := stopStart_read_interest (stopReadInLoop c) (by rw [(stopStart_only_read_interest c).1.st]; exact hu)
  have h2 := stopStart_read_interest (startReadInLoop c) (by rw [(stopStart_only_read_interest c).2.st]; exact hu)
  exact ⟨h1.2.2.1, h1.2.2.2, h2.1, h2.2.1⟩

/-- the whole history: another thread pauses and resumes back to back before the loop has seen either request, the
peer then writes: both functors run in the next iteration (pause, then resume), the bytes are delivered -/
example :
    let c := run (step {} .establish) [.act true .stopRead, .act true .startRead, .iter [], .peerWrite [1, 2, 3],
      .envRead (.got 3), .iter [.conn 1]]
    c.ch.evRead = true ∧ c.reading = true ∧ c.delivered = [1, 2, 3] ∧
    (run (step {} .establish) [.act true .stopRead, .act true .startRead]).pending = [.stopReadInLoop, .startReadInLoop] := by
  decide

end MuduoVerif.C01
