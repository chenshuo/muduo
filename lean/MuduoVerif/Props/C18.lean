import MuduoVerif.Proofs.Codec
import MuduoVerif.Proofs.Http
import MuduoVerif.Proofs.CodecSkelTie
import MuduoVerif.Proofs.CodecObjects
import MuduoVerif.Proofs.CodecEx
import MuduoVerif.Proofs.HttpSkelTie
/-!
# C18 — stream decoders: segmentation-invariant, bounded, reject malformed input

The property theorems with their proofs (and the declarative specification of the request line, `ValidLine`);
the lemmas live in `Proofs/Stream.lean`, `Proofs/Codec.lean`, `Proofs/CodecEx.lean`,
`Proofs/CodecObjects.lean`, `Proofs/Http.lean` and the two `*SkelTie.lean`.  The models (`Model/Codec.lean`,
`Model/Http.lean`) use the constants, guards, offsets and decision trees of `Generated/Codec.lean` /
`Generated/Http.lean` (re-extracted from /repo on every run).
-/
namespace MuduoVerif.C18
open MuduoVerif.Codec MuduoVerif.Gen.Codec
open MuduoVerif.Stream (Dec Res Out feedAll_flatten feed_buf_suffix drain_unfold drain_not_stuck)
open MuduoVerif.Buffer (intBytes)

/-! ## the length-prefixed, checksummed framing (`ProtobufCodecLite`, `RpcCodec`) -/

/-- **segmentation invariance**: delivering a stream to a fresh decoder in any chunks gives
the same decoder (unconsumed bytes, hence consumed count; error flag) and the same events
(messages in order, first error) as delivering it in one piece.  Any tag, any payload
parser, any raw callback, any stream, any segmentation (empty chunks included). -/
theorem seg_invariant (c : Cfg) (chunks : List Bytes) :
    feedAll c Codec.init chunks = feed c Codec.init chunks.flatten :=
  feedAll_flatten (stepOk c) chunks Codec.init (init_settled c)

/-- the same from any decoder at rest (after an error, or with a partial frame buffered) -/
theorem seg_invariant_from (c : Cfg) (d : Dec Unit) (hd : d.dead = true ∨ step c () d.buf = .need)
    (chunks : List Bytes) : feedAll c d chunks = feed c d chunks.flatten :=
  feedAll_flatten (stepOk c) chunks d ⟨trivial, hd⟩

/-- two segmentations of the same stream are indistinguishable -/
theorem seg_any_two (c : Cfg) (chunks₁ chunks₂ : List Bytes) (h : chunks₁.flatten = chunks₂.flatten) :
    feedAll c Codec.init chunks₁ = feedAll c Codec.init chunks₂ := by
  rw [seg_invariant, seg_invariant, h]

/-- **consumed count**: what the decoder holds after any deliveries is the stream minus a
prefix (bytes are consumed from the front, in order, never more than were received) -/
theorem consumed_prefix (c : Cfg) (chunks : List Bytes) :
    ∃ k, k ≤ chunks.flatten.length ∧ (feedAll c Codec.init chunks).1.buf = chunks.flatten.drop k := by
  rw [seg_invariant]
  obtain ⟨k, hk, hr⟩ := feed_buf_suffix (stepOk c) Codec.init trivial chunks.flatten
  exact ⟨k, by simpa [Codec.init] using hk, by simpa [Codec.init, feed] using hr⟩

/-- **first error ends the stream**: the events of any run are messages, followed by exactly
one error iff the decoder is abandoned -/
theorem events_shape (c : Cfg) (chunks : List Bytes) :
    ∃ ps : List Bytes,
      ((feedAll c Codec.init chunks).1.dead = false ∧ (feedAll c Codec.init chunks).2 = ps.map .msg) ∨
      ((feedAll c Codec.init chunks).1.dead = true ∧
        ∃ e, e ≠ .kNoError ∧ (feedAll c Codec.init chunks).2 = ps.map .msg ++ [.err e]) := by
  rw [seg_invariant]
  exact decode_shape c chunks.flatten

/-- **round trip** under the explicit size guard (`_partial`: the guard is not in the code,
see `roundtrip_excluded` - finding F12): what `fillEmptyBuffer` produced decodes to exactly
the payload that was encoded, everything is consumed, no error -/
theorem roundtrip_partial (c : Cfg) (p : Bytes)
    (hmax : c.tag.length + p.length + kChecksumLen ≤ kMaxMessageLen)
    (hp : c.parsePayload p = true) (hraw : c.rawSkip (encode c p) = false) :
    decode c (encode c p) = ({ s := (), buf := [], dead := false }, [.msg p]) := by
  have := decode_encode_append c p [] hmax hp hraw
  rw [List.append_nil] at this
  rw [this, decode_short c [] (by simp only [List.length_nil]; omega)]

/-- a whole stream of encoded messages, followed by an incomplete tail, delivered in any
segmentation, decodes to exactly those messages in order, the tail is kept -/
theorem roundtrip_stream (c : Cfg) (ps : List Bytes) (tail : Bytes) (chunks : List Bytes)
    (hmax : ∀ p ∈ ps, c.tag.length + p.length + kChecksumLen ≤ kMaxMessageLen)
    (hp : ∀ p ∈ ps, c.parsePayload p = true) (hraw : ∀ p ∈ ps, c.rawSkip (encode c p) = false)
    (htail : tail.length < c.tag.length + 8)
    (hch : chunks.flatten = (ps.map (encode c)).flatten ++ tail) :
    feedAll c Codec.init chunks = ({ s := (), buf := tail, dead := false }, ps.map .msg) := by
  rw [seg_invariant, hch]
  exact decode_stream c ps tail hmax hp hraw htail

/-- the full round-trip statement (no size guard) ... -/
def roundtrip_full : Prop :=
  ∀ (c : Cfg) (p : Bytes), c.parsePayload p = true → c.rawSkip (encode c p) = false →
    c.tag.length + p.length + kChecksumLen < 2 ^ 31 →
    decode c (encode c p) = ({ s := (), buf := [], dead := false }, [.msg p])

/-- **F12, the excluded branch**: the encoder has no size check; a message whose frame body
is larger than `kMaxMessageLen` (and fits the int32 length field) is encoded, and the decoder
rejects the result with `InvalidLength`, consuming nothing -/
theorem roundtrip_excluded (c : Cfg) (p : Bytes)
    (hbig : kMaxMessageLen < c.tag.length + p.length + kChecksumLen)
    (h31 : c.tag.length + p.length + kChecksumLen < 2 ^ 31) :
    decode c (encode c p) = ({ s := (), buf := encode c p, dead := true }, [.err .kInvalidLength]) := by
  have h := step_encode_oversize c p [] hbig h31
  rw [List.append_nil] at h
  exact decode_fail c _ _ h

/-- ... is false on the code as it is (negation witness: a 64 MiB payload of zeros, tag "RPC0") -/
theorem roundtrip_full_false : ¬ roundtrip_full := by
  intro h
  have key : ∀ p : Bytes, p.length = 67108864 → False := by
    intro p hlen
    have h1 := h { tag := rpcTag, parsePayload := fun _ => true } p rfl rfl
      (by simp only [hlen]; decide)
    have h2 := roundtrip_excluded { tag := rpcTag, parsePayload := fun _ => true } p
      (by simp only [hlen]; decide) (by simp only [hlen]; decide)
    rw [h1] at h2
    have := congrArg (fun r => r.1.dead) h2
    simp at this
  exact key (List.replicate 67108864 0) List.length_replicate

/-! ### classification of malformed frames

`frame body` is an arbitrary frame: a big-endian length field that announces `body`, then
`body` (any bytes at all); `storedChecksum body` is the signed big-endian value of its last
four bytes, `computedChecksum body` the Adler-32 (as int32) of everything before them.  The
theorems follow the order of the code's tests. -/

/-- a length field outside `[tag+4, 64 MiB]` (negative, zero, too small, too large - whatever
follows it): `InvalidLength`, no message, nothing consumed -/
theorem classify_length (c : Cfg) (stream : Bytes) (h : c.tag.length + 8 ≤ stream.length)
    (hr : asInt32 stream 0 > (kMaxMessageLen : Int) ∨ asInt32 stream 0 < (c.tag.length : Int) + kChecksumLen) :
    decode c stream = ({ s := (), buf := stream, dead := true }, [.err .kInvalidLength]) :=
  decode_fail c _ _ (step_bad_length c stream h hr)

/-- length in range, frame complete, stored checksum ≠ Adler-32 of tag+payload:
`CheckSumError`, no message, nothing consumed -/
theorem classify_checksum (c : Cfg) (body rest : Bytes)
    (hmin : c.tag.length + kChecksumLen ≤ body.length) (hmax : body.length ≤ kMaxMessageLen)
    (hraw : c.rawSkip (frame body) = false)
    (hck : storedChecksum body ≠ computedChecksum body) :
    decode c (frame body ++ rest)
      = ({ s := (), buf := frame body ++ rest, dead := true }, [.err .kCheckSumError]) :=
  decode_frame_err c body rest hmin hmax hraw (by rw [parse_eq c body hmin, if_neg hck]) (by decide)

/-- checksum right, tag different: `UnknownMessageType` -/
theorem classify_tag (c : Cfg) (body rest : Bytes)
    (hmin : c.tag.length + kChecksumLen ≤ body.length) (hmax : body.length ≤ kMaxMessageLen)
    (hraw : c.rawSkip (frame body) = false)
    (hck : storedChecksum body = computedChecksum body)
    (htag : body.take c.tag.length ≠ c.tag) :
    decode c (frame body ++ rest)
      = ({ s := (), buf := frame body ++ rest, dead := true }, [.err .kUnknownMessageType]) :=
  decode_frame_err c body rest hmin hmax hraw (by rw [parse_eq c body hmin, if_pos hck, if_neg htag]) (by decide)

/-- checksum and tag right, payload rejected by protobuf: `ParseError` -/
theorem classify_parse (c : Cfg) (body rest : Bytes)
    (hmin : c.tag.length + kChecksumLen ≤ body.length) (hmax : body.length ≤ kMaxMessageLen)
    (hraw : c.rawSkip (frame body) = false)
    (hck : storedChecksum body = computedChecksum body)
    (htag : body.take c.tag.length = c.tag)
    (hp : c.parsePayload ((body.drop c.tag.length).take (body.length - 4 - c.tag.length)) = false) :
    decode c (frame body ++ rest)
      = ({ s := (), buf := frame body ++ rest, dead := true }, [.err .kParseError]) :=
  decode_frame_err c body rest hmin hmax hraw (by rw [parse_eq c body hmin, if_pos hck, if_pos htag, hp]; rfl)
    (by decide)

/-- ... and a frame that passes all four tests is delivered: the classification is complete -/
theorem classify_good (c : Cfg) (body rest : Bytes)
    (hmin : c.tag.length + kChecksumLen ≤ body.length) (hmax : body.length ≤ kMaxMessageLen)
    (hraw : c.rawSkip (frame body) = false)
    (hck : storedChecksum body = computedChecksum body)
    (htag : body.take c.tag.length = c.tag)
    (hp : c.parsePayload ((body.drop c.tag.length).take (body.length - 4 - c.tag.length)) = true) :
    step c () (frame body ++ rest)
      = .adv () [.msg ((body.drop c.tag.length).take (body.length - 4 - c.tag.length))] (4 + body.length) := by
  have hp : parse c body = .kNoError := by
    rw [parse_eq c body hmin, if_pos hck, if_pos htag, hp]; rfl
  rw [step_frame c body rest hmin hmax, verdict, if_neg (by rw [hraw]; exact Bool.false_ne_true), if_pos hp,
    payloadOf_eq]

/-- an error never comes with a message and never consumes anything: whatever the buffer
holds, when an iteration reports an error the call returns with the buffer untouched -/
theorem error_not_delivered (c : Cfg) (buf : Bytes) (e : Event) (h : step c () buf = .fail e) :
    onMessage c buf = { s := (), rest := buf, dead := true, stuck := false, evs := [e] } ∧
    ∃ code, code ≠ .kNoError ∧ e = .err code := by
  refine ⟨?_, (h ▸ step_spec c buf :).1⟩
  rw [onMessage, drain_unfold (stepOk c) () buf trivial, h]

/-- an iteration that delivers (or drops, raw callback) a frame consumes exactly
`4 + length field` bytes, all of them received, and its verdict is a function of exactly
those bytes: it is the same on the frame alone and with anything behind it -/
theorem bounded_consumption (c : Cfg) (buf : Bytes) (evs : List Event) (k : Nat)
    (h : step c () buf = .adv () evs k) :
    (k : Int) = 4 + asInt32 buf 0 ∧ k ≤ buf.length ∧
    step c () (buf.take k) = .adv () evs k ∧
    ∀ rest, step c () (buf.take k ++ rest) = .adv () evs k := by
  obtain ⟨body, rest, rfl, hmin, hmax, rfl, _, hv⟩ := (h ▸ step_spec c buf :)
  have ht : (frame body ++ rest).take (4 + body.length) = frame body := by
    rw [← frame_length]; exact List.take_left' rfl
  unfold kMaxMessageLen at hmax
  refine ⟨by rw [asInt32_frame body rest (by omega)]; omega, by rw [List.length_append, frame_length]; omega, ?_, ?_⟩
  · rw [ht, ← List.append_nil (frame body)]; exact hv []
  · rw [ht]; exact hv

/-- an error verdict, likewise, does not depend on what follows the bytes it looked at -/
theorem error_independent_of_rest (c : Cfg) (buf rest : Bytes) (e : Event)
    (h : step c () buf = .fail e) : step c () (buf ++ rest) = .fail e :=
  (h ▸ step_spec c buf :).2 rest

/-- decoding `encode p ++ rest` delivers `p`, consumes exactly the frame and continues with
`rest` exactly as if `rest` had arrived alone: no byte of the next message is read or consumed -/
theorem frame_then_rest (c : Cfg) (p rest : Bytes)
    (hmax : c.tag.length + p.length + kChecksumLen ≤ kMaxMessageLen)
    (hp : c.parsePayload p = true) (hraw : c.rawSkip (encode c p) = false) :
    decode c (encode c p ++ rest) = ((decode c rest).1, .msg p :: (decode c rest).2) ∧
    (encode c p).length = 4 + (c.tag.length + p.length + 4) :=
  ⟨decode_encode_append c p rest hmax hp hraw, encode_length c p⟩

/-- the loop always terminates: it is never cut short by the model's iteration allowance -/
theorem decoder_terminates (c : Cfg) (buf : Bytes) : (onMessage c buf).stuck = false :=
  drain_not_stuck (stepOk c) () buf trivial

/-! ### Adler-32 (the implementation calls zlib; equality on all generated frames is part of
the differential run) - the published test vectors, and the 32-bit range on a long input -/
theorem adler32_vectors :
    adler32 1 [] = 1 ∧
    adler32 1 [0x61] = 0x00620062 ∧
    adler32 1 [0x57, 0x69, 0x6b, 0x69, 0x70, 0x65, 0x64, 0x69, 0x61] = 0x11E60398 ∧
    adler32 1 (List.replicate 6000 0xff) = adler32 1 (List.replicate 6000 0xff) % 2 ^ 32 := by
  refine ⟨by decide, by decide, by decide, ?_⟩
  exact (Nat.mod_eq_of_lt (adler32_lt 1 (by decide) _)).symm

/-- hypotheses of the theorems above are satisfiable: a concrete tag, payload and raw mode -/
example : ∃ (c : Cfg) (p : Bytes), c.tag.length + p.length + kChecksumLen ≤ kMaxMessageLen ∧
    c.parsePayload p = true ∧ c.rawSkip (encode c p) = false ∧ p ≠ [] :=
  ⟨{ tag := rpcTag, parsePayload := fun _ => true }, [8, 1], by decide, rfl, rfl, by decide⟩

/-! ## the example codec (`examples/protobuf/codec/codec.cc`): round trip -/

/-- **every message the example codec encodes decodes to an equal message**: for every type name (non-empty: the wire
format stores it with its NUL and the decoder demands `nameLen >= 2`) that `createMessage` knows and every payload
protobuf parses for that type, of ANY size within the decoder's limit, the frame `ProtobufCodec::fillEmptyBuffer`
builds (`Ex.encode`: length, name length, name + NUL, payload, Adler-32 of those three) is decoded by
`ProtobufCodec::onMessage` (`Ex.step` / `Ex.feed`) to exactly that type name and payload, the whole frame and nothing
else is consumed, whatever follows it in the buffer.  Sizes are unbounded naturals here: the growth of the real
`Buffer` while the encoder writes is the implementation's business and is watched by the differential run. -/
theorem ex_roundtrip (c : Ex.Cfg) (typeName payload : Bytes) (hname : 1 ≤ typeName.length)
    (hmax : 4 + (typeName.length + 1) + payload.length + 4 ≤ Gen.ExCodec.kMaxMessageLen)
    (hk : c.typeKnown typeName = true) (hp : c.parsePayload typeName payload = true) :
    Ex.feed c Ex.init (Ex.encode typeName payload) = ({ s := (), buf := [], dead := false }, [.msg typeName payload]) ∧
    ∀ rest, Ex.step c () (Ex.encode typeName payload ++ rest)
      = .adv () [.msg typeName payload] (Ex.encode typeName payload).length :=
  ⟨Ex.feed_encode c typeName payload hname hmax hk hp, fun rest => Ex.step_encode c typeName payload rest hname hmax hk hp⟩

/-- the hypotheses of `ex_roundtrip` are satisfiable -/
example : ∃ (c : Ex.Cfg) (t p : Bytes), 1 ≤ t.length ∧ 4 + (t.length + 1) + p.length + 4 ≤ Gen.ExCodec.kMaxMessageLen ∧
    c.typeKnown t = true ∧ c.parsePayload t p = true :=
  ⟨{ typeKnown := fun _ => true, parsePayload := fun _ _ => true }, [77], [8, 1], by decide, by decide, rfl, rfl⟩

/-- **the messages one `onMessage` call delivers are fresh objects**: for every codec, every decoder state and every
chunk, the pointers the message callback receives during that call (`Heap.handed`) refer to pairwise distinct
objects, and when `onMessage` has returned each of them still holds exactly the payload it was delivered with - so a
consumer that keeps the `shared_ptr`s sees, in any segmentation, the messages that were sent.  `heldAfter` runs the
call's events over an explicit heap (allocation counter, current object, per-object content) under the allocation
discipline of the current source, `Gen.Codec.allocPerFrame` (T1: `prototype_->New()` is an unconditional statement of
the loop body in front of `parse`); with `allocPerFrame = false` this theorem does not compile and
`shared_object_is_overwritten` shows what the consumer would hold. -/
theorem delivered_messages_are_fresh (c : Cfg) (d : Dec Unit) (chunk : Bytes) :
    ((heldAfter (feed c d chunk).2).map (·.1)).Nodup ∧
    (heldAfter (feed c d chunk).2).map (·.2) = (delivered (feed c d chunk).2).map some := by
  have h := heapOf_perFrame (feed c d chunk).2 {} Heap.inv_empty
  have hp : allocPerFrame = true := rfl
  unfold heldAfter
  rw [hp]
  refine ⟨?_, ?_⟩
  · rw [held_fst]; exact h.1.nodup
  · rw [h.2]; simp [Heap.held]

/-- the statement is not vacuous: with one object for all frames of a call (allocated lazily, or in front of the
loop) two delivered messages are the same object and the first is overwritten by the second; with an object per
frame they are two objects with their own contents (kernel evaluation of the heap model) -/
theorem shared_object_is_overwritten :
    (heapOf false {} [.msg [1], .msg [2]]).held = [(0, some [2]), (0, some [2])] ∧
    (heapOf true {} [.msg [1], .msg [2]]).held = [(0, some [1]), (1, some [2])] := by decide

/-! ## the HTTP request parser (`HttpContext`, `HttpRequest`) -/

/-! ### the request line against a declarative spec

The spec below is written from the HTTP/1.x grammar with byte literals only - it uses nothing of
`Generated/Http.lean` or `Model/Http.lean` except the names of the `Method` / `Version`
enumerators:

    request-line = method SP request-target SP "HTTP/1." ( "0" / "1" )
    method       = "GET" / "POST" / "HEAD" / "PUT" / "DELETE"        ; what the library supports
    request-target = 1*( any octet except SP and CTL ), not beginning with "?" (the path is not empty)

It is deliberately lenient on the *form* of the target (origin, absolute, authority and asterisk
form all pass; octets above 0x7f pass), so that only unambiguous violations count. -/

def SP : UInt8 := 0x20
/-- CTL = %x00-1F / %x7F -/
def CTL (b : UInt8) : Prop := b.toNat ≤ 0x1f ∨ b.toNat = 0x7f
/-- the method tokens and what they denote -/
def methods : List (List UInt8 × Gen.Http.Method) :=
  [([0x47, 0x45, 0x54], .kGet),                       -- GET
   ([0x50, 0x4f, 0x53, 0x54], .kPost),                -- POST
   ([0x48, 0x45, 0x41, 0x44], .kHead),                -- HEAD
   ([0x50, 0x55, 0x54], .kPut),                       -- PUT
   ([0x44, 0x45, 0x4c, 0x45, 0x54, 0x45], .kDelete)]  -- DELETE
/-- "HTTP/1." -/
def httpVersionPrefix : List UInt8 := [0x48, 0x54, 0x54, 0x50, 0x2f, 0x31, 0x2e]
/-- the minor-version digit and what it denotes -/
def minorVersions : List (UInt8 × Gen.Http.Version) := [(0x30, .kHttp10), (0x31, .kHttp11)]

def ValidTarget (t : List UInt8) : Prop :=
  t ≠ [] ∧ t.head? ≠ some 0x3f ∧ ∀ b ∈ t, b ≠ SP ∧ ¬ CTL b

def ValidLine (line : List UInt8) : Prop :=
  ∃ m t d, m ∈ methods.map (·.1) ∧ ValidTarget t ∧ d ∈ minorVersions.map (·.1) ∧
    line = m ++ [SP] ++ t ++ [SP] ++ httpVersionPrefix ++ [d]

private theorem targetOk_iff (t : List UInt8) (hsp : Gen.Http.targetSep ∉ t) :
    Http.targetOk t ↔ ValidTarget t := by
  unfold Http.targetOk ValidTarget
  rw [Http.find_ne_zero_iff, Http.findIf_eq_length_iff]
  have hq : Gen.Http.querySep = 0x3f := rfl
  rw [hq]
  constructor
  · rintro ⟨⟨h1, h2⟩, h3⟩
    refine ⟨h1, h2, fun b hb => ⟨fun e => hsp (by rw [e] at hb; exact hb), ?_⟩⟩
    have := h3 b hb
    simp only [decide_eq_false_iff_not] at this
    intro hc; apply this
    unfold Gen.Http.isControl; unfold CTL at hc; omega
  · rintro ⟨h1, h2, h3⟩
    refine ⟨⟨h1, h2⟩, fun b hb => ?_⟩
    simp only [decide_eq_false_iff_not]
    intro hc; apply (h3 b hb).2
    unfold Gen.Http.isControl at hc; unfold CTL; omega

/-- `processRequestLine` on a line with both separators, in the spec's spelling of the line -/
private theorem requestLine_eq (m t ver : List UInt8) (hm : SP ∉ m) (ht : SP ∉ t) :
    Http.processRequestLine (m ++ [SP] ++ t ++ [SP] ++ ver) =
      if Gen.Http.methodAccepted (Http.setMethod m) ∧ Http.targetOk t then
        (Http.versionOf ver).map fun v =>
          { method := Http.setMethod m, path := t.take (Http.find Gen.Http.querySep t),
            query := t.drop (Http.find Gen.Http.querySep t), version := v }
      else none := by
  rw [← Http.processRequestLine_parts m t ver hm ht]
  simp only [List.append_assoc, List.cons_append, List.nil_append]
  rfl

/-- **request line**: `processRequestLine` accepts a line iff it is
`METHOD SP request-target SP "HTTP/1." ("0"|"1")` with one of the five supported methods and a
request-target that is non-empty, free of SP and CTL and has a non-empty path.  (Full strength
since the fix of F19: before it, an empty target, a target consisting of a query only, and
control bytes in the target were accepted.) -/
theorem line_valid_iff (line : List UInt8) :
    (Http.processRequestLine line).isSome ↔ ValidLine line := by
  have hmeth : Gen.Http.methodTable.map (·.1) = methods.map (·.1) := by decide
  have hver : Gen.Http.versionTable.map (·.1) = [0x31, 0x30] := by decide
  have hms : Gen.Http.methodSep = SP := rfl
  have hts : Gen.Http.targetSep = SP := rfl
  constructor
  · intro h
    -- a line without both separators is rejected, so an accepted one is `m SP t SP ver` and `processRequestLine_parts` reads it
    by_cases h1 : Gen.Http.methodSep ∉ line
    · rw [Http.processRequestLine_no_sep line h1] at h; cases h
    obtain ⟨m, rest, rfl, hm⟩ := List.eq_append_cons_of_mem (Classical.not_not.mp h1)
    by_cases h2 : Gen.Http.targetSep ∉ rest
    · rw [Http.processRequestLine_one_sep m rest hm h2] at h; cases h
    obtain ⟨t, ver, rfl, ht⟩ := List.eq_append_cons_of_mem (Classical.not_not.mp h2)
    rw [Http.processRequestLine_parts m t ver hm ht] at h
    split at h
    · rename_i hc
      obtain ⟨hma, hto⟩ := hc
      rw [Option.isSome_map] at h
      obtain ⟨d, hd, hv⟩ := (Http.versionOf_isSome_iff ver).mp h
      refine ⟨m, t, d, ?_, (targetOk_iff t ht).mp hto, ?_, ?_⟩
      · rw [← hmeth]; exact (Http.setMethod_accepted_iff m).mp hma
      · rw [hver] at hd
        simp only [minorVersions, List.map_cons, List.map_nil, List.mem_cons, List.not_mem_nil, or_false] at hd ⊢
        exact hd.symm
      · rw [hv, hms, hts]
        have : Gen.Http.versionPrefix = httpVersionPrefix := rfl
        rw [this]
        simp only [List.append_assoc, List.cons_append, List.nil_append]
    · cases h
  · rintro ⟨m, t, d, hm, ht, hd, rfl⟩
    have hm_sp : ∀ m ∈ methods.map (·.1), SP ∉ m := by decide
    have ht_sp : SP ∉ t := fun h => (ht.2.2 _ h).1 rfl
    rw [List.append_assoc _ httpVersionPrefix, requestLine_eq m t _ (hm_sp m hm) ht_sp,
      if_pos ⟨(Http.setMethod_accepted_iff m).mpr (by rw [hmeth]; exact hm), (targetOk_iff t ht_sp).mpr ht⟩,
      Option.isSome_map]
    refine (Http.versionOf_isSome_iff _).mpr ⟨d, ?_, rfl⟩
    rw [hver]
    simp only [minorVersions, List.map_cons, List.map_nil, List.mem_cons, List.not_mem_nil, or_false] at hd ⊢
    exact hd.symm

/-- ... and what an accepted line sets: the method and version the tokens denote, the path = the
target up to the first "?", the query = the rest of the target from that "?" on -/
theorem line_valid_result (e : List UInt8 × Gen.Http.Method) (t : List UInt8) (v : UInt8 × Gen.Http.Version)
    (he : e ∈ methods) (ht : ValidTarget t) (hv : v ∈ minorVersions) :
    Http.processRequestLine (e.1 ++ [SP] ++ t ++ [SP] ++ httpVersionPrefix ++ [v.1]) =
      some { method := e.2, path := t.takeWhile (· != 0x3f), query := t.dropWhile (· != 0x3f), version := v.2 } := by
  have hmt : methods = Gen.Http.methodTable := by decide
  have hm_sp : ∀ e ∈ methods, SP ∉ e.1 := by decide
  have ht_sp : SP ∉ t := fun h => (ht.2.2 _ h).1 rfl
  have he' : e ∈ Gen.Http.methodTable := hmt ▸ he
  have hv' : v ∈ Gen.Http.versionTable := by
    have : ∀ v ∈ minorVersions, v ∈ Gen.Http.versionTable := by decide
    exact this v hv
  rw [List.append_assoc _ httpVersionPrefix, requestLine_eq e.1 t _ (hm_sp e he) ht_sp,
    if_pos ⟨(Http.setMethod_accepted_iff e.1).mpr (List.mem_map.mpr ⟨e, he', rfl⟩), (targetOk_iff t ht_sp).mpr ht⟩,
    show httpVersionPrefix = Gen.Http.versionPrefix from rfl, Http.versionOf_append v hv',
    Http.setMethod_of_mem e he', Http.take_find, Http.drop_find]
  rfl

/-- the three repaired halves of F19, stated directly: whatever the method token and whatever
follows the second separator, a request-target that is empty, or begins with "?" (empty path),
or contains a control byte makes the line invalid -/
theorem malformed_target_rejected (m t ver : List UInt8) (hm : SP ∉ m) (ht : SP ∉ t)
    (hbad : t = [] ∨ t.head? = some 0x3f ∨ ∃ b ∈ t, CTL b) :
    Http.processRequestLine (m ++ [SP] ++ t ++ [SP] ++ ver) = none := by
  rw [requestLine_eq m t ver hm ht, if_neg]
  rintro ⟨_, hto⟩
  obtain ⟨h1, h2, h3⟩ := (targetOk_iff t ht).mp hto
  rcases hbad with h | h | ⟨b, hb, hc⟩
  · exact h1 h
  · exact h2 h
  · exact (h3 b hb).2 hc

/-- the hypotheses of the theorems above are satisfiable, and the witnesses of the old defects are
invalid lines: `GET /x?y=1 HTTP/1.1` is valid; `GET  HTTP/1.1`, `GET ? HTTP/1.1` and
`GET /<01> HTTP/1.0` are rejected -/
theorem line_examples :
    ValidLine [0x47, 0x45, 0x54, 0x20, 0x2f, 0x78, 0x3f, 0x79, 0x3d, 0x31, 0x20, 0x48, 0x54, 0x54, 0x50, 0x2f, 0x31, 0x2e, 0x31] ∧
    Http.processRequestLine [0x47, 0x45, 0x54, 0x20, 0x2f, 0x78, 0x3f, 0x79, 0x3d, 0x31, 0x20, 0x48, 0x54, 0x54, 0x50, 0x2f, 0x31, 0x2e, 0x31]
      = some { method := .kGet, path := [0x2f, 0x78], query := [0x3f, 0x79, 0x3d, 0x31], version := .kHttp11 } ∧
    Http.processRequestLine [0x47, 0x45, 0x54, 0x20, 0x20, 0x48, 0x54, 0x54, 0x50, 0x2f, 0x31, 0x2e, 0x31] = none ∧
    Http.processRequestLine [0x47, 0x45, 0x54, 0x20, 0x3f, 0x20, 0x48, 0x54, 0x54, 0x50, 0x2f, 0x31, 0x2e, 0x31] = none ∧
    Http.processRequestLine [0x47, 0x45, 0x54, 0x20, 0x2f, 0x01, 0x20, 0x48, 0x54, 0x54, 0x50, 0x2f, 0x31, 0x2e, 0x30] = none := by
  refine ⟨?_, by decide, by decide, by decide, by decide⟩
  rw [← line_valid_iff]; decide

/-! ### segmentation invariance, complete lines only, termination

`Http.feed` is one delivery to a connection served the way `HttpServer::onMessage` does it
(`parseRequest`; on failure give up; on `gotAll()` hand the request over and `reset()`), repeated
while complete requests keep coming out of the buffer.  `Http.Parsing ctx`: the parser stands at
a line boundary of an unfinished request (state `kExpectRequestLine` / `kExpectHeaders`) - the
states in which the server calls it. -/

/-- **segmentation invariance**: delivering a request stream to a fresh connection in any chunks
gives the same requests in the same order, the same first error, the same unconsumed bytes
(hence consumed count) and the same request under construction as delivering it in one piece -/
theorem http_seg_invariant (chunks : List (List UInt8)) :
    Http.feedAll Http.init chunks = Http.feed Http.init chunks.flatten := by
  rw [Http.feedAll_eq chunks Http.init Http.Parsing.fresh, Http.feed_eq Http.init Http.Parsing.fresh]
  exact feedAll_flatten Http.stepOk chunks Http.init Http.init_settled

/-- the same from any connection at rest (abandoned, or waiting for the rest of a line) -/
theorem http_seg_invariant_from (d : Dec Http.Ctx) (hI : Http.Parsing d.s)
    (hd : d.dead = true ∨ Http.findCRLF d.buf = none) (chunks : List (List UInt8)) :
    Http.feedAll d chunks = Http.feed d chunks.flatten := by
  rw [Http.feedAll_eq chunks d hI, Http.feed_eq d hI]
  exact feedAll_flatten Http.stepOk chunks d ⟨hI, hd.imp id (Http.step_of_no_crlf hI)⟩

/-- two segmentations of the same stream are indistinguishable -/
theorem http_seg_any_two (chunks₁ chunks₂ : List (List UInt8)) (h : chunks₁.flatten = chunks₂.flatten) :
    Http.feedAll Http.init chunks₁ = Http.feedAll Http.init chunks₂ := by
  rw [http_seg_invariant, http_seg_invariant, h]

/-- **only complete lines are consumed**: an iteration of the parser that consumes `k` bytes has
found a CR LF at offset `k - 2` inside the received bytes (it consumes exactly that line and its
terminator), and its verdict is the same whatever arrives behind that line; without a CR LF in
the buffer the whole driver consumes nothing, reports nothing and keeps its state -/
theorem only_complete_lines (ctx : Http.Ctx) (hI : Http.Parsing ctx) (buf : List UInt8) :
    (∀ ctx' evs k, Http.step ctx buf = .adv ctx' evs k →
      ∃ j, k = j + 2 ∧ k ≤ buf.length ∧ buf.drop j = 13 :: 10 :: buf.drop k ∧
        ∀ more, Http.step ctx (buf.take k ++ more) = .adv ctx' evs k) ∧
    (Http.findCRLF buf = none →
      Http.serve ctx buf = { s := ctx, rest := buf, dead := false, stuck := false, evs := [] }) := by
  constructor
  · intro ctx' evs k h
    obtain ⟨j, hj, rfl, _⟩ := Http.step_adv hI h
    obtain ⟨hj2, hdrop⟩ := Http.findCRLF_some buf j hj
    refine ⟨j, rfl, hj2, hdrop, fun more => ?_⟩
    unfold Http.step at h ⊢
    rw [Http.lineStep_take ctx buf more j hj]; exact h
  · intro hn
    rw [Http.serve_eq_drain ctx buf hI, drain_unfold Http.stepOk ctx buf hI, Http.step_of_no_crlf hI hn]

/-- **termination** under the stated precondition: called in a state the server calls it in,
`parseRequest` returns, and so does the whole drain driver -/
theorem http_terminates (ctx : Http.Ctx) (hI : Http.Parsing ctx) (buf : List UInt8) :
    (Http.parseRequest ctx buf).stuck = false ∧ (Http.serve ctx buf).stuck = false := by
  refine ⟨(Http.parseLoop_spec _ ctx buf hI (Nat.lt_succ_self _)).2.1, ?_⟩
  rw [Http.serve_eq_drain ctx buf hI]
  exact drain_not_stuck Http.stepOk ctx buf hI

/-- **termination finding**: the `while (hasMore)` loop of `parseRequest` has no arm for
`kGotAll` and an empty one for `kExpectBody`; called in one of these states it never returns
(whatever the buffer holds, for every iteration allowance the model is still running).  The
real driver `HttpServer::onMessage` resets the context after `gotAll()`, so it does not get there. -/
theorem parse_spins (ctx : Http.Ctx) (h : ctx.state = .kGotAll ∨ ctx.state = .kExpectBody) (buf : List UInt8) :
    (∀ n, (Http.parseLoop n ctx buf).stuck = true ∧ (Http.parseLoop n ctx buf).rest = buf) ∧
    (Http.parseRequest ctx buf).stuck = true := by
  have hs : Http.spins ctx.state = true := by
    rcases h with h | h <;> rw [h] <;> decide
  refine ⟨fun n => ?_, ?_⟩
  · rw [Http.parseLoop_spins ctx hs n buf]; exact ⟨rfl, rfl⟩
  · unfold Http.parseRequest; rw [Http.parseLoop_spins ctx hs _ buf]

/-- the invariant is not vacuous: a fresh context satisfies it, and a complete request delivered
in two pieces split between CR and LF comes out as one request -/
theorem http_example :
    Http.Parsing Http.Ctx.fresh ∧
    (Http.feedAll Http.init [[0x47, 0x45, 0x54, 0x20, 0x2f, 0x20, 0x48, 0x54, 0x54, 0x50, 0x2f, 0x31, 0x2e, 0x30, 0x0d],
                             [0x0a, 0x0d, 0x0a]]).2
      = [.request { method := .kGet, version := .kHttp10, path := [0x2f], query := [], headers := [] }] := by
  refine ⟨Http.Parsing.fresh, ?_⟩
  rw [http_seg_invariant]; decide

/-- **the models follow the code's statement order**: every modelled function of `ProtobufCodecLite.cc`, of the example
`codec.cc`, of `HttpContext.cc` and the `HttpRequest` setters it calls performs the same significant actions (stores,
buffer operations, callbacks, calls of the codec / zlib / protobuf, `retrieve`, `break` / `continue`, `return`), in the
same order, under the same nesting of the same guards and `while` loops as `Model/Codec.lean` / `Model/Http.lean`
(`Model/CodecSkelDecl.lean`, `Model/HttpSkelDecl.lean`); re-extracted from /repo on every run
(`Generated/CodecSkel.lean`, `Generated/HttpSkel.lean`), proved in `Proofs/CodecSkelTie.lean`, `Proofs/HttpSkelTie.lean` -/
theorem statement_order_tied :
    (Gen.CodecSkel.send = CodecSkel.Decl.send ∧
     Gen.CodecSkel.fillEmptyBuffer = CodecSkel.Decl.fillEmptyBuffer ∧
     Gen.CodecSkel.onMessage = CodecSkel.Decl.onMessage ∧
     Gen.CodecSkel.parseFromBuffer = CodecSkel.Decl.parseFromBuffer ∧
     Gen.CodecSkel.serializeToBuffer = CodecSkel.Decl.serializeToBuffer ∧
     Gen.CodecSkel.asInt32 = CodecSkel.Decl.asInt32 ∧
     Gen.CodecSkel.checksum = CodecSkel.Decl.checksum ∧
     Gen.CodecSkel.validateChecksum = CodecSkel.Decl.validateChecksum ∧
     Gen.CodecSkel.parse = CodecSkel.Decl.parse ∧
     Gen.CodecSkel.exFillEmptyBuffer = CodecSkel.Decl.exFillEmptyBuffer ∧
     Gen.CodecSkel.exAsInt32 = CodecSkel.Decl.exAsInt32 ∧
     Gen.CodecSkel.exOnMessage = CodecSkel.Decl.exOnMessage ∧
     Gen.CodecSkel.exCreateMessage = CodecSkel.Decl.exCreateMessage ∧
     Gen.CodecSkel.exParse = CodecSkel.Decl.exParse) ∧
    (Gen.HttpSkel.processRequestLine = HttpSkel.Decl.processRequestLine ∧
     Gen.HttpSkel.parseRequest = HttpSkel.Decl.parseRequest ∧
     Gen.HttpSkel.setVersion = HttpSkel.Decl.setVersion ∧
     Gen.HttpSkel.setMethod = HttpSkel.Decl.setMethod ∧
     Gen.HttpSkel.setPath = HttpSkel.Decl.setPath ∧
     Gen.HttpSkel.setQuery = HttpSkel.Decl.setQuery ∧
     Gen.HttpSkel.setReceiveTime = HttpSkel.Decl.setReceiveTime ∧
     Gen.HttpSkel.addHeader = HttpSkel.Decl.addHeader) :=
  ⟨CodecSkel.skeletons_agree, HttpSkel.skeletons_agree⟩

end MuduoVerif.C18
