import MuduoVerif.Proofs.MonitorQueue
import MuduoVerif.Proofs.MonitorLatch
import MuduoVerif.Proofs.ThreadSkelTie
/-!
# C14 — blocking queues and latch: FIFO, bounded, nothing lost, nobody left waiting

All statements are about every state reachable in the transition systems of `Model/Monitor.lean`
(`qstep`, `lstep`): any number of threads, any programs, any capacity, every interleaving of lock
acquisitions, critical sections and spurious wake-ups, every choice `notify` makes among the waiters.
The systems interpret the statement skeletons and guards extracted from /repo (`Generated/Monitor.lean`);
`Proofs/MonitorTie.lean` pins them to the skeleton the proofs are about.
-/
namespace MuduoVerif.C14
open MuduoVerif.Monitor

variable {cap : Option Nat} {prog : Nat → List QOp} {sched : List Nat} {s : QState}

/-- FIFO: what `take`/`drain` returned so far (in mutex order), followed by what is still queued, is
exactly what was `put` (in mutex order) — every element is returned at most once, nothing is invented,
nothing overtakes, and what has not been returned yet is still in the queue. -/
theorem fifo (hr : QReach (qinit cap prog sched) s) : taken s.log ++ s.q = puts s.log :=
  (qinv_reach (qinv_init cap prog sched) hr).fifo

/-- the elements of one producer come out in that producer's order: per producer, the returned
elements are a prefix of the elements it put -/
theorem fifo_per_producer (hr : QReach (qinit cap prog sched) s) (p : Nat) :
    (taken s.log).filter (fun x => x.1 = p) <+: (puts s.log).filter (fun x => x.1 = p) := by
  rw [← fifo hr, List.filter_append]
  exact List.prefix_append _ _

/-- … and the producer's order is its program order: the operations a thread has completed, followed
by those it has not, are its program -/
theorem program_order (hr : QReach (qinit cap prog sched) s) (p : Nat) : opsOf p s.log ++ s.prog p = prog p :=
  (qinv_reach (qinv_init cap prog sched) hr).hist p

/-- a bounded queue never holds more than its capacity -/
theorem bounded (hr : QReach (qinit cap prog sched) s) (c : Nat) (hc : cap = some c) : s.q.length ≤ c :=
  let h := qinv_reach (qinv_init cap prog sched) hr
  h.bnd c (h.capc.trans hc)

/-- no wake-up is lost on `notEmpty_`: while somebody waits unsignalled there are at least as many
signalled consumers on their way as there are elements -/
theorem no_lost_signal_notEmpty (hr : QReach (qinit cap prog sched) s) (hW : s.ne.W ≠ []) :
    s.q.length ≤ s.ne.S.length :=
  (qinv_reach (qinv_init cap prog sched) hr).sigE hW

/-- no wake-up is lost on `notFull_` -/
theorem no_lost_signal_notFull (hr : QReach (qinit cap prog sched) s) (c : Nat) (hc : cap = some c)
    (hW : s.nf.W ≠ []) : c - s.q.length ≤ s.nf.S.length :=
  let h := qinv_reach (qinv_init cap prog sched) hr
  h.sigF c (h.capc.trans hc) hW

/-- who is inside `wait()` on `notEmpty_` is in `take`, who is inside `wait()` on `notFull_` is in `put` -/
theorem parked_where (hr : QReach (qinit cap prog sched) s) (t : Nat) :
    ((t ∈ s.ne.W ∨ t ∈ s.ne.S) → ∃ rest, s.prog t = .take :: rest) ∧
    ((t ∈ s.nf.W ∨ t ∈ s.nf.S) → ∃ v rest, s.prog t = .put v :: rest) :=
  let h := qinv_reach (qinv_init cap prog sched) hr
  ⟨h.st.role .notEmpty t, fun hx => (h.st.role .notFull t hx).2⟩

/-- nobody is left waiting while its condition holds: in every reachable state in which no thread can
take a step, every thread that is not finished is parked, unsignalled, in `take` facing an empty queue
or in `put` facing a full one -/
theorem nobody_stuck (hr : QReach (qinit cap prog sched) s) (hb : QBlocked s) (t : Nat) (ht : s.prog t ≠ []) :
    (t ∈ s.ne.W ∧ (∃ rest, s.prog t = .take :: rest) ∧ s.q = []) ∨
    (t ∈ s.nf.W ∧ (∃ v rest, s.prog t = .put v :: rest) ∧ ∃ c, cap = some c ∧ s.q.length = c) := by
  have h := qinv_reach (qinv_init cap prog sched) hr
  -- nobody holds the mutex or is signalled, so `t` waits unsignalled (else `acq t` is enabled) and `Covers` has `S = []`
  obtain ⟨hown, hE, hF⟩ := q_blocked_facts h hb
  have hacq := (hb t).1
  simp only [qstep] at hacq
  have hW : t ∈ s.ne.W ∨ t ∈ s.nf.W := by
    by_cases h1 : t ∈ s.ne.W
    · exact Or.inl h1
    · by_cases h2 : t ∈ s.nf.W
      · exact Or.inr h2
      · rw [if_pos ⟨hown, ht, h1, h2⟩] at hacq; cases hacq
  rcases hW with hW | hW
  · left
    refine ⟨hW, h.st.role .notEmpty t (Or.inl hW), ?_⟩
    have := h.sigE (by intro h0; rw [h0] at hW; cases hW)
    rw [hE] at this
    exact List.eq_nil_of_length_eq_zero (by simpa using this)
  · right
    obtain ⟨hbd, hput⟩ := h.st.role .notFull t (Or.inl hW)
    refine ⟨hW, hput, ?_⟩
    have hne : s.nf.W ≠ [] := by intro h0; rw [h0] at hW; cases hW
    cases hc : s.cap with
    | none => simp [QState.bounded, hc] at hbd
    | some c =>
      refine ⟨c, h.capc.symm.trans hc, ?_⟩
      have h1 := h.sigF c hc hne
      have h2 := h.bnd c hc
      rw [hF] at h1
      simp only [List.length_nil] at h1
      omega

variable {n : Int} {lprog : Nat → List LOp} {ls : LState}

/-- latch: once the count has reached zero every thread inside `wait()` has been signalled — one
`countDown` releases all waiters -/
theorem latch_releases_all (hr : LReach (linit n lprog sched) ls) (h0 : ls.count ≤ 0) : ls.ne.W = [] :=
  (linv_reach (linv_init n lprog sched) hr).released h0

/-- latch: in a reachable state in which no thread can take a step, every unfinished thread is parked
in `wait()` and the count is still positive -/
theorem latch_nobody_stuck (hr : LReach (linit n lprog sched) ls) (hb : LBlocked ls) (t : Nat) (ht : ls.prog t ≠ []) :
    t ∈ ls.ne.W ∧ (∃ rest, ls.prog t = .wait :: rest) ∧ 0 < ls.count := by
  have h := linv_reach (linv_init n lprog sched) hr
  have hown := l_blocked_owner hb
  have hacq := (hb t).1
  simp only [lstep] at hacq
  have hF : t ∉ ls.nf.W := fun hx => h.st.role .notFull t (Or.inl hx)
  have hW : t ∈ ls.ne.W := by
    by_cases h1 : t ∈ ls.ne.W
    · exact h1
    · rw [if_pos ⟨hown, ht, h1, hF⟩] at hacq; cases hacq
  refine ⟨hW, h.st.role .notEmpty t (Or.inl hW), ?_⟩
  by_cases hc : 0 < ls.count
  · exact hc
  · have := h.released (by omega)
    rw [this] at hW; cases hW

/-! ### the hypotheses are satisfiable -/

/-- capacity 1, a consumer that arrives first and waits, two puts of one producer: both come out, in order -/
example : ∃ s, QReach (qinit (some 1) demoProg []) s ∧ taken s.log = [(1, 5), (1, 6)] ∧ s.q = [] := by
  have h : ((runQ (qinit (some 1) demoProg []) demoActs).map fun s => (taken s.log, s.q)) = some ([(1, 5), (1, 6)], []) := by
    decide +kernel
  cases hr : runQ (qinit (some 1) demoProg []) demoActs with
  | none => rw [hr] at h; cases h
  | some s =>
    rw [hr] at h
    simp only [Option.map_some, Option.some.injEq, Prod.mk.injEq] at h
    exact ⟨s, runQ_reach hr, h.1, h.2⟩

/-- a lone consumer: a reachable state in which nobody can move (the hypotheses of `nobody_stuck`) -/
example : QReach (qinit none loneProg []) loneParked ∧ QBlocked loneParked ∧ loneParked.prog 1 ≠ [] := by
  refine ⟨?_, ?_, by decide⟩
  · refine .step (.body 1) (.step (.acq 1) .refl (s' := { qinit none loneProg [] with owner := some 1 }) rfl) ?_
    rfl
  · intro t
    refine ⟨?_, rfl⟩
    simp only [qstep]
    rw [if_neg]
    rintro ⟨_, hp, h1, _⟩
    by_cases ht : t = 1
    · subst ht; exact h1 (by decide)
    · exact hp (by simp [loneParked, loneProg, ht])

/-- two waiters, one `countDown` on a latch of 1: both are signalled -/
example : ∃ ls, LReach (linit 1 latchProg []) ls ∧ ls.count ≤ 0 ∧ ls.ne.S = [1, 2] ∧ ls.ne.W = [] := by
  have h : ((runL (linit 1 latchProg []) [.acq 1, .body 1, .acq 2, .body 2, .acq 3, .body 3]).map
      fun s => (s.count, s.ne.S, s.ne.W)) = some (0, [1, 2], []) := by decide +kernel
  cases hr : runL (linit 1 latchProg []) [.acq 1, .body 1, .acq 2, .body 2, .acq 3, .body 3] with
  | none => rw [hr] at h; cases h
  | some s =>
    rw [hr] at h
    simp only [Option.map_some, Option.some.injEq, Prod.mk.injEq] at h
    exact ⟨s, runL_reach hr, by rw [h.1]; decide, h.2.1, h.2.2⟩

end MuduoVerif.C14

namespace MuduoVerif.C14

/-- **primitives_tied**: the atomic steps of `Model/Monitor.lean` - `acq` / end of the guard's scope, `Mon.parkOn` +
`Mon.enter` ("wait releases the mutex and parks; re-acquires before returning"), `WS.one`, `WS.all`, the latch
operations - are what muduo's wrappers ask pthread for: the statement skeletons of `MutexLock` (constructor,
destructor with its `holder_ == 0` assertion, `lock` = `pthread_mutex_lock` THEN the holder, `unlock` = the holder THEN
`pthread_mutex_unlock`, `UnassignGuard`, `MutexLockGuard`), of `Condition` (`wait` = clear the holder;
`pthread_cond_wait` on this condition and that mutex; assign the holder - `notify` = `pthread_cond_signal`,
`notifyAll` = `pthread_cond_broadcast`, unconditionally - `waitForSeconds`) and of `CountDownLatch` (constructor,
`wait`, `countDown`, `getCount`), re-extracted from /repo on every run (`Generated/ThreadSkel.lean`), are the declared
ones (`Model/ThreadSkelDecl.lean`).  The semantics of the `pthread_*` functions themselves stays trusted. -/
theorem primitives_tied :
    (Gen.ThreadSkel.mutexCtor = ThreadSkel.Decl.mutexCtor ∧
     Gen.ThreadSkel.mutexDtor = ThreadSkel.Decl.mutexDtor ∧
     Gen.ThreadSkel.isLockedByThisThread = ThreadSkel.Decl.isLockedByThisThread ∧
     Gen.ThreadSkel.assertLocked = ThreadSkel.Decl.assertLocked ∧
     Gen.ThreadSkel.mutexLock = ThreadSkel.Decl.mutexLock ∧
     Gen.ThreadSkel.mutexUnlock = ThreadSkel.Decl.mutexUnlock ∧
     Gen.ThreadSkel.unassignHolder = ThreadSkel.Decl.unassignHolder ∧
     Gen.ThreadSkel.assignHolder = ThreadSkel.Decl.assignHolder ∧
     Gen.ThreadSkel.unassignGuardCtor = ThreadSkel.Decl.unassignGuardCtor ∧
     Gen.ThreadSkel.unassignGuardDtor = ThreadSkel.Decl.unassignGuardDtor ∧
     Gen.ThreadSkel.lockGuardCtor = ThreadSkel.Decl.lockGuardCtor ∧
     Gen.ThreadSkel.lockGuardDtor = ThreadSkel.Decl.lockGuardDtor) ∧
    (Gen.ThreadSkel.condCtor = ThreadSkel.Decl.condCtor ∧
     Gen.ThreadSkel.condDtor = ThreadSkel.Decl.condDtor ∧
     Gen.ThreadSkel.condWait = ThreadSkel.Decl.condWait ∧
     Gen.ThreadSkel.condNotify = ThreadSkel.Decl.condNotify ∧
     Gen.ThreadSkel.condNotifyAll = ThreadSkel.Decl.condNotifyAll ∧
     Gen.ThreadSkel.condWaitForSeconds = ThreadSkel.Decl.condWaitForSeconds) ∧
    (Gen.ThreadSkel.latchCtor = ThreadSkel.Decl.latchCtor ∧
     Gen.ThreadSkel.latchWait = ThreadSkel.Decl.latchWait ∧
     Gen.ThreadSkel.latchCountDown = ThreadSkel.Decl.latchCountDown ∧
     Gen.ThreadSkel.latchGetCount = ThreadSkel.Decl.latchGetCount) :=
  ⟨ThreadSkel.skeletons_agree.1, ThreadSkel.skeletons_agree.2.1, ThreadSkel.skeletons_agree.2.2.1⟩

/-- **timed_wait_deadline_valid**: the absolute deadline `Condition::waitForSeconds` hands to `pthread_cond_timedwait`
(`Gen.ThreadSkel.waitForSecondsDeadline`: the two assignments of the function, translated; `ns` is
`static_cast<int64_t>(seconds * kNanoSecondsPerSecond)`) is, for every valid clock reading (`0 ≤ tv_nsec < 10^9`) and
every wait `ns ≥ 0`, a valid `timespec` (`0 ≤ tv_nsec < 10^9`) that is exactly `ns` nanoseconds after the reading: no
time is lost in the split into seconds and nanoseconds, the carry goes into `tv_sec`.  The hypothesis `ns ≥ 0` is not
checked by the code and is needed: `ThreadSkel.deadline_invalid_of_negative`. -/
theorem timed_wait_deadline_valid (now : Gen.ThreadSkel.Timespec) (ns : Int)
    (h0 : 0 ≤ now.tv_nsec) (h1 : now.tv_nsec < 1000000000) (hns : 0 ≤ ns) :
    0 ≤ (Gen.ThreadSkel.waitForSecondsDeadline now ns).tv_nsec ∧
    (Gen.ThreadSkel.waitForSecondsDeadline now ns).tv_nsec < 1000000000 ∧
    (Gen.ThreadSkel.waitForSecondsDeadline now ns).tv_sec * 1000000000 +
        (Gen.ThreadSkel.waitForSecondsDeadline now ns).tv_nsec =
      now.tv_sec * 1000000000 + now.tv_nsec + ns :=
  ThreadSkel.deadline_valid now ns h0 h1 hns

/-- the hypotheses are satisfiable and the carry is real: 0.7 s past the second plus a wait of 2.5 s is 0.2 s past the
third second after it -/
example : Gen.ThreadSkel.waitForSecondsDeadline ⟨100, 700000000⟩ 2500000000 = ⟨103, 200000000⟩ := by decide

end MuduoVerif.C14
