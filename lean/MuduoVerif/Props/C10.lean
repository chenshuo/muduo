import MuduoVerif.Proofs.Buffer
import MuduoVerif.Proofs.BufferSkelTie
/-!
# C10 — Buffer behaves as an unbounded FIFO byte queue with a prepend area

The property theorems with their proofs (the walks over the operations, the searches); the per-operation
lemmas live in `Proofs/Buffer.lean`.  The model
(`Model/Buffer.lean`) is the code of `muduo/net/Buffer.{h,cc}` over the whole vector
and the two indices, with every branch guard and constant taken from
`Generated/Buffer.lean` (re-extracted from /repo on every run).
-/
namespace MuduoVerif.C10
open MuduoVerif.Buffer MuduoVerif.Gen.Buffer

/-- one step: inside its precondition every operation keeps the index invariant and
acts on the readable window exactly as the FIFO specification says -/
theorem step_refines (b : Buf) (op : Op) (h : WF b) (hok : okOp b op) :
    WF (step b op) ∧ content (step b op) = specStep (content b) op := by
  cases op with
  | append x => exact append_spec h
  | prepend x => exact prepend_spec h hok
  | retrieve n => exact retrieve_spec h hok
  | retrieveAll => exact retrieveAll_spec h
  | ensure n => exact ⟨(ensureWritable_spec h).1, (ensureWritable_spec h).2.1⟩
  | write x => exact writeAtEnd_spec h hok
  | unwrite n => exact unwrite_spec h hok
  | shrink r => exact ⟨(shrink_spec h).1, (shrink_spec h).2.1⟩
  | swapFresh i x =>
    obtain ⟨h1, h2⟩ := append_spec (b := mk i) (x := x) (mk_wf i)
    exact ⟨h1, by simp only [step, specStep, h2, mk_content, List.nil_append]⟩
  | readFd d => exact readFd_spec h
  | appendInt n v => exact append_spec h
  | prependInt n v =>
    exact prepend_spec h (by simpa [okOp, prependPre, intBytes_length] using hok)
  | readInt n => exact retrieve_spec h hok

/-- **refinement**: for every operation sequence that respects the documented
preconditions, from every well-formed buffer, the readable content is what the FIFO
byte-string specification says, and the index invariant holds at the end (hence at
every intermediate point). No bound on the length of the sequence or on any size. -/
theorem run_refines (ops : List Op) (b : Buf) (h : WF b) (hok : okRun b ops) :
    WF (run b ops) ∧ content (run b ops) = specRun (content b) ops := by
  induction ops generalizing b with
  | nil => exact ⟨h, rfl⟩
  | cons op rest ih =>
    obtain ⟨h1, h2⟩ := step_refines b op h hok.1
    have := ih (step b op) h1 hok.2
    simp only [run, specRun, List.foldl_cons] at *
    rw [← h2]; exact this

/-- from a freshly constructed buffer of any initial size -/
theorem fresh_run_refines (initial : Nat) (ops : List Op) (hok : okRun (mk initial) ops) :
    WF (run (mk initial) ops) ∧ content (run (mk initial) ops) = specRun [] ops := by
  have := run_refines ops (mk initial) (mk_wf initial) hok
  rwa [mk_content] at this

/-- the three sizes the API reports always add up to the size of the storage, and the
readable size is the length of the content -/
theorem sizes_consistent (b : Buf) (h : WF b) :
    readable b + writable b + prependable b = b.data.length ∧ (content b).length = readable b := by
  have := h.rw; have := h.ws
  refine ⟨?_, content_length h⟩
  simp only [readable, writable, prependable]; omega

/-- `ensureWritableBytes(n)` really provides `n` writable bytes (so the copy that
follows in `append` stays inside the storage) and does not disturb the content -/
theorem ensure_spec (b : Buf) (n : Nat) (h : WF b) :
    n ≤ writable (ensureWritable b n) ∧ content (ensureWritable b n) = content b :=
  ⟨(ensureWritable_spec h).2.2, (ensureWritable_spec h).2.1⟩

/-- `shrink(reserve)` keeps the content and leaves at least `reserve` writable bytes -/
theorem shrink_keeps (b : Buf) (r : Nat) (h : WF b) :
    content (shrink b r) = content b ∧ r ≤ writable (shrink b r) :=
  ⟨(shrink_spec h).2.1, (shrink_spec h).2.2⟩

/-- `readFd` appends exactly the delivered bytes; at most `writable + 64 KiB` can be
delivered per call (`readFdPre`). -/
theorem readFd_appends (b : Buf) (d : Bytes) (h : WF b) (hp : readFdPre b d) :
    content (readFd b d) = content b ++ d := (readFd_spec h).2

/-- the code's `assert` in the slide branch of `makeSpace` cannot fire -/
theorem makeSpace_assert_holds (b : Buf) (len : Nat) (h : WF b)
    (hn : ensureNeedsSpace (writable b) len)
    (hg : ¬ makeSpaceGrows (writable b) (prependable b) len) : kCheapPrepend < b.reader := by
  unfold ensureNeedsSpace at hn
  unfold makeSpaceGrows prependable at hg
  omega

/-- **cheap prepend**: at least `kCheapPrepend` prependable bytes are available
whenever the caller has not used them.  Only `prepend` moves the read index down, and it is charged to the caller. -/
theorem cheap_prepend_step (b : Buf) (g : Nat) (op : Op) (hok : okOp b op)
    (hg : kCheapPrepend ≤ prependable b + g) :
    kCheapPrepend ≤ prependable (step b op) + borrowedStep g b op := by
  unfold prependable at *
  cases op with
  | prepend x =>
    simp only [okOp, prependPre, prependable] at hok
    simp only [step, prepend, borrowedStep]; omega
  | prependInt n v =>
    simp only [okOp, prependable] at hok
    simp only [step, prependInt, prepend, borrowedStep, intBytes_length]; omega
  | append x => exact borrowed_of_reader (by have := append_reader b x; simp only [step]; omega) hg
  | appendInt n v =>
    exact borrowed_of_reader (by have := append_reader b (intBytes n v); simp only [step, appendInt]; omega) hg
  | retrieve n => exact borrowed_of_reader (by simp only [step, retrieve, retrieveAll]; split <;> simp) hg
  | readInt n => exact borrowed_of_reader (by simp only [step, readInt, retrieve, retrieveAll]; split <;> simp) hg
  | retrieveAll => exact borrowed_of_reader (.inl rfl) hg
  | ensure n => exact borrowed_of_reader (by have := ensureWritable_reader b n; simp only [step]; omega) hg
  | write x => exact borrowed_of_reader (.inr (Nat.le_refl _)) hg
  | unwrite n => exact borrowed_of_reader (.inr (Nat.le_refl _)) hg
  | shrink r => exact borrowed_of_reader (.inl (mk_append_reader _ _ _)) hg
  | swapFresh i x =>
    refine borrowed_of_reader (.inl ?_) hg
    have := append_reader (mk i) x
    have : (mk i).reader = kCheapPrepend := rfl
    simp only [step]; omega
  | readFd d =>
    refine borrowed_of_reader ?_ hg
    simp only [step, readFd]
    split
    · exact .inr (Nat.le_refl _)
    · have := append_reader
        { b with data := splice b.data b.writer (d.take (writable b)), writer := b.data.length }
        (d.drop (writable b))
      simp only at this ⊢
      omega

/-- for every operation sequence from a state with prependable + borrowed ≥ kCheapPrepend (a fresh buffer with
nothing borrowed is one): prependable + borrowed ≥ kCheapPrepend at the end -/
theorem cheap_prepend (ops : List Op) (b : Buf) (g : Nat) (hok : okRun b ops)
    (hg : kCheapPrepend ≤ prependable b + g) :
    kCheapPrepend ≤ prependable (runG (b, g) ops).1 + (runG (b, g) ops).2 := by
  induction ops generalizing b g with
  | nil => exact hg
  | cons op rest ih =>
    simp only [runG]
    exact ih (step b op) (borrowedStep g b op) hok.2 (cheap_prepend_step b g op hok.1 hg)

theorem runG_fst (ops : List Op) (b : Buf) (g : Nat) : (runG (b, g) ops).1 = run b ops := by
  induction ops generalizing b g with
  | nil => rfl
  | cons op rest ih => simp only [runG, run, List.foldl_cons]; exact ih _ _

/-- **integers round-trip in network byte order** (N = 1, 2, 4, 8 bytes; every value of the type) -/
theorem append_read_int (b : Buf) (n : Nat) (hn : 0 < n) (v : Int) (h : WF b)
    (hempty : content b = [])
    (hlo : -(2 ^ (8 * n - 1) : Int) ≤ v) (hhi : v < (2 ^ (8 * n - 1) : Int)) :
    peekInt (appendInt b n v) n = v ∧ content (readInt (appendInt b n v) n).1 = [] := by
  obtain ⟨hw, hc⟩ := append_spec (b := b) (x := intBytes n v) h
  have hlen := intBytes_length n v
  constructor
  · simp only [peekInt, appendInt, hc, hempty, List.nil_append]
    rw [List.take_of_length_le (by omega)]
    exact int_roundtrip_bytes n hn v hlo hhi
  · simp only [readInt, appendInt]
    rw [(retrieve_spec hw (by simp [retrievePre, ← content_length hw, hc, hempty, hlen])).2, hc, hempty]
    simp [hlen]

theorem prepend_peek_int (b : Buf) (n : Nat) (hn : 0 < n) (v : Int) (h : WF b)
    (hp : n ≤ prependable b)
    (hlo : -(2 ^ (8 * n - 1) : Int) ≤ v) (hhi : v < (2 ^ (8 * n - 1) : Int)) :
    peekInt (prependInt b n v) n = v ∧ content (prependInt b n v) = intBytes n v ++ content b := by
  obtain ⟨hw, hc⟩ := prepend_spec (b := b) (x := intBytes n v) h
    (by simpa [prependPre, intBytes_length] using hp)
  have hlen := intBytes_length n v
  refine ⟨?_, hc⟩
  simp only [peekInt, prependInt, hc]
  rw [List.take_append_of_le_length (by omega), List.take_of_length_le (by omega)]
  exact int_roundtrip_bytes n hn v hlo hhi

/-- **searches**: `findCRLF(start)` returns the first CRLF at or after `start` inside the
readable window, and nothing iff there is none -/
theorem findCRLF_first (b : Buf) (start k : Nat) (h : findCRLF b start = some k) :
    start ≤ k ∧ List.isPrefixOf [13, 10] ((content b).drop k) = true
      ∧ ∀ j, start ≤ j → j < k → List.isPrefixOf [13, 10] ((content b).drop j) = false :=
  (h ▸ findCRLF_spec b start :)

theorem findCRLF_none (b : Buf) (start : Nat) (h : findCRLF b start = none) :
    ∀ j, start ≤ j → List.isPrefixOf [13, 10] ((content b).drop j) = false :=
  (h ▸ findCRLF_spec b start :)

/-- `findEOL(start)`: the first `\n` at or after `start` in the readable window -/
theorem findEOL_first (b : Buf) (start k : Nat) (h : findEOL b start = some k) :
    start ≤ k ∧ (content b)[k]? = some 10
      ∧ ∀ j, start ≤ j → j < k → (content b)[j]? ≠ some 10 :=
  (h ▸ findEOL_spec b start :)

theorem findEOL_none (b : Buf) (start : Nat) (h : findEOL b start = none) :
    ∀ j, start ≤ j → (content b)[j]? ≠ some 10 :=
  (h ▸ findEOL_spec b start :)

/-- ties of the hand-written parts to the source that no differential run on one thread can see:
`readFd`'s spill area belongs to the call (a `static` one would be shared by all io threads: another
thread's `readv` overwrites it between this thread's `readv` and its `append`), and the line searches
delegate to the library search over exactly `[from, beginWrite())` — which is what the model's
`findCRLF`/`findEOL` are (a hand-rolled loop that peeks one byte past the readable region would find a
stale `\n` there).  Both facts are re-extracted from the AST on every run. -/
theorem spill_private_and_searches_delegate :
    MuduoVerif.Gen.Buffer.extrabufPerCall = true ∧ MuduoVerif.Gen.Buffer.findCRLFIsSearch = true ∧
    MuduoVerif.Gen.Buffer.findEOLIsMemchr = true := by decide


/-- T1, statement order: in every member function of `Buffer` the model implements (constructor, getters, searches,
`retrieve*`, `append*`, `ensureWritableBytes`, `hasWritten`, `unwrite`, `prepend*`, `shrink`, `swap`, `makeSpace`,
`readFd`, `appendIntN`/`readIntN`/`peekIntN`/`prependIntN`) the source performs the same index stores (of the same
expressions), resizes, copies, member calls, system calls, assertions and returns, in the same order and under the
same nesting of the generated guards as `Model/Buffer.lean` (`Model/BufferSkelDecl.lean`); re-extracted from /repo on
every run (`Generated/BufferSkel.lean`), proved in `Proofs/BufferSkelTie.lean` -/
theorem statement_order_tied :
    (Gen.BufferSkel.ctor = BufferSkel.Decl.ctor ∧
     Gen.BufferSkel.swap = BufferSkel.Decl.swap ∧
     Gen.BufferSkel.readableBytes = BufferSkel.Decl.readableBytes ∧
     Gen.BufferSkel.writableBytes = BufferSkel.Decl.writableBytes ∧
     Gen.BufferSkel.prependableBytes = BufferSkel.Decl.prependableBytes ∧
     Gen.BufferSkel.peek = BufferSkel.Decl.peek ∧
     Gen.BufferSkel.toStringPiece = BufferSkel.Decl.toStringPiece ∧
     Gen.BufferSkel.beginWrite = BufferSkel.Decl.beginWrite ∧
     Gen.BufferSkel.beginWriteConst = BufferSkel.Decl.beginWriteConst) ∧
    (Gen.BufferSkel.findCRLF = BufferSkel.Decl.findCRLF ∧
     Gen.BufferSkel.findCRLFFrom = BufferSkel.Decl.findCRLFFrom ∧
     Gen.BufferSkel.findEOL = BufferSkel.Decl.findEOL ∧
     Gen.BufferSkel.findEOLFrom = BufferSkel.Decl.findEOLFrom) ∧
    (Gen.BufferSkel.retrieve = BufferSkel.Decl.retrieve ∧
     Gen.BufferSkel.retrieveUntil = BufferSkel.Decl.retrieveUntil ∧
     Gen.BufferSkel.retrieveInt64 = BufferSkel.Decl.retrieveInt64 ∧
     Gen.BufferSkel.retrieveInt32 = BufferSkel.Decl.retrieveInt32 ∧
     Gen.BufferSkel.retrieveInt16 = BufferSkel.Decl.retrieveInt16 ∧
     Gen.BufferSkel.retrieveInt8 = BufferSkel.Decl.retrieveInt8 ∧
     Gen.BufferSkel.retrieveAll = BufferSkel.Decl.retrieveAll ∧
     Gen.BufferSkel.retrieveAllAsString = BufferSkel.Decl.retrieveAllAsString ∧
     Gen.BufferSkel.retrieveAsString = BufferSkel.Decl.retrieveAsString) ∧
    (Gen.BufferSkel.appendPiece = BufferSkel.Decl.appendPiece ∧
     Gen.BufferSkel.append = BufferSkel.Decl.append ∧
     Gen.BufferSkel.appendVoid = BufferSkel.Decl.appendVoid ∧
     Gen.BufferSkel.ensureWritableBytes = BufferSkel.Decl.ensureWritableBytes ∧
     Gen.BufferSkel.hasWritten = BufferSkel.Decl.hasWritten ∧
     Gen.BufferSkel.unwrite = BufferSkel.Decl.unwrite ∧
     Gen.BufferSkel.prepend = BufferSkel.Decl.prepend ∧
     Gen.BufferSkel.shrink = BufferSkel.Decl.shrink ∧
     Gen.BufferSkel.makeSpace = BufferSkel.Decl.makeSpace ∧
     Gen.BufferSkel.readFd = BufferSkel.Decl.readFd) ∧
    (Gen.BufferSkel.appendInt64 = BufferSkel.Decl.appendInt64 ∧
     Gen.BufferSkel.appendInt32 = BufferSkel.Decl.appendInt32 ∧
     Gen.BufferSkel.appendInt16 = BufferSkel.Decl.appendInt16 ∧
     Gen.BufferSkel.appendInt8 = BufferSkel.Decl.appendInt8 ∧
     Gen.BufferSkel.readInt64 = BufferSkel.Decl.readInt64 ∧
     Gen.BufferSkel.readInt32 = BufferSkel.Decl.readInt32 ∧
     Gen.BufferSkel.readInt16 = BufferSkel.Decl.readInt16 ∧
     Gen.BufferSkel.readInt8 = BufferSkel.Decl.readInt8 ∧
     Gen.BufferSkel.peekInt64 = BufferSkel.Decl.peekInt64 ∧
     Gen.BufferSkel.peekInt32 = BufferSkel.Decl.peekInt32 ∧
     Gen.BufferSkel.peekInt16 = BufferSkel.Decl.peekInt16 ∧
     Gen.BufferSkel.peekInt8 = BufferSkel.Decl.peekInt8 ∧
     Gen.BufferSkel.prependInt64 = BufferSkel.Decl.prependInt64 ∧
     Gen.BufferSkel.prependInt32 = BufferSkel.Decl.prependInt32 ∧
     Gen.BufferSkel.prependInt16 = BufferSkel.Decl.prependInt16 ∧
     Gen.BufferSkel.prependInt8 = BufferSkel.Decl.prependInt8) :=
  BufferSkel.skeletons_agree

end MuduoVerif.C10
