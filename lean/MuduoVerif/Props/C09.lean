import MuduoVerif.Proofs.PollerPerm
import MuduoVerif.Proofs.PollerSkelTie
import MuduoVerif.Proofs.PollerBound
import MuduoVerif.Proofs.SysSkelTie
import MuduoVerif.Proofs.LoopSkelTie
/-!
# C09 — the loop calls exactly the ready, subscribed channels; same under epoll and poll

Quantification: `ins : List In` is an arbitrary history of `enableReading/disableReading/enableWriting/
disableWriting/disableAll/remove/recreate` on any channel (any `Nat` id), operations scripted to run
inside any callback of any channel (`In.hook`), and loop iterations with arbitrary readiness input.
The documented preconditions (`remove()` only when registered, without interest and — during dispatch —
only of the current or an inactive channel; a `Channel` object is destroyed only when unregistered and
outside the dispatch; one channel per descriptor) are the model's guards `removeOk`/`recreateOk`: a
request outside them is rejected (`Ev.reject`) and changes nothing, so the histories are unconstrained.

Finding F21 (the first update of an unregistered channel that carries no interest registered the
descriptor with an empty mask: `blind-watch`, `blind-spin`, `blind-abort`) is repaired in /repo
(`PollPoller::updateChannel` pushes such an entry in its ignored form `-fd-1`; `EPollPoller::updateChannel`
records the channel in `channels_` with slot state *deleted* and makes no `EPOLL_CTL_ADD`; both sites are
extracted: `pollNewIgnores`, `pollNewIgnoreFd`, `epNewSkips`, `epIndexAfterNewSkip`).  The theorems below are
therefore stated at full strength for every history; the former witnesses are `example`s that now pass.
-/
namespace MuduoVerif.C09
open MuduoVerif.Poller MuduoVerif.Gen.Poller

abbrev reach (be : Backend) (ins : List In) : State := run (init be) ins

/-- the full-strength statement: under either back-end, after every history, the kernel watches
exactly `{fd ↦ events | channel registered ∧ events ≠ 0}` -/
def refine_full : Prop :=
  ∀ (be : Backend) (ins : List In) (fd : Int) (mask : Nat),
    watched (reach be ins) fd mask ↔ specWatched (reach be ins) fd mask

/-- **refine_poll**: after every history the non-negative entries of `pollfds_` are exactly the
specification map -/
theorem refine_poll (ins : List In) (fd : Int) (mask : Nat) :
    watched (reach .poll ins) fd mask ↔ specWatched (reach .poll ins) fd mask :=
  pollStruct_refines (good_run .poll ins).good.be (good_run .poll ins).good.struct fd mask

/-- **refine_epoll**: after every history the kernel's epoll interest list, as maintained by the
`EPOLL_CTL_ADD/MOD/DEL` calls, is exactly the specification map -/
theorem refine_epoll (ins : List In) (fd : Int) (mask : Nat) :
    watched (reach .epoll ins) fd mask ↔ specWatched (reach .epoll ins) fd mask :=
  epStruct_refines (good_run .epoll ins).good.be (good_run .epoll ins).good.struct fd mask

theorem refine_full_holds : refine_full := by
  intro be ins fd mask
  cases be
  · exact refine_epoll ins fd mask
  · exact refine_poll ins fd mask

/-- **no_ctl_failure**: after every history, under either back-end, whatever the
kernel reports: no `epoll_ctl` failed (`EEXIST`/`ENOENT`), nothing was logged by `LOG_SYSERR`/`LOG_SYSFATAL` -/
theorem no_ctl_failure (be : Backend) (ins : List In) :
    ∀ e ∈ (reach be ins).out, e ≠ .syserr ∧ e ≠ .fatal ∧
      ∀ op c mask res, e = .ctl op c mask res → res = .ok := by
  intro e he
  have h := (good_run be ins).noCtlFailure e he
  refine ⟨?_, ?_, ?_⟩
  · rintro rfl; simp [Ev.isCtlFailure] at h
  · rintro rfl; simp [Ev.isCtlFailure] at h
  · rintro op c mask res rfl
    cases res <;> simp_all [Ev.isCtlFailure]

/-- on a poll loop no assertion fails and the process stays alive, for every history and whatever the
kernel reports (`PollPoller` looks only at its own array) -/
theorem no_abort_poll (ins : List In) :
    (reach .poll ins).dead = false ∧ ∀ e ∈ (reach .poll ins).out, e.isFatal = false :=
  ⟨(pollAlive_run ins).dead, (good_run .poll ins).noFatal (pollAlive_run ins).dead⟩

/-- on an epoll loop no assertion fails and the process stays alive for every history
provided the kernel behaves (`epEnvOk`: `epoll_wait` returns what it says, no more than the array holds,
only descriptors of the interest list) -/
theorem no_abort_epoll (ins : List In) (henv : Along epEnvOk (init .epoll) ins) :
    (reach .epoll ins).dead = false ∧ ∀ e ∈ (reach .epoll ins).out, e.isFatal = false :=
  ⟨(alive_run .epoll ins henv).dead, (good_run .epoll ins).noFatal (alive_run .epoll ins henv).dead⟩

/-- **index_inv** (poll): every registered channel's `index_` names its own `pollfds_` entry —
`(fd, events)`, the descriptor negated (`-fd-1`) exactly when there is no interest —, `channels_` maps
its descriptor to it; indices of registered channels are distinct; every entry is owned; an
unregistered channel has no slot.  Holds after every history, i.e. for every removal order
(swap-with-last) and every re-registration -/
theorem index_inv (ins : List In) :
    let s := reach .poll ins
    (∀ c, (s.chans c).added = true →
      0 ≤ (s.chans c).index ∧ s.cmap (fdOf c) = some c ∧
        s.pollfds[(s.chans c).index.toNat]? =
          some (if (s.chans c).events = 0 then pollIgnoreFd (fdOf c) else fdOf c, (s.chans c).events)) ∧
    (∀ c d, (s.chans c).added = true → (s.chans d).added = true → (s.chans c).index = (s.chans d).index → c = d) ∧
    (∀ i, i < s.pollfds.length → ∃ c, (s.chans c).added = true ∧ (s.chans c).index = (i : Int)) ∧
    (∀ c, (s.chans c).added = false → (s.chans c).index < 0 ∧ s.cmap (fdOf c) = none) := by
  have h : PollStruct (reach .poll ins) := (good_run .poll ins).good.struct
  exact ⟨h.reg, fun c d hc hd hi => h.idx_inj hc hd hi, h.cover, fun c hc => ⟨(h.unreg c hc).1, (h.unreg c hc).2.2⟩⟩

/-- the slot-state machine of `EPollPoller` (every history): a registered channel is in `channels_` and
either *added*, with interest, its interest word in the kernel — or *deleted*, without interest and unknown
to the kernel; an unregistered channel is *new*, not in `channels_`, unknown to the kernel -/
theorem slot_inv_epoll (ins : List In) :
    let s := reach .epoll ins
    ∀ c, if (s.chans c).added = true then
        s.cmap (fdOf c) = some c ∧
          (((s.chans c).index = kAdded ∧ s.kernel (fdOf c) = some (s.chans c).events ∧ (s.chans c).events ≠ 0) ∨
           ((s.chans c).index = kDeleted ∧ (s.chans c).events = 0 ∧ s.kernel (fdOf c) = none))
      else (s.chans c).index = kNew ∧ (s.chans c).events = 0 ∧ s.cmap (fdOf c) = none ∧
        s.kernel (fdOf c) = none :=
  fun c => EpStruct.loc (good_run .epoll ins).good.struct c

/-- **dispatch_sound**: under either back-end, after every history: a read/write/close/error callback
ran only with the matching `revents` bits (`disp`: the masks of `Channel::handleEventWithGuard`) and
only if the channel subscribed to that kind (`subscribed`: the generated `guard*` re-tests) with the
interest word it had *at the moment of the call* — `histEvents c pre` replays the operations recorded
in the trace before the call, including those executed by earlier callbacks of the same batch -/
theorem dispatch_sound (be : Backend) (ins : List In) {pre post : List Ev} {c : Nat} {k : Kind} {rev ev : Nat}
    (ho : (reach be ins).out = pre ++ .cb c k rev ev :: post) :
    disp k rev ∧ subscribed k ev ∧ ev = histEvents c pre :=
  let h := (traceInv_run be ins).cb_split ho
  ⟨h.1, h.2.1, h.2.2.1⟩

/-- the callback's `revents` are the kernel's answer of *this* iteration: in every iteration from a
reachable state the loop calls only channels of the active list the poller returned, each with
`revents = lookupRev ready c`, the value reported for it (poll loop) -/
theorem dispatch_reported_poll (ins : List In) (ready nret) :
    ∃ l, (iter (reach .poll ins) ready nret).out = (pollerPoll (reach .poll ins) ready nret).1.out ++ l ∧
      ∀ c k rev ev, Ev.cb c k rev ev ∈ l →
        c ∈ (pollerPoll (reach .poll ins) ready nret).2 ∧ rev = lookupRev ready c := by
  obtain ⟨⟨hbe, hs⟩, hd⟩ := pollAlive_run ins
  obtain ⟨l, h1, h2⟩ := iter_reported (reach .poll ins) hd ready nret
  refine ⟨l, h1, fun c k rev ev hm => ?_⟩
  obtain ⟨hc, hr⟩ := h2 c k rev ev hm
  exact ⟨hc, hr.trans (((pollerPoll_poll hbe hs ready nret).2.1 c).trans (if_pos hc))⟩

/-- the same under epoll, for a well-behaved kernel that reports a descriptor at most once -/
theorem dispatch_reported_epoll (ins : List In) (henv : Along epEnvOk (init .epoll) ins) (ready nret)
    (he : epEnvOk (reach .epoll ins) (.iter ready nret)) (hnd : (ready.map (·.1)).Nodup) :
    ∃ l, (iter (reach .epoll ins) ready nret).out = (pollerPoll (reach .epoll ins) ready nret).1.out ++ l ∧
      ∀ c k rev ev, Ev.cb c k rev ev ∈ l → c ∈ ready.map (·.1) ∧ rev = lookupRev ready c := by
  obtain ⟨hg, hd⟩ := alive_run .epoll ins henv
  obtain ⟨l, h1, h2⟩ := iter_reported (reach .epoll ins) hd ready nret
  obtain ⟨_, e1, e2⟩ := pollerPoll_epoll hg.be hg.struct ready nret he
  refine ⟨l, h1, fun c k rev ev hm => ?_⟩
  obtain ⟨hc, hr⟩ := h2 c k rev ev hm
  rw [e1] at hc
  exact ⟨hc, hr.trans ((e2 hnd c).trans (if_pos hc))⟩

/-- a callback runs only on a channel that is registered according to the operations executed before
the call -/
theorem called_is_registered (be : Backend) (ins : List In) {pre post : List Ev} {c : Nat} {k : Kind}
    {rev ev : Nat} (ho : (reach be ins).out = pre ++ .cb c k rev ev :: post) : histAdded c pre = true :=
  ((traceInv_run be ins).cb_split ho).2.2.2

/-- **removed_never_called**: … in particular, between the execution of `remove(c)` and a later callback of
`c` there is an `enable*/disable*` on `c` that registered it again -/
theorem removed_never_called (be : Backend) (ins : List In) {pre mid post : List Ev} {c : Nat} {e0 : Nat}
    {i0 : Int} {k : Kind} {rev ev : Nat}
    (ho : (reach be ins).out = pre ++ .op c .remove e0 i0 :: (mid ++ .cb c k rev ev :: post)) :
    ∃ k' e' i', Ev.op c k' e' i' ∈ mid ∧ k'.isUpdate = true :=
  (traceInv_run be ins).removed_never_called ho

/-- a channel with interest is registered; a callback needs interest (hang-up and error: any interest) -/
theorem interest_registered (be : Backend) (ins : List In) (c : Nat) :
    ((reach be ins).chans c).events ≠ 0 → ((reach be ins).chans c).added = true :=
  (traceInv_run be ins).reg c

/-- **same_callbacks**: the same history — operations between polls, operations scripted inside
callbacks, iterations with the same kernel report — run on a poll loop and on an epoll loop produces
the same observable trace (`absOut`: executed and rejected operations with the resulting interest word,
and callbacks `(channel, kind, revents, interest)`, *in order*), provided the kernel behaves, reports
each descriptor once, and in every iteration both
pollers hand the loop the same active list (`simEnvOk`: `epoll_wait` lists the descriptors in the order
`PollPoller` scans them).  The final states agree on every channel's interest, `revents_` and registration -/
theorem same_callbacks (ins : List In) (henv : Along2 simEnvOk (init .poll) (init .epoll) ins) :
    absOut (reach .poll ins).out = absOut (reach .epoll ins).out ∧ AbsEq (reach .poll ins) (reach .epoll ins) :=
  let h := sim_run ins _ _ sim_init henv
  ⟨h.out, h.abs⟩

/-- **same_watch**: … and then both back-ends ask the kernel to watch the same descriptor → mask map -/
theorem same_watch (ins : List In) (henv : Along2 simEnvOk (init .poll) (init .epoll) ins)
    (fd : Int) (mask : Nat) :
    watched (reach .poll ins) fd mask ↔ watched (reach .epoll ins) fd mask :=
  (sim_run ins _ _ sim_init henv).step.watched fd mask

/-- **same_callbacks, any report order**: when operations happen only between polls (no `In.hook`), the
order in which the kernel lists the ready descriptors does not matter: if in every iteration both pollers
return the same channels (`permEnvOk`: a permutation), both loops execute the same operations with the
same results, run the same multiset of callbacks `(channel, kind, revents, interest)`, and agree on every
channel's interest, `revents_` and registration afterwards -/
theorem same_callbacks_unordered (ins : List In) (henv : Along2 permEnvOk (init .poll) (init .epoll) ins) :
    opsOut (reach .poll ins).out = opsOut (reach .epoll ins).out ∧
    (cbOut (reach .poll ins).out).Perm (cbOut (reach .epoll ins).out) ∧
    ∀ c, ((reach .poll ins).chans c).events = ((reach .epoll ins).chans c).events ∧
      ((reach .poll ins).chans c).revents = ((reach .epoll ins).chans c).revents ∧
      ((reach .poll ins).chans c).added = ((reach .epoll ins).chans c).added :=
  let h := wsim_run ins _ _ wsim_init henv
  ⟨h.ops, h.cbs, fun c => ⟨h.step.ev c, h.step.rev c, h.step.added c⟩⟩

/-- … and ask the kernel to watch the same map -/
theorem same_watch_unordered (ins : List In) (henv : Along2 permEnvOk (init .poll) (init .epoll) ins)
    (fd : Int) (mask : Nat) :
    watched (reach .poll ins) fd mask ↔ watched (reach .epoll ins) fd mask :=
  (wsim_run ins _ _ wsim_init henv).step.watched fd mask

/-- why `same_callbacks` fixes the order when callbacks operate on *other* channels: channel 2's read
callback disables channel 3.  The kernel lists 3 before 2; `PollPoller` scans 2 before 3.  Both pollers
return the same channels, yet epoll calls 3 and poll does not — inherent in `EventLoop::loop`'s
sequential dispatch, not a defect of either back-end -/
theorem order_matters :
    let ins : List In :=
      [.op 2 .enableR, .op 3 .enableR, .hook ⟨2, .read, 3, .disableAll⟩, .iter [(3, 1), (2, 1)] 2]
    (pollerPoll (reach .poll (ins.take 3)) [(3, 1), (2, 1)] 2).2.Perm
        (pollerPoll (reach .epoll (ins.take 3)) [(3, 1), (2, 1)] 2).2 ∧
      ¬ (cbOut (reach .poll ins).out).Perm (cbOut (reach .epoll ins).out) := by decide +kernel

/-- `poll` is never given a zero time-out -/
theorem poll_timeout_pos : 0 < kPollTimeMs := by decide

/-- **idle_blocks** (as far as the model expresses it): every `poll`/`epoll_wait` of every history is
called with the constant time-out `kPollTimeMs > 0`; an iteration in which the kernel reports nothing
runs no callback: the trace gains its `wait` event, the active list is left empty, and nothing else changes but
the iteration counter -/
theorem idle_blocks (be : Backend) (ins : List In) :
    (∀ sz t, Ev.wait sz t ∈ (reach be ins).out → t = kPollTimeMs ∧ 0 < t) ∧
    ((reach be ins).dead = false → ∃ sz, iter (reach be ins) [] 0 = { reach be ins with
      out := (reach be ins).out ++ [.wait sz kPollTimeMs]
      iteration := (reach be ins).iteration + 1
      active := []
      handling := false
      cur := none }) :=
  by
  -- a `.wait` event is neither the output of an operation nor a callback: it is plumbing, with the constant time-out
  have hw : ∀ sz t, Ev.wait sz t ∈ (reach be ins).out → t = kPollTimeMs := fun _ _ h =>
    ((good_run be ins).source _ h).elim id fun h => h.elim nofun nofun
  refine ⟨fun sz t h => ⟨hw sz t h, hw sz t h ▸ poll_timeout_pos⟩, fun hd => ?_⟩
  generalize reach be ins = s at hd ⊢
  rw [iter_eq, if_neg (by simp [hd])]
  cases hbe : s.be with
  | poll => exact ⟨s.pollfds.length, by simp [pollerPoll, hbe, emit, hd, dispatch]⟩
  | epoll => exact ⟨s.evsize, by simp [pollerPoll, hbe, emit, hd, dispatch, epHasEvents]⟩

/-- … and the kernel is given no reason to report a channel nobody is interested in: after every
history every watched descriptor has a non-empty mask, the interest of a registered channel -/
theorem idle_blocks_watch (be : Backend) (ins : List In) (fd : Int) (mask : Nat)
    (hw : watched (reach be ins) fd mask) :
    mask ≠ 0 ∧ ∃ c, fd = fdOf c ∧ ((reach be ins).chans c).added = true ∧ ((reach be ins).chans c).events = mask := by
  obtain ⟨c, h1, h2, h3, h4⟩ := (refine_full_holds be ins fd mask).1 hw
  exact ⟨h4, c, h1, h2, h3⟩

/-- **all_ready_called_poll**: under `poll(2)` the whole array `pollfds_` is scanned, so after every history, however
many descriptors are ready at once, *every* channel `c` that subscribes to `k` and whose descriptor is reported with
bits that call for `k` (`disp k (lookupRev ready c)`) gets its `k` callback in this very iteration, with those bits
and its interest.  Environment: `poll(2)` returns (at least) the number of entries it marked (`pollCount`).  The one
thing that may legitimately withdraw the callback is an operation on `c` scripted inside an earlier callback of the
same iteration (`dispatch_sound`); operations on other channels - incl. removals that move `c`'s slot - do not. -/
theorem all_ready_called_poll (ins : List In) (ready : List (Nat × Nat)) (nret : Nat)
    (henv : pollCount ready (reach .poll ins).pollfds ≤ nret)
    (c : Nat) (k : Kind) (hh : ∀ h ∈ (reach .poll ins).hooks, h.c ≠ c)
    (hsub : subscribed k ((reach .poll ins).chans c).events) (hrdy : disp k (lookupRev ready c)) :
    ∃ l, (iter (reach .poll ins) ready nret).out = (reach .poll ins).out ++ l ∧
      Ev.cb c k (lookupRev ready c) ((reach .poll ins).chans c).events ∈ l := by
  have hg := pollAlive_run ins
  have hact := poll_active hg.good.be hg.good.struct ready nret henv ((traceInv_run .poll ins).reg c (subscribed_ne_zero hsub))
    (subscribed_ne_zero hsub) (disp_pos hrdy)
  exact iter_calls hg ready nret (fun hb => Backend.noConfusion (hg.good.be.symm.trans hb)) hh hact
    (((pollerPoll_poll hg.good.be hg.good.struct ready nret).2.1 c).trans (if_pos hact)) hrdy hsub

/-- **all_reported_called_epoll**: under epoll every channel the kernel *reports* is called in that iteration (same
proviso about operations on `c` itself); how many of the ready descriptors one wait reports is bounded by the size of
`events_` - see `evsize_growth` and `all_ready_called_epoll_bound` -/
theorem all_reported_called_epoll (ins : List In) (henv : Along epEnvOk (init .epoll) ins)
    (ready : List (Nat × Nat)) (nret : Nat) (hnow : epEnvOk (reach .epoll ins) (.iter ready nret))
    (hnd : (ready.map (·.1)).Nodup) (c rev : Nat) (k : Kind) (hmem : (c, rev) ∈ ready)
    (hh : ∀ h ∈ (reach .epoll ins).hooks, h.c ≠ c)
    (hsub : subscribed k ((reach .epoll ins).chans c).events) (hrdy : disp k rev) :
    ∃ l, (iter (reach .epoll ins) ready nret).out = (reach .epoll ins).out ++ l ∧
      Ev.cb c k rev ((reach .epoll ins).chans c).events ∈ l :=
  epoll_calls (alive_run .epoll ins henv) ready nret hnow hnd hmem hh hsub hrdy

/-- **evsize_growth**: along any run under either back-end the size of `EPollPoller::events_` starts at
`kInitEventListSize`, never shrinks, is changed by nothing but `EPollPoller::poll`, and one iteration resizes it exactly
when the report filled it (`Gen.Poller.epArrayFull`, under `Gen.Poller.epHasEvents`; `ready`/`nret` well-formed) - to
`Gen.Poller.epGrowTo`, which doubles it.  So on an epoll loop an iteration whose wait returns `evsize` events doubles
the array and one that returns fewer leaves it alone. -/
theorem evsize_growth (be : Backend) (ins : List In) :
    kInitEventListSize ≤ (reach be ins).evsize ∧
    (∀ more, (reach be ins).evsize ≤ (reach be (ins ++ more)).evsize) ∧
    (∀ ready nret, (reach be ins).dead = false →
      (iter (reach be ins) ready nret).evsize =
        if (reach be ins).be = .epoll ∧ epHasEvents (nret : Int) ∧
            ¬ (ready.length > (reach be ins).evsize ∨ nret ≠ ready.length) ∧ epArrayFull nret (reach be ins).evsize
        then epGrowTo (reach be ins).evsize else (reach be ins).evsize) ∧
    (∀ ready nret, (reach .epoll ins).dead = false → epEnvOk (reach .epoll ins) (.iter ready nret) →
      (nret = (reach .epoll ins).evsize → (iter (reach .epoll ins) ready nret).evsize = 2 * (reach .epoll ins).evsize) ∧
      (nret < (reach .epoll ins).evsize → (iter (reach .epoll ins) ready nret).evsize = (reach .epoll ins).evsize)) := by
  have hinit : ∀ be ins, kInitEventListSize ≤ (reach be ins).evsize := fun be ins => by
    have := run_evsize_le ins (init be); rw [init_evsize] at this; exact this
  refine ⟨hinit be ins, fun more => ?_, fun ready nret hd => ?_, fun ready nret hd henv => ?_⟩
  · have : reach be (ins ++ more) = run (reach be ins) more := by simp [reach, run, List.foldl_append]
    rw [this]; exact run_evsize_le more _
  · rw [iter_evsize, hd, pollerPoll_evsize]; simp
  · have hbe : (reach .epoll ins).be = .epoll := (good_run .epoll ins).good.be
    obtain ⟨h1, h2, _⟩ := henv hbe
    have hpos : 0 < (reach .epoll ins).evsize :=
      Nat.lt_of_lt_of_le (by decide : 0 < kInitEventListSize) (hinit .epoll ins)
    rw [iter_evsize, hd, pollerPoll_evsize]
    simp only [Bool.false_eq_true, if_false]
    constructor
    · intro hfull
      rw [if_pos ⟨hbe, by unfold epHasEvents; omega, by omega, by unfold epArrayFull; exact hfull⟩]
      unfold epGrowTo; omega
    · intro hlt
      rw [if_neg]
      intro h
      have := h.2.2.2
      unfold epArrayFull at this
      omega

/-- **all_ready_called_epoll_bound**: an epoll loop after any history on a well-behaved kernel, no operation pending
inside a callback; `rdy` are the descriptors (channel, revents) that are ready and stay ready over the next waits
(level-triggered: what a wait did not report is still ready at the next one), all of them in the kernel's interest
list.  The kernel may keep its ready list in any order from wait to wait (`order j`, a permutation of `rdy`; e.g.
reported entries go to the tail); each wait (`epWait`) reports the first `min R evsize` entries.  Then after `n`
consecutive waits the array holds `evsize₀ · 2ⁿ ≥ kInitEventListSize · 2ⁿ` entries unless it already exceeds `R`
(every wait that could not report everything filled the array and doubled it), and therefore, once
`kInitEventListSize · 2ⁿ ≥ R` - i.e. within `⌈log₂ (R / 16)⌉ + 1` iterations -, one iteration reports all `R` ready
descriptors and calls every one of them that subscribes to what it is ready for. -/
theorem all_ready_called_epoll_bound (ins : List In) (henv : Along epEnvOk (init .epoll) ins)
    (hh : (reach .epoll ins).hooks = [])
    (rdy : List (Nat × Nat)) (order : Nat → List (Nat × Nat)) (hord : ∀ j, (order j).Perm rdy)
    (hnd : (rdy.map (·.1)).Nodup) (hk : ∀ p ∈ rdy, ((reach .epoll ins).kernel (fdOf p.1)).isSome) (n : Nat) :
    kInitEventListSize ≤ (reach .epoll ins).evsize ∧
    ((reach .epoll ins).evsize * 2 ^ n ≤ (epWaits order n (reach .epoll ins)).evsize ∨
      rdy.length < (epWaits order n (reach .epoll ins)).evsize) ∧
    (rdy.length ≤ kInitEventListSize * 2 ^ n →
      ∀ c rev k, (c, rev) ∈ rdy → disp k rev → subscribed k ((reach .epoll ins).chans c).events →
        ∃ l, (epWait order n (epWaits order n (reach .epoll ins))).out =
            (epWaits order n (reach .epoll ins)).out ++ l ∧
          Ev.cb c k rev ((reach .epoll ins).chans c).events ∈ l) := by
  have hinit : kInitEventListSize ≤ (reach .epoll ins).evsize := (evsize_growth .epoll ins).1
  have hpos : 0 < (reach .epoll ins).evsize := Nat.lt_of_lt_of_le (by decide : 0 < kInitEventListSize) hinit
  have hg := alive_run .epoll ins henv
  have inv := epWaits_inv hg hh hpos order hord hk n
  refine ⟨hinit, inv.grow, fun hn c rev k hmem hrdy hsub => ?_⟩
  -- the array now holds all of `rdy`, so this wait reports it whole
  have hge : (order n).length ≤ (epWaits order n (reach .epoll ins)).evsize := by
    have := Nat.le_trans hn (Nat.mul_le_mul_right _ hinit)
    rw [(hord n).length_eq]
    exact inv.grow.elim (Nat.le_trans this) Nat.le_of_lt
  have henv' := epWait_env (sn := epWaits order n (reach .epoll ins)) (hord n) inv.kernel hk
  unfold epWait
  rw [List.take_of_length_le hge] at henv' ⊢
  rw [← inv.ev c] at hsub ⊢
  exact epoll_calls (alive_epoll.2 inv.alive) (order n) (order n).length henv' (((hord n).map (·.1)).nodup_iff.2 hnd)
    ((hord n).mem_iff.2 hmem) (inv.hooks ▸ List.forall_mem_nil _) hsub hrdy

/-- T1, statement order: in every function of `EPollPoller.cc` (`poll`, `fillActiveChannels`, `updateChannel`,
`removeChannel`, `update`), `PollPoller.cc` (`poll`, `fillActiveChannels`, `updateChannel`, `removeChannel`), `Channel.cc`
(`update`, `remove`, `handleEvent`, `handleEventWithGuard`) and `EventLoop.cc` (one iteration of `loop`, `updateChannel`,
`removeChannel`, `hasChannel`) the source performs the same significant actions - system calls, assertions, `set_index` /
`set_revents` / `handleEvent` through a `Channel*`, the operations of `channels_` and of the arrays, the four callbacks,
calls through `poller_` / `loop_` and inside the class, `LOG_SYSERR` / `LOG_SYSFATAL`, stores, `return` - in the same order
and under the same nesting of the generated guards and loops as `Model/Poller.lean` (`Model/PollerSkelDecl.lean`);
re-extracted from /repo on every run (`Generated/PollerSkel.lean`), proved in `Proofs/PollerSkelTie.lean` -/
theorem statement_order_tied :
    Gen.PollerSkel.epollPoll = PollerSkel.Decl.epollPoll ∧
    Gen.PollerSkel.epollFillActiveChannels = PollerSkel.Decl.epollFillActiveChannels ∧
    Gen.PollerSkel.epollUpdateChannel = PollerSkel.Decl.epollUpdateChannel ∧
    Gen.PollerSkel.epollRemoveChannel = PollerSkel.Decl.epollRemoveChannel ∧
    Gen.PollerSkel.epollUpdate = PollerSkel.Decl.epollUpdate ∧
    Gen.PollerSkel.pollPoll = PollerSkel.Decl.pollPoll ∧
    Gen.PollerSkel.pollFillActiveChannels = PollerSkel.Decl.pollFillActiveChannels ∧
    Gen.PollerSkel.pollUpdateChannel = PollerSkel.Decl.pollUpdateChannel ∧
    Gen.PollerSkel.pollRemoveChannel = PollerSkel.Decl.pollRemoveChannel ∧
    Gen.PollerSkel.channelUpdate = PollerSkel.Decl.channelUpdate ∧
    Gen.PollerSkel.channelRemove = PollerSkel.Decl.channelRemove ∧
    Gen.PollerSkel.channelHandleEvent = PollerSkel.Decl.channelHandleEvent ∧
    Gen.PollerSkel.channelHandleEventWithGuard = PollerSkel.Decl.channelHandleEventWithGuard ∧
    Gen.PollerSkel.loopIteration = PollerSkel.Decl.loopIteration ∧
    Gen.PollerSkel.loopUpdateChannel = PollerSkel.Decl.loopUpdateChannel ∧
    Gen.PollerSkel.loopRemoveChannel = PollerSkel.Decl.loopRemoveChannel ∧
    Gen.PollerSkel.loopHasChannel = PollerSkel.Decl.loopHasChannel :=
  PollerSkel.skeletons_agree

/-! ## the hypotheses are satisfiable, the conclusions not vacuous -/

example : Along2 simEnvOk (init .poll) (init .epoll) sampleHistory ∧
    Along epEnvOk (init .epoll) sampleHistory := by decide +kernel

/-- what both back-ends did on `sampleHistory` (two user channels, an operation inside a callback that
disables the *next* channel of the same batch — the F6 situation —, a removal and a re-registration):
channel 2 read; its callback disabled channel 3, which was *not* called although the kernel had reported
it; after re-registration channel 2 read (hang-up with `POLLIN`: no close callback) and channel 3 wrote -/
example : absOut (reach .poll sampleHistory).out =
    [.op 2 .enableR 3 0, .op 3 .enableR 3 0, .op 3 .enableW 7 0, .cb 2 .read 1 3, .op 3 .disableAll 0 0,
     .op 3 .remove 0 0, .cb 2 .read 1 3, .op 3 .enableW 4 0, .cb 2 .read 17 3, .cb 3 .write 4 4] := by decide +kernel

/-- operations between polls only; the kernel reports in an order different from `pollfds_` -/
example : Along2 permEnvOk (init .poll) (init .epoll) sampleUnordered ∧
    cbOut (reach .poll sampleUnordered).out =
      [.cb 2 .read 1 3, .cb 3 .write 4 4, .cb 4 .read 1 3, .cb 2 .read 1 3, .cb 4 .close 16 3] ∧
    cbOut (reach .epoll sampleUnordered).out =
      [.cb 4 .read 1 3, .cb 2 .read 1 3, .cb 3 .write 4 4, .cb 4 .close 16 3, .cb 2 .read 1 3] := by decide +kernel

/-- the former F21 witnesses (corpus/C09/F21-…): a first update without interest is not handed to the
kernel, `remove()` after it works under both back-ends, a later `enableReading()` registers normally -/
example :
    (∀ be ∈ [Backend.epoll, .poll], ¬ watched (reach be [.op 2 .disableAll]) 2 0) ∧
    (∀ be ∈ [Backend.epoll, .poll], (reach be [.op 2 .disableAll, .op 2 .remove]).dead = false ∧
      absOut (reach be [.op 2 .disableAll, .op 2 .remove]).out = [.op 2 .disableAll 0 0, .op 2 .remove 0 0]) ∧
    (∀ be ∈ [Backend.epoll, .poll], watched (reach be [.op 2 .disableAll, .op 2 .enableR]) 2 3) ∧
    Along2 simEnvOk (init .poll) (init .epoll) [.op 2 .disableAll, .iter [] 0, .op 2 .remove, .op 2 .enableR,
      .iter [(2, 1)] 1] := by decide +kernel

/-- 40 user channels (ids 2 … 41) register for reading … -/
def burstHistory : List In := (List.range 40).map fun i => In.op (i + 2) .enableR
/-- … and all 40 become readable and stay so -/
def burstReady : List (Nat × Nat) := (List.range 40).map fun i => (i + 2, 1)
/-- the kernel's ready list rotates: what was reported goes to the tail (16 were reported, then 32) -/
def burstOrder (j : Nat) : List (Nat × Nat) := burstReady.rotateLeft ([0, 16, 8].getD j 0)

/-- the facts about the burst that the two examples below rest on, evaluated once -/
private theorem burst_facts :
    (Along epEnvOk (init .epoll) burstHistory ∧ (reach .epoll burstHistory).hooks = [] ∧
    (burstReady.map (·.1)).Nodup ∧ (∀ p ∈ burstReady, ((reach .epoll burstHistory).kernel (fdOf p.1)).isSome) ∧
    ((List.range 4).map fun n => (epWaits burstOrder n (reach .epoll burstHistory)).evsize) = [16, 32, 64, 64] ∧
    ((List.range 3).map fun n =>
      (cbOut (epWait burstOrder n (epWaits burstOrder n (reach .epoll burstHistory))).out).length -
        (cbOut (epWaits burstOrder n (reach .epoll burstHistory)).out).length) = [16, 32, 40] ∧
    pollCount burstReady (reach .poll burstHistory).pollfds = 40 ∧
    (cbOut (iter (reach .poll burstHistory) burstReady 40).out).length = 40) ∧
    ∀ p ∈ burstReady, subscribed .read ((reach .epoll burstHistory).chans p.1).events := by
  decide +kernel

/-- the hypotheses of `all_ready_called_epoll_bound` / `all_ready_called_poll` hold for this burst, and what happens:
the array grows 16, 32, 64 and stays; the three consecutive iterations run 16, 32 and then all 40 read callbacks
(`16 · 2² ≥ 40`: the third iteration); under poll the first iteration runs all 40 -/
example :
    Along epEnvOk (init .epoll) burstHistory ∧ (reach .epoll burstHistory).hooks = [] ∧
    (burstReady.map (·.1)).Nodup ∧ (∀ p ∈ burstReady, ((reach .epoll burstHistory).kernel (fdOf p.1)).isSome) ∧
    ((List.range 4).map fun n => (epWaits burstOrder n (reach .epoll burstHistory)).evsize) = [16, 32, 64, 64] ∧
    ((List.range 3).map fun n =>
      (cbOut (epWait burstOrder n (epWaits burstOrder n (reach .epoll burstHistory))).out).length -
        (cbOut (epWaits burstOrder n (reach .epoll burstHistory)).out).length) = [16, 32, 40] ∧
    pollCount burstReady (reach .poll burstHistory).pollfds = 40 ∧
    (cbOut (iter (reach .poll burstHistory) burstReady 40).out).length = 40 :=
  burst_facts.1

set_option maxRecDepth 8192 in
/-- … and the theorem applied to it (any fixed order): the third wait calls every one of the 40 channels -/
example (c : Nat) (hc : (c, 1) ∈ burstReady) :
    ∃ l, (epWait (fun _ => burstReady) 2 (epWaits (fun _ => burstReady) 2 (reach .epoll burstHistory))).out =
        (epWaits (fun _ => burstReady) 2 (reach .epoll burstHistory)).out ++ l ∧
      Ev.cb c .read 1 ((reach .epoll burstHistory).chans c).events ∈ l :=
  by
  have hp : ∀ _ : Nat, burstReady.Perm burstReady := fun _ => .refl _
  have h := all_ready_called_epoll_bound burstHistory burst_facts.1.1 burst_facts.1.2.1 burstReady (fun _ => burstReady)
    hp burst_facts.1.2.2.1 burst_facts.1.2.2.2.1 2
  have hs := burst_facts.2 (c, 1) hc
  dsimp only at hs
  exact h.2.2 (by decide) c 1 .read hc (by decide) hs

/-- T1, the back-end the loop gets.  `Model/Poller.lean` takes the back-end as a parameter (`Poller.init be`) and the
harness chooses it through the environment; in /repo's current sources (`Generated/SysSkel.lean`, re-extracted on every
run; `Proofs/SysSkelTie.lean`) `Poller::newDefaultPoller` reads `MUDUO_USE_POLL` once and returns a `PollPoller` when it
is SET, an `EPollPoller` otherwise; `EPollPoller`'s constructor makes one `epoll_create1(EPOLL_CLOEXEC)` (a failure ends
the process) and sizes `events_` with `kInitEventListSize` (`Poller.init`: `evsize := kInitEventListSize`), its destructor
closes that descriptor once; `PollPoller` and the base class own nothing (`channels_` starts empty, `= default`
destructors); `Poller::hasChannel` is the value `cmap (fd) = some channel` the model's assertions test; `Channel::tie`
stores the weak reference and sets the flag. -/
theorem default_poller_choice :
    Gen.SysSkel.newDefaultPoller =
      [.act (.sys "getenv" "\"MUDUO_USE_POLL\""),
       .ite "<result>" [.act (.ret "new PollPoller(loop)")] [.act (.ret "new EPollPoller(loop)")]] ∧
    Gen.SysSkel.epollCtor =
      [.act (.call "Poller::Poller" "loop"), .act (.sys "epoll_create1" "EPOLL_CLOEXEC"), .act (.store "epollfd_" "<result>"),
       .act (.store "events_" "kInitEventListSize"), .ite "epollfd_ < 0" [.act (.log .sysfatal)] []] ∧
    Gen.SysSkel.epollDtor = [.act (.sys "close" "epollfd_")] ∧
    Gen.SysSkel.pollCtor = [.act (.call "Poller::Poller" "loop")] ∧
    Gen.SysSkel.pollDtor = [] ∧
    Gen.SysSkel.pollerCtor = [.act (.store "ownerLoop_" "loop")] ∧
    Gen.SysSkel.pollerDtor = [] ∧
    Gen.SysSkel.pollerHasChannel = SysSkel.Decl.pollerHasChannel ∧
    Gen.SysSkel.channelTie = [.act (.store "tie_" "obj"), .act (.store "tied_" "true")] :=
  ⟨SysSkel.skeleton_newDefaultPoller, SysSkel.skeleton_epollCtor, SysSkel.skeleton_epollDtor, SysSkel.skeleton_pollCtor,
   SysSkel.skeleton_pollDtor, SysSkel.skeleton_pollerCtor, SysSkel.skeleton_pollerDtor, SysSkel.skeleton_pollerHasChannel,
   SysSkel.skeleton_channelTie⟩

/-- T1, the two descriptors every loop polls besides the channels of its users: the wake-up `eventfd` (counter 0) and
the `timerfd` (monotonic clock) are created NON-BLOCKING and close-on-exec by one system call each, and a failure ends
the process - so a read of either after a spurious report cannot block the loop (`Generated/SysSkel.lean`,
`Proofs/SysSkelTie.lean`) -/
theorem loop_descriptors_nonblocking :
    Gen.SysSkel.createEventfd =
      [.act (.sys "eventfd" "0, EFD_NONBLOCK | EFD_CLOEXEC"), .act (.assign "evtfd" "<result>"),
       .ite "evtfd < 0" [.act (.log .syserr), .act (.sys "abort" "")] [], .act (.ret "evtfd")] ∧
    Gen.SysSkel.createTimerfd =
      [.act (.sys "timerfd_create" "1, TFD_NONBLOCK | TFD_CLOEXEC"), .act (.assign "timerfd" "<result>"),
       .ite "timerfd < 0" [.act (.log .sysfatal)] [], .act (.ret "timerfd")] :=
  ⟨SysSkel.skeleton_createEventfd, SysSkel.skeleton_createTimerfd⟩

/-- **channel_lifecycle_statement_order_tied** (T1, statement order at both ends of a channel's life).  The constructor and
destructor of `EventLoop` (its wake-up channel), `Channel::Channel`, `Channel::~Channel` and the three forwarders
`EventLoop::updateChannel / removeChannel / hasChannel` of /repo's current sources have the statement skeleton
`Model/Poller.lean` / `Model/Loop.lean` assume (`Model/LoopSkelDecl.lean`; re-extracted on every run by
`vlib/gen/loopskel.py`, proved equal in `Proofs/LoopSkelTie.lean`), and of the EXTRACTED skeletons: (e) `EventLoop::EventLoop`
ends the process (`LOG_FATAL`) exactly when the thread already has a loop and sets the thread-local pointer exactly
otherwise; the eventfd is created before the channel on it, and the read callback is installed BEFORE the channel is
subscribed (`enableReading` is the last statement); `EventLoop::~EventLoop` is `disableAll` -> `remove` ->
`::close(wakeupFd_)` -> `t_loopInThisThread = NULL` - the descriptor is closed only after the channel left the poller;
(j) a new `Channel` has `events_ = 0`, `revents_ = 0`, `index_ = -1`, is not tied, not handling an event, not added to the
loop (`Poller.Chan`'s defaults); `~Channel` asserts `!eventHandling_` and `!addedToLoop_` (`Poller.recreateOk`); the
forwarders assert the owner loop and the loop thread before they reach the poller. -/
theorem channel_lifecycle_statement_order_tied :
    (Gen.LoopSkel.loopCtor = LoopSkel.Decl.loopCtor ∧
     Gen.LoopSkel.loopDtor = LoopSkel.Decl.loopDtor ∧
     Gen.LoopSkel.channelCtor = LoopSkel.Decl.channelCtor ∧
     Gen.LoopSkel.channelDtor = LoopSkel.Decl.channelDtor ∧
     Gen.LoopSkel.updateChannel = LoopSkel.Decl.updateChannel ∧
     Gen.LoopSkel.removeChannel = LoopSkel.Decl.removeChannel ∧
     Gen.LoopSkel.hasChannel = LoopSkel.Decl.hasChannel) ∧
    -- (e) constructor
    (LoopSkel.onlyUnder "t_loopInThisThread" (.log .fatal) Gen.LoopSkel.loopCtor = true ∧
     LoopSkel.onlyUnless "t_loopInThisThread" (.store "t_loopInThisThread" "this") Gen.LoopSkel.loopCtor = true ∧
     LoopSkel.inOrder [.call "createEventfd" "", .store "wakeupFd_" "<result>",
                       .store "wakeupChannel_" "new Channel(this, wakeupFd_)",
                       .call "wakeupChannel_.setReadCallback" "bind(&EventLoop::handleRead, this)",
                       .call "wakeupChannel_.enableReading" ""] (LoopSkel.flat Gen.LoopSkel.loopCtor) = true ∧
     (LoopSkel.flat Gen.LoopSkel.loopCtor).getLast? = some (.call "wakeupChannel_.enableReading" "")) ∧
    -- (e) destructor
    LoopSkel.flat Gen.LoopSkel.loopDtor =
      [.call "wakeupChannel_.disableAll" "", .call "wakeupChannel_.remove" "", .sys "close" "wakeupFd_",
       .store "t_loopInThisThread" "NULL"] ∧
    -- (j)
    ([.store "events_" "0", .store "revents_" "0", .store "index_" "-1", .store "tied_" "false",
      .store "eventHandling_" "false", .store "addedToLoop_" "false"].all
         (fun a => (LoopSkel.flat Gen.LoopSkel.channelCtor).contains a) = true ∧
     LoopSkel.flat Gen.LoopSkel.channelDtor = [.assertion "!eventHandling_", .assertion "!addedToLoop_"]) ∧
    (LoopSkel.inOrder [.assertion "channel.ownerLoop() == this", .call "assertInLoopThread" "",
                       .call "poller_.updateChannel" "channel"] (LoopSkel.flat Gen.LoopSkel.updateChannel) = true ∧
     LoopSkel.inOrder [.assertion "channel.ownerLoop() == this", .call "assertInLoopThread" "",
                       .call "poller_.removeChannel" "channel"] (LoopSkel.flat Gen.LoopSkel.removeChannel) = true) :=
  ⟨⟨LoopSkel.skeleton_loopCtor, LoopSkel.skeleton_loopDtor, LoopSkel.skeleton_channelCtor, LoopSkel.skeleton_channelDtor,
    LoopSkel.skeleton_updateChannel, LoopSkel.skeleton_removeChannel, LoopSkel.skeleton_hasChannel⟩,
   ⟨LoopSkel.loopCtor_order.1, LoopSkel.loopCtor_order.2.1, LoopSkel.loopCtor_order.2.2.1,
    LoopSkel.loopCtor_order.2.2.2.2⟩,
   LoopSkel.loopDtor_order.1,
   ⟨LoopSkel.channel_ctor_dtor.1, LoopSkel.channel_ctor_dtor.2.2.2⟩,
   ⟨LoopSkel.channel_forwarders.1, LoopSkel.channel_forwarders.2.1⟩⟩

end MuduoVerif.C09
