import MuduoVerif.Props.C01
import MuduoVerif.Props.C02
import MuduoVerif.Props.C13
import MuduoVerif.Proofs.ConnFault
import MuduoVerif.Proofs.ConnTraceIndep
import MuduoVerif.Proofs.ConnNoDiscard
import MuduoVerif.Proofs.Acceptor
import MuduoVerif.Generated.Client
import MuduoVerif.Proofs.SysSkelTie
import MuduoVerif.Proofs.LoopSkelTie
/-!
# C11 — transient socket faults delay service but never corrupt, wedge or leak

The environment is an input of the models: the result of every `write`, `readv`, `accept`, `connect` and of the poll
call is supplied by the history, and the theorems of C01, C02 and C13 are quantified over **all** result sequences.
This file ties the errno classifications the property names to the tables extracted from `sockets::accept`,
`Acceptor::handleRead`, `Connector::connect` and the pollers on every run; says what each fault does to a connection,
for every state, what `k` faults cost, and that any continuation reaches the state of the fault-free history, the trace
aside; restates the stream / life-cycle / notification guarantees for a history with any finite sequence of transient
faults inserted at any position; and does the same for the listener, with its descriptor accounting and the EMFILE
branch.

Errno numbers are Linux's: EINTR 4, EAGAIN 11, EMFILE 24, EPIPE 32, EADDRINUSE 98,
EADDRNOTAVAIL 99, ENETUNREACH 101, ECONNABORTED 103, ECONNRESET 104, EISCONN 106,
ECONNREFUSED 111, EINPROGRESS 115 (the tables are extracted after macro expansion).
-/
namespace MuduoVerif.C11
open MuduoVerif.Conn MuduoVerif.Conn.Fault MuduoVerif.Gen.Conn

/-- **class_accept**: `EAGAIN`, `ECONNABORTED`, `EINTR` and `EMFILE` are "expected errors" of
`sockets::accept` (errno restored, -1 returned: no `LOG_FATAL` arm), nothing outside the arms of
its switch ends the process, `Acceptor::handleRead` contains no process-ending statement, and its
descriptor-exhaustion test selects `EMFILE` and none of the others -/
theorem class_accept :
    (∀ e ∈ [11, 103, 4, 24], Gen.Acceptor.classifyAccept e = .expected) ∧
    Gen.Acceptor.acceptFatalOutsideSwitch = 0 ∧ Gen.Acceptor.handleReadFatal = 0 ∧
    Gen.Acceptor.emfileTest 24 ∧ (∀ e ∈ [11, 103, 4], ¬ Gen.Acceptor.emfileTest e) ∧
    (∀ fd : Int, Gen.Acceptor.acceptFailed fd ↔ ¬ Gen.Acceptor.acceptedOk fd) := by
  refine ⟨by decide, by decide, by decide, by decide, by decide, ?_⟩
  intro fd; simp only [Gen.Acceptor.acceptFailed, Gen.Acceptor.acceptedOk]; omega

/-- **class_connect**: `ECONNREFUSED`, `ENETUNREACH` (and `EAGAIN`, `EADDRINUSE`, `EADDRNOTAVAIL`) lead
to `retry`; `EINPROGRESS` (and 0, `EINTR`, `EISCONN`) to `connecting`; none of them to the give-up arm -/
theorem class_connect :
    (∀ e ∈ [111, 101, 11, 98, 99], Gen.Client.classifyConnect e = .retry) ∧
    (∀ e ∈ [115, 0, 4, 106], Gen.Client.classifyConnect e = .proceed) ∧
    Gen.Client.retrySchedules true ∧ Gen.Client.retryClosesSocket = true := by
  refine ⟨by decide, by decide, by decide, by decide⟩

/-- **poll_eintr_silent**: both pollers collect active channels only for a positive count, log a failed
poll call unless it is `EINTR`, and contain no process-ending statement -/
theorem poll_eintr_silent :
    ¬ Gen.Acceptor.epollErrLogged 4 ∧ ¬ Gen.Acceptor.pollErrLogged 4 ∧
    Gen.Acceptor.epollPollFatal = 0 ∧ Gen.Acceptor.pollPollFatal = 0 ∧
    (∀ n : Int, Gen.Acceptor.epollFillsActive n ↔ 0 < n) ∧ (∀ n : Int, Gen.Acceptor.pollFillsActive n ↔ 0 < n) := by
  refine ⟨by decide, by decide, by decide, by decide, ?_, ?_⟩ <;> intro n <;>
    simp only [Gen.Acceptor.epollFillsActive, Gen.Acceptor.pollFillsActive, gt_iff_lt]

/-- **result_tests**: how `handleRead`, `handleWrite` and `sendInLoop` split the result of the system call: a
failed call (`-1`) is neither "data" nor "end of stream" for `handleRead` (so it reaches the branch that only
logs), is not a positive count for `handleWrite` (nothing is retrieved from the backlog), and is not `>= 0`
for `sendInLoop` (it counts as zero bytes written).  These are the tests the model's case splits on
`ReadRes` / `WriteRes` stand for -/
theorem result_tests (n : Int) :
    (readGotData n ↔ 0 < n) ∧ (readGotEof n ↔ n = 0) ∧ (handleWriteTook n ↔ 0 < n) ∧ (directWriteOk n ↔ 0 ≤ n) ∧
    ¬ readGotData (-1) ∧ ¬ readGotEof (-1) ∧ ¬ handleWriteTook (-1) ∧ ¬ directWriteOk (-1) := by
  refine ⟨?_, ?_, ?_, ?_, ?_, ?_, ?_, ?_⟩ <;>
    simp only [readGotData, readGotEof, handleWriteTook, directWriteOk] <;> omega


/-- **write_fault_noop**: for every state, a writable event whose `write` fails (any errno — `EAGAIN`,
`EINTR`, …) or takes nothing consumes the result and records the call; state word, both buffers,
interest set, queues and ghost history are as before (in particular nothing is closed and the backlog
stays queued with write interest on) -/
theorem write_fault_noop (c : Conn) (r : WriteRes) (hw : c.ch.evWrite = true) (hp : peekWrite c = r)
    (hr : (∃ e, r = .err e) ∨ r = .took 0) :
    handleWrite c = { popWrite c with trace := c.trace ++ [.sysWrite c.outBuf.length r] } := by
  rw [handleWrite_fault c r hw hp hr]
  simp only [emit, (popWrite_data c).2.2.2.2.2.2.1]

/-- **read_fault_noop**: for every state, a readable event whose `readv` fails (any errno) consumes the
result and records the call: no callback, no close, input buffer untouched -/
theorem read_fault_noop (c : Conn) (e : Nat) (hp : peekRead c = .err e) :
    handleRead c = { popRead c with trace := c.trace ++ [.sysReadv (.err e)] } := by
  rw [handleRead_fault c e hp, popRead_eq]
  rfl

/-- **send_fault_keeps_data**: a `send` whose direct `write` fails with anything but `EPIPE`/`ECONNRESET`
queues the whole block and switches write interest on; nothing is written, nothing dropped -/
theorem send_fault_keeps_data (c : Conn) (data : Bytes) (q : Bool) (e : Nat)
    (hst : c.st ≠ .kDisconnected) (hw : c.ch.evWrite = false) (ho : c.outBuf = [])
    (hp : peekWrite c = .err e) (hnf : e ≠ 32 ∧ e ≠ 104) (hd : data ≠ []) :
    let c' := sendInLoop c data q
    c'.outBuf = data ∧ c'.ch.evWrite = true ∧ c'.wrote = c.wrote ∧ c'.discarded = c.discarded ∧
    c'.accepted = c.accepted ++ data ∧ c'.st = c.st ∧
    c'.trace = c.trace ++ [.sysWrite data.length (.err e)] := by
  have h := sendInLoop_rest c data q _ hst hw ho hp
    (by simp only [WriteRes.drops, writeErrFatal, hnf.1, hnf.2, or_self, decide_false])
    (List.length_pos_iff.mpr hd)
  simpa only [WriteRes.taken, List.take_zero, List.append_nil, List.drop_zero] using h

/-- **send_short_keeps_rest**: a `send` whose direct `write` takes `k` bytes queues exactly the rest -/
theorem send_short_keeps_rest (c : Conn) (data : Bytes) (q : Bool) (k : Nat)
    (hst : c.st ≠ .kDisconnected) (hw : c.ch.evWrite = false) (ho : c.outBuf = [])
    (hp : peekWrite c = .took k) (hk : k < data.length) :
    let c' := sendInLoop c data q
    c'.outBuf = data.drop k ∧ c'.ch.evWrite = true ∧ c'.wrote = c.wrote ++ data.take k ∧ c'.discarded = c.discarded ∧
    c'.accepted = c.accepted ++ data ∧ c'.st = c.st ∧
    c'.trace = c.trace ++ [.sysWrite data.length (.took k)] :=
  sendInLoop_rest c data q _ hst hw ho hp rfl hk

/-- **poll_eintr_noop**: an iteration whose poll call was interrupted reports no active channel; with
nothing queued for the loop it is the identity (with functors queued it runs them, as any iteration does) -/
theorem poll_eintr_noop (c : Conn) (h1 : c.pending = []) (h2 : c.batch = []) (h3 : c.owner = true ∨ c.alive = false) :
    iter c [] = c :=
  iter_eintr c h1 h2 h3

/-- **fault_cost / resume**: on an idle loop, `k` consecutive iterations each hit by a transient fault
(failed `write`, failed `readv`, interrupted poll — in any mix) leave every field of the connection
unchanged; the trace gains one system-call record per failed call and nothing else.  So the faults cost `k`
iterations, no callback runs, nothing is closed or aborted, and the next fault-free iteration starts from
exactly the state the connection was in before the faults -/
theorem fault_cost (c : Conn) (hq : Quiet c) (fs : List FaultIter) (ha : ∀ f ∈ fs, f.applicable c) :
    run c (fs.flatMap FaultIter.inputs) = { c with trace := c.trace ++ fs.flatMap (FaultIter.evs c) } ∧
    (fs.flatMap FaultIter.inputs).length ≤ 2 * fs.length ∧
    ∀ e ∈ fs.flatMap (FaultIter.evs c), (∃ n r, e = .sysWrite n r) ∨ (∃ r, e = .sysReadv r) := by
  refine ⟨Fault.fault_cost c hq fs ha, ?_, ?_⟩
  · induction fs with
    | nil => simp
    | cons f fs ih =>
      have ih' := ih (fun g hg => ha g (List.mem_cons_of_mem _ hg))
      rw [List.flatMap_cons, List.length_append, List.length_cons]
      cases f <;> (simp only [FaultIter.inputs, List.length_cons, List.length_nil]; omega)
  · intro e he
    obtain ⟨f, _, hf⟩ := List.mem_flatMap.mp he
    exact faultIter_evs_quiet c f e hf

/-- **resume** (the state reached is fault-oblivious): on an idle loop, whatever history `rest` follows `k` fault
iterations, the connection ends in the state `rest` alone leads to — every field except the trace is equal
(state word, buffers, interest, queues, what was written, delivered, accepted), and the trace is the fault-free
trace with the `k` system-call records inserted where the faults happened.  (`run_setTrace`: no transition of the
model reads the trace, proved for every transition in `Proofs/ConnTraceIndep.lean`.) -/
theorem resume (c : Conn) (hq : Quiet c) (fs : List FaultIter) (ha : ∀ f ∈ fs, f.applicable c) (rest : List Input) :
    ∃ s, (run c rest).trace = c.trace ++ s ∧
      run c (fs.flatMap FaultIter.inputs ++ rest) =
        TraceIndep.setTrace (run c rest) (c.trace ++ fs.flatMap (FaultIter.evs c) ++ s) := by
  obtain ⟨s, hs, hall⟩ := TraceIndep.run_setTrace c rest
  refine ⟨s, hs, ?_⟩
  rw [run_append, Fault.fault_cost c hq fs ha]
  exact hall (c.trace ++ fs.flatMap (FaultIter.evs c))

/-- the transient faults of the property, as inputs of the connection model: `write` failing with
`EAGAIN`/`EINTR` or taking any (short) count, `readv` failing with `EAGAIN`/`EINTR` or returning any
positive (short) count, and an interrupted poll (an iteration without active channels) -/
def Transient : Input → Prop
  | .envWrite (.err e) => e = 11 ∨ e = 4
  | .envWrite (.took _) => True
  | .envRead (.err e) => e = 11 ∨ e = 4
  | .envRead (.got n) => 0 < n
  | .iter [] => True
  | _ => False

theorem Transient.notEstablish {i : Input} (h : Transient i) : i.notEstablish := by
  cases i <;> simp_all [Transient, Input.notEstablish]

theorem Transient.nonFatal {i : Input} (h : Transient i) : i.nonFatal := by
  cases i with
  | envWrite r =>
    cases r with
    | took n => trivial
    | err e =>
      simp only [Transient] at h
      simp only [Input.nonFatal, WriteRes.nonFatal, writeErrFatal]
      omega
  | _ => trivial

/-- a history `pre ++ faults ++ post`: any finite sequence of transient faults inserted at any position -/
abbrev withFaults (pre faults post : List Input) : List Input := pre ++ faults ++ post

theorem withFaults_ne {pre faults post : List Input} (hpre : ∀ i ∈ pre, i.notEstablish)
    (hf : ∀ i ∈ faults, Transient i) (hpost : ∀ i ∈ post, i.notEstablish) :
    ∀ i ∈ withFaults pre faults post, i.notEstablish := by
  intro i hi
  simp only [withFaults, List.mem_append] at hi
  rcases hi with (hi | hi) | hi
  · exact hpre i hi
  · exact (hf i hi).notEstablish
  · exact hpost i hi

section
variable (c0 : Conn) (h0 : Fresh c0) (pre faults post : List Input)
  (hpre : ∀ i ∈ pre, i.notEstablish) (hf : ∀ i ∈ faults, Transient i) (hpost : ∀ i ∈ post, i.notEstablish)
include h0 hpre hf hpost

omit hpre hpost in
/-- **no_discard_under_faults**: if the only `write` failures of a history are non-fatal (the base history
contains no `EPIPE`/`ECONNRESET` result; the inserted faults never are), the code never drops data -/
theorem no_discard_under_faults (hw0 : ∀ r ∈ c0.writes, r.nonFatal)
    (hbase : ∀ i ∈ pre ++ post, i.nonFatal) :
    (C01.reach c0 (withFaults pre faults post)).discarded = false := by
  have hall : ∀ i ∈ withFaults pre faults post, i.nonFatal := by
    intro i hi
    simp only [withFaults, List.mem_append] at hi
    rcases hi with (hi | hi) | hi
    · exact hbase i (List.mem_append.mpr (Or.inl hi))
    · exact (hf i hi).nonFatal
    · exact hbase i (List.mem_append.mpr (Or.inr hi))
  have h1 : NoDisc (step c0 .establish) := step_nodisc c0 .establish trivial ⟨h0.discarded, hw0⟩
  exact (run_nodisc _ _ hall h1).1

/-- **stream_inv_under_faults** (C01, send direction): whatever transient faults hit the connection and
wherever, the bytes handed to the kernel followed by the backlog are exactly the accepted blocks in
processing order — no byte lost, duplicated or reordered -/
theorem stream_inv_under_faults (hw0 : ∀ r ∈ c0.writes, r.nonFatal) (hbase : ∀ i ∈ pre ++ post, i.nonFatal) :
    let c := C01.reach c0 (withFaults pre faults post)
    c.wrote ++ c.outBuf = (c.blocks.map (·.2)).flatten :=
  C01.stream_inv c0 h0 _ (withFaults_ne hpre hf hpost)
    (no_discard_under_faults c0 h0 pre faults post hf hw0 hbase)

/-- **fifo_under_faults** (C01): per-thread order of the accepted blocks, and write interest on exactly while
there is a backlog (so a backlog left by a failed or short write is never without a wake-up, and an empty one
never spins the loop) -/
theorem fifo_under_faults :
    let c := C01.reach c0 (withFaults pre faults post)
    c.lBlocks = c.offeredL ∧ c.fBlocks <+: c.offeredF ∧
    (c.st ≠ .kDisconnected → (c.ch.evWrite = true ↔ c.outBuf ≠ [])) :=
  let h := C01.per_thread_fifo c0 h0 _ (withFaults_ne hpre hf hpost)
  ⟨h.1, h.2.1, C01.write_interest_inv c0 h0 _ (withFaults_ne hpre hf hpost)⟩

/-- **read_inv_under_faults** (C01, receive direction): under failed and short reads, what was delivered
to the input buffer plus what is still unread is exactly what the peer wrote, in order -/
theorem read_inv_under_faults :
    let c := C01.reach c0 (withFaults pre faults post)
    c.delivered ++ c.peerPending = c.peerAll ∧ c.inBuf <:+ c.delivered :=
  C01.read_inv c0 h0 _ (withFaults_ne hpre hf hpost)

/-- **updown_under_faults** (C02): exactly one UP, at most one DOWN, descriptor closed at most once, nothing
aborts — no callback missed or repeated, whatever faults occur -/
theorem updown_under_faults :
    let c := C02.reach c0 (withFaults pre faults post)
    C02.cnt C02.isUpEv c.trace = 1 ∧ C02.cnt C02.isDownEv c.trace ≤ 1 ∧ C02.cnt C02.isCloseEv c.trace ≤ 1 ∧ C02.cnt C02.isBadEv c.trace = 0 :=
  C02.updown c0 h0 _ (withFaults_ne hpre hf hpost)

/-- **destroy_clean_under_faults** (C02, no descriptor leak): once destroyed, DOWN was reported and the
descriptor was closed exactly once; while the object lives its descriptor is open -/
theorem destroy_clean_under_faults :
    let c := C02.reach c0 (withFaults pre faults post)
    (c.alive = false → c.st = .kDisconnected ∧ c.registered = false ∧ C02.cnt C02.isDownEv c.trace = 1 ∧ C02.cnt C02.isCloseEv c.trace = 1) ∧
    (c.alive = true → C02.cnt C02.isCloseEv c.trace = 0) :=
  C02.destroy_clean c0 h0 _ (withFaults_ne hpre hf hpost)

/-- **wc_under_faults** (C13): write-complete callbacks run or queued (plus one for a pending backlog) never
exceed the accepted sends — none is repeated because a write had to be retried -/
theorem wc_under_faults :
    let c := C01.reach c0 (withFaults pre faults post)
    wcRun c + wcQueued c + (if c.outBuf = [] then 0 else 1) ≤ c.blocks.length :=
  C13.wc_needs_send c0 h0 _ (withFaults_ne hpre hf hpost)

end

/-- non-vacuity: one history with `EAGAIN` and a short count on the direct write, `EINTR` and a short write
on the drain path, `EAGAIN` and short reads, and an interrupted poll, all inserted after the `send`; everything
arrives, in order -/
example :
    let pre : List Input := [.envWrite (.err 11), .act false (.send [1, 2, 3]), .peerWrite [9, 8]]
    let faults : List Input := [.envWrite (.err 4), .envWrite (.took 1), .envWrite (.took 2), .envRead (.err 11),
                                .envRead (.got 1), .envRead (.got 1), .iter []]
    let post : List Input := [.iter [.conn 5], .iter [.conn 5], .iter [.conn 5]]
    Fresh ({} : Conn) ∧ (∀ i ∈ faults, Transient i) ∧
    (C01.reach {} (withFaults pre faults post)).wrote = [1, 2, 3] ∧
    (C01.reach {} (withFaults pre faults post)).outBuf = [] ∧
    (C01.reach {} (withFaults pre faults post)).delivered = [9, 8] ∧
    (C01.reach {} (withFaults pre faults post)).discarded = false := by
  refine ⟨fresh_default .epoll true true true _ _ [] [] [], ?_, by decide, by decide, by decide, by decide⟩
  intro i hi
  simp only [List.mem_cons, List.not_mem_nil, or_false] at hi
  rcases hi with h | h | h | h | h | h | h <;> rw [h] <;> simp [Transient]

open MuduoVerif.Acceptor in
/-- **fd_accounting** (no leak): over every sequence of inputs — any accept results, faults included, with
or without a callback, descriptors closed by their owners, destruction — every descriptor the acceptor
obtained is either closed or accounted for (handed to the callback and still open, or the spare one);
none is lost track of, and `close` is never applied to a stale descriptor number -/
theorem fd_accounting (cb : Bool) (ins : List Acceptor.Input) :
    let a := Acceptor.run { hasCb := cb } ins
    a.opened = a.closedN + live a ∧ a.leaked = 0 ∧ Ev.staleClose ∉ a.trace ∧
    (a.alive = true → a.idle = .devnull) := by
  have h := run_inv ins _ (inv_init cb)
  refine ⟨by rw [h.account, live]; omega, h.noLeak, h.noStale, ?_⟩
  intro ha; rw [h.idleOk, ha]; rfl

open MuduoVerif.Acceptor in
/-- **emfile_closes**: `accept` fails with `EMFILE` while a connection is pending: the spare descriptor is
released, exactly one pending connection is accepted and closed at once (never handed to the callback), and
the spare descriptor is re-opened — the connection is closed rather than left pending, and the listener is
ready for the next `EMFILE` -/
theorem emfile_closes (a : Acc) (rest : List AcceptRes) (hr : a.results = .err 24 :: .ok :: rest)
    (hi : a.idle = .devnull) :
    handleRead a = { a with results := rest, naccepted := a.naccepted + 1, opened := a.opened + 2, closedN := a.closedN + 2,
                            trace := a.trace ++ [.idleClosed, .accepted (a.naccepted + 1), .closed (a.naccepted + 1), .idleOpened] } :=
  handleRead_emfile_pending a 24 rest hr (by decide) (by decide) hi

open MuduoVerif.Acceptor in
/-- … and when nothing is pending after all (the raw `accept` fails too) only the spare descriptor is cycled -/
theorem emfile_nothing_pending (a : Acc) (e2 : Nat) (rest : List AcceptRes) (hr : a.results = .err 24 :: .err e2 :: rest)
    (hi : a.idle = .devnull) :
    handleRead a = { a with results := rest, opened := a.opened + 1, closedN := a.closedN + 1,
                            trace := a.trace ++ [.idleClosed, .idleOpened] } :=
  handleRead_emfile_none a 24 e2 rest hr (by decide) (by decide) hi

open MuduoVerif.Acceptor in
/-- **accept_fault_silent**: `EAGAIN`, `ECONNABORTED`, `EINTR` (every expected errno but `EMFILE`): the result
is consumed; no callback, no close, no abort, the listener is exactly as before -/
theorem accept_fault_silent (a : Acc) (e : Nat) (rest : List AcceptRes) (he : e = 11 ∨ e = 103 ∨ e = 4)
    (hr : a.results = .err e :: rest) :
    handleRead a = { a with results := rest } :=
  handleRead_silent a e rest hr (silent_of_fault he)

open MuduoVerif.Acceptor in
/-- **accept_faults_oblivious / resume**: any finite sequence of iterations in which `accept` fails with
`EAGAIN`/`ECONNABORTED`/`EINTR`, and any interrupted polls, leave the listener in exactly the state it was in:
the rest of the history proceeds as if the faults had not happened -/
theorem accept_faults_oblivious (a : Acc) (h : Ready a) (es : List Nat) (hs : ∀ e ∈ es, e = 11 ∨ e = 103 ∨ e = 4)
    (rest : List Acceptor.Input) :
    Acceptor.run a (es.flatMap faultIter ++ rest) = Acceptor.run a rest ∧
    Acceptor.run a (.iter false :: rest) = Acceptor.run a rest :=
  ⟨silent_faults_oblivious a h es (fun e he => silent_of_fault (hs e he)) rest, interrupted_poll_noop a rest⟩

open MuduoVerif.Acceptor in
/-- **resumes_after_faults**: after any such faults, the first iteration whose `accept` succeeds hands the
connection to the callback (or closes it when none is set) -/
theorem resumes_after_faults (a : Acc) (h : Ready a) (es : List Nat) (hs : ∀ e ∈ es, e = 11 ∨ e = 103 ∨ e = 4) :
    Acceptor.run a (es.flatMap faultIter ++ [.envAccept .ok, .iter true]) = accepted a := by
  rw [(accept_faults_oblivious a h es hs _).1, run_accept_iter a h, handleRead_ok _ [] rfl]
  exact congrArg accepted h.results_nil

open MuduoVerif.Acceptor in
/-- **listening_continues**: whatever `accept` returns, the listener stays registered until it is destroyed -/
theorem listening_continues (a : Acc) (ins : List Acceptor.Input) (hl : a.listening = true)
    (hd : ∀ i ∈ ins, i ≠ .destroy) : (Acceptor.run a ins).listening = true :=
  foldl_inv (P := (·.listening = true)) ins (fun a i hi hl => step_listening a i hl (hd i hi)) a hl

open MuduoVerif.Acceptor in
/-- **no_abort_under_faults**: as long as every `accept` result is a success or one of the expected errnos
(`EAGAIN`, `ECONNABORTED`, `EINTR`, `EPROTO`, `EPERM`, `EMFILE`), nothing aborts: the process never reaches a
`LOG_FATAL` -/
theorem no_abort_under_faults (cb : Bool) (ins : List Acceptor.Input)
    (hb : ∀ r, Acceptor.Input.envAccept r ∈ ins → r = .ok ∨ ∃ e, r = .err e ∧ e ∈ [11, 103, 4, 71, 1, 24]) :
    (Acceptor.run { hasCb := cb } ins).dead = false ∧
    ∀ e ∈ (Acceptor.run { hasCb := cb } ins).trace, e.isAbort = false := by
  have h0 : Safe ({ hasCb := cb } : Acc) := ⟨rfl, by simp, by simp⟩
  have hs := run_safe ins _ h0 (by
    intro r hr
    rcases hb r hr with h | ⟨e, h, he⟩
    · rw [h]; trivial
    · rw [h]
      simp only [List.mem_cons, List.not_mem_nil, or_false] at he
      rcases he with h | h | h | h | h | h <;> subst h <;> (show Gen.Acceptor.classifyAccept _ = .expected) <;> decide)
  exact ⟨hs.notDead, hs.noAbort⟩

open MuduoVerif.Acceptor in
/-- non-vacuity: three clients; the first is accepted, `EAGAIN`, `EINTR`, `ECONNABORTED` and an interrupted
poll delay the second, which `EMFILE` then closes; the third is accepted; the first is closed by its owner;
destruction: two descriptors opened and closed per connection path, nothing leaked -/
example :
    let ins : List Acceptor.Input :=
      [.listen, .envAccept .ok, .iter true, .envAccept (.err 11), .iter true, .envAccept (.err 4), .iter true,
       .iter false, .envAccept (.err 103), .iter true, .envAccept (.err 24), .envAccept .ok, .iter true,
       .envAccept .ok, .iter true, .userClose 1, .destroy]
    (Acceptor.run {} ins).trace =
      [.accepted 1, .newConn 1, .idleClosed, .accepted 2, .closed 2, .idleOpened, .accepted 3, .newConn 3,
       .userClosed 1, .idleClosed] ∧
    (Acceptor.run {} ins).held = [3] ∧ (Acceptor.run {} ins).opened = 5 ∧ (Acceptor.run {} ins).closedN = 4 := by
  decide

/-- T1, the I/O primitives are single system calls.  The models take the result of every `write`, `readv`, `read`,
`accept`, `connect`, `SO_ERROR` query as ONE environment input and `close` / `shutdown(SHUT_WR)` as one event; that is
what the wrappers of `SocketsOps.cc` / `Socket.cc` do in /repo's current sources (`Generated/SysSkel.lean`, re-extracted
on every run; `Proofs/SysSkelTie.lean`): `sockets::write/read/readv/connect` are exactly one system call with the
arguments passed through and the result returned unchanged (`SysSkel.passThrough`: no retry, no loop, no rewriting of a
short count or of `errno` - the assumption behind `Conn.WriteRes`, `Conn.ReadRes`, `Client.envConnect`);
`sockets::close` / `sockets::shutdownWrite` are one `close` / one `shutdown(.., SHUT_WR)` whose failure is only logged;
`sockets::getSocketError` is one `getsockopt(SOL_SOCKET, SO_ERROR)` returning `optval` (or `errno` when the query
fails); `sockets::accept` is one `accept4(.., SOCK_NONBLOCK | SOCK_CLOEXEC)` followed, on failure, by the errno `switch`
whose label groups are `Gen.Acceptor.acceptTable` - the table `Acceptor.handleRead` classifies with (`class_accept`) -
and `Socket::accept` hands that result through, storing the peer address only on success. -/
theorem io_primitives_are_single_syscalls :
    Gen.SysSkel.socketsWrite = SysSkel.passThrough "write" "sockfd, buf, count" ∧
    Gen.SysSkel.socketsRead = SysSkel.passThrough "read" "sockfd, buf, count" ∧
    Gen.SysSkel.socketsReadv = SysSkel.passThrough "readv" "sockfd, iov, iovcnt" ∧
    Gen.SysSkel.socketsConnect = SysSkel.passThrough "connect" "sockfd, addr, sizeof(sockaddr_in6)" ∧
    Gen.SysSkel.socketsClose =
      [.act (.sys "close" "sockfd"), .ite "<result> < 0" [.act (.log .syserr)] []] ∧
    Gen.SysSkel.socketsShutdownWrite =
      [.act (.sys "shutdown" "sockfd, SHUT_WR"), .ite "<result> < 0" [.act (.log .syserr)] []] ∧
    Gen.SysSkel.socketShutdownWrite = [.act (.call "sockets::shutdownWrite" "sockfd_")] ∧
    Gen.SysSkel.getSocketError =
      [.act (.assign "optlen" "sizeof(optval)"), .act (.sys "getsockopt" "sockfd, 1, 4, &optval, &optlen"),
       .ite "<result> < 0" [.act (.ret "errno")] [.act (.ret "optval")]] ∧
    Gen.SysSkel.socketsAccept = SysSkel.Decl.socketsAccept ∧
    Gen.SysSkel.socketAccept = SysSkel.Decl.socketAccept ∧
    SysSkel.labelGroups SysSkel.acceptSwitchBody =
      [ (Gen.Acceptor.acceptTable.filter (fun e => e.2 = .expected)).map (fun e => toString e.1),
        (Gen.Acceptor.acceptTable.filter (fun e => e.2 = .unexpected)).map (fun e => toString e.1),
        ["default"] ] :=
  ⟨SysSkel.skeleton_socketsWrite, SysSkel.skeleton_socketsRead, SysSkel.skeleton_socketsReadv,
   SysSkel.skeleton_socketsConnect, SysSkel.skeleton_socketsClose, SysSkel.skeleton_socketsShutdownWrite,
   SysSkel.skeleton_socketShutdownWrite, SysSkel.skeleton_getSocketError, SysSkel.skeleton_socketsAccept,
   SysSkel.skeleton_socketAccept, SysSkel.accept_switch_is_acceptTable.1⟩

/-- **acceptor_statement_order_tied** (T1, statement order of the listener).  Every function of /repo's current
`Acceptor.cc` has the statement skeleton `Model/Acceptor.lean` assumes (`Model/LoopSkelDecl.lean`; re-extracted on every
run by `vlib/gen/loopskel.py`, proved equal in `Proofs/LoopSkelTie.lean`), and of the EXTRACTED skeletons: (i)
`Acceptor::listen` is loop-thread assertion, `listening_ = true`, `acceptSocket_.listen()`, `enableReading()` - the socket
listens BEFORE the channel is subscribed, so a readable report means a pending connection; the constructor creates the
socket, opens the spare descriptor, sets the reuse flags and binds before it installs the read callback, and neither
subscribes the channel nor listens; `~Acceptor` is `disableAll` -> `remove` -> `::close(idleFd_)`; `handleRead` makes one
`accept`, hands `(connfd, peerAddr)` to the callback when there is one and closes the descriptor otherwise, logs a
failure and - exactly under `errno == EMFILE` - closes the spare descriptor, accepts into it, closes it and reopens
`/dev/null`, in that order (`Gen.Acceptor.emfileSeq`, which `Acceptor.runIdle` interprets). -/
theorem acceptor_statement_order_tied :
    (Gen.LoopSkel.acceptorCtor = LoopSkel.Decl.acceptorCtor ∧
     Gen.LoopSkel.acceptorDtor = LoopSkel.Decl.acceptorDtor ∧
     Gen.LoopSkel.acceptorListen = LoopSkel.Decl.acceptorListen ∧
     Gen.LoopSkel.acceptorHandleRead = LoopSkel.Decl.acceptorHandleRead) ∧
    (LoopSkel.flat Gen.LoopSkel.acceptorListen =
       [.call "loop_.assertInLoopThread" "", .store "listening_" "true", .call "acceptSocket_.listen" "",
        .call "acceptChannel_.enableReading" ""] ∧
     LoopSkel.before (.call "acceptSocket_.listen" "") (.call "acceptChannel_.enableReading" "")
       (LoopSkel.flat Gen.LoopSkel.acceptorListen) = true) ∧
    (LoopSkel.inOrder [.call "sockets::createNonblockingOrDie" "listenAddr.family()", .store "acceptSocket_" "<result>",
                       .store "acceptChannel_" "Channel(loop, acceptSocket_.fd())", .store "listening_" "false",
                       .sys "open" "\"/dev/null\", 0 | 524288", .store "idleFd_" "<result>", .assertion "idleFd_ >= 0",
                       .call "acceptSocket_.setReuseAddr" "true", .call "acceptSocket_.setReusePort" "reuseport",
                       .call "acceptSocket_.bindAddress" "listenAddr",
                       .call "acceptChannel_.setReadCallback" "bind(&Acceptor::handleRead, this)"]
       (LoopSkel.flat Gen.LoopSkel.acceptorCtor) = true ∧
     (LoopSkel.flat Gen.LoopSkel.acceptorCtor).contains (.call "acceptChannel_.enableReading" "") = false ∧
     (LoopSkel.flat Gen.LoopSkel.acceptorCtor).contains (.call "acceptSocket_.listen" "") = false) ∧
    LoopSkel.flat Gen.LoopSkel.acceptorDtor =
      [.call "acceptChannel_.disableAll" "", .call "acceptChannel_.remove" "", .sys "close" "idleFd_"] ∧
    ((LoopSkel.flat Gen.LoopSkel.acceptorHandleRead).take 3 =
       [.call "loop_.assertInLoopThread" "", .call "acceptSocket_.accept" "&peerAddr", .assign "connfd" "<result>"] ∧
     LoopSkel.thenOf "connfd >= 0" Gen.LoopSkel.acceptorHandleRead =
       [.ite "newConnectionCallback_" [.act (.call "newConnectionCallback_" "connfd, peerAddr")]
          [.act (.call "sockets::close" "connfd")]] ∧
     (LoopSkel.elseOf "connfd >= 0" Gen.LoopSkel.acceptorHandleRead).head? = some (.act (.log .syserr)) ∧
     LoopSkel.thenOf "errno == 24" (LoopSkel.elseOf "connfd >= 0" Gen.LoopSkel.acceptorHandleRead) =
       [.act (.sys "close" "idleFd_"), .act (.sys "accept" "acceptSocket_.fd(), NULL, NULL"),
        .act (.store "idleFd_" "<result>"), .act (.sys "close" "idleFd_"),
        .act (.sys "open" "\"/dev/null\", 0 | 524288"), .act (.store "idleFd_" "<result>")] ∧
     LoopSkel.elseOf "errno == 24" (LoopSkel.elseOf "connfd >= 0" Gen.LoopSkel.acceptorHandleRead) = [] ∧
     LoopSkel.flat (LoopSkel.dropIte "errno == 24" (LoopSkel.elseOf "connfd >= 0" Gen.LoopSkel.acceptorHandleRead)) =
       [.log .syserr]) :=
  ⟨LoopSkel.skeletons_agree_acceptor, LoopSkel.acceptorListen_order, LoopSkel.acceptorCtor_order,
   LoopSkel.acceptorDtor_order, LoopSkel.acceptorHandleRead_structure⟩

end MuduoVerif.C11
