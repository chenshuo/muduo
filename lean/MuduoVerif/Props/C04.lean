import MuduoVerif.Proofs.LoopWake
import MuduoVerif.Proofs.LoopExit
import MuduoVerif.Proofs.LoopSkelTie
/-!
# C04 — tasks given to a loop run exactly once, in order, on its thread, without delay

The theorems are about every reachable state of the transition system of `Model/Loop.lean` (described at its head):
any number of threads, any programs (`queueInLoop`, `runInLoop`, `quit`, a byte for an I/O handler; task bodies submit
again, so nesting is unbounded; submissions before `loop()`), any schedule (`run s sched = sched.foldl step s`).
**There is no poll timeout in the model**: the loop thread in `poll` moves only when the eventfd counter is positive or
the pipe is readable, so "never waits for the poll timeout" is the safety property "never asleep in `poll` with work
queued and nobody about to write the eventfd".

`loop()` may be entered again after it has returned; a **run** is the stretch from one `loop:entry` to the next
`returned`.  The queue, `appendOrder` / `executed` and the eventfd belong to the loop object and go on across runs, so
`once_fifo`, `executed_prefix`, `no_lost_wakeup`, `prompt` … are statements about the whole life of the loop;
`quitMark` / `retMark` (`drain_on_exit`) speak about the run that has just ended.

Functors are objects: what a functor owns dies with it, on the loop thread, and that destructor is user code which may
submit again (`dtbl t`).  Every theorem below is about this extended system, so "a functor", "another functor" in the
property text include whatever runs because a functor object dies.

The wake condition of `queueInLoop`, the inline test of `runInLoop`, the swap in `doPendingFunctors`, the place where
the batch is destroyed, the final drain and the statement order of `loop()` are definitions of `Generated/Loop.lean`,
re-extracted from /repo on every run; the `tie_*` theorems pin them to what the property text relies on.
-/
namespace MuduoVerif.C04
open MuduoVerif.Loop MuduoVerif.Gen.Loop

/-- the generated wake condition is "foreign thread, or inside a drain, or `loop()` not entered yet";
`runInLoop` runs the functor inline exactly on the loop thread -/
theorem tie_guards (isLoopThread calling looping : Bool) :
    (wakeGuard isLoopThread calling looping ↔ (isLoopThread = false ∨ calling = true ∨ looping = false)) ∧
    (runInline isLoopThread ↔ isLoopThread = true) := by
  unfold wakeGuard runInline
  cases isLoopThread <;> cases calling <;> cases looping <;> simp

/-- the statement order the model takes for granted: append under the lock before the wake-up test; the batch is
swapped out (queue left empty) under the lock with `callingPendingFunctors_` set before and cleared after the run —
and after the functor objects of the batch have been destroyed (`functors.clear()` precedes the reset);
every iteration ends with a drain; after the `while` the queue is drained **until it is empty**
(`do { doPendingFunctors(); } while (queueSize() > 0);`); `looping_` brackets the `while`; `wakeup()` writes a whole
non-zero counter value to the eventfd and `handleRead()` reads it back -/
theorem tie_shape :
    appendUnderLock = true ∧ drainSwaps = true ∧ callingSetBeforeSwap = true ∧ callingResetAfterRun = true ∧
    batchDestroyedBeforeReset = true ∧ drainEachIteration = true ∧ finalDrain = .untilEmpty ∧ loopingBracket = true ∧
    wakeupWritesOne = true ∧ handleReadDrains = true :=
  ⟨shape_tie.2.2.2, drainSwaps_tie, shape_tie.2.2.1, callingResetAfterRun_tie, batchDestroyedBeforeReset_tie, shape_tie.1, finalDrain_tie, shape_tie.2.1,
   eventfd_tie.1, eventfd_tie.2⟩

/-! ## exactly once, in submission order, on the loop thread -/

/-- **once_fifo**: in every reachable state the list of all functors ever appended (in the order of the critical
sections of `mutex_`) is: what the drains have started, then what is left of the batch being run, then what is
still queued.  So no submission is lost, none is started twice, and drains start them in submission order —
for all programs, thread counts and schedules. -/
theorem once_fifo (s : St) (h : Reachable s) : s.appendOrder = s.executed ++ s.batch ++ s.pending :=
  h.fifo.order

/-- what has been started is a prefix of what has been submitted (never twice, never out of order, never a
functor nobody submitted) -/
theorem executed_prefix (s : St) (h : Reachable s) : s.executed <+: s.appendOrder := by
  rw [once_fifo s h, List.append_assoc]; exact List.prefix_append _ _

/-- the functor a drain starts next is the oldest submission not started yet -/
theorem drain_takes_oldest (s : St) (h : Reachable s) (t : TaskId) (r : List TaskId)
    (hp : s.phase = .draining) (hb : busy s = false) (hbatch : s.batch = t :: r) :
    (stepLoop s).out = some (.exec t) ∧ (stepLoop s).executed = s.executed ++ [t] ∧
    s.appendOrder[s.executed.length]? = some t := by
  refine ⟨?_, ?_, ?_⟩
  · unfold stepLoop stepLoopFD stepLoopG; simp [hp, hb, hbatch]
  · unfold stepLoop stepLoopFD stepLoopG; simp [hp, hb, hbatch]
  · rw [once_fifo s h, hbatch]; simp

/-- a batch is taken only by the swap and holds exactly what was queued at that moment; outside a drain there is
no batch -/
theorem batch_only_while_draining (s : St) (h : Reachable s) (hp : s.phase ≠ .draining) : s.batch = [] :=
  h.fifo.batchNil hp

/-- `queueInLoop` from a foreign thread — and `runInLoop` from a foreign thread, which is the same — puts the functor
at the end of the queue: submissions of one thread are queued in its program order, all submissions in the order of
their critical sections -/
theorem foreign_submission_appends_last (s : St) (k : Nat) (x : TaskId) (r : List Sub) (hk : k ≠ s.L)
    (hpc : (s.thr k).pc = .idle) (hprog : (s.thr k).prog = .queue x :: r ∨ (s.thr k).prog = .run x :: r) :
    (step s k).appendOrder = s.appendOrder ++ [x] ∧ (step s k).pending = s.pending ++ [x] ∧
    (step s k).executed = s.executed ∧ ((step s k).thr k).pc = .appended := by
  have := runInline_foreign
  rcases hprog with hprog | hprog <;>
    simp [step, hk, stepOther, hpc, stepIdle, hprog, doAppend, this]

/-- a submission from inside a task body (a functor, an I/O handler, before `loop()`) through `queueInLoop` goes to
the end of the queue as well -/
theorem nested_queue_appends_last (s : St) (x : TaskId) (r : List Sub) (rest : List (List Sub))
    (hl : s.lpc = .idle) (hs : s.stack = (.queue x :: r) :: rest) :
    (runTop s).appendOrder = s.appendOrder ++ [x] ∧ (runTop s).pending = s.pending ++ [x] ∧
    (runTop s).executed = s.executed := by
  unfold runTop; simp [hl, hs]

/-- task bodies start on the loop thread only -/
theorem only_on_loop_thread (s : St) (h : Reachable s) : s.wrongThread = false :=
  reachable_invariant (P := fun s => s.wrongThread = false) (fun _ _ _ _ _ _ _ => rfl) (fun _ k h => step_wrongThread k h) h

/-- **inline_first**: `runInLoop` called on the loop thread (from a functor, an I/O handler, before `loop()`) starts
the task inside the call — it is the very next action, ahead of everything queued, and the queue is not touched; the
functor object dies when the task body has ended, before the caller goes on (`bury x`) -/
theorem inline_first (s : St) (x : TaskId) (r : List Sub) (rest : List (List Sub))
    (hl : s.lpc = .idle) (hs : s.stack = (.run x :: r) :: rest) :
    (runTop s).out = some (.exec x) ∧ (runTop s).stack = s.tbl x :: (.bury x :: r) :: rest ∧
    (runTop s).pending = s.pending ∧ (runTop s).appendOrder = s.appendOrder ∧ (runTop s).executed = s.executed := by
  have := runInline_loop
  unfold runTop; simp [hl, hs, this]

/-! ## without delay -/

/-- **no_lost_wakeup**: whenever the loop thread is in `poll` and a functor is queued, the eventfd is readable or
some other thread stands between its append and its `wakeup()` — whatever the interleaving of submissions with the
poll / dispatch / drain phases, and whether the functor was queued by a foreign thread, an I/O handler, a functor or
before `loop()` -/
theorem no_lost_wakeup (s : St) (h : Reachable s) (hp : s.phase = .polling) (hq : s.pending ≠ []) :
    0 < s.ev ∨ ∃ j, j ≠ s.L ∧ (s.thr j).pc = .appended := by
  have hw := h.wake
  rcases hw.woken (by simp [hp, needsWake]) hq with h1 | h1 | h1
  · exact Or.inl h1
  · have := (hw.idleOutside (by simp [hp, taskPhase])).1; simp [this] at h1
  · exact Or.inr h1

/-- the same on the way to `poll`: from the moment the loop object exists (before `loop()`, at its entry, at the end
of an iteration) a queued functor is always accompanied by a pending or imminent wake-up, so the next `poll`
returns at once -/
theorem queued_is_woken (s : St) (h : Reachable s)
    (hp : s.phase = .pre ∨ s.phase = .ready ∨ s.phase = .entered ∨ s.phase = .looptest ∨ s.phase = .polling ∨
      s.phase = .draining)
    (hq : s.pending ≠ []) :
    0 < s.ev ∨ s.lpc = .appended ∨ ∃ j, j ≠ s.L ∧ (s.thr j).pc = .appended := by
  have hw := h.wake
  exact hw.woken (by rcases hp with h | h | h | h | h | h <;> simp [h, needsWake]) hq

/-- **prompt**: a loop asleep in `poll` with work queued is never stuck — some thread can move (the loop itself
because the eventfd is readable, or the submitter that is about to write it); there is no poll timeout in the model,
so this is "never waits for the timeout or an unrelated event" -/
theorem prompt (s : St) (h : Reachable s) (hp : s.phase = .polling) (hq : s.pending ≠ []) :
    ∃ k, enabled s k = true := by
  rcases no_lost_wakeup s h hp hq with h1 | ⟨j, hj, hpc⟩
  · exact ⟨s.L, by simp [enabled, loopEnabled, hp, pollReady, h1]⟩
  · exact ⟨j, by simp [enabled, hj, otherEnabled, hpc]⟩

/-- when no thread can move and the loop sleeps in `poll`, the queue is empty -/
theorem asleep_means_queue_empty (s : St) (h : Reachable s) (hp : s.phase = .polling)
    (hs : ∀ k, enabled s k = false) : s.pending = [] := by
  cases hq : s.pending with
  | nil => rfl
  | cons a l =>
    obtain ⟨k, hk⟩ := prompt s h hp (by simp [hq])
    simp [hs k] at hk

/-! ## functor objects die on the loop thread, inside the drain, with the flag still set -/

/-- no run functor object outlives the drain that ran it: outside `doPendingFunctors` the local vector holds none, and
the destruction starts only when the whole batch has run -/
theorem functors_die_inside_drain (s : St) (h : Reachable s) :
    (s.phase ≠ .draining → s.corpses = [] ∧ s.burying = false) ∧ (s.burying = true → s.batch = []) := by
  exact ⟨h.bury.outside, h.bury.batchDone⟩

/-- when the `for` over the batch is over, the functor objects die in vector order; each destructor body starts as a
visible action of the loop thread (`dtor c`) and then runs like a task body — with `callingPendingFunctors_` **unchanged**
(the reset comes after the last of them) -/
theorem batch_destroyed_in_order (s : St) (c : TaskId) (cr : List TaskId) (hp : s.phase = .draining)
    (hb : busy s = false) (hbatch : s.batch = []) (hc : s.corpses = c :: cr) :
    (stepLoop s).out = some (.dtor c) ∧ (stepLoop s).stack = [s.dtbl c] ∧ (stepLoop s).corpses = cr ∧
    (stepLoop s).burying = true ∧ (stepLoop s).calling = s.calling ∧ (stepLoop s).phase = .draining ∧
    (stepLoop s).pending = s.pending ∧ (stepLoop s).executed = s.executed := by
  have := batchDestroyedBeforeReset_tie
  unfold stepLoop stepLoopFD stepLoopG; simp [hp, hb, hbatch, hc, this]

/-- while destructor bodies of the batch run, the loop thread is inside `doPendingFunctors` with
`callingPendingFunctors_` set -/
theorem calling_while_functors_die (s : St) (h : Reachable s) (hb : s.burying = true) :
    s.phase = .draining ∧ s.calling = true := by
  have hbi := h.bury
  have hw := h.wake
  have hp : s.phase = .draining := by
    apply Classical.byContradiction
    intro hn
    have := (hbi.outside hn).2
    simp [hb] at this
  exact ⟨hp, hw.callingDrain (Or.inl hp)⟩

/-- **dtor_queue_is_woken**: a functor queued by the destructor of what a functor of the batch owned — directly, or by a
task that destructor ran inline — is followed by a wake-up like a functor queued from a functor body: the step after
the append writes the eventfd, so the `poll` of the next iteration returns at once (`no_lost_wakeup`, `prompt` and
`queued_is_woken` cover the states in between: they are statements about every reachable state of this system) -/
theorem dtor_queue_is_woken (s : St) (h : Reachable s) (hb : s.burying = true) (hl : s.lpc = .appended) :
    (stepLoop s).out = some .wakeup ∧ 0 < (stepLoop s).ev ∧ (stepLoop s).lpc = .idle ∧
    (stepLoop s).pending = s.pending := by
  obtain ⟨hp, hc⟩ := calling_while_functors_die s h hb
  have hg := wakeGuard_calling true s.looping
  have hbusy : busy s = true := by simp [busy, hl]
  unfold stepLoop stepLoopFD stepLoopG
  simp only [hp, hbusy, if_true]
  unfold runTop
  simp [hl, hc, hg]

/-- the same for the functor handed to an inline `runInLoop`: when the call returns the object dies (`bury x`), its
destructor body starts at once on the loop thread, in the context of the caller -/
theorem inline_functor_dies_on_return (s : St) (x : TaskId) (r : List Sub) (rest : List (List Sub))
    (hl : s.lpc = .idle) (hs : s.stack = (.bury x :: r) :: rest) (hd : s.dtbl x ≠ []) :
    (runTop s).out = some (.dtor x) ∧ (runTop s).stack = s.dtbl x :: r :: rest ∧ (runTop s).calling = s.calling ∧
    (runTop s).pending = s.pending ∧ (runTop s).executed = s.executed := by
  have hne : (s.dtbl x).isEmpty = false := by cases hdx : s.dtbl x <;> simp_all
  unfold runTop; simp [hl, hs, hne]

/-- **negation witness for the earlier order** (`callingPendingFunctors_ = false` before the local vector dies, as
before the `functors.clear()` was added): the owner queues task 1 before `loop()`; the functor object of task 1 owns
something whose destructor queues task 2.  With the flag reset first, that `queueInLoop` runs on the loop thread, inside
`loop()`, outside "calling": no wake-up — the loop goes back to `poll` with task 2 queued, the eventfd not readable and
**no thread able to move** (in the real code: until an unrelated event or the 10 s poll timeout).  The code as it is
writes the eventfd and runs both. -/
theorem batch_destroyed_after_reset_strands_witness :
    let i := init false false (fun _ => []) (fun t => if t = 1 then [.queue 2] else []) [.queue 1] [] (fun _ => [])
    let sched := List.replicate 30 0
    ((runBD false i sched).phase = .polling ∧ (runBD false i sched).pending = [2] ∧
      (runBD false i sched).executed = [1] ∧ (runBD false i sched).ev = 0 ∧
      ∀ k, enabled (runBD false i sched) k = false) ∧
    ((run i sched).phase = .polling ∧ (run i sched).pending = [] ∧ (run i sched).executed = [1, 2]) := by
  intro i sched
  have key : ((runBD false i sched).phase = .polling ∧ (runBD false i sched).pending = [2] ∧
      (runBD false i sched).executed = [1] ∧ (runBD false i sched).ev = 0 ∧
      loopEnabled (runBD false i sched) = false) ∧
      ((run i sched).phase = .polling ∧ (run i sched).pending = [] ∧ (run i sched).executed = [1, 2]) := by
    decide +kernel
  obtain ⟨⟨k1, k2, k3, k4, k5⟩, k6⟩ := key
  refine ⟨⟨k1, k2, k3, k4, ?_⟩, k6⟩
  have h1 : (runBD false i sched).thr = i.thr := (runBD_owner_only false i 30 rfl).1
  have hthr : ∀ k, (runBD false i sched).thr k = { pc := .idle, prog := [] } := fun k => by rw [h1]; rfl
  generalize runBD false i sched = s' at *
  intro k
  unfold enabled
  split
  · exact k5
  · simp [otherEnabled, hthr k]

/-! ## `loop()` entered again -/

/-- **queued_between_runs_is_woken**: a functor that is queued while `loop()` is not running — after it has returned
(`returned`: by a foreign thread behind the last test of the queue) or while the owner executes the segment that
precedes the next call (`pre`: by the owner itself or by a foreign thread) — is accompanied by a pending or imminent
wake-up: the eventfd is readable, or the submitter stands between its append and its `wakeup()`.  So the first `poll` of
the next run returns at once (`no_lost_wakeup` is the same statement inside that run). -/
theorem queued_between_runs_is_woken (s : St) (h : Reachable s) (hp : s.phase = .returned ∨ s.phase = .pre)
    (hq : s.pending ≠ []) :
    0 < s.ev ∨ s.lpc = .appended ∨ ∃ j, j ≠ s.L ∧ (s.thr j).pc = .appended := by
  have hw := h.wake
  exact hw.woken (by rcases hp with h | h <;> simp [h, needsWake]) hq

/-- why, for the owner's own calls: between two runs `looping_` is false (it is cleared when `loop()` returns), so the
wake-up test of a `queueInLoop` made by the owner thread there succeeds — the step after the append writes the eventfd -/
theorem owner_queue_between_runs_wakes (s : St) (h : Reachable s) (hp : s.phase = .pre) (hl : s.lpc = .appended) :
    s.looping = false ∧ (stepLoop s).out = some .wakeup ∧ 0 < (stepLoop s).ev ∧ (stepLoop s).pending = s.pending := by
  have hw := h.wake
  have hnl : s.looping = false := hw.notLooping (by simp [hp, beforeLoop])
  have hg := wakeGuard_notLooping true s.calling
  have hbusy : busy s = true := by simp [busy, hl]
  refine ⟨hnl, ?_⟩
  unfold stepLoop stepLoopFD stepLoopG
  simp only [hp, hbusy, if_true]
  unfold runTop
  simp [hl, hnl, hg]

/-- the step that starts the next segment: taken from `returned` in the plain scenario when the owner's program goes
on; it leaves the loop object as it is (queue, eventfd, flags) and `looping_` is false -/
theorem relaunch_keeps_loop_state (s : St) (h : Reachable s) (seg : List Sub) (rest : List (List Sub))
    (hp : s.phase = .returned) (he : s.elt = false) (ha : s.again = seg :: rest) :
    (stepLoop s).phase = .pre ∧ (stepLoop s).again = rest ∧ (stepLoop s).pending = s.pending ∧
    (stepLoop s).ev = s.ev ∧ (stepLoop s).executed = s.executed ∧ (stepLoop s).appendOrder = s.appendOrder ∧
    (stepLoop s).quit = s.quit ∧ (stepLoop s).looping = false ∧ (stepLoop s).out = none := by
  have hw := h.wake
  have hnl : s.looping = false := hw.notLooping (by simp [hp, beforeLoop])
  unfold stepLoop stepLoopFD stepLoopG
  simp [hp, he, ha, relaunch, hnl]

/-! ## as long as the loop keeps running — and when it stops -/

/-- after the `while`, the drain is repeated as long as anything is queued: at the end of a pass of the final drain
with a non-empty queue the loop thread does not return but starts another pass (`callingPendingFunctors_` set again) -/
theorem final_drain_repeats (s : St) (hp : s.phase = .draining) (hf : s.final = true) (hb : busy s = false)
    (hbatch : s.batch = []) (hc : s.corpses = []) (hq : s.pending ≠ []) :
    (stepLoop s).phase = .preSwap ∧ (stepLoop s).final = true ∧ (stepLoop s).calling = true ∧
    (stepLoop s).pending = s.pending ∧ (stepLoop s).out = some (.point "doPendingFunctors:beforeSwap") := by
  have := finalDrain_tie
  have hne : s.pending.isEmpty = false := by cases hpd : s.pending <;> simp_all
  unfold stepLoop stepLoopFD stepLoopG; simp [hp, hf, hb, hbatch, hc, this, hne]

/-- `loop()` returns only at a test that finds the queue empty — after the batch has run and its functor objects have
been destroyed (what their destructors queued is seen by that test) — and `retMark` records how many functors had been
appended at that test -/
theorem returns_only_with_empty_queue (s : St) (hp : s.phase = .draining) (hr : (stepLoop s).phase = .returned) :
    s.pending = [] ∧ s.batch = [] ∧ s.corpses = [] ∧ (stepLoop s).retMark = some s.appendOrder.length := by
  have hs := stepLoopG_step finalDrain batchDestroyedBeforeReset s
  unfold stepLoop stepLoopFD at hr ⊢
  generalize stepLoopG finalDrain batchDestroyedBeforeReset s = s' at hs hr ⊢
  -- of all the steps, only `leave` goes from `draining` to `returned`
  induction hs
  case leave hb hc _ hq => exact ⟨hq rfl, hb, hc, rfl⟩
  case task ht => rw [ht.phase_eq, hp] at hr; cases hr
  all_goals simp_all

/-- **drain_on_exit**: when `loop()` has returned, **every functor that was appended before it returned** — by the
loop thread itself (a functor run by the final drain that queues another one), by a foreign thread, before or after
the `quit()` call — has been started, in order: `executed` is exactly the first `m` appends, where `m = retMark` is
the number of appends at the loop's last test of the queue (`returns_only_with_empty_queue`).  What is still queued
was appended after that test — necessarily by another thread, the loop thread takes no step after returning — and
is not run by this run of `loop()` (only by a later one, if `loop()` is entered again).  In particular everything queued
before the first `quit()` (`quitMark`) has run. -/
theorem drain_on_exit (s : St) (h : Reachable s) (hp : s.phase = .returned ∨ s.phase = .dead) :
    ∃ m n, s.retMark = some m ∧ s.quitMark = some n ∧ n ≤ m ∧
      s.executed = s.appendOrder.take m ∧ s.pending = s.appendOrder.drop m ∧ s.batch = [] := by
  have hex : exited s.phase = true := by rcases hp with h | h <;> simp [h, exited]
  obtain ⟨n, hn, hle⟩ := h.exit.done hex
  have hb : s.batch = [] := h.fifo.batchNil (by rcases hp with h | h <;> simp [h])
  refine ⟨s.executed.length, n, h.exit.ret hex, hn, hle, ?_, ?_, hb⟩
  · rw [h.fifo.order, hb]; simp
  · rw [h.fifo.order, hb]; simp

/-- **negation witness for the earlier shape of the code** (one `doPendingFunctors()` after the `while`, before
6f04cfe): the owner queues task 1 and calls `quit()` before `loop()`; task 1, run by the final drain, queues task 2.
With a single final drain `loop()` returns with task 2 queued and never run; the code as it is runs both. -/
theorem drain_once_strands_witness :
    let i := init false false (fun t => if t = 1 then [.queue 2] else []) (fun _ => []) [.queue 1, .quit] [] (fun _ => [])
    let sched := List.replicate 24 0
    ((runFD .once i sched).phase = .returned ∧ (runFD .once i sched).pending = [2] ∧
      (runFD .once i sched).executed = [1]) ∧
    ((run i sched).phase = .returned ∧ (run i sched).pending = [] ∧ (run i sched).executed = [1, 2]) := by
  decide +kernel

/-- … and for the shape before 8a53a2a (no drain after the `while`): a functor queued behind the iteration's swap
and followed by `quit()` is never run -/
theorem drain_none_strands_witness :
    let i := init false false (fun _ => []) (fun _ => []) [.queue 1, .quit] [] (fun _ => [])
    let sched := List.replicate 12 0
    ((runFD .none i sched).phase = .returned ∧ (runFD .none i sched).pending = [1]) ∧
    ((run i sched).phase = .returned ∧ (run i sched).pending = [] ∧ (run i sched).executed = [1]) := by
  decide +kernel

/-- **limitation (termination)**: the drain after the `while` ends only when a test finds the queue empty.  A functor
that always queues itself again keeps `loop()` from returning after `quit()` — here task 1 re-queues itself: after
200 steps of the loop thread the loop has left its `while` long ago and is still draining.  Every statement of this
file and of C05 about `loop()` *returning* is therefore a statement about states (`phase = returned`), not a
promise that such a state is reached; it is reached whenever the functors eventually stop queueing. -/
theorem requeue_forever_never_returns_witness :
    let s := run (init false false (fun t => if t = 1 then [.queue 1] else []) (fun _ => []) [.queue 1, .quit] [] (fun _ => []))
                 (List.replicate 200 0)
    s.final = true ∧ s.phase ≠ .returned ∧ s.qreq = true ∧ 20 ≤ s.executed.length := by
  decide +kernel

/-- a concrete program: the owner queues task 1 before `loop()`, task 1 queues task 3 from inside the drain,
a foreign thread queues task 2 and then quits; under this schedule all three run, in submission order, and
`loop()` returns -/
example :
    let s := run (init false false (fun t => if t = 1 then [.queue 3] else []) (fun _ => []) [.queue 1] []
                    (fun k => if k = 1 then [.queue 2, .quit] else []))
                 [0, 0, 0, 0, 1, 1, 0, 0, 0, 0, 0, 0, 0, 0, 0, 0, 0, 0, 0, 0, 0, 0, 0, 1, 1, 0, 0, 0, 0, 0, 0, 0, 0]
    s.executed = [1, 2, 3] ∧ s.appendOrder = [1, 2, 3] ∧ s.phase = .returned ∧ s.pending = [] := by
  decide +kernel

/-- the hypotheses of `no_lost_wakeup` are satisfiable: the loop in `poll`, a functor queued by a foreign thread
that has not written the eventfd yet -/
example :
    let s := run (init false false (fun _ => []) (fun _ => []) [] [] (fun k => if k = 1 then [.queue 7] else [])) [0, 0, 1]
    s.phase = .polling ∧ s.pending = [7] ∧ s.ev = 0 ∧ (s.thr 1).pc = .appended := by
  decide

/-- the hypotheses of `dtor_queue_is_woken` are satisfiable: the functor object of task 1 owns something whose
destructor queues task 2; after the batch has run it dies, the append is made with `callingPendingFunctors_` set and the
next step of the loop thread writes the eventfd; in the end both tasks have run -/
example :
    let i := init false false (fun _ => []) (fun t => if t = 1 then [.queue 2] else []) [.queue 1] [] (fun _ => [])
    let s := run i (List.replicate 13 0)
    s.burying = true ∧ s.lpc = .appended ∧ s.phase = .draining ∧ s.calling = true ∧ s.pending = [2] ∧ s.ev = 0 ∧
    (stepLoop s).out = some .wakeup ∧ (run i (List.replicate 30 0)).executed = [1, 2] := by
  decide +kernel

/-- two runs of `loop()`: task 1 (queued before the first call) quits the loop; after `loop()` has returned the owner
queues task 2 — the hypotheses of `owner_queue_between_runs_wakes` hold after 20 steps, the next step writes the
eventfd — and calls `loop()` again; task 2 runs at once and quits; `loop()` returns a second time with both run -/
example :
    let i := init false false (fun t => if t = 1 ∨ t = 2 then [.quit] else []) (fun _ => []) [.queue 1] [[.queue 2]]
               (fun _ => [])
    let s := run i (List.replicate 20 0)
    s.phase = .pre ∧ s.lpc = .appended ∧ s.pending = [2] ∧ s.ev = 0 ∧ s.looping = false ∧ s.executed = [1] ∧
    (stepLoop s).out = some .wakeup ∧
    (run i (List.replicate 18 0)).phase = .returned ∧ (run i (List.replicate 18 0)).again = [[.queue 2]] ∧
    (run i (List.replicate 40 0)).phase = .returned ∧ (run i (List.replicate 40 0)).executed = [1, 2] ∧
    (run i (List.replicate 40 0)).again = [] := by
  decide +kernel

/-- **loop_statement_order_tied** (T1, statement order).  Every function defined in /repo's current `EventLoop.cc`
(`createEventfd` apart: `C09.loop_descriptors_nonblocking`) has the statement skeleton the steps of `Model/Loop.lean`
assume (`Model/LoopSkelDecl.lean`; re-extracted on every run by `vlib/gen/loopskel.py` into `Generated/LoopSkel.lean`,
proved equal in `Proofs/LoopSkelTie.lean`), and the orders this property rests on hold of the EXTRACTED skeletons:
(a) `queueInLoop` appends inside the critical section and calls `wakeup()` after the append and after the mutex is
released (`doAppend`, then `stepAppended`: no lost wake-up); (b) `quit` stores the flag before `wakeup()`; (c)
`doPendingFunctors` sets `callingPendingFunctors_` before the swap, swaps inside the critical section, calls the functors
outside it, destroys the batch (`functors.clear()`) after the calls, also outside it, and resets the flag only after
that, as its last statement; (d) one iteration of `loop()` is poll -> handle the events ->
`doPendingFunctors()`, the final drain `do doPendingFunctors(); while (queueSize() > 0)` follows the `while`;
`runInLoop` calls the functor inline exactly on the loop thread, `queueInLoop` otherwise.  (`Proofs/LoopSkelTie.lean` has
more readings - `queueSize` under the mutex, one 8-byte write / read of the eventfd in `wakeup` / `handleRead`, the shape
flags of `Generated/Loop.lean` agree with the skeletons, each excluded order is rejected by the reading predicates; it is
imported here, so all of them are checked whenever this module is.) -/
theorem loop_statement_order_tied :
    (Gen.LoopSkel.ignoreSigPipeCtor = LoopSkel.Decl.ignoreSigPipeCtor ∧
     Gen.LoopSkel.getEventLoopOfCurrentThread = LoopSkel.Decl.getEventLoopOfCurrentThread ∧
     Gen.LoopSkel.loopCtor = LoopSkel.Decl.loopCtor ∧
     Gen.LoopSkel.loopDtor = LoopSkel.Decl.loopDtor ∧
     Gen.LoopSkel.loopFn = LoopSkel.Decl.loopFn ∧
     Gen.LoopSkel.quit = LoopSkel.Decl.quit ∧
     Gen.LoopSkel.runInLoop = LoopSkel.Decl.runInLoop ∧
     Gen.LoopSkel.queueInLoop = LoopSkel.Decl.queueInLoop ∧
     Gen.LoopSkel.queueSize = LoopSkel.Decl.queueSize ∧
     Gen.LoopSkel.runAt = LoopSkel.Decl.runAt ∧
     Gen.LoopSkel.runAfter = LoopSkel.Decl.runAfter ∧
     Gen.LoopSkel.runEvery = LoopSkel.Decl.runEvery ∧
     Gen.LoopSkel.cancel = LoopSkel.Decl.cancel ∧
     Gen.LoopSkel.updateChannel = LoopSkel.Decl.updateChannel ∧
     Gen.LoopSkel.removeChannel = LoopSkel.Decl.removeChannel ∧
     Gen.LoopSkel.hasChannel = LoopSkel.Decl.hasChannel ∧
     Gen.LoopSkel.abortNotInLoopThread = LoopSkel.Decl.abortNotInLoopThread ∧
     Gen.LoopSkel.wakeup = LoopSkel.Decl.wakeup ∧
     Gen.LoopSkel.handleRead = LoopSkel.Decl.handleRead ∧
     Gen.LoopSkel.doPendingFunctors = LoopSkel.Decl.doPendingFunctors ∧
     Gen.LoopSkel.printActiveChannels = LoopSkel.Decl.printActiveChannels) ∧
    -- (a)
    (LoopSkel.insideLock "mutex_" (.call "pendingFunctors_.push_back" "cb") (LoopSkel.flat Gen.LoopSkel.queueInLoop) = true ∧
     LoopSkel.before (.call "pendingFunctors_.push_back" "cb") (.call "wakeup" "") (LoopSkel.flat Gen.LoopSkel.queueInLoop) = true ∧
     LoopSkel.before (.call "unlock" "mutex_") (.call "wakeup" "") (LoopSkel.flat Gen.LoopSkel.queueInLoop) = true ∧
     LoopSkel.outsideLock "mutex_" (.call "wakeup" "") (LoopSkel.flat Gen.LoopSkel.queueInLoop) = true) ∧
    -- (b)
    LoopSkel.before (.store "quit_" "true") (.call "wakeup" "") (LoopSkel.flat Gen.LoopSkel.quit) = true ∧
    -- (c)
    (LoopSkel.inOrder [.store "callingPendingFunctors_" "true", .call "functors.swap" "pendingFunctors_", .call "functor" "",
                       .call "functors.clear" "", .store "callingPendingFunctors_" "false"]
       (LoopSkel.flat Gen.LoopSkel.doPendingFunctors) = true ∧
     LoopSkel.insideLock "mutex_" (.call "functors.swap" "pendingFunctors_") (LoopSkel.flat Gen.LoopSkel.doPendingFunctors) = true ∧
     LoopSkel.outsideLock "mutex_" (.call "functor" "") (LoopSkel.flat Gen.LoopSkel.doPendingFunctors) = true ∧
     LoopSkel.outsideLock "mutex_" (.call "functors.clear" "") (LoopSkel.flat Gen.LoopSkel.doPendingFunctors) = true ∧
     (LoopSkel.flat Gen.LoopSkel.doPendingFunctors).getLast? = some (.store "callingPendingFunctors_" "false")) ∧
    -- (d)
    (LoopSkel.inOrder [.call "activeChannels_.clear" "", .call "poller_.poll" "kPollTimeMs, &activeChannels_",
                       .store "eventHandling_" "true", .call "currentActiveChannel_.handleEvent" "pollReturnTime_",
                       .store "eventHandling_" "false", .call "doPendingFunctors" ""]
       (LoopSkel.flat (LoopSkel.loopBody .whileDo "!quit_" Gen.LoopSkel.loopFn)) = true ∧
     LoopSkel.loopBody .doWhile "{call queueSize()} > 0" Gen.LoopSkel.loopFn = [.act (.call "doPendingFunctors" "")]) ∧
    (LoopSkel.onlyUnder "isInLoopThread()" (.call "cb" "") Gen.LoopSkel.runInLoop = true ∧
     LoopSkel.onlyUnless "isInLoopThread()" (.call "queueInLoop" "cb") Gen.LoopSkel.runInLoop = true) :=
  ⟨LoopSkel.skeletons_agree_loop,
   ⟨LoopSkel.queueInLoop_append_locked_then_wakeup.1, LoopSkel.queueInLoop_append_locked_then_wakeup.2.1,
    LoopSkel.queueInLoop_append_locked_then_wakeup.2.2.1, LoopSkel.queueInLoop_append_locked_then_wakeup.2.2.2.1⟩,
   LoopSkel.quit_store_precedes_wakeup.1,
   ⟨LoopSkel.doPendingFunctors_order.1, LoopSkel.doPendingFunctors_order.2.1, LoopSkel.doPendingFunctors_order.2.2.1,
    LoopSkel.doPendingFunctors_order.2.2.2.2.2.2.1, LoopSkel.doPendingFunctors_order.2.2.2.2.2.2.2.2⟩,
   ⟨LoopSkel.loop_iteration_order.2.1, LoopSkel.loop_iteration_order.2.2.2.2.2.1⟩,
   LoopSkel.runInLoop_inline_or_queue⟩

end MuduoVerif.C04
