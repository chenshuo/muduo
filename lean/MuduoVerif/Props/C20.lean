import MuduoVerif.Proofs.Calendar
import MuduoVerif.Proofs.Zone
import MuduoVerif.Proofs.Inet
import MuduoVerif.Proofs.SysSkelTie
import MuduoVerif.Proofs.TzFile
import MuduoVerif.Proofs.TzFileSkelTie
import MuduoVerif.Proofs.TsText
/-!
# C20 — calendar, time-zone and address conversions round-trip and agree with their specification

The property theorems, each with its proof where the statement is already the general one; the lemmas live in
`Proofs/Calendar*.lean`, `Proofs/Zone.lean`, `Proofs/Inet.lean`, `Proofs/TzFile.lean`, `Proofs/TsText.lean`, the ties in
`Proofs/SysSkelTie.lean`, `Proofs/TzFileSkelTie.lean`.

* the calendar functions (`getJulianDayNumber`, `getYearMonthDay`, `Date::weekDay`, `BreakTime`,
  `fromUtcTime`, `fillHMS`) are **the code of /repo translated statement by statement**
  (`Generated/Calendar.lean`, C semantics `Int.tdiv`/`Int.tmod`, regenerated on every run);
* every comparison and every piece of arithmetic of the two `findLocalTime` look-ups, the choice of
  `std::upper_bound` and the offset arithmetic of `toLocalTime`/`fromLocalTime` are generated too
  (`Generated/Zone.lean`); the control structure around them is `Model/Zone.lean`;
* the specification side is independent of the code: the proleptic Gregorian calendar from its
  rules (`isLeap`, `daysInMonth`, `nextDay`, `civilFrom` = counting days one by one).

Integer widths of the calendar and zone functions are not modelled (those of the zone-file reader are, see below):
their statements are about unbounded integers; the code computes the
same values as long as no intermediate leaves `int` (`|4·(day number + 32044) + 3| < 2^31`, i.e. years up
to about ±1.4 million), see the plug-in's assumptions.
-/
namespace MuduoVerif.C20
open MuduoVerif.Gen.Calendar MuduoVerif.Calendar MuduoVerif.CalendarE MuduoVerif.Zone MuduoVerif.Inet

/-- **year-month-day → day number → year-month-day** for every valid civil date from -4800-03-01 on
(no upper bound). -/
theorem jdn_roundtrip_civil (y m d : Int) (hv : validDate y m d) (hy : inRange y m) :
    getYearMonthDay (getJulianDayNumber y m d) = ⟨y, m, d⟩ := by
  apply toCivil_inj
  rw [gen_jdn_eq y m d hv.1 hv.2.1 hy, gen_ymd_eq _ (jdnE_ge y m d hv hy), ymd_jdn_all y m d hv]
  rfl

/-- **day number → year-month-day → day number** for every day number from that of -4800-03-01 on;
the date produced is a valid civil date. -/
theorem jdn_roundtrip_number (j : Int) (hj : jdnMin ≤ j) :
    validDate (getYearMonthDay j).year (getYearMonthDay j).month (getYearMonthDay j).day ∧
    getJulianDayNumber (getYearMonthDay j).year (getYearMonthDay j).month (getYearMonthDay j).day = j := by
  obtain ⟨hv, hb⟩ := jdn_ymd_all j
  have hr := ymdE_inRange j hj
  rw [← gen_ymd_eq j hj] at hv hb hr
  simp only [Civil.valid, Civil.jdn, toCivil_year, toCivil_month, toCivil_day] at hv hb hr
  exact ⟨hv, by rw [gen_jdn_eq _ _ _ hv.1 hv.2.1 hr, hb]⟩

/-- the lower end of the range is the day -4800-03-01 itself -/
theorem jdn_range_start : getYearMonthDay jdnMin = ⟨-4800, 3, 1⟩ ∧ getJulianDayNumber (-4800) 3 1 = jdnMin := by
  decide

/-- **consecutive day numbers are consecutive civil days**: the date of `j+1` is the calendar
successor (end of month / leap February / end of year by the Gregorian rules) of the date of `j`. -/
theorem jdn_succ (j : Int) (hj : jdnMin ≤ j) :
    toCivil (getYearMonthDay (j + 1)) = nextDay (toCivil (getYearMonthDay j)) := by
  rw [gen_ymd_eq j hj, gen_ymd_eq (j + 1) (by unfold jdnMin at *; omega), ymdE_succ]

/-- hence `getYearMonthDay` **is** day counting: `n` days after day `j` is the `n`-fold successor
(the independent specification of the proleptic Gregorian calendar). -/
theorem jdn_counts_days (j : Int) (n : Nat) (hj : jdnMin ≤ j) :
    toCivil (getYearMonthDay (j + n)) = civilFrom (toCivil (getYearMonthDay j)) n := by
  rw [gen_ymd_eq j hj, gen_ymd_eq (j + n) (by unfold jdnMin at *; omega), ymdE_civilFrom]

/-- anchor of the day count: day 2440588 is 1970-01-01, the constant the code derives -/
theorem jdn_epoch : kJulianDayOf1970_01_01 = 2440588 ∧ getYearMonthDay 2440588 = ⟨1970, 1, 1⟩ := by
  decide

/-- **one-to-one**: two valid civil dates with the same day number are the same date. -/
theorem jdn_injective (y m d y' m' d' : Int) (hv : validDate y m d) (hy : inRange y m)
    (hv' : validDate y' m' d') (hy' : inRange y' m')
    (h : getJulianDayNumber y m d = getJulianDayNumber y' m' d') : (y, m, d) = (y', m', d') := by
  rw [gen_jdn_eq y m d hv.1 hv.2.1 hy, gen_jdn_eq y' m' d' hv'.1 hv'.2.1 hy'] at h
  obtain ⟨rfl, rfl, rfl⟩ := jdnE_injective y m d y' m' d' hv hv' h
  rfl

/-- **monotone**: the day after a valid date has the next day number. -/
theorem jdn_next_day (y m d : Int) (hv : validDate y m d) (hy : inRange y m) :
    getJulianDayNumber (nextDay ⟨y, m, d⟩).year (nextDay ⟨y, m, d⟩).month (nextDay ⟨y, m, d⟩).day
      = getJulianDayNumber y m d + 1 := by
  have hj := jdnE_ge y m d hv hy
  have e := gen_jdn_eq y m d hv.1 hv.2.1 hy
  have s := jdn_succ (jdnE y m d) hj
  rw [← e, jdn_roundtrip_civil y m d hv hy] at s
  have hs : nextDay ⟨y, m, d⟩ = toCivil (getYearMonthDay (getJulianDayNumber y m d + 1)) := s.symm
  rw [hs]
  exact (jdn_roundtrip_number _ (by rw [e]; unfold jdnMin at *; omega)).2

/-- **weekday**: `Date::weekDay` is `(j+1) mod 7` (0 = Sunday), advances by one per day, and
1970-01-01 was a Thursday. -/
theorem weekday (j : Int) (hj : -1 ≤ j) :
    Date_weekDay j = (j + 1) % 7 ∧ Date_weekDay (j + 1) = (Date_weekDay j + 1) % 7 ∧
    Date_weekDay kJulianDayOf1970_01_01 = 4 := by
  refine ⟨gen_weekDay j hj, ?_, by decide⟩
  rw [gen_weekDay j hj, gen_weekDay (j + 1) (by omega)]
  omega

/-- **`fromUtcTime (BreakTime t) = t`** for every instant from -4800-03-01 00:00:00 on. -/
theorem break_roundtrip (t : Int) (ht : tMin ≤ t) : fromUtcTime (BreakTime t) = t :=
  gen_fromUtc_break t ht

/-- the converse for every valid civil date-time. -/
theorem unbreak_roundtrip (dt : DateTime) (hv : validDate dt.year dt.month dt.day)
    (hy : inRange dt.year dt.month) (hf : DateTime.fieldsOk dt) : BreakTime (fromUtcTime dt) = dt := by
  obtain ⟨Y, Mo, D, H, Mi, Sec⟩ := dt
  simp only [DateTime.fieldsOk] at hf hv hy
  have hge := jdnE_ge _ _ _ hv hy
  rw [gen_fromUtcTime_eq _ hv.1 hv.2.1 hy]
  simp only []
  have hs : 0 ≤ H * 3600 + Mi * 60 + Sec ∧ H * 3600 + Mi * 60 + Sec < 86400 := by omega
  generalize hS : H * 3600 + Mi * 60 + Sec = S at hs ⊢
  generalize hJ : jdnE Y Mo D = J at hge ⊢
  have ht : tMin ≤ (J - 2440588) * 86400 + S := by unfold tMin jdnMin at *; omega
  rw [gen_BreakTime_eq _ ht]
  have h1 : ((J - 2440588) * 86400 + S) / 86400 + 2440588 = J := by omega
  have h2 : ((J - 2440588) * 86400 + S) % 86400 = S := by omega
  simp only [breakE, h1, h2]
  rw [← hJ, ymd_jdn_all _ _ _ hv]
  simp only [DateTime.mk.injEq, true_and]
  repeat' constructor
  all_goals first | trivial | omega

/-- **`BreakTime` agrees with the proleptic Gregorian calendar**: the date is found by counting whole
days from -4800-03-01 with the Gregorian successor rule, the time of day is the remainder split by
3600 and 60.  (Hence it agrees with any correct `gmtime`; that glibc's is one is a tested claim.) -/
theorem break_spec (t : Int) (ht : tMin ≤ t) :
    (⟨(BreakTime t).year, (BreakTime t).month, (BreakTime t).day⟩ : Civil)
      = civilFrom ⟨-4800, 3, 1⟩ ((t - tMin) / 86400).toNat ∧
    (BreakTime t).hour = (t - tMin) % 86400 / 3600 ∧
    (BreakTime t).minute = (t - tMin) % 86400 % 3600 / 60 ∧
    (BreakTime t).second = (t - tMin) % 86400 % 60 := by
  have hb := gen_BreakTime_eq t ht
  have htm : tMin = -213635404800 := by decide
  rw [htm] at ht ⊢
  have hd : 0 ≤ (t - -213635404800) / 86400 := Int.ediv_nonneg (by omega) (by decide)
  have e1 : t / 86400 + 2440588 = jdnMin + (((t - -213635404800) / 86400).toNat : Int) := by
    rw [Int.toNat_of_nonneg hd]; unfold jdnMin; omega
  have e2 : t % 86400 = (t - -213635404800) % 86400 := by omega
  have hc := ymdE_civilFrom jdnMin ((t - -213635404800) / 86400).toNat
  have h0 : ymdE jdnMin = ⟨-4800, 3, 1⟩ := by decide
  rw [h0] at hc
  rw [hb]
  simp only [breakE, e1, e2, hc]
  exact ⟨trivial, trivial, trivial, trivial⟩

/-- **UTC look-up**: for well-formed zone data and every instant from the first transition on, the
look-up returns the record of the last transition `≤ t` (the unique `k` with
`u k ≤ t < u (k+1)`). Before the first transition, and without transitions, it is `localtimes.front()`. -/
theorem zone_lookup_spec (d : Data) (h : WF d) (t : Int) :
    (0 < d.n → d.u 0 ≤ t → ∃ k, InEra d k t ∧ (∀ k', InEra d k' t → k' = k) ∧ findUtc d t = d.lrec k) ∧
    (d.n = 0 ∨ t < d.u 0 → findUtc d t = d.lt 0) := by
  constructor
  · intro hn ht
    obtain ⟨k, hk⟩ := exists_era t hn ht
    exact ⟨k, hk, fun k' hk' => era_unique h hk' hk, findUtc_era h hk.era⟩
  · rintro (hn | ht)
    · exact findUtc_era h (.zero fun h0 => absurd h0 (by omega))
    · exact findUtc_era h (.zero fun _ => ht)

/-- the instant `fromLocalTime` computes for the local time of `t`, `o` being the offset in force at `t` -/
theorem fromLocal_toLocal (d : Data) (t : Int) (post : Bool) (o : Int) (ho : (findUtc d t).utcOffset = o)
    (hr : tMin ≤ t + o) :
    fromLocalTime d (toLocalTime d t).1 post = t + o - (findLocal d (t + o) post).utcOffset :=
  fromLocal_toLocal_of d t post ho (break_roundtrip _ hr)

/-- **zone round trip**: for well-formed zone data and every instant `t` from the first transition on
(in era `k`; local time representable, i.e. not before year -4800), converting to local time and back
returns `t`
* on **both** sides when the local time is unambiguous,
* on side `postTransition = false` when `t` is the earlier instant of a repeated period — and side
  `true` then returns the later instant with the same local time,
* on side `postTransition = true` when `t` is the later instant — and side `false` returns the earlier one.
This includes the period repeated by the **last** transition of the data (`k + 1 = n`) and the one repeated by the
**first** (`k = 0`: before it `localtimes.front()` is in force, `Data.oPrev d 0`; the earlier instant then lies before
the first transition - `zone_roundtrip_before` is the statement from its side). -/
theorem zone_roundtrip (d : Data) (h : WF d) (k : Nat) (t : Int) (hk : InEra d k t)
    (hr : tMin ≤ t + d.o k) :
    let back := fun post => fromLocalTime d (toLocalTime d t).1 post
    (EarlierCopy d k t → back false = t ∧ back true = t + d.o k - d.o (k + 1) ∧ d.u (k + 1) ≤ back true) ∧
    (LaterCopy d k t → back true = t ∧ back false = t + d.o k - d.oPrev k ∧ back false < d.u k) ∧
    (¬ EarlierCopy d k t → ¬ LaterCopy d k t → ∀ post, back post = t) := by
  intro back
  rw [← early_succ, ← late_succ]
  exact era_roundtrip d h (k + 1) t hk.era (break_roundtrip _ hr)

/-- the two instants of a repeated period really have the same local time: the instant returned for
the other side lies in the neighbouring era and breaks down to the same civil fields. -/
theorem zone_repeated_same_local (d : Data) (h : WF d) (k : Nat) (t : Int) (hk : InEra d k t) :
    (EarlierCopy d k t → InEra d (k + 1) (t + d.o k - d.o (k + 1)) ∧
      (toLocalTime d (t + d.o k - d.o (k + 1))).1 = (toLocalTime d t).1) ∧
    (LaterCopy d k t → (0 < k → InEra d (k - 1) (t + d.o k - d.oPrev k)) ∧ (k = 0 → t + d.o k - d.oPrev k < d.u 0) ∧
      (toLocalTime d (t + d.o k - d.oPrev k)).1 = (toLocalTime d t).1) := by
  have hu : (findUtc d t).utcOffset = d.o k := congrArg _ (findUtc_era h hk.era)
  -- an instant whose local time is that of `t` breaks down to the same fields
  have same : ∀ t', t' + (findUtc d t').utcOffset = t + d.o k → (toLocalTime d t').1 = (toLocalTime d t).1 :=
    fun t' e => by simp only [toLocalTime, Gen.Zone.toLocalShift, hu, e]
  obtain ⟨h1, h2, h3⟩ := hk
  constructor
  · rintro ⟨e1, e2⟩
    have g := h.gap k e1
    have ht := h3 e1
    have era : InEra d (k + 1) (t + d.o k - d.o (k + 1)) :=
      ⟨e1, by omega, fun hh => by have := h.gap (k + 1) hh; omega⟩
    exact ⟨era, same _ (by rw [findUtc_era h era.era]; show _ + d.o (k + 1) = _; omega)⟩
  · intro l2
    unfold LaterCopy at l2
    rcases Nat.eq_zero_or_pos k with rfl | l1
    · rw [oPrev_zero] at l2 ⊢
      have hb : t + d.o 0 - (d.lt 0).utcOffset < d.u 0 := by omega
      exact ⟨fun hh => absurd hh (by omega), fun _ => hb, same _ (by rw [findUtc_era h (.zero fun _ => hb)]; show _ + (d.lt 0).utcOffset = _; omega)⟩
    · obtain ⟨j, rfl⟩ : ∃ j, k = j + 1 := ⟨k - 1, by omega⟩
      have g := h.gap j h1
      rw [oPrev_pos _ _ l1, Nat.add_sub_cancel] at l2 ⊢
      have era : InEra d j (t + d.o (j + 1) - d.o j) := ⟨by omega, by omega, fun _ => by omega⟩
      exact ⟨fun _ => era, fun hk0 => absurd hk0 (by omega),
        same _ (by rw [findUtc_era h era.era]; show _ + d.o j = _; omega)⟩

/-- **skipped local times**: a civil time that transition `k+1` jumped over (from the first local
second it skipped up to the last) is converted with the offset of the requested side: the offset in
force after the transition for `postTransition = true` (an instant before it), the one before it
for `false` (an instant at or after it). -/
theorem zone_skipped (d : Data) (h : WF d) (k : Nat) (dt : DateTime) (hk : k + 1 < d.n)
    (h1 : d.u (k + 1) + d.o k ≤ fromUtcTime dt) (h2 : fromUtcTime dt < d.u (k + 1) + d.o (k + 1)) :
    fromLocalTime d dt true = fromUtcTime dt - d.o (k + 1) ∧ fromLocalTime d dt true < d.u (k + 1) ∧
    fromLocalTime d dt false = fromUtcTime dt - d.o k ∧ d.u (k + 1) ≤ fromLocalTime d dt false :=
  era_skipped d h (k + 1) dt hk h1 h2

/-- **instants before the first transition** (there `localtimes.front()` is in force - `zone_lookup_spec`): converting to
local time and back returns `t` on side `postTransition = false` when the first transition repeats that local time
(and side `true` then returns the later instant, in the first transition's era), on both sides otherwise. -/
theorem zone_roundtrip_before (d : Data) (h : WF d) (hn : 0 < d.n) (t : Int) (ht : t < d.u 0)
    (hr : tMin ≤ t + d.oPrev 0) :
    let back := fun post => fromLocalTime d (toLocalTime d t).1 post
    (d.u 0 + d.o 0 ≤ t + d.oPrev 0 → back false = t ∧ back true = t + d.oPrev 0 - d.o 0 ∧ d.u 0 ≤ back true) ∧
    (t + d.oPrev 0 < d.u 0 + d.o 0 → ∀ post, back post = t) := by
  intro back
  obtain ⟨a, _, c⟩ := era_roundtrip d h 0 t (.zero fun _ => ht) (break_roundtrip _ hr)
  exact ⟨fun hc => a ⟨hn, hc⟩, fun hc => c (fun hc' => by have := hc'.2; omega) fun hl => absurd hl.1 (Nat.lt_irrefl 0)⟩

/-- **local times skipped by the first transition**: resolved like every other skipped time - the offset in force
after the transition for `postTransition = true` (an instant before it), `localtimes.front()`'s for `false`. -/
theorem zone_skipped_first (d : Data) (h : WF d) (hn : 0 < d.n) (dt : DateTime)
    (h1 : d.u 0 + d.oPrev 0 ≤ fromUtcTime dt) (h2 : fromUtcTime dt < d.u 0 + d.o 0) :
    fromLocalTime d dt true = fromUtcTime dt - d.o 0 ∧ fromLocalTime d dt true < d.u 0 ∧
    fromLocalTime d dt false = fromUtcTime dt - d.oPrev 0 ∧ d.u 0 ≤ fromLocalTime d dt false :=
  era_skipped d h 0 dt hn h1 h2

/-- zones without transitions (fixed offset): the round trip holds for every instant on both sides. -/
theorem zone_roundtrip_fixed (d : Data) (hn : d.n = 0) (t : Int) (post : Bool)
    (hr : tMin ≤ t + (d.lt 0).utcOffset) : fromLocalTime d (toLocalTime d t).1 post = t :=
  (era_roundtrip d (.fixed hn) 0 t (.zero fun h0 => absurd h0 (by omega)) (break_roundtrip _ hr)).2.2
    (fun hc => absurd hc.1 (by omega)) (fun hl => absurd hl.1 (Nat.lt_irrefl 0)) post

/-- what `addTransition` stores is what well-formedness asks for (first clause of `WF`) -/
theorem addTransition_local (d d' : Data) (u : Int) (i : Nat) (h : d.addTransition u i = some d') :
    d'.n = d.n + 1 ∧ d'.localtimes = d.localtimes ∧
    (d'.tr d.n).localtime = (d'.tr d.n).utctime + (d'.lt (d'.tr d.n).localtimeIdx).utcOffset := by
  unfold Data.addTransition at h
  split at h
  · simp only [Option.some.injEq] at h
    subst h
    simp [Data.n, Data.tr, Data.lt, Gen.Zone.shiftedLocal]
  · exact absurd h (by simp)

/-- non-vacuity: a concrete well-formed table with a skipped and a repeated hour, the repeated one
created by the LAST transition; the round trip on its right side, evaluated. -/
def sample : Data :=
  { localtimes := #[⟨0, false, 0⟩, ⟨3600, true, 4⟩]
    transitions := #[⟨1000000, 1003600, 1⟩, ⟨2000000, 2000000, 0⟩] }

theorem sample_wf : WF sample ∧ InEra sample 1 2001800 ∧ LaterCopy sample 1 2001800 ∧
    InEra sample 0 1998200 ∧ EarlierCopy sample 0 1998200 ∧
    fromLocalTime sample (toLocalTime sample 2001800).1 true = 2001800 ∧
    fromLocalTime sample (toLocalTime sample 2001800).1 false = 1998200 := by
  decide

/-- **`parse (print a p) = (a, p)`** for all 2^32 addresses and 2^16 ports. -/
theorem ipv4_roundtrip (a p : Nat) (ha : a < 2 ^ 32) (hp : p < 2 ^ 16) :
    parseIpPort (toIpPort a p) = some (a, p) ∧ parseIp (toIp a) = some a :=
  ⟨parseIpPort_toIpPort a p ha hp, parseIp_toIp a ha⟩

/-- the accepted texts are exactly the printed ones (canonical form): whatever parses prints back
to the same text, and is in range. -/
theorem ipv4_parse_canonical (s : String) (a p : Nat) (h : parseIpPort s = some (a, p)) :
    a < 2 ^ 32 ∧ p < 2 ^ 16 ∧ toIpPort a p = s := by
  obtain ⟨h1, h2, h3⟩ := parseIpPortChars_sound _ _ _ h
  exact ⟨h1, h2, by rw [toIpPort, h3, String.ofList_toList]⟩

/-- printing is one-to-one -/
theorem ipv4_print_injective (a p b q : Nat) (ha : a < 2 ^ 32) (hp : p < 2 ^ 16) (hb : b < 2 ^ 32)
    (hq : q < 2 ^ 16) (h : toIpPort a p = toIpPort b q) : a = b ∧ p = q := by
  have := parseIpPort_toIpPort a p ha hp
  rw [h, parseIpPort_toIpPort b q hb hq] at this
  cases this; exact ⟨rfl, rfl⟩

/-- **`networkToHostN (hostToNetworkN x) = x`** for 16, 32 and 64 bits, and the converted value lies
in memory most significant byte first. -/
theorem be_roundtrip (x : Nat) :
    (x < 2 ^ 16 → networkToHost 2 (hostToNetwork 2 x) = x ∧ memLE 2 (hostToNetwork 2 x) = Buffer.encodeBE 2 x) ∧
    (x < 2 ^ 32 → networkToHost 4 (hostToNetwork 4 x) = x ∧ memLE 4 (hostToNetwork 4 x) = Buffer.encodeBE 4 x) ∧
    (x < 2 ^ 64 → networkToHost 8 (hostToNetwork 8 x) = x ∧ memLE 8 (hostToNetwork 8 x) = Buffer.encodeBE 8 x) :=
  ⟨fun h => ⟨bswap_bswap 2 x h, memLE_bswap 2 x⟩, fun h => ⟨bswap_bswap 4 x h, memLE_bswap 4 x⟩,
   fun h => ⟨bswap_bswap 8 x h, memLE_bswap 8 x⟩⟩

/-- non-vacuity of the calendar hypotheses: a leap day in range -/
example : validDate 2024 2 29 ∧ inRange 2024 2 ∧ jdnMin ≤ 2460370 ∧ tMin ≤ 0 := by decide


/-! ## the zone-file reader (`detail::File`, `readDataBlock`, `readTimeZoneFile`, `loadZoneFile`)

`TzFile.parse` is the reader of muduo over the bytes of a file, with every width, signedness, length, test and skip
taken from the source (`Generated/TzFileSkel.lean`); `TzFile.serialize` is the reference encoder of RFC 8536, written
independently of it.  The table `parse` produces is the `Zone.Data` all theorems above are about (`TzFile.loadZone`). -/

/-- **T1**: in /repo's source as it is now, the parameters of the reader listed here (the three integer readers: bytes,
byte swap, return type = sign or zero extension; reader and element type of a transition time; which value read becomes
which counter; size of the first block and the skips, with their implicit conversions; readers and fields of a ttinfo
entry) and the statement skeleton of every function of the reader are what `Model/TzFile.lean` was written for.  The
remaining parameters (lengths, magic and version tests, exception texts, the three rejection tests, index and conversion
types) are tied in `TzFileSkel.reader_tied` (`Proofs/TzFileSkelTie.lean`, imported here and so checked by the same
build). -/
theorem tzfile_reader_tied :
    Gen.TzFileSkel.readInt32 = TzFileSkel.Decl.readInt32 ∧ Gen.TzFileSkel.readInt64 = TzFileSkel.Decl.readInt64 ∧
    Gen.TzFileSkel.readUInt8 = TzFileSkel.Decl.readUInt8 ∧
    Gen.TzFileSkel.timeReader = TzFileSkel.Decl.timeReader ∧ Gen.TzFileSkel.timeElemTy = TzFileSkel.Decl.timeElemTy ∧
    Gen.TzFileSkel.headerCounts = TzFileSkel.Decl.headerCounts ∧ Gen.TzFileSkel.blockCounts = TzFileSkel.Decl.blockCounts ∧
    Gen.TzFileSkel.v1BlockSkip = TzFileSkel.Decl.v1BlockSkip ∧ Gen.TzFileSkel.blockSkips = TzFileSkel.Decl.blockSkips ∧
    Gen.TzFileSkel.ttinfoReaders = TzFileSkel.Decl.ttinfoReaders ∧ Gen.TzFileSkel.ttinfo = TzFileSkel.Decl.ttinfo ∧
    Gen.TzFileSkel.fileReadInt32 = TzFileSkel.Decl.fileReadInt32 ∧ Gen.TzFileSkel.fileReadInt64 = TzFileSkel.Decl.fileReadInt64 ∧
    Gen.TzFileSkel.fileReadUInt8 = TzFileSkel.Decl.fileReadUInt8 ∧ Gen.TzFileSkel.fileReadBytes = TzFileSkel.Decl.fileReadBytes ∧
    Gen.TzFileSkel.fileSkip = TzFileSkel.Decl.fileSkip ∧
    Gen.TzFileSkel.readDataBlock = TzFileSkel.Decl.readDataBlock ∧
    Gen.TzFileSkel.readTimeZoneFile = TzFileSkel.Decl.readTimeZoneFile ∧
    Gen.TzFileSkel.addLocalTime = TzFileSkel.Decl.addLocalTime ∧ Gen.TzFileSkel.addTransition = TzFileSkel.Decl.addTransition ∧
    Gen.TzFileSkel.transitionCtor = TzFileSkel.Decl.transitionCtor ∧ Gen.TzFileSkel.localTimeCtor = TzFileSkel.Decl.localTimeCtor ∧
    Gen.TzFileSkel.loadZoneFile = TzFileSkel.Decl.loadZoneFile := by
  simp only [TzFileSkel.reader_tied, and_self]

/-- **the reader inverts the encoder**: for every well-formed zone description `z` - any number of transitions and
types, transition times anywhere in the signed 32-bit range (first block) / signed 64-bit range (second block), with
or without the second block, any version byte, any indicator bytes and footer - reading the RFC 8536 encoding of `z`
succeeds and yields exactly the table of the block muduo takes (`z.selected`: the 64-bit block when the version byte
is `'2'`, else the 32-bit one), its designations, and - with the 64-bit block - the footer. -/
theorem tzfile_roundtrip (z : TzFile.ZoneDesc) (h : z.WF) :
    TzFile.parse (TzFile.serialize z) = .ok
      { data := z.selected.table, abbreviation := z.selected.chars, tzstring := z.footerRead,
        consumed := z.needed.length } ∧
    TzFile.loadZone (TzFile.serialize z) = some z.selected.table := by
  have := TzFile.parse_serialize z h
  exact ⟨this, by simp [TzFile.loadZone, this]⟩

/-- **sign extension**: a transition time whose first byte has the top bit set is read as the negative instant
`u - 2^32` from the 32-bit block (`v1 = true`: `readInt32` returns `int32_t`, and that is what is converted to the
`int64_t` element of `trans`) and `u - 2^64` from the 64-bit block, `u` being the bytes as an unsigned big-endian
number. -/
theorem tzfile_sign_extends (v1 : Bool) (pre bs rest : List UInt8) (hl : bs.length = if v1 then 4 else 8)
    (htop : 128 ≤ (bs.headD 0).toNat) :
    TzFile.readTimes v1 1 ⟨pre ++ (bs ++ rest), pre.length⟩
      = .ok ([(Buffer.decodeBE bs : Int) - 2 ^ (8 * if v1 then 4 else 8)], ⟨(pre ++ bs) ++ rest, (pre ++ bs).length⟩) ∧
    (Buffer.decodeBE bs : Int) - 2 ^ (8 * if v1 then 4 else 8) < 0 := by
  obtain ⟨_, hlo, hneg⟩ := TzFile.conv_top _ bs hl htop
  refine ⟨?_, hneg⟩
  -- the bytes are the two's complement form of that negative value, so this is `readTimes_at` for one time
  have hlt : ((Buffer.decodeBE bs : Nat) : Int) < 2 ^ (8 * if v1 then 4 else 8) := by
    have := Buffer.decodeBE_lt bs; rw [Buffer.pow256, hl] at this; exact_mod_cast this
  have hb : Buffer.intBytes (if v1 then 4 else 8) ((Buffer.decodeBE bs : Int) - 2 ^ (8 * if v1 then 4 else 8)) = bs := by
    rw [Buffer.intBytes, Buffer.toUnsigned, Int.sub_emod_right, Int.emod_eq_of_lt (by omega) hlt, Int.toNat_natCast, ← hl,
      Buffer.encode_decodeBE]
  have := TzFile.readTimes_at v1 _ rfl [(Buffer.decodeBE bs : Int) - 2 ^ (8 * if v1 then 4 else 8)]
    (fun t ht => by rw [List.mem_singleton.mp ht]; exact ⟨hlo, by omega⟩) pre rest
  simpa only [List.flatMap_cons, List.flatMap_nil, List.append_nil, hb, TzFile.File.at, List.length_cons, List.length_nil] using this

/-- ... and the encoder produces such bytes for every negative time, so by `tzfile_roundtrip` negative transition
times come back negative: the first byte of the two's complement form of a negative value has the top bit set. -/
theorem tzfile_negative_times (n : Nat) (hn : 0 < n) (t : Int) (hlo : -(2 ^ (8 * n - 1) : Int) ≤ t) (hneg : t < 0) :
    128 ≤ ((Buffer.intBytes n t).headD 0).toNat := by
  obtain ⟨m, rfl⟩ : ∃ m, n = m + 1 := ⟨n - 1, by omega⟩
  have hp := TzFile.two_pow_pred (8 * (m + 1)) (by omega)
  have hq := TzFile.half_range m
  -- the unsigned form is `t + 2^(8n)`: at least half of the range
  have hu : ((Buffer.toUnsigned (8 * (m + 1)) t : Nat) : Int) = t + 2 ^ (8 * (m + 1)) := by
    rw [Buffer.toUnsigned, Int.toNat_of_nonneg (Int.emod_nonneg t (by omega)), ← Int.add_emod_right,
      Int.emod_eq_of_lt (by omega) (by omega)]
  have h1 : 128 * 256 ^ m ≤ Buffer.toUnsigned (8 * (m + 1)) t := by omega
  have h2 := Buffer.toUnsigned_lt (8 * (m + 1)) t
  rw [← Buffer.pow256, Nat.pow_succ, Nat.mul_comm (256 ^ m)] at h2
  have hpos : 0 < 256 ^ m := Nat.pow_pos (by decide)
  have := (Nat.le_div_iff_mul_le hpos).mpr h1
  have := (Nat.div_lt_iff_lt_mul hpos).mpr h2
  simp only [Buffer.intBytes, Buffer.encodeBE, List.headD_cons, UInt8.toNat_ofNat']
  omega

/-- **the reader never reads past its input and never depends on what follows**: whatever the bytes, if the reader
accepts them then everything it needed (`consumed`: up to the designations of the block it took) lies inside the
input, and appending any bytes yields the same table (only the footer text grows). -/
theorem tzfile_reads_inside (d : List UInt8) (l : TzFile.Loaded) (h : TzFile.parse d = .ok l) :
    l.consumed ≤ d.length ∧ ∀ e, ∃ tz, TzFile.parse (d ++ e) = .ok { l with tzstring := tz } :=
  TzFile.parse_inside d l h

/-- **truncation**: every proper prefix of the encoding of a well-formed description is either refused - exactly
when it cuts into the part the reader needs - or yields the very same table (the cut fell into the indicator bytes,
the footer or, for a file read through its first block, the second block). -/
theorem tzfile_total (z : TzFile.ZoneDesc) (h : z.WF) (n : Nat) (_hn : n < (TzFile.serialize z).length) :
    (n < z.needed.length ∧ ∃ e, TzFile.parse ((TzFile.serialize z).take n) = .error e) ∨
    (z.needed.length ≤ n ∧ ∃ tz, TzFile.parse ((TzFile.serialize z).take n) = .ok
      { data := z.selected.table, abbreviation := z.selected.chars, tzstring := tz, consumed := z.needed.length }) := by
  by_cases hc : n < z.needed.length
  · exact Or.inl ⟨hc, TzFile.parse_truncated_error z h n hc⟩
  · exact Or.inr ⟨by omega, _, TzFile.parse_truncated_ok z h n (by omega)⟩

/-- **what every loaded table satisfies** (any bytes, well-formed or not): each transition carries the shifted epoch
`utctime + utcOffset of its type` - the first clause of `Zone.WF`.  Hence for a loaded table `WF` is the decidable gap
rule alone, and `zone_lookup_spec` / `zone_roundtrip` / `zone_skipped` apply to `loadZone bytes`. -/
theorem tzfile_table_wf (bytes : List UInt8) (d : Data) (h : TzFile.loadZone bytes = some d) :
    (∀ i, i < d.n → (d.tr i).localtime = d.u i + d.o i) ∧
    ((∀ i, i < d.n - 1 → d.chg i + d.chg (i + 1) < d.u (i + 1) - d.u i) → WF d) := by
  unfold TzFile.loadZone at h
  split at h
  · rename_i l hl
    simp only [Option.some.injEq] at h
    subst h
    have := (TzFile.sound_zoneFile _ l hl).1
    exact ⟨this, fun g => ⟨this, g⟩⟩
  · exact absurd h (by simp)

/-- non-vacuity: a version-2 file with three transitions in the 64-bit block - one before 1901 (negative beyond 32
bits), one negative 32-bit, one after 2038 - and two in the 32-bit block; the description is well-formed, its encoding
has 175 bytes, and the reader (evaluated) returns the three instants with their types. -/
def sampleZone : TzFile.ZoneDesc :=
  { version := 50
    v1 := { times := [-1000000000, 1000000000], idxs := [1, 0], types := [⟨0, false, 0⟩, ⟨3600, true, 4⟩],
            chars := [71, 77, 84, 0, 66, 83, 84, 0], isstd := [], isut := [] }
    v2 := some ({ times := [-3000000000, -1000000000, 5000000000], idxs := [1, 0, 1],
                  types := [⟨0, false, 0⟩, ⟨3600, true, 4⟩], chars := [71, 77, 84, 0, 66, 83, 84, 0],
                  isstd := [0, 1], isut := [0, 0] }, [10, 71, 77, 84, 48, 10]) }

theorem sampleZone_wf : sampleZone.WF := by
  refine ⟨⟨?_, rfl, ?_, ?_, by decide, by decide, by decide, by decide, by decide, by decide⟩,
    fun b ft hb => ?_, fun _ => rfl⟩
  · decide
  · decide
  · decide
  · simp only [sampleZone, Option.some.injEq, Prod.mk.injEq] at hb
    obtain ⟨rfl, rfl⟩ := hb
    exact ⟨by decide, rfl, by decide, by decide, by decide, by decide, by decide, by decide, by decide, by decide⟩

theorem sampleZone_parsed :
    (TzFile.serialize sampleZone).length = 175 ∧
    ((TzFile.parse (TzFile.serialize sampleZone)).toOption.map fun l =>
        (l.data.transitions.toList.map fun t => (t.utctime, t.localtime, t.localtimeIdx), l.tzstring))
      = some ([(-3000000000, -2999996400, 1), (-1000000000, -1000000000, 0), (5000000000, 5000003600, 1)],
              [10, 71, 77, 84, 48, 10]) ∧
    (TzFile.parse ((TzFile.serialize sampleZone).take 150)).toOption.isNone := by
  decide +kernel

/-- **T1**: the split of the microsecond count (`/` and `%` by `kMicroSecondsPerSecond`), the three `snprintf` formats
(character by character), the sizes of their buffers, their arguments in order, the `gmtime_r` call and the test that
selects the format with microseconds are, in /repo's `Timestamp.cc` as it is now, what `Model/Calendar.lean` renders
and what the next theorem was proved for. -/
theorem timestamp_text_tied :
    Gen.TsText.toStringSeconds = TsText.Decl.toStringSeconds ∧ Gen.TsText.toStringMicros = TsText.Decl.toStringMicros ∧
    Gen.TsText.toStringFormat = TsText.Decl.toStringFormat ∧ Gen.TsText.toStringBuf = TsText.Decl.toStringBuf ∧
    Gen.TsText.toStringArgs = TsText.Decl.toStringArgs ∧
    Gen.TsText.formattedSeconds = TsText.Decl.formattedSeconds ∧ Gen.TsText.formattedMicros = TsText.Decl.formattedMicros ∧
    Gen.TsText.formattedShowsMicros = TsText.Decl.formattedShowsMicros ∧
    Gen.TsText.formattedFormatMicro = TsText.Decl.formattedFormatMicro ∧ Gen.TsText.formattedBufMicro = TsText.Decl.formattedBufMicro ∧
    Gen.TsText.formattedArgsMicro = TsText.Decl.formattedArgsMicro ∧
    Gen.TsText.formattedFormat = TsText.Decl.formattedFormat ∧ Gen.TsText.formattedBuf = TsText.Decl.formattedBuf ∧
    Gen.TsText.formattedArgs = TsText.Decl.formattedArgs ∧ Gen.TsText.formattedGmtime = TsText.Decl.formattedGmtime :=
  TsText.text_forms_tied

/-- **the text forms read back to the instant they were printed from**: for every non-negative microsecond count that
fits `int64_t`, `toString` (`"<seconds>.<6 digits>"`) reads back to the microsecond; when the year has at most four
digits, `toFormattedString(true)` (`"YYYYMMDD HH:MM:SS.uuuuuu"`) reads back to the microsecond and
`toFormattedString(false)` to the second - the date through the translated `fromUtcTime`, i.e. the printed fields are
the proleptic Gregorian date and time of day of that instant (`break_spec`).  (That `gmtime_r` / `strftime` print the
same is the tested half of the property.) -/
theorem timestamp_text_roundtrip (us : Int) (h0 : 0 ≤ us) (h1 : us < 2 ^ 63) :
    parseToString (tsToStringChars us) = some us ∧
    (0 ≤ (BreakTime (us / 1000000)).year → (BreakTime (us / 1000000)).year ≤ 9999 →
      parseFormatted (tsFormattedChars us true) = some us ∧
      parseFormatted (tsFormattedChars us false) = some (us / 1000000 * 1000000)) :=
  ⟨toString_roundtrip us h0 h1, fun hy0 hy => formatted_roundtrip us h0 hy hy0⟩

/-- non-vacuity: 2023-11-14 22:13:20.123456 UTC -/
theorem timestamp_text_sample :
    (BreakTime (1700000000123456 / 1000000)).year = 2023 ∧
    tsToStringChars 1700000000123456 = "1700000000.123456".toList ∧
    tsFormattedChars 1700000000123456 true = "20231114 22:13:20.123456".toList ∧
    parseFormatted "20231114 22:13:20.123456".toList = some 1700000000123456 := by
  decide +kernel

/-- T1, the text conversions of `InetAddress` are the library calls `Model/Inet.lean` models, with the port converted by
the byte-order helpers.  In /repo's current sources (`Generated/SysSkel.lean`, re-extracted on every run;
`Proofs/SysSkelTie.lean`): `InetAddress::toIpPort` / `toIp` are `sockets::toIpPort` / `sockets::toIp` on the own address;
`sockets::toIp` dispatches on the family and is glibc's `inet_ntop(AF_INET | AF_INET6, ..)` (`Inet.toIp`);
`sockets::toIpPort` appends `":%u"` of `networkToHost16(port)` behind that text (`Inet.toIpPort`) and, for `AF_INET6`,
wraps it as `'[' .. "]:%u"` (`Inet.v6IpPort`); `sockets::fromIpPort` sets the family, stores `hostToNetwork16(port)` and is
glibc's `inet_pton` (`Inet.parseIp`), a text that does not parse is only logged; `InetAddress(ip, port)` zeroes the
structure and takes the IPv6 branch iff asked for or the text contains `':'`; `InetAddress(port, loopbackOnly, ipv6)`
stores family, address and port in network order; `port()` is `networkToHost16` of the stored port; the six `Endian.h`
helpers are glibc's `__bswap_16/32/64` (`Inet.bswap`: `be_roundtrip`).  What `inet_ntop` / `inet_pton` / `snprintf`
compute stays an assumption (`Model/Inet.lean`), compared with glibc's and Python's answers in the differential run. -/
theorem inet_text_conversions_tied :
    Gen.SysSkel.inetToIpPort = SysSkel.Decl.inetToIpPort ∧
    Gen.SysSkel.inetToIp = SysSkel.Decl.inetToIp ∧
    Gen.SysSkel.socketsToIpPort = SysSkel.Decl.socketsToIpPort ∧
    Gen.SysSkel.socketsToIp = SysSkel.Decl.socketsToIp ∧
    Gen.SysSkel.fromIpPort4 =
      [.act (.store "addr.sin_family" "2"), .act (.store "addr.sin_port" "sockets::hostToNetwork16(port)"),
       .act (.sys "inet_pton" "2, ip, &addr.sin_addr"), .ite "<result> <= 0" [.act (.log .syserr)] []] ∧
    Gen.SysSkel.fromIpPort6 =
      [.act (.store "addr.sin6_family" "10"), .act (.store "addr.sin6_port" "sockets::hostToNetwork16(port)"),
       .act (.sys "inet_pton" "10, ip, &addr.sin6_addr"), .ite "<result> <= 0" [.act (.log .syserr)] []] ∧
    Gen.SysSkel.inetCtorIpPort = SysSkel.Decl.inetCtorIpPort ∧
    Gen.SysSkel.inetCtorPort = SysSkel.Decl.inetCtorPort ∧
    Gen.SysSkel.inetCtorIn = [.act (.store "addr_" "addr")] ∧
    Gen.SysSkel.inetCtorIn6 = [.act (.store "addr6_" "addr")] ∧
    Gen.SysSkel.inetSetSockAddrInet6 = [.act (.store "addr6_" "addr6")] ∧
    Gen.SysSkel.inetFamily = [.act (.ret "addr_.sin_family")] ∧
    Gen.SysSkel.inetGetSockAddr = [.act (.ret "sockets::sockaddr_cast(&addr6_)")] ∧
    Gen.SysSkel.inetPortNetEndian = [.act (.ret "addr_.sin_port")] ∧
    Gen.SysSkel.inetPort = [.act (.ret "sockets::networkToHost16(portNetEndian())")] ∧
    Gen.SysSkel.inetIpv4NetEndian = [.act (.assertion "family() == 2"), .act (.ret "addr_.sin_addr.s_addr")] ∧
    Gen.SysSkel.hostToNetwork16 = [.act (.ret "__bswap_16(host16)")] ∧
    Gen.SysSkel.hostToNetwork32 = [.act (.ret "__bswap_32(host32)")] ∧
    Gen.SysSkel.hostToNetwork64 = [.act (.ret "__bswap_64(host64)")] ∧
    Gen.SysSkel.networkToHost16 = [.act (.ret "__bswap_16(net16)")] ∧
    Gen.SysSkel.networkToHost32 = [.act (.ret "__bswap_32(net32)")] ∧
    Gen.SysSkel.networkToHost64 = [.act (.ret "__bswap_64(net64)")] :=
  ⟨SysSkel.skeleton_inetToIpPort, SysSkel.skeleton_inetToIp, SysSkel.skeleton_socketsToIpPort, SysSkel.skeleton_socketsToIp,
   SysSkel.skeleton_fromIpPort4, SysSkel.skeleton_fromIpPort6, SysSkel.skeleton_inetCtorIpPort, SysSkel.skeleton_inetCtorPort,
   SysSkel.skeleton_inetCtorIn, SysSkel.skeleton_inetCtorIn6, SysSkel.skeleton_inetSetSockAddrInet6,
   SysSkel.skeleton_inetFamily, SysSkel.skeleton_inetGetSockAddr, SysSkel.skeleton_inetPortNetEndian,
   SysSkel.skeleton_inetPort, SysSkel.skeleton_inetIpv4NetEndian, SysSkel.skeleton_hostToNetwork16,
   SysSkel.skeleton_hostToNetwork32, SysSkel.skeleton_hostToNetwork64, SysSkel.skeleton_networkToHost16,
   SysSkel.skeleton_networkToHost32, SysSkel.skeleton_networkToHost64⟩

end MuduoVerif.C20
