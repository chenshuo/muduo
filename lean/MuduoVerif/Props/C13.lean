import MuduoVerif.Proofs.ConnCb
import MuduoVerif.Proofs.ConnBlocks
import MuduoVerif.Proofs.ConnSkelTie
/-!
# C13 — write-complete and high-water-mark callbacks track the unsent backlog exactly

The property theorems with their proofs (lemmas: `Proofs/ConnSend.lean`, `Proofs/ConnCb.lean`, `Proofs/ConnFrame.lean`, `Proofs/ConnBlocks.lean`).
The backlog is `outBuf.length`.  A callback is *scheduled* by appending `Task.writeComplete cb` /
`Task.highWater cb n` to the loop's functor queue (`pending`) and *runs* when `runTask` reaches it
(event `wc k` / `hwm k n`).  `cb : Bound` is what the functor carries of the user's callback: `.val k` = a copy
of the `std::function` installed at that moment (identity `k`; `setWriteCompleteCallback` /
`setHighWaterMarkCallback(cb, mark)` are the operations `Act.setWc k` / `Act.setHwm k mark`, `k = 0` = empty),
`.ref` = a reference to the member, read when the functor runs.  Which of the two the source does is extracted
(`wcBindSend`, `wcBindDrain`, `hwmBind`); the theorems below need `byValue`.  The scheduling theorems hold for **every** state, block and kernel
answer — no reachability hypothesis — so they cover all send-size sequences, all marks
(0 and 1 included) and all acceptance patterns.

The branch guards (`hwmCross`, `sendWholeWC`, `drained`, `queueRest`, `directWrite`, …) are
extracted from `TcpConnection.cc` on every run; the `_iff` lemmas of `Proofs/ConnSend.lean`
(`fault_iff`: `Proofs/ConnCb.lean`; `tookWhole_iff`: below) re-prove their meaning, so `<` → `<=`,
a dropped conjunct or a swapped operand in the source breaks the build of this file.
-/
namespace MuduoVerif.C13
open MuduoVerif.Conn MuduoVerif.Gen.Conn

/-- **hwm_iff / wc (send side)**: `sendInLoop` schedules
* a write-complete callback iff the callback is set and the block was written directly and
  taken whole by the kernel (the backlog was and stays empty);
* a high-water callback iff the callback is set and this very send raised the backlog from
  below the mark to at least the mark — and its argument is the resulting backlog;
and nothing else; the functor carries a copy of the callback installed at this moment (`.val c.wcId` /
`.val c.hwmId`) and the mark is the one current at this moment (`c.mark`) -/
theorem send_schedules (c : Conn) (data : Bytes) (q : Bool) :
    let c' := sendInLoop c data q
    c'.pending = c.pending
      ++ (if c.hasWC = true ∧ c.st ≠ .kDisconnected ∧ c.ch.evWrite = false ∧ c.outBuf = []
            ∧ tookWhole (peekWrite c) data.length = true then [Task.writeComplete (.val c.wcId)] else [])
      ++ (if c.hasHWM = true ∧ c.outBuf.length < c.mark ∧ c.mark ≤ c'.outBuf.length
            ∧ c.outBuf.length < c'.outBuf.length then [Task.highWater (.val c.hwmId) c'.outBuf.length] else []) := by
  intro c'
  have h1 := sendInLoop_outBuf c data q
  show (sendInLoop c data q).pending = _
  rw [sendInLoop_pending]
  congr 1
  show _ = (if c.hasHWM = true ∧ c.outBuf.length < c.mark ∧ c.mark ≤ (sendInLoop c data q).outBuf.length
    ∧ c.outBuf.length < (sendInLoop c data q).outBuf.length
    then [Task.highWater (.val c.hwmId) (sendInLoop c data q).outBuf.length] else [])
  -- `hwmSched` speaks of the length of the rest, the statement of the backlog afterwards: `h1` relates them
  rw [h1, List.length_append]; unfold hwmSched
  by_cases hc : 0 < (unsent c data).length ∧ c.hasHWM = true ∧ c.outBuf.length < c.mark
      ∧ c.mark ≤ c.outBuf.length + (unsent c data).length
  · rw [if_pos hc, if_pos ⟨hc.2.1, hc.2.2.1, hc.2.2.2, by omega⟩]; rfl
  · rw [if_neg hc, if_neg (fun h => hc ⟨by omega, h.1, h.2.1, h.2.2.1⟩)]

private theorem mem_send_new (c : Conn) (data : Bytes) (q : Bool) (t : Task) :
    t ∈ (sendInLoop c data q).pending.drop c.pending.length ↔
      (c.hasWC = true ∧ c.st ≠ .kDisconnected ∧ c.ch.evWrite = false ∧ c.outBuf = []
          ∧ tookWhole (peekWrite c) data.length = true) ∧ t = .writeComplete (.val c.wcId) ∨
      (c.hasHWM = true ∧ c.outBuf.length < c.mark ∧ c.mark ≤ (sendInLoop c data q).outBuf.length
          ∧ c.outBuf.length < (sendInLoop c data q).outBuf.length) ∧ t = .highWater (.val c.hwmId) (sendInLoop c data q).outBuf.length := by
  have hs := send_schedules c data q
  simp only at hs
  rw [hs, List.append_assoc, List.drop_left, mem_opt_opt]

/-- the kernel "took the block whole": `write` returned at least its length -/
theorem tookWhole_iff (r : WriteRes) (len : Nat) : tookWhole r len = true ↔ ∃ n, r = .took n ∧ len ≤ n := by
  cases r <;> simp [tookWhole]

/-- the backlog after a `send`: the part of the block the kernel did not take is appended;
nothing changes when the connection is down or a fatal error (`EPIPE`, `ECONNRESET`) occurred -/
theorem send_backlog (c : Conn) (data : Bytes) (q : Bool) :
    (sendInLoop c data q).outBuf =
      if c.st = .kDisconnected then c.outBuf
      else if c.ch.evWrite = false ∧ c.outBuf = [] then
        match peekWrite c with
        | .took k => c.outBuf ++ data.drop k
        | .err e => if fatalErr e then c.outBuf else c.outBuf ++ data
      else c.outBuf ++ data := by
  rw [sendInLoop_outBuf]; unfold unsent
  split
  · simp
  · by_cases hd : directWrite c.ch.evWrite c.outBuf.length
    · obtain ⟨hw, hl⟩ := (directWrite_iff _ _).mp hd
      rw [if_pos hd, if_pos (show c.ch.evWrite = false ∧ c.outBuf = [] from ⟨hw, List.eq_nil_of_length_eq_zero hl⟩)]
      cases peekWrite c with
      | took k => simp [WriteRes.drops, WriteRes.taken]
      | err e =>
        cases hf : (WriteRes.err e).drops
        · simp [WriteRes.taken, show ¬ fatalErr e from fun h => by rw [(fault_iff e).mpr h] at hf; cases hf]
        · simp [(fault_iff e).mp hf]
    · rw [if_neg hd, if_neg fun h => hd ((directWrite_iff _ _).mpr ⟨h.1, by simp [h.2]⟩)]

/-- **wc (drain side)**: a writable event schedules a write-complete callback iff the callback is
set and this write emptied a non-empty backlog; in that case, and only then, the deferred
half-close of a connection in `kDisconnecting` is queued behind it -/
theorem drain_schedules (c : Conn) (hne : c.outBuf ≠ []) :
    let c' := handleWrite c
    c'.pending = c.pending
      ++ (if c.hasWC = true ∧ c.ch.evWrite = true ∧ c'.outBuf = [] then [Task.writeComplete (.val c.wcId)] else [])
      ++ (if (c.ch.evWrite = true ∧ c'.outBuf = []) ∧ c.st = .kDisconnecting then [Task.drainShutdownInLoop] else []) :=
  handleWrite_sched_emptied c hne

/-- the same without the hypothesis, in terms of the kernel's answer -/
theorem drain_schedules_all (c : Conn) :
    (handleWrite c).pending = c.pending
      ++ (if c.hasWC = true ∧ drainsNow c = true then [Task.writeComplete (.val c.wcId)] else [])
      ++ (if drainsNow c = true ∧ c.st = .kDisconnecting then [Task.drainShutdownInLoop] else []) :=
  handleWrite_sched c

/-- **hwm_not_again** (local form): right after a high-water callback was scheduled the backlog is
at or above the mark, and a send that finds the backlog at or above the mark schedules none -/
theorem hwm_not_again (c : Conn) (data : Bytes) (q : Bool) (h : c.mark ≤ c.outBuf.length) :
    ∀ b n, Task.highWater b n ∉ (sendInLoop c data q).pending.drop c.pending.length := by
  intro b n
  rw [mem_send_new]
  rintro (⟨_, h⟩ | ⟨hc, _⟩)
  · cases h
  · omega

/-- **deferred**: no user operation runs either callback inside the call; they are delivered only
by the loop when it reaches the queued functor -/
theorem deferred (c : Conn) (f : Bool) (a : Act) :
    (act c f a).trace.take c.trace.length = c.trace ∧
    ∀ e ∈ (act c f a).trace.drop c.trace.length, (∀ k, e ≠ .wc k) ∧ ∀ k n, e ≠ .hwm k n := by
  obtain ⟨s, hs, hq⟩ := act_frame traceExt_frame send_tx c f a
  rw [hs, List.take_left, List.drop_left]
  refine ⟨rfl, fun e he => ⟨?_, ?_⟩⟩
  · rintro k rfl; cases hq _ he
  · rintro k n rfl; cases hq _ he

/-- … and when the loop reaches it, the callback is the first thing that happens, with the
argument that was computed when it was scheduled; the callback invoked is the one the functor carries
(`Bound.resolve`: the copy, or - for a functor that holds a reference - whatever is installed now) -/
theorem delivered_by_loop (c : Conn) (b : Bound) (n : Nat) (ha : c.alive = true) :
    (∃ s, (runTask c (.writeComplete b)).trace = c.trace ++ Ev.wc (b.resolve c.wcId) :: s ∧ ∀ x ∈ s, x.isQueuedCb = false) ∧
    (∃ s, (runTask c (.highWater b n)).trace = c.trace ++ Ev.hwm (b.resolve c.hwmId) n :: s ∧ ∀ x ∈ s, x.isQueuedCb = false) :=
  ⟨runTask_wc c b ha, runTask_hwm c b n ha⟩

/-- T1: at all three sites (`sendInLoop` x2, `handleWrite`) the notification functor is bound with a COPY of the
user's callback (`std::bind(&notify.., weak, callback_member, ..)`), not with `std::ref/std::cref` of the member
or a lambda that reads it later -/
theorem callbacks_bound_by_value : wcBindSend = .byValue ∧ wcBindDrain = .byValue ∧ hwmBind = .byValue :=
  ⟨rfl, rfl, rfl⟩

/-- **delivered_is_scheduled_callback**: the callback that a notification delivers is the one that was
installed when the notification was SCHEDULED, whatever `setWriteCompleteCallback` /
`setHighWaterMarkCallback` calls (from the loop thread, from inside callbacks) happen before it is delivered:
(1) every notification functor `sendInLoop` / `handleWrite` queue carries the identity installed in the state
they ran in; (2) whenever the loop later runs such a functor - in ANY state `c'`, i.e. with any callbacks
installed, removed (`0`) or marks changed since - exactly that identity is invoked, first thing, with the
argument computed at scheduling time -/
theorem delivered_is_scheduled_callback :
    (∀ (c : Conn) (data : Bytes) (q : Bool), ∀ t ∈ (sendInLoop c data q).pending.drop c.pending.length,
        t = .writeComplete (.val c.wcId) ∨ t = .highWater (.val c.hwmId) (sendInLoop c data q).outBuf.length) ∧
    (∀ (c : Conn), ∀ t ∈ (handleWrite c).pending.drop c.pending.length,
        t = .writeComplete (.val c.wcId) ∨ t = .drainShutdownInLoop) ∧
    (∀ (c' : Conn) (k n : Nat), c'.alive = true →
      (∃ s, (runTask c' (.writeComplete (.val k))).trace = c'.trace ++ Ev.wc k :: s ∧ ∀ x ∈ s, x.isQueuedCb = false) ∧
      (∃ s, (runTask c' (.highWater (.val k) n)).trace = c'.trace ++ Ev.hwm k n :: s ∧ ∀ x ∈ s, x.isQueuedCb = false)) := by
  refine ⟨?_, ?_, ?_⟩
  · intro c data q t ht
    exact ((mem_send_new c data q t).mp ht).imp And.right And.right
  · intro c t ht
    rw [handleWrite_sched c, List.append_assoc, List.drop_left, mem_opt_opt] at ht
    exact ht.imp And.right And.right
  · intro c' k n ha
    exact ⟨runTask_wc c' (.val k) ha, runTask_hwm c' (.val k) n ha⟩

/-- installing a callback (and a mark) takes effect for what is scheduled FROM NOW ON and touches nothing that
is already queued: the functor queue, the backlog and the trace are unchanged -/
theorem set_callback_frame (c : Conn) (f : Bool) :
    (∀ k, (act c f (.setWc k)).pending = c.pending ∧ (act c f (.setWc k)).batch = c.batch
        ∧ (act c f (.setWc k)).outBuf = c.outBuf ∧ (act c f (.setWc k)).trace = c.trace
        ∧ (act c f (.setWc k)).wcId = k ∧ (act c f (.setWc k)).hasWC = decide (k ≠ 0)) ∧
    (∀ k m, (act c f (.setHwm k m)).pending = c.pending ∧ (act c f (.setHwm k m)).batch = c.batch
        ∧ (act c f (.setHwm k m)).outBuf = c.outBuf ∧ (act c f (.setHwm k m)).trace = c.trace
        ∧ (act c f (.setHwm k m)).hwmId = k ∧ (act c f (.setHwm k m)).hasHWM = decide (k ≠ 0)
        ∧ (act c f (.setHwm k m)).mark = m) :=
  ⟨fun _ => ⟨rfl, rfl, rfl, rfl, rfl, rfl⟩, fun _ _ => ⟨rfl, rfl, rfl, rfl, rfl, rfl, rfl⟩⟩

/-- **hwm_uses_current_mark**: after `setHighWaterMarkCallback(k, m)` the next send reports a crossing iff a
callback was installed (`k ≠ 0`) and THIS send raised the backlog from below the NEW mark `m` to at least `m`;
the functor carries `k` and the new backlog -/
theorem hwm_uses_current_mark (c : Conn) (f : Bool) (k m : Nat) (data : Bytes) (q : Bool) :
    let c' := sendInLoop (act c f (.setHwm k m)) data q
    ∀ b n, Task.highWater b n ∈ c'.pending.drop c.pending.length ↔
      (k ≠ 0 ∧ c.outBuf.length < m ∧ m ≤ c'.outBuf.length ∧ c.outBuf.length < c'.outBuf.length
        ∧ b = .val k ∧ n = c'.outBuf.length) := by
  intro c' b n
  obtain ⟨-, -, e2, -, e4, e5, e3⟩ := (set_callback_frame c f).2 k m
  refine (mem_send_new (act c f (.setHwm k m)) data q _).trans ?_
  rw [e2, e3, e4, e5]
  constructor
  · rintro (⟨_, h⟩ | ⟨hc, h⟩)
    · cases h
    · injection h with hb hn
      exact ⟨by simpa using hc.1, hc.2.1, hc.2.2.1, hc.2.2.2, hb, hn⟩
  · rintro ⟨hk, h1, h2, h3, rfl, rfl⟩
    exact Or.inr ⟨⟨by simpa using hk, h1, h2, h3⟩, rfl⟩

/-- no other functor runs either callback -/
theorem only_those_functors (c : Conn) (t : Task) (h1 : ∀ b, t ≠ .writeComplete b) (h2 : ∀ b n, t ≠ .highWater b n) :
    TraceExt c (runTask c t) :=
  runTask_frame traceExt_frame send_tx c t handleClose_tx (fun d _ => sendInLoop_tx c d true)
    (fun _ => connectDestroyed_frame traceExt_frame send_tx (fun _ => .same rfl) c)
    (fun b e => absurd e (h1 b)) (fun b n e => absurd e (h2 b n))

/-- **wc_needs_send**: in every history, the write-complete callbacks that ran, plus those queued,
plus one for a non-empty backlog (its drain will schedule one) never exceed the number of
accepted `send()`s: each is paid for by its own send, none comes without one -/
theorem wc_needs_send (c0 : Conn) (h0 : Fresh c0) (ins : List Input) (hne : ∀ i ∈ ins, i.notEstablish) :
    let c := run (step c0 .establish) ins
    wcRun c + wcQueued c + (if c.outBuf = [] then 0 else 1) ≤ c.blocks.length :=
  Conn.wc_needs_send c0 h0 ins hne

/-- the meaning of the extracted crossing test -/
theorem crossing_test (old rem mark : Nat) (has : Bool) :
    hwmCross old rem mark has ↔ (has = true ∧ old < mark ∧ mark ≤ old + rem) :=
  hwmCross_iff old rem mark has

/-- non-vacuity: mark 10, backlog 4, a send of 8 bytes none of which is written: `highWater 12` -/
example :
    let c : Conn := { st := .kConnected, mark := 10, outBuf := [0, 0, 0, 0], ch := { evWrite := true, evRead := true, slot := .added, watch := true } }
    (sendInLoop c [1, 2, 3, 4, 5, 6, 7, 8] false).pending = [Task.highWater (.val 1) 12] := by decide

/-- non-vacuity of `delivered_is_scheduled_callback`: a send taken whole schedules the write-complete callback
installed then (1); another one (2) - or none (0) - is installed before the loop runs its functors; (1) is
delivered.  High-water: callback 1 with mark 5 is crossed (backlog 8); callback 2 with mark 100 is installed
before delivery; (1) is told about 8 -/
example :
    (run (step {} .establish) [.envWrite (.took 3), .act false (.send [1, 2, 3]), .act false (.setWc 2), .iter []]).trace
      = [.up, .sysWrite 3 (.took 3), .wc 1] ∧
    (run (step {} .establish) [.envWrite (.took 3), .act false (.send [1, 2, 3]), .act false (.setWc 0), .iter []]).trace
      = [.up, .sysWrite 3 (.took 3), .wc 1] ∧
    (run (step {} .establish) [.act false (.setHwm 1 5), .envWrite (.err 11), .act false (.send [1, 2, 3, 4, 5, 6, 7, 8]),
        .act false (.setHwm 2 100), .iter []]).trace
      = [.up, .sysWrite 8 (.err 11), .hwm 1 8] ∧
    -- … while what is scheduled afterwards uses the new callback and the new mark
    (run (step {} .establish) [.act false (.setHwm 1 5), .envWrite (.err 11), .act false (.send [1, 2, 3, 4, 5, 6, 7, 8]),
        .act false (.setHwm 2 10), .act false (.send [9, 9]), .iter []]).trace
      = [.up, .sysWrite 8 (.err 11), .hwm 1 8, .hwm 2 10] := by decide

/-- T1, statement order: in every `TcpConnection` member function the model implements (and in
`Channel::handleEventWithGuard`) the source performs the same significant actions - state stores, channel
operations, callbacks, hand-offs to the loop, member calls, system calls, buffer operations - in the same order
and under the same nesting of the generated guards as `Model/Conn.lean` (`Model/ConnSkelDecl.lean`); re-extracted
from /repo on every run (`Generated/ConnSkel.lean`), proved in `Proofs/ConnSkelTie.lean` -/
theorem statement_order_tied :
    Gen.ConnSkel.sendInLoop = ConnSkel.Decl.sendInLoop ∧
    Gen.ConnSkel.shutdown = ConnSkel.Decl.shutdown ∧
    Gen.ConnSkel.shutdownInLoop = ConnSkel.Decl.shutdownInLoop ∧
    Gen.ConnSkel.forceClose = ConnSkel.Decl.forceClose ∧
    Gen.ConnSkel.forceCloseWithDelay = ConnSkel.Decl.forceCloseWithDelay ∧
    Gen.ConnSkel.forceCloseInLoop = ConnSkel.Decl.forceCloseInLoop ∧
    Gen.ConnSkel.startReadInLoop = ConnSkel.Decl.startReadInLoop ∧
    Gen.ConnSkel.stopReadInLoop = ConnSkel.Decl.stopReadInLoop ∧
    Gen.ConnSkel.connectEstablished = ConnSkel.Decl.connectEstablished ∧
    Gen.ConnSkel.connectDestroyed = ConnSkel.Decl.connectDestroyed ∧
    Gen.ConnSkel.handleRead = ConnSkel.Decl.handleRead ∧
    Gen.ConnSkel.handleWrite = ConnSkel.Decl.handleWrite ∧
    Gen.ConnSkel.handleClose = ConnSkel.Decl.handleClose ∧
    Gen.ConnSkel.handleError = ConnSkel.Decl.handleError ∧
    Gen.ConnSkel.handleEventWithGuard = ConnSkel.Decl.handleEventWithGuard :=
  ConnSkel.skeletons_agree

/-- T1, the functions that deliver the two notifications: `notifyWriteComplete` / `notifyHighWaterMark` lock the
weak pointer, call the bound callback only if the connection still exists, with the connection (and the bound
backlog) as arguments, and do nothing else; the default callbacks do what the model assumes (`defaultConnectionCallback`
leaves the connection alone, `defaultMessageCallback` drops everything that was read) -/
theorem notification_trampolines_tied :
    notifyLocks = true ∧
    Gen.ConnSkel.notifyWriteComplete = ConnSkel.Decl.notifyWriteComplete ∧
    Gen.ConnSkel.notifyHighWaterMark = ConnSkel.Decl.notifyHighWaterMark ∧
    Gen.ConnSkel.weakCallbackCall = ConnSkel.Decl.weakCallbackCall ∧
    Gen.ConnSkel.defaultConnectionCallback = ConnSkel.Decl.defaultConnectionCallback ∧
    Gen.ConnSkel.defaultMessageCallback = ConnSkel.Decl.defaultMessageCallback :=
  ⟨rfl, ConnSkel.trampolines_agree⟩

end MuduoVerif.C13
