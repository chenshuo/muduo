import MuduoVerif.Proofs.ConnLifeTrace
import MuduoVerif.Proofs.ConnDownRel
import MuduoVerif.Proofs.ConnClose
import MuduoVerif.Proofs.OwnerStrand
import MuduoVerif.Proofs.ConnSkelTie
import MuduoVerif.Proofs.SysSkelTie
import MuduoVerif.Proofs.OwnerSkelTie
/-!
# C02 — each connection gets exactly one UP, then messages, then exactly one DOWN; clean destruction

The property theorems with their proofs; the invariant `LifeInv` and what it says about the trace are in
`Proofs/ConnLife.lean`, `Proofs/ConnLifeTrace.lean`, the invariant `DownRel` in `Proofs/ConnDownRel.lean`, the
progress lemmas in `Proofs/ConnClose.lean`.
Statements are about every history of the connection model (`Model/Conn.lean`): any
configuration (`Fresh`: poller back-end, build flavour, callbacks set or not, marks), any sequence
of user operations on the loop thread or on other threads (`Input.act`), operations performed
from inside callbacks (`hooks`), any poll results, any read/write results (faults included), any
timer firings, owner destruction - in any order and of any length.

Single connection on its loop: the hand-over between the acceptor loop and an io loop
(`TcpServer::removeConnection` → `removeConnectionInLoop`) is collapsed into the close callback
queueing `connectDestroyed`; callbacks run on the loop thread by construction of the model
(`foreign_act_silent` is the part that is a theorem), the observed thread ids are compared by the
correspondence run.
-/
namespace MuduoVerif.C02
open MuduoVerif.Conn MuduoVerif.Gen.Conn

/-- the state reached by a history: hand-over (`connectEstablished`), then any inputs -/
abbrev reach (c0 : Conn) (ins : List Input) : Conn := run (step c0 .establish) ins

theorem life (c0 : Conn) (h0 : Fresh c0) (ins : List Input) (hne : ∀ i ∈ ins, i.notEstablish) :
    LifeInv (reach c0 ins) := reach_life c0 h0 ins hne

section
variable (c0 : Conn) (h0 : Fresh c0) (ins : List Input) (hne : ∀ i ∈ ins, i.notEstablish)
include h0 hne

/-- **updown**: in every history the connection callback reports UP exactly once and DOWN at most
once, the descriptor is closed at most once, and nothing aborts or touches a dead object -/
theorem updown :
    cnt isUpEv (reach c0 ins).trace = 1 ∧ cnt isDownEv (reach c0 ins).trace ≤ 1 ∧
    cnt isCloseEv (reach c0 ins).trace ≤ 1 ∧ cnt isBadEv (reach c0 ins).trace = 0 := by
  have hc := (life c0 h0 ins hne).counts
  exact ⟨hc.up, by rw [hc.down]; split <;> omega, by rw [hc.close]; split <;> omega, hc.bad⟩

/-- **message callbacks lie between UP and DOWN**: whenever the message callback runs, UP has been
reported before and DOWN has not -/
theorem msg_between (pre post : List Ev) (n : Nat) (h : UInt64)
    (ht : (reach c0 ins).trace = pre ++ .msg n h :: post) :
    cnt isUpEv pre = 1 ∧ cnt isDownEv pre = 0 :=
  life_before (ht ▸ (life c0 h0 ins hne).life)

/-- DOWN is reported only after UP (and not twice) -/
theorem down_after_up (pre post : List Ev) (ht : (reach c0 ins).trace = pre ++ .down :: post) :
    cnt isUpEv pre = 1 ∧ cnt isDownEv pre = 0 :=
  life_before (ht ▸ (life c0 h0 ins hne).life)

/-- the descriptor is closed only after DOWN was reported -/
theorem close_after_down (pre post : List Ev) (ht : (reach c0 ins).trace = pre ++ .sysClose :: post) :
    cnt isDownEv pre = 1 ∧ cnt isCloseEv pre = 0 :=
  life_before (ht ▸ (life c0 h0 ins hne).life)

/-- DOWN has been reported exactly when the connection is in state `kDisconnected` -/
theorem down_iff_disconnected :
    cnt isDownEv (reach c0 ins).trace = 1 ↔ (reach c0 ins).st = .kDisconnected := by
  rw [(life c0 h0 ins hne).counts.down]; split <;> simp [*]

/-- **destroy_clean**: once the object is destroyed it is in state `kDisconnected`, its channel is
not registered with the poller, DOWN was reported, and the descriptor was closed exactly once;
as long as the object lives its descriptor is open -/
theorem destroy_clean :
    ((reach c0 ins).alive = false →
      (reach c0 ins).st = .kDisconnected ∧ (reach c0 ins).registered = false ∧
      cnt isDownEv (reach c0 ins).trace = 1 ∧ cnt isCloseEv (reach c0 ins).trace = 1) ∧
    ((reach c0 ins).alive = true → cnt isCloseEv (reach c0 ins).trace = 0) := by
  have hl := life c0 h0 ins hne
  refine ⟨fun ha => ⟨hl.goneDown ha, (hl.gone ha).1, ?_, ?_⟩, fun ha => ?_⟩
  · rw [hl.counts.down, if_pos (hl.goneDown ha)]
  · rw [hl.counts.close, if_neg (by simp [ha])]
  · rw [hl.counts.close, if_pos ha]

/-- the descriptor is never closed while the channel is registered with a poller -/
theorem not_closed_while_registered (hr : (reach c0 ins).registered = true) :
    cnt isCloseEv (reach c0 ins).trace = 0 := by
  have hl := life c0 h0 ins hne
  cases ha : (reach c0 ins).alive
  · have := (hl.gone ha).1; rw [hr] at this; cases this
  · exact (destroy_clean c0 h0 ins hne).2 ha

/-- once the owner let go of the connection (close callback, or owner destroyed) while the
channel is still registered, the functor that unregisters it is in the loop's queue -/
theorem unregister_pending (ha : (reach c0 ins).alive = true) (ho : (reach c0 ins).owner = false)
    (hr : (reach c0 ins).registered = true) : Task.connectDestroyed ∈ (reach c0 ins).queue :=
  (life c0 h0 ins hne).reg ha ho hr

end

/-- **no_leak**: after every loop iteration, a connection that the owner has released and that no
queued functor keeps alive is destroyed (object freed, descriptor closed) -/
theorem no_leak (c : Conn) (a : List Src) :
    (iter c a).dead = false → (iter c a).owner = false → (iter c a).queue.any Task.strong = false →
    (iter c a).alive = false :=
  Conn.no_leak c a

/-- **no_leak, progress form**: a connection its owner has released (close callback ran, or the
owner was destroyed) is destroyed by the very next loop iteration, whatever events arrive in it:
object freed, descriptor closed exactly once, DOWN reported exactly once, nothing aborts -/
theorem released_is_destroyed (c0 : Conn) (h0 : Fresh c0) (ins : List Input) (hne : ∀ i ∈ ins, i.notEstablish)
    (a : List Src) (ho : (reach c0 ins).owner = false) (ha : (reach c0 ins).alive = true) :
    (iter (reach c0 ins) a).alive = false ∧
    cnt isCloseEv (iter (reach c0 ins) a).trace = 1 ∧ cnt isDownEv (iter (reach c0 ins) a).trace = 1 ∧
    cnt isBadEv (iter (reach c0 ins) a).trace = 0 :=
  have hl := life c0 h0 ins hne
  have hd := Conn.released_is_destroyed _ a hl ho ha
  have h := Conn.gone_closed_once _ (Conn.iter_life _ a hl) hd
  ⟨hd, h.2.1, h.1, h.2.2⟩

/-- `forceClose()` on any thread, at any moment of any history: two loop iterations later (whatever
events arrive in them) the connection object is destroyed, with exactly one DOWN, exactly one
`close` of the descriptor and no abort -/
theorem forceClose_destroys (c0 : Conn) (h0 : Fresh c0) (ins : List Input) (hne : ∀ i ∈ ins, i.notEstablish)
    (f : Bool) (a1 a2 : List Src) :
    (iter (iter (act (reach c0 ins) f .forceClose) a1) a2).alive = false ∧
    cnt isDownEv (iter (iter (act (reach c0 ins) f .forceClose) a1) a2).trace = 1 ∧
    cnt isCloseEv (iter (iter (act (reach c0 ins) f .forceClose) a1) a2).trace = 1 ∧
    cnt isBadEv (iter (iter (act (reach c0 ins) f .forceClose) a1) a2).trace = 0 :=
  have hl := life c0 h0 ins hne
  have hd := Conn.forceClose_destroys _ f a1 a2 hl (reach_downRel c0 h0 ins hne)
  ⟨hd, Conn.gone_closed_once _ (Conn.iter_life _ a2 (Conn.iter_life _ a1 (Conn.act_life _ f .forceClose hl))) hd⟩

/-- operations issued from other threads never run a callback on the caller's thread: they only
flip the state word and queue work for the loop (affinity of callbacks to the loop thread) -/
theorem foreign_act_silent (c : Conn) (a : Act) : (act c true a).trace = c.trace := by
  cases a <;> simp only [act, handOff, Bool.true_or, if_true] <;> (repeat' split) <;> rfl

/-- non-vacuity: a history with a message, a forced close from another thread and the destruction -/
example :
    let ins : List Input := [.peerWrite [7], .envRead (.got 1), .iter [.conn 1], .act true .forceClose, .iter [], .iter []]
    Fresh ({} : Conn) ∧ (∀ i ∈ ins, i.notEstablish) ∧
    (reach {} ins).alive = false ∧
    (reach {} ins).trace.filter (fun e => isUpEv e || isDownEv e || isMsgEv e || isCloseEv e) =
      [.up, .msg 1 (fnv64 [7]), .down, .sysClose] := by
  refine ⟨fresh_default .epoll true true true _ _ [] [] [], ?_, ?_, ?_⟩
  · intro i hi; simp only [List.mem_cons, List.not_mem_nil, or_false] at hi
    rcases hi with h | h | h | h | h | h <;> rw [h] <;> trivial
  · decide
  · decide

/-- T1, statement order: in every `TcpConnection` member function the model implements (and in
`Channel::handleEventWithGuard`) the source performs the same significant actions - state stores, channel
operations, callbacks, hand-offs to the loop, member calls, system calls, buffer operations - in the same order
and under the same nesting of the generated guards as `Model/Conn.lean` (`Model/ConnSkelDecl.lean`); re-extracted
from /repo on every run (`Generated/ConnSkel.lean`), proved in `Proofs/ConnSkelTie.lean` -/
theorem statement_order_tied :
    Gen.ConnSkel.sendInLoop = ConnSkel.Decl.sendInLoop ∧
    Gen.ConnSkel.shutdown = ConnSkel.Decl.shutdown ∧
    Gen.ConnSkel.shutdownInLoop = ConnSkel.Decl.shutdownInLoop ∧
    Gen.ConnSkel.forceClose = ConnSkel.Decl.forceClose ∧
    Gen.ConnSkel.forceCloseWithDelay = ConnSkel.Decl.forceCloseWithDelay ∧
    Gen.ConnSkel.forceCloseInLoop = ConnSkel.Decl.forceCloseInLoop ∧
    Gen.ConnSkel.startReadInLoop = ConnSkel.Decl.startReadInLoop ∧
    Gen.ConnSkel.stopReadInLoop = ConnSkel.Decl.stopReadInLoop ∧
    Gen.ConnSkel.connectEstablished = ConnSkel.Decl.connectEstablished ∧
    Gen.ConnSkel.connectDestroyed = ConnSkel.Decl.connectDestroyed ∧
    Gen.ConnSkel.handleRead = ConnSkel.Decl.handleRead ∧
    Gen.ConnSkel.handleWrite = ConnSkel.Decl.handleWrite ∧
    Gen.ConnSkel.handleClose = ConnSkel.Decl.handleClose ∧
    Gen.ConnSkel.handleError = ConnSkel.Decl.handleError ∧
    Gen.ConnSkel.handleEventWithGuard = ConnSkel.Decl.handleEventWithGuard :=
  ConnSkel.skeletons_agree

end MuduoVerif.C02

/-!
## The multi-loop ownership protocol of `TcpServer`

Model: `Model/Owner.lean` (acceptor loop + `L` io loops as FIFO functor queues, any number of connections, every
interleaving; hand-offs, name construction, life token and final drain from `Generated/Owner.lean`).  Invariant and its
preservation: `Proofs/Owner*.lean`.  Hypothesis, stated explicitly: connection names are distinct (`Function.Injective
nameOf`; negation witness `owner_name_collision_witness`; `owner_name_buffer_fits` for the code's side).  That no
`EventLoop` object is destroyed while a `connectEstablished` / `connectDestroyed` functor is stranded in its queue
(`GoodSched`) is a theorem for the code as it is (`owner_goodSched`: final drain, repeated until empty); negation witnesses
for the two earlier shapes: `server_destruction_needs_drain` (no drain, F10), `owner_stranded_witness` (one drain, F29).
-/
namespace MuduoVerif.C02
open MuduoVerif.Owner MuduoVerif.Gen.Owner
open MuduoVerif.Gen.Conn (StateE)

/-- the state of the TcpServer ownership model (`Model/Owner.lean`) a schedule leads to: `L` io loops, any number of
connections, every interleaving of the loops, the user's calls and the destruction of the server -/
abbrev oreach (L : Nat) (nameOf : Nat → Nat) (as : List Action) : Srv := Owner.run (Owner.init L nameOf) as

section owner
variable (L : Nat) (nameOf : Nat → Nat) (hinj : Function.Injective nameOf) (as : List Action)
include hinj

private theorem owner_run_all : GoodSched (Owner.init L nameOf) as ∧ ExitInv true 0 (oreach L nameOf as) :=
  run_all true (g := Owner.init L nameOf) hinj rfl (fun _ => rfl) (.inl rfl) as _ ⟨ginv_init L nameOf, .refl _⟩ (exitInv_init true L nameOf)

/-- **no schedule strands a functor**: the code drains a loop's functor queue when the loop leaves `loop()`, repeatedly
until it is empty (`Generated/Owner.lean: finalDrain, finalDrainRepeats`, read from `EventLoop::loop`); hence no schedule
whatsoever destroys an `EventLoop` object with a `connectEstablished` / `connectDestroyed` functor left in its queue
(negation witnesses for a missing / a single drain: `server_destruction_needs_drain`, `owner_stranded_witness`) -/
theorem owner_goodSched : GoodSched (Owner.init L nameOf) as :=
  (owner_run_all L nameOf hinj as).1

private theorem owner_invC : GInvC (Owner.init L nameOf) (oreach L nameOf as) :=
  ginv_runC hinj as _ ⟨ginv_init L nameOf, .refl _⟩ (owner_goodSched L nameOf hinj as)

/-- the invariant of the ownership protocol holds in every reachable state -/
theorem owner_inv : GInv (oreach L nameOf as) :=
  (owner_invC L nameOf hinj as).toGInv

/-- **owner_updown**: for every connection of a `TcpServer` with any number of io loops, in every interleaving: it is
announced (`newConnection`) once, the connection callback reports UP at most once and only after that, DOWN at most once,
message callbacks and DOWN only between UP and DOWN, no assertion fails; UP has been reported exactly when the state has
left `kConnecting`, DOWN exactly when it is `kDisconnected` -/
theorem owner_updown (c : Nat) (hc : c < (oreach L nameOf as).n) :
    let s := oreach L nameOf as
    cntK c .new s.trace = 1 ∧ cntK c .up s.trace ≤ 1 ∧ cntK c .down s.trace ≤ 1 ∧ cntK c .abort s.trace = 0 ∧
    (cntK c .up s.trace = 1 ↔ (s.conn c).st ≠ .kConnecting) ∧ (cntK c .down s.trace = 1 ↔ (s.conn c).st = .kDisconnected) ∧
    ∀ pre e post, s.trace = pre ++ e :: post → e.conn = c →
      (e.kind = .up → cntK c .new pre = 1 ∧ cntK c .up pre = 0) ∧
      (e.kind = .msg → cntK c .up pre = 1 ∧ cntK c .down pre = 0) ∧
      (e.kind = .down → cntK c .up pre = 1 ∧ cntK c .down pre = 0) := by
  intro s
  obtain ⟨er, ha, -⟩ := ((owner_inv L nameOf hinj as).conns c hc).core.life'
  have hn := Owner.life_counts _ _ ha
  refine ⟨hn.new, by rw [hn.up]; split <;> decide, by rw [hn.down]; split <;> decide, life_never ha fun _ => rfl, ?_, ?_, ?_⟩
  · rw [hn.up, autoOf]; cases (s.conn c).st <;> simp [clsOf]
  · rw [hn.down, autoOf]; cases (s.conn c).st <;> simp [clsOf]
  · exact fun pre e post htr hec => ⟨life_guard (htr ▸ ha) hec, life_guard (htr ▸ ha) hec, life_guard (htr ▸ ha) hec⟩

/-- **DOWN exactly once**: once a close cause has occurred (the peer's close was seen, `forceClose()` was accepted, the
server was destroyed) and the loops have run their queues, the connection has had exactly one UP and exactly one DOWN -/
theorem owner_down_once (c : Nat) (hc : c < (oreach L nameOf as).n) (hq : (oreach L nameOf as).quiet)
    (hcause : ((oreach L nameOf as).conn c).cause = true) :
    cntK c .up (oreach L nameOf as).trace = 1 ∧ cntK c .down (oreach L nameOf as).trace = 1 := by
  have hst := quiet_cause hq ((owner_inv L nameOf hinj as).conns c hc) hcause
  obtain ⟨_, _, _, _, h5, h6, _⟩ := owner_updown L nameOf hinj as c hc
  exact ⟨h5.mpr (by rw [hst]; decide), h6.mpr hst⟩

/-- **owner_affinity**: every callback of a connection (UP, message, DOWN, close callback) and its `connectDestroyed` run
on the loop the connection was assigned to; the map is touched (`newConnection`, `removeConnectionInLoop`) on the base
loop only; no `assertInLoopThread()` / `assert(n == 1)` fails and no functor runs on a destroyed server -/
theorem owner_affinity (e : Ev) (he : e ∈ (oreach L nameOf as).trace) :
    (e.kind = .up ∨ e.kind = .msg ∨ e.kind = .down ∨ e.kind = .closeCb ∨ e.kind = .destroyed →
      e.loop = ((oreach L nameOf as).conn e.conn).loop) ∧
    (e.kind = .new ∨ e.kind = .erase → e.loop = 0) ∧
    e.kind ≠ .abort ∧ e.kind ≠ .eraseMiss ∧ e.kind ≠ .uaf := by
  have hg := owner_inv L nameOf hinj as
  have haff := hg.rest.aff e he
  have hbad : e.kind ≠ .abort ∧ e.kind ≠ .eraseMiss ∧ e.kind ≠ .uaf := by
    by_cases hc : e.conn < (oreach L nameOf as).n
    · obtain ⟨er, ha, -⟩ := (hg.conns e.conn hc).core.life'
      obtain ⟨pre, post, hsplit⟩ := List.append_of_mem he
      exact ⟨life_guard (hsplit ▸ ha) rfl, life_guard (hsplit ▸ ha) rfl, life_guard (hsplit ▸ ha) rfl⟩
    · exact absurd rfl (no_event_of_life_init e.conn _ (hg.fresh e.conn (by omega)).2.1 e he)
  unfold AffOK at haff
  refine ⟨fun hk => ?_, fun hk => ?_, hbad⟩
  · rcases hk with h | h | h | h | h <;> rw [h] at haff <;> exact haff
  · rcases hk with h | h <;> rw [h] at haff <;> exact haff

/-- **round_robin**: the `i`-th accepted connection is served by io loop `i mod L` (index `i mod L + 1`), by the base loop
when there are no io loops -/
theorem round_robin (c : Nat) (hc : c < (oreach L nameOf as).n) :
    ((oreach L nameOf as).conn c).loop = if L = 0 then 0 else c % L + 1 := by
  have h := (owner_inv L nameOf hinj as).rest.assigned c hc
  rw [(owner_invC L nameOf hinj as).same.L] at h; exact h

/-- **owner_map**: the map holds exactly the connections that were accepted and not yet erased, as long as the server
exists; every key is the name of its connection; `erase` finds its entry (`assert(n == 1)` never fails), at most once per
connection and only after DOWN -/
theorem owner_map (c : Nat) :
    let s := oreach L nameOf as
    (s.inMap c = true ↔ c < s.n ∧ cntK c .erase s.trace = 0 ∧ s.alive = true) ∧
    cntK c .erase s.trace ≤ 1 ∧ cntK c .eraseMiss s.trace = 0 ∧
    (∀ e ∈ s.map, e.1 = nameOf (idInitial + e.2 * idStep)) ∧
    (∀ pre e post, s.trace = pre ++ e :: post → e.conn = c → e.kind = .erase → cntK c .down pre = 1 ∧ cntK c .erase pre = 0) := by
  intro s
  have hg : GInv s := owner_inv L nameOf hinj as
  have hN : s.nameOf = nameOf := (owner_invC L nameOf hinj as).same.nameOf
  have hkeys : ∀ e ∈ s.map, e.1 = nameOf (idInitial + e.2 * idStep) := by
    intro e he
    rw [hg.mapOK.keys e he, (hg.conns e.2 (hg.mapOK.lt e he)).core.name, hN]
  by_cases hc : c < s.n
  · obtain ⟨er, ha, her⟩ := (hg.conns c hc).core.life'
    have h4 := (Owner.life_counts _ _ ha).erase
    refine ⟨?_, by rw [h4]; exact Bool.toNat_le _, life_never ha fun _ => rfl, hkeys,
      fun pre e post htr hec => life_guard (htr ▸ ha) hec⟩
    rw [h4]
    cases hs : s.alive with
    | false => simp [Srv.inMap, hg.rest.mapDead hs]
    | true => rw [autoOf, her hs]; cases s.inMap c <;> simp [hc]
  · have hfr := hg.fresh c (by omega)
    have hno := no_event_of_life_init c _ hfr.2.1
    have hz : ∀ k, cntK c k s.trace = 0 := fun k => cntK_eq_zero fun e he hec _ => hno e he hec
    refine ⟨?_, by rw [hz]; omega, hz _, hkeys, ?_⟩
    · rw [inMap_ge s hg.mapOK c (by omega)]; simp [hc]
    · intro pre e post htr hec
      exact absurd hec (hno e (by rw [htr]; simp))

/-- **owner_destroy_clean**: a connection object is destroyed only in state `kDisconnected`, with its channel removed from
the poller, after DOWN and after `connectDestroyed`; the descriptor is open as long as the object lives and is closed by
the destructor, which runs at most once -/
theorem owner_destroy_clean (c : Nat) (hc : c < (oreach L nameOf as).n) :
    let s := oreach L nameOf as
    ((s.conn c).alive = false → (s.conn c).st = .kDisconnected ∧ (s.conn c).registered = false ∧ (s.conn c).fdOpen = false ∧
      cntK c .dtor s.trace = 1) ∧
    ((s.conn c).alive = true → (s.conn c).fdOpen = true ∧ cntK c .dtor s.trace = 0) ∧
    (∀ pre e post, s.trace = pre ++ e :: post → e.conn = c → e.kind = .dtor →
      cntK c .down pre = 1 ∧ cntK c .destroyed pre = 1 ∧ cntK c .dtor pre = 0) := by
  intro s
  have hg : GInv s := owner_inv L nameOf hinj as
  have hi := hg.conns c hc
  obtain ⟨er, ha, -⟩ := hi.core.life'
  have h6 := (Owner.life_counts _ _ ha).dtor
  refine ⟨fun hal => ?_, fun hal => ?_, fun pre e post htr hec => life_guard (htr ▸ ha) hec⟩
  · have hh : s.held c = false := by rw [← hi.alive_held]; exact hal
    obtain ⟨_, _, hst, hreg, _⟩ := row_of_not_held hi.core hh
    exact ⟨hst, hreg, by rw [hi.core.fd]; exact hal, by rw [h6, autoOf, hal]; rfl⟩
  · exact ⟨by rw [hi.core.fd]; exact hal, by rw [h6, autoOf, hal]; rfl⟩

/-- **owner_no_leak**: when every loop has run its queue, a close cause has occurred and user code holds no reference, the
connection object is destroyed (and, by `owner_destroy_clean`, its descriptor closed) -/
theorem owner_no_leak (c : Nat) (hc : c < (oreach L nameOf as).n) (hq : (oreach L nameOf as).quiet)
    (hcause : ((oreach L nameOf as).conn c).cause = true) (hu : ((oreach L nameOf as).conn c).user = 0) :
    ((oreach L nameOf as).conn c).alive = false ∧ ((oreach L nameOf as).conn c).fdOpen = false := by
  have hi := (owner_inv L nameOf hinj as).conns c hc
  rcases quiet_row hq hi.core with ⟨hup, -⟩ | ⟨-, -, him⟩
  · rw [quiet_cause hq hi hcause] at hup; cases hup
  · exact quiet_dead hq hi him hu

/-- **server_destruction**: once the `TcpServer` has been destroyed - on the base loop, while the io loops were running,
whatever was in flight (connections being established, closes on their way to the base loop, half-closed connections) -
and the loops have run their queues, every connection it ever accepted has had exactly one UP and exactly one DOWN, its
channel is removed, nothing ran on the destroyed server, and the object is destroyed unless user code still holds it -/
theorem server_destruction (hdead : (oreach L nameOf as).alive = false) (hq : (oreach L nameOf as).quiet)
    (c : Nat) (hc : c < (oreach L nameOf as).n) :
    let s := oreach L nameOf as
    cntK c .up s.trace = 1 ∧ cntK c .down s.trace = 1 ∧ cntK c .destroyed s.trace = 1 ∧ cntK c .uaf s.trace = 0 ∧
    (s.conn c).st = .kDisconnected ∧ (s.conn c).registered = false ∧
    ((s.conn c).user = 0 → (s.conn c).alive = false ∧ (s.conn c).fdOpen = false ∧ cntK c .dtor s.trace = 1) := by
  intro s
  have hi : CInv s c := (owner_inv L nameOf hinj as).conns c hc
  rcases quiet_row hq hi.core with ⟨-, -, -, hal⟩ | ⟨hst, hreg, him⟩
  · cases hal.symm.trans hdead
  obtain ⟨er, ha, -⟩ := hi.core.life'
  have hn := Owner.life_counts _ _ ha
  refine ⟨by rw [hn.up, autoOf, hst]; rfl, by rw [hn.down, autoOf, hst]; rfl, by rw [hn.destroyed, autoOf, hreg, hst]; rfl,
    life_never ha fun _ => rfl, hst, hreg, fun hu => ?_⟩
  obtain ⟨hal, hfd⟩ := quiet_dead hq hi him hu
  exact ⟨hal, hfd, by rw [hn.dtor, autoOf, hal]; rfl⟩

/-- **server_destruction, reached**: the code drains a loop's functor queue once more when the loop leaves `loop()`
(`Generated/Owner.lean: finalDrain`, read from `EventLoop::loop`; `server_destruction_needs_drain` is the negation witness
without it).  Hence: once the server is destroyed, every io loop has left `loop()` (the pool is joined at the end of
`~TcpServer`) and the base loop has run what was queued to it, nothing is left to do, and every connection has had its one
UP and one DOWN and is destroyed unless user code holds it -/
theorem server_destruction_drained (hdead : (oreach L nameOf as).alive = false)
    (hio : ∀ l, 1 ≤ l → l ≤ L → (oreach L nameOf as).exited l = true)
    (hbase : (oreach L nameOf as).q 0 = [] ∧ (oreach L nameOf as).done 0 = [])
    (c : Nat) (hc : c < (oreach L nameOf as).n) :
    let s := oreach L nameOf as
    s.quiet ∧
    cntK c .up s.trace = 1 ∧ cntK c .down s.trace = 1 ∧ cntK c .destroyed s.trace = 1 ∧ cntK c .uaf s.trace = 0 ∧
    (s.conn c).st = .kDisconnected ∧ (s.conn c).registered = false ∧
    ((s.conn c).user = 0 → (s.conn c).alive = false ∧ (s.conn c).fdOpen = false ∧ cntK c .dtor s.trace = 1) := by
  intro s
  have hx : XInv s := (owner_run_all L nameOf hinj as).2.x
  have hd : s.drain = true := (owner_invC L nameOf hinj as).same.drain.trans rfl
  have hL : s.L = L := (owner_invC L nameOf hinj as).same.L
  have hq : s.quiet := quiet_of_exited s hx hd (fun l h1 h2 => hio l h1 (hL ▸ h2)) hbase
  exact ⟨hq, server_destruction L nameOf hinj as hdead hq c hc⟩

end owner

/-- **the name buffer is large enough** (the premise of `Function.Injective nameOf` on the code's side): the longest
suffix `newConnection` formats, `-[xxxx:xxxx:xxxx:xxxx:xxxx:xxxx:xxxx:xxxx]:65535#2147483647` (1 + 47 + 1 + 10
characters), fits the buffer that `snprintf` is given, so the decimal id - which distinguishes the names, `nextConnId_`
growing by one per connection - is never cut off -/
theorem owner_name_buffer_fits : 1 + 47 + 1 + 10 ≤ nameLimit - 1 ∧ nameLimit ≤ nameBufSize ∧ idStep = 1 ∧ idInitial = 1 := by
  decide

/-- **negation witness for `owner_map` / `owner_destroy_clean` without distinct names** (what a too small name buffer or an
id that is not incremented causes): two connections with the same name - the second `connections_[connName] = conn`
overwrites the entry of the first, whose object is destroyed while it is connected and its channel registered -/
theorem owner_name_collision_witness :
    let s := oreach 1 (fun _ => 0) [.accept, .accept, .run 1, .endBatch 1]
    (s.conn 0).alive = false ∧ (s.conn 0).st = .kConnected ∧ (s.conn 0).registered = true ∧ cntK 0 .down s.trace = 0 := by
  decide

/-- **negation witness for a final drain that runs only once** (the defect F29, repaired: `init` takes `drainRepeats`
from the source, `do { doPendingFunctors(); } while (queueSize() > 0)`): one loop serves the connection;
`forceCloseInLoop` runs in the drain at the exit of `loop()`, the `connectDestroyed` it causes is queued behind that drain
and is destroyed with the `EventLoop` object without having run: the schedule violates `GoodSched` and the connection is
destroyed with its channel still registered.  With the repeated drain the same schedule is fine. -/
theorem owner_stranded_witness :
    let as : List Action := [.accept, .forceClose 0 1, .exit 0, .destroy, .loopGone 0]
    let bad := Owner.run { Owner.init 0 id with drainRepeats := false } as
    let good := oreach 0 id as
    ¬ GoodSched { Owner.init 0 id with drainRepeats := false } as ∧
    ((bad.conn 0).alive = false ∧ (bad.conn 0).registered = true ∧ cntK 0 .destroyed bad.trace = 0) ∧
    (GoodSched (Owner.init 0 id) as ∧ (good.conn 0).alive = false ∧ (good.conn 0).registered = false ∧
      cntK 0 .down good.trace = 1 ∧ cntK 0 .destroyed good.trace = 1) := by
  refine ⟨?_, by decide, goodSched_of_goodB _ _ (by decide), by decide, by decide, by decide, by decide⟩
  intro h
  have := h.2.2.2.2.1 0 rfl (by decide) (.des 0) (by decide) 0
  exact this.2 rfl

/-- **negation witness for `server_destruction` without the final drain** (the defect F10, repaired: `init` takes `drain`
from the source): the server is destroyed while the io loop is between two functors; the loop leaves `loop()` without
running the `connectDestroyed` that `~TcpServer` queued; the functor dies with the `EventLoop`: the connection never gets
its DOWN and is destroyed connected, its channel registered. With the drain the same schedule ends with exactly one DOWN
and a clean destruction. -/
theorem server_destruction_needs_drain :
    let as : List Action := [.accept, .run 1, .endBatch 1, .destroy, .exit 1, .loopGone 1]
    let bad := Owner.run { Owner.init 1 id with drain := false } as
    let good := Owner.run { Owner.init 1 id with drain := true } as
    (cntK 0 .down bad.trace = 0 ∧ (bad.conn 0).alive = false ∧ (bad.conn 0).st = .kConnected ∧ (bad.conn 0).registered = true) ∧
    (cntK 0 .up good.trace = 1 ∧ cntK 0 .down good.trace = 1 ∧ (good.conn 0).alive = false ∧ (good.conn 0).st = .kDisconnected ∧
      (good.conn 0).registered = false ∧ cntK 0 .dtor good.trace = 1) := by
  decide

/-- non-vacuity: two io loops, three connections (peer close, `forceClose()` from another thread with a user reference
held across it, server destroyed inside the base loop while the third is up and the first one's
`removeConnectionIfAlive` is still on its way), a schedule that satisfies `GoodSched` and ends quiet -/
theorem owner_example :
    let as : List Action := [.accept, .accept, .accept, .run 1, .run 2, .run 1, .endBatch 1, .endBatch 2, .msg 0, .hold 1,
      .forceClose 1 3, .run 2, .endBatch 2, .postDestroy, .close 0, .run 0, .run 0, .run 0, .endBatch 0, .exit 1, .loopGone 1,
      .exit 2, .loopGone 2, .drop 1 3, .exit 0, .loopGone 0]
    let s := Owner.run (Owner.init 2 id) as
    GoodSched (Owner.init 2 id) as ∧ Function.Injective (id : Nat → Nat) ∧ s.n = 3 ∧ s.alive = false ∧
    (∀ l, l < 4 → s.q l = [] ∧ s.done l = []) ∧
    (∀ c, c < 3 → (s.conn c).alive = false ∧ cntK c .up s.trace = 1 ∧ cntK c .down s.trace = 1) ∧
    s.trace.map (fun e => (e.conn, e.kind, e.loop)) =
      [(0, .new, 0), (1, .new, 0), (2, .new, 0), (0, .up, 1), (1, .up, 2), (2, .up, 1), (0, .msg, 1),
       (1, .down, 2), (1, .closeCb, 2), (0, .down, 1), (0, .closeCb, 1), (1, .erase, 0), (0, .destroyed, 1), (2, .down, 1),
       (2, .destroyed, 1), (0, .dtor, 1), (2, .dtor, 1), (1, .destroyed, 2), (1, .dtor, 3)] := by
  refine ⟨?_, fun _ _ h => h, by decide, by decide, by decide, by decide, ?_⟩
  · exact goodSched_of_goodB _ _ (by decide)
  · decide

/-- T1, `~Socket` closes the descriptor exactly once.  `Conn.maybeDestroy` emits ONE `.sysClose` when the last reference to
a connection goes away (`close_once`, `no_leak`, `destroy_clean` count that event); in /repo's current sources
(`Generated/SysSkel.lean`, re-extracted on every run; `Proofs/SysSkelTie.lean`) `Socket::Socket` only stores the
descriptor it is given, `Socket::~Socket` is one call of `sockets::close(sockfd_)` and nothing else, and
`sockets::close` is one `::close` of that descriptor whose failure is only logged - no second `close`, no other system
call on the way. -/
theorem socket_dtor_closes_once :
    Gen.SysSkel.socketCtor = [.act (.store "sockfd_" "sockfd")] ∧
    Gen.SysSkel.socketFd = [.act (.ret "sockfd_")] ∧
    Gen.SysSkel.socketDtor = [.act (.call "sockets::close" "sockfd_")] ∧
    Gen.SysSkel.socketsClose =
      [.act (.sys "close" "sockfd"), .ite "<result> < 0" [.act (.log .syserr)] []] :=
  ⟨SysSkel.skeleton_socketCtor, SysSkel.skeleton_socketFd, SysSkel.skeleton_socketDtor, SysSkel.skeleton_socketsClose⟩

/-- T1, the statement order of every function of `TcpServer.cc` is the one the steps of `Model/Owner.lean` assume
(`Model/OwnerSkelDecl.lean`; re-extracted from /repo on every run into `Generated/OwnerSkel.lean`, proved in
`Proofs/OwnerSkelTie.lean`), and what the order is needed for: **`handover_is_last`** - in `newConnection` the hand-over
`ioLoop->runInLoop(connectEstablished)` is the only hand-off, all four callbacks (the close callback among them) are
installed on the connection before it and no action of the acceptor thread on the connection follows it (so `Owner.accept`
may be one atomic step: the io loop can run `connectEstablished`, see the peer's FIN and call `closeCallback_` before the
acceptor thread executes another instruction); the map entry exists before the hand-over (that the connection was created
with that very `ioLoop`: `OwnerSkel.insert_precedes_handover`); `removeConnectionInLoop` erases before it queues
`connectDestroyed`; `~TcpServer` lets the life token expire first (each entry is reset before its hand-off:
`OwnerSkel.token_expires_first`); `start()` starts the pool before the acceptor listens. -/
theorem server_statement_order_tied :
    (Gen.OwnerSkel.ctor = OwnerSkel.Decl.ctor ∧
     Gen.OwnerSkel.dtor = OwnerSkel.Decl.dtor ∧
     Gen.OwnerSkel.setThreadNum = OwnerSkel.Decl.setThreadNum ∧
     Gen.OwnerSkel.start = OwnerSkel.Decl.start ∧
     Gen.OwnerSkel.newConnection = OwnerSkel.Decl.newConnection ∧
     Gen.OwnerSkel.removeConnection = OwnerSkel.Decl.removeConnection ∧
     Gen.OwnerSkel.removeConnectionGuarded = OwnerSkel.Decl.removeConnectionGuarded ∧
     Gen.OwnerSkel.removeConnectionIfAlive = OwnerSkel.Decl.removeConnectionIfAlive ∧
     Gen.OwnerSkel.removeConnectionInLoop = OwnerSkel.Decl.removeConnectionInLoop) ∧
    OwnerSkel.HandoverLast "conn" "TcpConnection::connectEstablished(conn)"
      ["setConnectionCallback", "setMessageCallback", "setWriteCompleteCallback", "setCloseCallback"]
      Gen.OwnerSkel.newConnection ∧
    OwnerSkel.Precedes (.mapInsert "connName" "conn") OwnerSkel.Act.isHandoff (OwnerSkel.flatten Gen.OwnerSkel.newConnection) ∧
    OwnerSkel.Precedes (.mapErase "conn.name()") OwnerSkel.Act.isHandoff (OwnerSkel.flatten Gen.OwnerSkel.removeConnectionInLoop) ∧
    OwnerSkel.Precedes (.on "alive_" "reset" "")
      (fun a => a.isHandoff || a.touches "conn" || a.touches "item.second") (OwnerSkel.flatten Gen.OwnerSkel.dtor) ∧
    OwnerSkel.Precedes (.on "threadPool_" "start" "threadInitCallback_") OwnerSkel.Act.isHandoff
      (OwnerSkel.flatten Gen.OwnerSkel.start) :=
  ⟨OwnerSkel.skeletons_agree, OwnerSkel.handover_is_last, OwnerSkel.insert_precedes_handover.1,
   OwnerSkel.erase_precedes_destroy.1, OwnerSkel.token_expires_first.1, OwnerSkel.pool_before_listen⟩

end MuduoVerif.C02
