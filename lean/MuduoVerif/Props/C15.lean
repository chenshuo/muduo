import MuduoVerif.Proofs.TPool
import MuduoVerif.Proofs.ThreadSkelTie
/-!
# C15 — ThreadPool runs each accepted task once, applies back-pressure, always stops

All statements are about every state reachable in the transition system of `Model/TPool.lean` (`pstep`):
any number of worker threads `n ≥ 0`, any number of callers with any programs of `run`/`stop`/`open`, any
`maxQueueSize`, every interleaving of lock acquisitions, critical sections, unlocked reads of `running_`,
task executions, joins and spurious wake-ups, every choice `notify` makes.  The system interprets the
statement skeletons and guards extracted from /repo's `ThreadPool.cc` (`Generated/Monitor.lean`);
`Proofs/TPoolTie.lean` pins them to the skeleton the proofs are about.

Tasks may depend on one another: task ids of kind `waits` block inside `task()` until the *gate* is open, ids of
kind `opens` (and the caller operation `open`) open it (`Model/TPool.lean`, `TKind`).  A program of that shape
can park workers for good, so the two "nobody is left behind" theorems name exactly who may be left:
workers inside a waiting task while the gate is closed (and a `stop()` joining such a worker).  With plain
tasks only, or once the gate is open, they are the unconditional statements (`…_plain`).

Ghost vocabulary: a task is `(serial, id)` with `serial` = its rank among the accepted tasks;
`acceptedOf`/`tookOf`/`execOf` = the tasks pushed by `run()` / popped by `take()` / started by a worker,
in the order of these events.
-/
namespace MuduoVerif.C15
open MuduoVerif.Monitor

variable {n maxq : Nat} {kind : Nat → TKind} {prog : Nat → List POp} {sched : List Nat} {s : PState}

/-- no task is started twice -/
theorem at_most_once (hr : PReach (pinit n maxq kind prog sched) s) : (execOf s.log).Nodup :=
  (pinv_reach hr).tasks.execNodup

/-- accepted tasks are pairwise different objects (their serial numbers are 0, 1, 2, …), so
`at_most_once` is about task instances, not about ids -/
theorem accepted_distinct (hr : PReach (pinit n maxq kind prog sched) s) :
    (acceptedOf s.log).map (·.1) = List.range s.nacc :=
  (pinv_reach hr).tasks.serial

/-- tasks are taken up in the order they were accepted: what `take()` removed so far, followed by what
is still queued, is the list of accepted tasks -/
theorem fifo_takeup (hr : PReach (pinit n maxq kind prog sched) s) : tookOf s.log ++ s.q = acceptedOf s.log :=
  (pinv_reach hr).tasks.fifo

/-- only accepted tasks are started, and only after `take()` handed them out -/
theorem started_were_taken (hr : PReach (pinit n maxq kind prog sched) s) (x : Task) (hx : x ∈ execOf s.log) :
    x ∈ tookOf s.log ∧ x ∈ acceptedOf s.log := by
  have h := pinv_reach hr
  have h1 := (h.tasks.execTook x hx).1
  exact ⟨h1, by rw [← h.tasks.fifo]; exact List.mem_append_left _ h1⟩

/-- with a maximum queue size the queue never exceeds it -/
theorem bounded (hr : PReach (pinit n maxq kind prog sched) s) (hm : 0 < maxq) : s.q.length ≤ maxq := by
  have h := pinv_reach hr
  have : s.maxq = maxq := h.maxqc
  rw [← this]; exact h.mon.bnd (by rw [this]; exact hm)

/-- tasks are executed on pool threads — by the caller itself exactly when the pool has no threads -/
theorem on_pool_thread (hr : PReach (pinit n maxq kind prog sched) s) :
    (∀ w x, PEv.exec w x ∈ s.log → 1 ≤ w ∧ w ≤ n) ∧ (∀ t id, PEv.inl t id ∈ s.log → n = 0) := by
  have h := pinv_reach hr
  have hn : s.n = n := h.nc
  constructor
  · intro w x hx; have := h.threads.place _ hx; rw [hn] at this; exact this
  · intro t id hx; have := h.threads.place _ hx; rw [hn] at this; exact this

/-- no wake-up of a worker is lost: while the pool runs and a worker waits unsignalled, there are at
least as many signalled workers on their way as there are queued tasks -/
theorem no_lost_signal (hr : PReach (pinit n maxq kind prog sched) s) (hrun : s.running = true) (hW : s.ne.W ≠ []) :
    s.q.length ≤ s.ne.S.length :=
  (pinv_reach hr).mon.sigE hrun hW

/-- no wake-up of a producer is lost: while the pool runs and a producer waits unsignalled on the full queue, there
are at least as many signalled producers on their way as there are free places -/
theorem no_lost_signal_producer (hr : PReach (pinit n maxq kind prog sched) s) (hrun : s.running = true) (hm : 0 < s.maxq)
    (hW : s.nf.W ≠ []) : s.maxq - s.q.length ≤ s.nf.S.length :=
  (pinv_reach hr).mon.sigF hrun hm hW

/-- no worker is inside a waiting task: the case when every task is plain or opens the gate, and the case of a
state in which nobody can move while the gate is open -/
theorem no_gated (hr : PReach (pinit n maxq kind prog sched) s)
    (hg : (∀ id, kind id ≠ .waits) ∨ (PBlocked s ∧ s.gate = true)) (w : Nat) (x : Task) : s.pc w ≠ .wGate x := by
  intro hw
  rcases hg with hk | ⟨hb, hg⟩
  · have h := pinv_reach hr
    have := h.gated w x hw
    rw [h.kindc] at this
    exact hk _ this
  · exact body_wGate hw hg (hb w).2

/-- exactly once unless stopped: in every reachable state in which no thread can take a step, every
accepted task has been started (once, by `at_most_once`), or it is still queued and either `stop()` has cleared
the flag while it was queued, or **every** pool thread is inside a task that waits for the closed gate — as long
as one worker is free, a queued task is taken up (a task may rely on a task accepted after it) -/
theorem exactly_once_unless_stopped (hr : PReach (pinit n maxq kind prog sched) s) (hb : PBlocked s) (x : Task)
    (hx : x ∈ acceptedOf s.log) :
    x ∈ execOf s.log ∨ (x ∈ s.q ∧ (s.running = false ∨
      (s.gate = false ∧ ∀ w, 1 ≤ w → w ≤ n → ∃ y, s.pc w = .wGate y))) := by
  have h := pinv_reach hr
  rw [← h.tasks.fifo, List.mem_append] at hx
  rcases hx with hx | hx
  · rcases h.tasks.tookDone x hx with h1 | ⟨w, hw⟩
    · exact Or.inl h1
    · exact absurd (hb w).2 (body_wExec hw)
  · right
    refine ⟨hx, ?_⟩
    cases hrun : s.running with
    | false => exact Or.inl rfl
    | true =>
      right
      have hsn : s.n = n := h.nc
      have hn : s.n ≠ 0 := by
        intro h0; have := h.noq h0; rw [this] at hx; cases hx
      -- a stuck worker has left its loop (flag off), is parked in `take()` (`sigE` with `S = []`: no queue) or is at the gate
      have key : ∀ w, 1 ≤ w → w ≤ n → (∃ y, s.pc w = .wGate y) ∧ s.gate = false := by
        intro w hw1 hw2
        rcases p_blocked_worker h hb (w := w) ⟨hw1, by omega⟩ with h1 | ⟨_, h1⟩ | h1
        · have := h.threads.doneOff w h1; rw [hrun] at this; cases this
        · exfalso
          have := h.mon.sigE hrun (List.ne_nil_of_mem h1)
          rw [(p_blocked_S h hb).1] at this
          have hq : s.q = [] := List.eq_nil_of_length_eq_zero (by simpa using this)
          rw [hq] at hx; cases hx
        · exact h1
      exact ⟨(key 1 (Nat.le_refl 1) (by omega)).2, fun w hw1 hw2 => (key w hw1 hw2).1⟩

/-- `exactly_once_unless_stopped` for plain tasks, and whenever the gate is open: every accepted task has been
started, or `stop()` has cleared the flag while it was still queued -/
theorem exactly_once_unless_stopped_plain (hr : PReach (pinit n maxq kind prog sched) s) (hb : PBlocked s)
    (hg : (∀ id, kind id ≠ .waits) ∨ s.gate = true) (x : Task) (hx : x ∈ acceptedOf s.log) :
    x ∈ execOf s.log ∨ (x ∈ s.q ∧ s.running = false) := by
  rcases exactly_once_unless_stopped hr hb x hx with h1 | ⟨h1, h2 | ⟨_, h2⟩⟩
  · exact Or.inl h1
  · exact Or.inr ⟨h1, h2⟩
  · exfalso
    have h := pinv_reach hr
    have hsn : s.n = n := h.nc
    have hn : n ≠ 0 := by
      intro h0; have := h.noq (by rw [hsn]; exact h0); rw [this] at h1; cases h1
    obtain ⟨y, hy⟩ := h2 1 (Nat.le_refl 1) (by omega)
    exact no_gated hr (hg.imp id fun g => ⟨hb, g⟩) 1 y hy

/-- `stop()` returns for every interleaving: once `stop()` has cleared the flag there is no reachable
state in which somebody is left parked — idle workers, busy workers, producers blocked on a full queue and
the thread inside `stop()` itself all run to completion; the only threads that can be left are a worker inside
a task that waits for the closed gate, and the thread whose `stop()` is joining that worker -/
theorem stop_returns (hr : PReach (pinit n maxq kind prog sched) s) (hb : PBlocked s) (hstop : s.running = false) (t : Nat) :
    s.finished t ∨ ((∃ x, s.pc t = .wGate x) ∧ s.gate = false) ∨
      (∃ i x, s.pc t = .stopJoin i ∧ s.pc (i + 1) = .wGate x ∧ s.gate = false) := by
  have h := pinv_reach hr
  have hown := p_blocked_owner h hb
  -- the flag is off and nobody holds the mutex: nobody waits unsignalled, so whoever stands at a lock statement can take it
  have hW : s.ne.W = [] ∧ s.nf.W = [] := by
    rcases h.mon.stopped hstop with h1 | ⟨u, hu, _⟩
    · exact h1
    · rw [hown] at hu; cases hu
  have hnE : t ∉ s.ne.W := by rw [hW.1]; exact List.not_mem_nil
  have hnF : t ∉ s.nf.W := by rw [hW.2]; exact List.not_mem_nil
  unfold PState.finished
  cases hpc : s.pc t with
  | wDone => exact Or.inl (Or.inl rfl)
  | wTest => exact absurd (hb t).2 (body_wTest hpc)
  | wExec x => exact absurd (hb t).2 (body_wExec hpc)
  | wGate x =>
    right; left
    refine ⟨⟨x, rfl⟩, ?_⟩
    cases hg : s.gate with
    | false => rfl
    | true => exact absurd (hb t).2 (body_wGate hpc hg)
  | wTake => exact absurd (hb t).1 (acq_enabled hown (by simp [PState.needsLock, hpc]) hnE hnF)
  | stopNotify => have := h.mon.ownStop t hpc; rw [hown] at this; cases this
  | stopJoin i =>
    obtain ⟨_, hi, _⟩ := h.threads.join t i hpc
    rcases p_blocked_worker h hb (w := i + 1) ⟨by omega, by omega⟩ with h1 | ⟨_, h1⟩ | ⟨⟨x, h1⟩, h2⟩
    · exfalso
      have := (hb t).2
      simp [pstep, hpc, h1] at this
    · rw [hW.1] at h1; cases h1
    · exact Or.inr (Or.inr ⟨i, x, rfl, h1, h2⟩)
  | idle =>
    left; right
    refine ⟨rfl, ?_⟩
    cases hp : s.prog t with
    | nil => rfl
    | cons op rest =>
      exfalso
      cases op with
      | stop => exact (acq_enabled hown (by simp [PState.needsLock, hpc, hp]) hnE hnF) (hb t).1
      | «open» =>
        have := (hb t).2
        simp [pstep, hpc, hp] at this
      | run id =>
        by_cases hin : s.inline = true
        · have := (hb t).2
          simp [pstep, hpc, hp, hin] at this
        · exact (acq_enabled hown (by simp [PState.needsLock, hpc, hp, hin]) hnE hnF) (hb t).1

/-- `stop_returns` for plain tasks, and whenever the gate is open: nobody at all is left parked -/
theorem stop_returns_plain (hr : PReach (pinit n maxq kind prog sched) s) (hb : PBlocked s) (hstop : s.running = false)
    (hg : (∀ id, kind id ≠ .waits) ∨ s.gate = true) (t : Nat) : s.finished t := by
  have hng := no_gated hr (hg.imp id fun g => ⟨hb, g⟩)
  rcases stop_returns hr hb hstop t with h1 | ⟨⟨x, h1⟩, _⟩ | ⟨i, x, _, h1, _⟩
  · exact h1
  · exact absurd h1 (hng t x)
  · exact absurd h1 (hng (i + 1) x)

/-- after `stop()` has returned on a pool that has threads, no step starts a task and no `run()`
enqueues or executes anything -/
theorem quiet_after_stop (hr : PReach (pinit n maxq kind prog sched) s) (hn : 0 < n) (hret : ∃ t, PEv.stopRet t ∈ s.log)
    {a : Act} {s' : PState} (hs : pstep s a = some s') :
    execOf s'.log = execOf s.log ∧ acceptedOf s'.log = acceptedOf s.log ∧ ∀ t id, PEv.inl t id ∉ s'.log := by
  have h := pinv_reach hr
  have hsn : s.n = n := h.nc
  obtain ⟨hoff, hdone⟩ := h.threads.quiet hret (by rw [hsn]; exact hn)
  have hr' : PReach (pinit n maxq kind prog sched) s' := .step a hr hs
  have hinl : ∀ t id, PEv.inl t id ∉ s'.log := by
    intro t id hx
    have := (on_pool_thread hr').2 t id hx
    omega
  -- no worker is left to take or start a task and the flag is off: what the step logs concerns no task
  rcases (pstep_sound hs).log_plain with ⟨evs, e, ha, he⟩ | ⟨t, hw⟩ | hrun
  · exact ⟨e ▸ ghost_nil he _, e ▸ ghost_nil ha _, hinl⟩
  · have hwk : isWorkerPc (s.pc t) = true := by rcases hw with h | ⟨x, h⟩ <;> rw [h] <;> rfl
    have := hdone t ((h.threads.workers t).mp hwk).1 ((h.threads.workers t).mp hwk).2
    rcases hw with h' | ⟨x, h'⟩ <;> rw [h'] at this <;> cases this
  · rw [hoff] at hrun; cases hrun

/-! ### the hypotheses are satisfiable -/

/-- a run in which back-pressure, execution, a task dropped by `stop()` and the join all occur; its final
state satisfies the hypotheses of `exactly_once_unless_stopped`, `stop_returns` and `quiet_after_stop` -/
example : ∃ s, PReach (pinit 1 1 (fun _ => .plain) demoPool []) s ∧ PBlocked s ∧ s.running = false ∧
    execOf s.log = [(0, 7)] ∧ acceptedOf s.log = [(0, 7), (1, 8)] ∧ s.q = [(1, 8)] ∧ (∃ t, PEv.stopRet t ∈ s.log) := by
  have h : ((runP (pinit 1 1 (fun _ => .plain) demoPool []) demoPoolActs).map fun s =>
      (s.pc 1, s.pc 2, s.prog 2, s.running)) = some (.wDone, .idle, [], false) := by decide +kernel
  have h' : ((runP (pinit 1 1 (fun _ => .plain) demoPool []) demoPoolActs).map fun s =>
      (execOf s.log, acceptedOf s.log, s.q, decide (PEv.stopRet 2 ∈ s.log))) =
      some ([(0, 7)], [(0, 7), (1, 8)], [(1, 8)], true) := by decide +kernel
  cases hr : runP (pinit 1 1 (fun _ => .plain) demoPool []) demoPoolActs with
  | none => rw [hr] at h; cases h
  | some s =>
    rw [hr] at h h'
    simp only [Option.map_some, Option.some.injEq, Prod.mk.injEq, decide_eq_true_eq] at h h'
    obtain ⟨h1, h2, h3, h4⟩ := h
    obtain ⟨h5, h6, h7, h8⟩ := h'
    have hreach := runP_reach hr
    refine ⟨s, hreach, blocked_of_finished ?_, h4, h5, h6, h7, ⟨2, h8⟩⟩
    intro t
    by_cases ht1 : t = 1
    · subst ht1; exact Or.inl h1
    · by_cases ht2 : t = 2
      · subst ht2; exact Or.inr ⟨h2, h3⟩
      · refine finished_reach hreach (Or.inr ⟨?_, ?_⟩)
        · simp [pinit]; omega
        · have : demoPool t = [] := by
            unfold demoPool; split
            · exact absurd rfl ht2
            · rfl
          simp [pinit, this]

/-- a run with dependent tasks: task 7 makes worker 1 wait at the gate, task 8 — accepted later, taken up by the
free worker 2 — opens it; both complete, then the pool is stopped and everybody finishes (the hypotheses of
`stop_returns_plain` with the gate open) -/
example : ∃ s, PReach (pinit 2 0 demoDepKind demoDep []) s ∧ PBlocked s ∧ s.running = false ∧ s.gate = true ∧
    execOf s.log = [(0, 7), (1, 8)] ∧ PEv.pass 1 (0, 7) ∈ s.log := by
  have h : ((runP (pinit 2 0 demoDepKind demoDep []) demoDepActs).map fun s =>
      (s.pc 1, s.pc 2, s.pc 3, s.prog 3)) = some (.wDone, .wDone, .idle, []) := by decide +kernel
  have h'' : ((runP (pinit 2 0 demoDepKind demoDep []) demoDepActs).map fun s =>
      (s.running, s.gate)) = some (false, true) := by decide +kernel
  have h' : ((runP (pinit 2 0 demoDepKind demoDep []) demoDepActs).map fun s =>
      (execOf s.log, decide (PEv.pass 1 (0, 7) ∈ s.log))) = some ([(0, 7), (1, 8)], true) := by decide +kernel
  cases hr : runP (pinit 2 0 demoDepKind demoDep []) demoDepActs with
  | none => rw [hr] at h; cases h
  | some s =>
    rw [hr] at h h' h''
    simp only [Option.map_some, Option.some.injEq, Prod.mk.injEq, decide_eq_true_eq] at h h' h''
    obtain ⟨h1, h2, h3, h4⟩ := h
    obtain ⟨h5, h6⟩ := h''
    obtain ⟨h7, h8⟩ := h'
    have hreach := runP_reach hr
    refine ⟨s, hreach, blocked_of_finished ?_, h5, h6, h7, h8⟩
    intro t
    by_cases ht1 : t = 1
    · subst ht1; exact Or.inl h1
    · by_cases ht2 : t = 2
      · subst ht2; exact Or.inl h2
      · by_cases ht3 : t = 3
        · subst ht3; exact Or.inr ⟨h3, h4⟩
        · refine finished_reach hreach (Or.inr ⟨?_, ?_⟩)
          · simp [pinit]; omega
          · have : demoDep t = [] := by
              unfold demoDep; split
              · exact absurd rfl ht3
              · rfl
            simp [pinit, this]

end MuduoVerif.C15

namespace MuduoVerif.C15

/-- **primitives_tied**: what `Model/TPool.lean` takes as atomic - the mutex and the two conditions of the pool
(`MutexLockGuard`, `Condition::wait / notify / notifyAll`), a worker thread that exists and runs `runInThread` once
`threads_[i]->start()` has returned, and `threads_[i]->join()` that returns once that function has returned
(`stopJoin i`) - is what `Mutex.h`, `Condition.h` and `Thread.cc` ask pthread for: `lock` = `pthread_mutex_lock` then
the holder, `wait` = clear the holder; `pthread_cond_wait`; assign the holder, `start` = `started_ = true`; a fresh
`ThreadData`; `pthread_create(.., &startThread, data)`; `latch_.wait()`, the new thread counts the latch down BEFORE it
calls the user's function, `join` = `joined_ = true`; `pthread_join` (statement skeletons re-extracted from /repo on
every run, `Generated/ThreadSkel.lean`, equal to `Model/ThreadSkelDecl.lean`) -/
theorem primitives_tied :
    (Gen.ThreadSkel.mutexLock = ThreadSkel.Decl.mutexLock ∧
     Gen.ThreadSkel.mutexUnlock = ThreadSkel.Decl.mutexUnlock ∧
     Gen.ThreadSkel.lockGuardCtor = ThreadSkel.Decl.lockGuardCtor ∧
     Gen.ThreadSkel.lockGuardDtor = ThreadSkel.Decl.lockGuardDtor ∧
     Gen.ThreadSkel.assertLocked = ThreadSkel.Decl.assertLocked ∧
     Gen.ThreadSkel.isLockedByThisThread = ThreadSkel.Decl.isLockedByThisThread) ∧
    (Gen.ThreadSkel.condWait = ThreadSkel.Decl.condWait ∧
     Gen.ThreadSkel.condNotify = ThreadSkel.Decl.condNotify ∧
     Gen.ThreadSkel.condNotifyAll = ThreadSkel.Decl.condNotifyAll ∧
     Gen.ThreadSkel.unassignGuardCtor = ThreadSkel.Decl.unassignGuardCtor ∧
     Gen.ThreadSkel.unassignGuardDtor = ThreadSkel.Decl.unassignGuardDtor) ∧
    (Gen.ThreadSkel.threadCtor = ThreadSkel.Decl.threadCtor ∧
     Gen.ThreadSkel.threadStart = ThreadSkel.Decl.threadStart ∧
     Gen.ThreadSkel.startThread = ThreadSkel.Decl.startThread ∧
     Gen.ThreadSkel.runInThread = ThreadSkel.Decl.runInThread ∧
     Gen.ThreadSkel.threadJoin = ThreadSkel.Decl.threadJoin ∧
     Gen.ThreadSkel.threadDtor = ThreadSkel.Decl.threadDtor) :=
  ⟨⟨ThreadSkel.skeleton_mutexLock, ThreadSkel.skeleton_mutexUnlock, ThreadSkel.skeleton_lockGuardCtor,
    ThreadSkel.skeleton_lockGuardDtor, ThreadSkel.skeleton_assertLocked, ThreadSkel.skeleton_isLockedByThisThread⟩,
   ⟨ThreadSkel.skeleton_condWait, ThreadSkel.skeleton_condNotify, ThreadSkel.skeleton_condNotifyAll,
    ThreadSkel.skeleton_unassignGuardCtor, ThreadSkel.skeleton_unassignGuardDtor⟩,
   ⟨ThreadSkel.skeleton_threadCtor, ThreadSkel.skeleton_threadStart, ThreadSkel.skeleton_startThread,
    ThreadSkel.skeleton_runInThread, ThreadSkel.skeleton_threadJoin, ThreadSkel.skeleton_threadDtor⟩⟩

end MuduoVerif.C15
