import MuduoVerif.Proofs.TimerProps
import MuduoVerif.Proofs.TimerSkelTie
import MuduoVerif.Proofs.LoopSkelTie
/-!
# C06 — timers never early, as often as scheduled, in deadline order, none lost

Every theorem that mentions `run ins` holds for **every** input list `ins` of the timer-engine model
(`Model/Timer.lean`): adds from the loop thread (`In.add .loop`), from timer callbacks
(`In.script` … `Act.add`, nested to any depth), from foreign threads (joined: `In.add .foreign`; split at the hand-over:
`In.addAlloc` / `In.addFinish`), cancels from all three places (incl. self-cancel, same-batch cancel, stale and default
ids), every clock reading (`In.now`) and every allocation address (`In.addr`) chosen by the environment, the timerfd
firing whenever the environment decides (`In.expire`), loop iterations (`In.iter`); unbounded length.

A callback run is recorded in the trace as `Ev.run`; `runRecs` projects the trace to the records
`RunRec = (name, seq, k, addr, rep, first, delta, exp, now)` (newest first): the timer `seq` living at `addr`, created with
the deadline `first`, repeat flag `rep` and interval `delta` (µs), runs for the `k`-th time, queued under the deadline
`exp`, in a batch fired with the clock reading `now`.
-/
namespace MuduoVerif.C06
open MuduoVerif.Timer MuduoVerif.Gen.Timer

/-- `resetTimerfd(when)`: the timerfd is armed for the deadline, but never sooner than 100 us after the clock
reading it makes, and it is armed (not readable) afterwards. -/
theorem arm_value (s : TQ) (w : Time) :
    (armFd s w).alarm = some (max w ((readNow s).1 + 100)) ∧ (armFd s w).readable = false
    ∧ (armFd s w).armedAt = (readNow s).1 := by
  exact ⟨armFd_alarm s w, rfl, rfl⟩

/-- the value handed to `timerfd_settime` carries exactly `max (when - now) 100` microseconds -/
theorem arm_timespec (w n : Int) :
    (howMuchTimeFromNow w n).1 * 1000000 + (howMuchTimeFromNow w n).2 / 1000 = max (w - n) 100 := by
  rw [(timespec_exact w n).1, howMuchUs_eq]

/-- **never_early**: every callback run, in every history, happens in a batch whose clock reading has reached the
deadline the timer was queued under (`exp ≤ now`); that deadline is, for the first run, the one the timer was created
with, and for the k-th run of a repeating timer at least the first deadline plus k-1 intervals. -/
theorem never_early (ins : List In) (name seq k : Nat) (addr : Addr) (rep : Bool) (first : Time) (delta : Int)
    (exp now clock : Time) (h : Ev.run name seq k addr rep first delta exp now clock ∈ (run ins).trace) :
    exp ≤ now ∧ 1 ≤ k ∧ first + ((k : Int) - 1) * delta ≤ exp ∧ (k = 1 → exp = first) := by
  obtain ⟨h1, h2, h3, _, h5⟩ := (run_gh ins).ev_ok _ (mem_runRecs h rfl)
  exact ⟨h2, h1, h3, h5⟩

/-- the cell `new Timer` fills in: it starts with `exp = first` (the deadline it is created with; its value: `delay_deadline`),
no restarts, the name it was registered under and the sequence number `s_numCreated_ + 1` -/
theorem created_deadline (s : TQ) (name : Nat) (m : Mode) :
    (∃ s', allocTimer s name m = (none, s')) ∨
    ∃ s1 a c, allocTimer s name m = (some a, allocCell s1 a c) ∧ c.exp = c.first ∧ c.runs = 0 ∧ c.name = name ∧
      c.seq = s1.numCreated + 1 := by
  rcases allocTimer_spec s name m with ⟨s', h, _⟩ | ⟨s1, a, c, _, hn, h3, h4⟩
  · exact Or.inl ⟨s', h⟩
  · exact Or.inr ⟨s1, a, c, h4, hn.exp, hn.runs, h3, hn.seq⟩

/-- all runs of one timer (one sequence number) carry the same name, address, repeat flag, first deadline and interval -/
theorem same_timer (ins : List In) (r r' : RunRec) (hr : r ∈ runRecs (run ins).trace) (hr' : r' ∈ runRecs (run ins).trace)
    (hs : r.seq = r'.seq) :
    r.name = r'.name ∧ r.addr = r'.addr ∧ r.rep = r'.rep ∧ r.first = r'.first ∧ r.delta = r'.delta :=
  (run_gh ins).r_same r hr r' hr' hs

/-- runs are numbered: the newest run of timer `seq` in any prefix of a history carries the number of runs of `seq` so far -/
theorem numbering (ins : List In) : NumOK (runRecs (run ins).trace) := (run_gh ins).r_num

/-- **once**: a one-shot timer (`runAt` / `runAfter`) runs at most once in any history: if some run of the timer `seq`
is recorded with `rep = false`, it is the only run of `seq` -/
theorem once (ins : List In) (r : RunRec) (hr : r ∈ runRecs (run ins).trace) (hrep : r.rep = false) :
    cnt r.seq (runRecs (run ins).trace) = 1 := by
  have hg := run_gh ins
  have h1 : cnt r.seq (runRecs (run ins).trace) ≤ 1 := by
    refine cnt_le_one_of_k r.seq _ hg.r_num ?_
    intro r' hr' hs
    have hrep' : r'.rep = false := by rw [← (hg.r_same r hr r' hr' hs.symm).2.2.1]; exact hrep
    exact (hg.ev_ok r' hr').2.2.2.1 hrep'
  have h2 := cnt_pos_of_mem r.seq _ hr rfl
  omega

/-- ... and exactly once when it is due in a fired batch: in a state reached by any history, with the timerfd readable,
the next loop iteration runs every timer whose deadline is ≤ the clock reading `handleRead` makes (whatever callbacks
running earlier in the same batch do, including cancelling it), and that run is a new one -/
theorem fires_due (ins : List In) (hr : (run ins).readable = true) (e : Time × Addr) (he : e ∈ (run ins).timers)
    (hle : e.1 ≤ (readNow (run ins)).1) :
    recOf (cellAt (run ins) e.2) e (readNow (run ins)).1 ∈ runRecs (run (ins ++ [.iter])).trace ∧
    recOf (cellAt (run ins) e.2) e (readNow (run ins)).1 ∉ runRecs (run ins).trace := by
  refine ⟨by rw [run_snoc]; exact Timer.fires_due (run_top ins) hr he hle, ?_⟩
  intro hm
  obtain ⟨c, hc, _, _⟩ := (run_top ins).wf.t_live e he
  have h1 := k_le_cnt (run_gh ins).r_num hm
  have h2 := (run_gh ins).r_cnt e.2 c hc
  rw [cellAt_eq hc] at h1
  simp only [recOf, List.not_mem_nil, if_false] at h1 h2
  omega

/-- **batch_order**: a loop iteration runs exactly the timers that are due at the clock reading `handleRead` makes, each
once, in the order of `timers_`, i.e. by (deadline, address); no timer that is due is left out -/
theorem batch_order (ins : List In) :
    runRecs (run (ins ++ [.iter])).trace =
      (if (run ins).readable then
        (((run ins).timers.takeWhile (isExpired (readNow (run ins)).1)).map
          (fun e => recOf (cellAt (run ins) e.2) e (readNow (run ins)).1)).reverse
       else []) ++ runRecs (run ins).trace ∧
    ((run ins).timers.takeWhile (isExpired (readNow (run ins)).1)).Pairwise entryLt ∧
    (∀ e ∈ (run ins).timers.takeWhile (isExpired (readNow (run ins)).1), e ∈ (run ins).timers ∧ e.1 ≤ (readNow (run ins)).1) ∧
    (∀ e ∈ (run ins).timers, e.1 ≤ (readNow (run ins)).1 → e ∈ (run ins).timers.takeWhile (isExpired (readNow (run ins)).1)) := by
  refine ⟨by rw [run_snoc]; exact iter_runs (run_top ins), (run_top ins).wf.sorted.sublist (List.takeWhile_sublist _), ?_, ?_⟩
  · intro e he
    exact ⟨(List.takeWhile_sublist _).subset he, batch_due _ he⟩
  · intro e he hle
    exact mem_batch_of_due (run_top ins).wf he hle

/-- no step other than a loop iteration runs a callback -/
theorem only_iter_runs (ins : List In) (i : In) (hi : i ≠ .iter) :
    runRecs (run (ins ++ [i])).trace = runRecs (run ins).trace := by
  rw [run_snoc]; exact step_runs (run_top ins) i hi

/-- **sets_agree**: after every history `timers_` and `activeTimers_` hold the same timers (every entry of one has its
live `Timer` and its counterpart in the other), `timers_` is strictly sorted by (deadline, address) (so: no duplicates),
`activeTimers_` has no duplicates, and both have the same size (the `assert`s of TimerQueue.cc) -/
theorem sets_agree (ins : List In) :
    (∀ e ∈ (run ins).timers, ∃ c, (run ins).heap e.2 = some c ∧ c.exp = e.1 ∧ (e.2, c.seq) ∈ (run ins).active) ∧
    (∀ p ∈ (run ins).active, ∃ c, (run ins).heap p.1 = some c ∧ c.seq = p.2 ∧ (c.exp, p.1) ∈ (run ins).timers) ∧
    (run ins).timers.Pairwise entryLt ∧ (run ins).timers.Nodup ∧ (run ins).active.Nodup ∧
    (run ins).timers.length = (run ins).active.length :=
  have h := (run_top ins).wf
  ⟨h.t_live, h.a_live, h.sorted, h.timers_nodup, h.a_nodup, h.length_eq⟩

/-- ... and also at every point inside an expiry batch (`WFp s B L` with the batch `B`): the invariant is preserved by
every function of the engine, e.g. by a callback's `cancel` -/
theorem sets_agree_in_batch (s : TQ) (B : List (Time × Addr)) (L : List Addr) (h : WFp s B L) (act : Act) :
    WFp (execAct s act) B L ∧ (execAct s act).timers.length = (execAct s act).active.length :=
  ⟨h.execAct act, (h.execAct act).length_eq⟩

/-- **armed**: in every history in which every deadline that was registered or restarted is a valid `Timestamp`
(> 0 µs since the epoch; `ValidTr`), whenever the loop may go back to `poll` with a pending timer, the timerfd is
readable, or armed for a time no later than the earliest pending deadline — or 100 µs after the moment it was armed,
the floor of `howMuchTimeFromNow`.  This holds after any insertion (a new earliest timer, a deadline already in the
past, from inside a callback, from a foreign thread), any expiry batch and any cancellation. -/
theorem armed (ins : List In) (hv : ValidTr (run ins).trace) :
    (∀ e ∈ (run ins).timers, 0 < e.1) ∧
    ((run ins).timers ≠ [] → (run ins).readable = true ∨
      ∃ a, (run ins).alarm = some a ∧ a ≤ max (firstExp (run ins).timers) ((run ins).armedAt + 100)) :=
  ⟨(run_armed ins hv).1, (run_armed ins hv).2 rfl⟩

/-- the excluded branch: when the earliest deadline is not a valid `Timestamp`, `reset()` leaves the timerfd alone -/
theorem armed_excluded_branch (ins : List In) (e : Time × Addr) (r : List (Time × Addr))
    (ht : (run ins).timers = e :: r) (he : e.1 ≤ 0) : rearm (run ins) = run ins := by
  rw [rearm_eq (run_top ins).wf, ht]
  exact if_neg (Int.not_lt.2 he)

/-- ... and then `armed` can fail: a timer with the deadline -5 µs, the clock at -10 µs: after the timerfd fired early
the queue is not re-armed, the timer is pending and never runs (this needs a clock before 1970: with a reading after
1970 a deadline ≤ 0 is already due at every `handleRead`.  What the unchanged code does with `runAt(Timestamp::invalid())`
under a real clock, outside a callback and inside one — `addTimerInLoop` arms the 100 µs floor both times, `reset()`
then leaves the descriptor alone, the timer runs in the next batch — is run on the implementation:
corpus/C06/W4-invalid-deadline.case and the generator's zero / negative deadlines, oracle `disarmed`) -/
theorem armed_needs_valid_deadlines :
    ¬ ∀ ins : List In, (run ins).timers ≠ [] → (run ins).readable = true ∨
      ∃ a, (run ins).alarm = some a ∧ a ≤ max (firstExp (run ins).timers) ((run ins).armedAt + 100) := by
  intro h
  have h0 : (fun s : TQ => s.timers ≠ [] ∧ s.readable = false ∧ s.alarm = none)
      (run [.addr 16, .now (-10), .add .loop 1 (.at (-5)), .expire, .now (-10), .iter]) := by decide
  rcases h _ h0.1 with h4 | ⟨a, h4, _⟩
  · rw [h0.2.1] at h4; cases h4
  · rw [h0.2.2] at h4; cases h4

/-- **eventually_runs**, under `EnvTimerfdFires`: in a state reached by any history with valid deadlines, for any pending
timer `e`: once the clock has reached its deadline (`In.now t`, `e.1 ≤ t`) and the kernel makes the timerfd readable
(`In.expire` — by `armed` the fd is armed or already readable, so this is the environment's only obligation), the next
loop iteration runs it. -/
theorem eventually_runs (ins : List In) (hv : ValidTr (run ins).trace) (hn : (run ins).nows = []) (e : Time × Addr)
    (he : e ∈ (run ins).timers) (t : Time) (hle : e.1 ≤ t) :
    recOf (cellAt (run ins) e.2) e t ∈ runRecs (run (ins ++ [.now t, .expire, .iter])).trace := by
  rw [run_append]
  exact eventually_runs_aux (run_top ins) (run_armed ins) hv hn he hle

/-- the hypotheses of `armed` / `eventually_runs` / `fires_due` are satisfiable by a non-trivial history: a repeating and
a one-shot timer, a callback adding a third one, a foreign add; the repeating timer runs twice, in order -/
example :
    ValidTr (run [.addr 16, .addr 32, .addr 48, .now 1000, .script 1 none (.add 3 (.after 10)), .add .loop 1 (.every 50 true),
      .add .foreign 2 (.at 1020), .iter, .expire, .now 1060, .now 1061, .now 1061, .iter, .expire, .now 1200, .iter]).trace ∧
    (runRecs (run [.addr 16, .addr 32, .addr 48, .now 1000, .script 1 none (.add 3 (.after 10)), .add .loop 1 (.every 50 true),
      .add .foreign 2 (.at 1020), .iter, .expire, .now 1060, .now 1061, .now 1061, .iter, .expire, .now 1200, .iter]).trace).map
        (fun r => (r.seq, r.k, r.exp, r.now)) = [(1, 2, 1110, 1200), (3, 1, 1071, 1200), (1, 1, 1050, 1060), (2, 1, 1020, 1060)] := by
  decide

/-- T1, statement order: in every function of `TimerQueue.cc` / `Timer.cc` the model implements the source performs
the same significant actions - clock readings, system calls, `new Timer` / `delete`, dereferences of a `Timer*`, set
operations, hand-offs to the loop, calls inside the engine, stores, `return` - in the same order and under the same
nesting of the generated guards and loops as `Model/Timer.lean` (`Model/TimerSkelDecl.lean`); re-extracted from /repo on
every run (`Generated/TimerSkel.lean`), proved in `Proofs/TimerSkelTie.lean` -/
theorem statement_order_tied :
    Gen.TimerSkel.howMuchTimeFromNow = TimerSkel.Decl.howMuchTimeFromNow ∧
    Gen.TimerSkel.readTimerfd = TimerSkel.Decl.readTimerfd ∧
    Gen.TimerSkel.resetTimerfd = TimerSkel.Decl.resetTimerfd ∧
    Gen.TimerSkel.addTimer = TimerSkel.Decl.addTimer ∧
    Gen.TimerSkel.cancel = TimerSkel.Decl.cancel ∧
    Gen.TimerSkel.addTimerInLoop = TimerSkel.Decl.addTimerInLoop ∧
    Gen.TimerSkel.cancelInLoop = TimerSkel.Decl.cancelInLoop ∧
    Gen.TimerSkel.handleRead = TimerSkel.Decl.handleRead ∧
    Gen.TimerSkel.getExpired = TimerSkel.Decl.getExpired ∧
    Gen.TimerSkel.reset = TimerSkel.Decl.reset ∧
    Gen.TimerSkel.insert = TimerSkel.Decl.insert ∧
    Gen.TimerSkel.restart = TimerSkel.Decl.restart :=
  TimerSkel.skeletons_agree

/-- **addTime_exact_in_range**: the deadline arithmetic of `runAfter` / `runEvery` / `Timer::restart` has no spurious
wrap-around anywhere in the supported range.  `addTime` is the definition the model uses, translated from `addTime()` of
muduo/base/Timestamp.h with the C type of every intermediate value: a 32-bit intermediate (`int * int`, `static_cast<int>`)
is wrapped at 2^31, 64-bit ones are exact; `addTimeW` is the same text with every 64-bit operation and the
double → `int64_t` conversion wrapped at 2^63 as well (the machine's arithmetic).  For every timestamp `t` and every delay
of `d` microseconds (negative ones included) such that `d` and `t + d` are representable as `int64_t` microseconds, both
are exactly `t + d`.  Trusted, not proved: the `double seconds` handed to `addTime` is the rational `d / 10^6` and the
double operations on it (`seconds * kMicroSecondsPerSecond`, truncation) give the exact rational results — the harness
refuses delays for which the double product is not the integer (`inexact-interval`). -/
theorem addTime_exact_in_range (t d : Int) (hd1 : -9223372036854775808 ≤ d) (hd2 : d < 9223372036854775808)
    (h1 : -9223372036854775808 ≤ t + d) (h2 : t + d < 9223372036854775808) :
    addTime t d = t + d ∧ addTimeW t d = t + d :=
  ⟨addTime_eq t d, addTimeW_eq t d hd1 hd2 h1 h2⟩

/-- ... so the deadline a timer is created with is the clock reading the wrapper makes plus the delay, and a repeating
timer is restarted at the batch's reading plus its interval, for delays and intervals of any size (2147 s, an hour, ten
years): with `never_early` (`first + (k-1)·delta ≤ exp ≤ now`) the k-th run of `runEvery(d)` is no earlier than the
reading at registration plus `k·d` -/
theorem delay_deadline (s : TQ) (d : Int) (pos : Bool) (now : Time) :
    (deadlineOf s (.after d)).1.1 = (readNow s).1 + d ∧ (deadlineOf s (.every d pos)).1.1 = (readNow s).1 + d ∧
    (deadlineOf s (.every d pos)).1.2.2 = d ∧ restart true now d = now + d :=
  ⟨addTime_eq _ _, addTime_eq _ _, rfl, restart_repeating now d⟩

/-- **arm_exact_in_range**: the `timespec` handed to `timerfd_settime` is computed without wrap-around for every deadline
and clock reading whose difference is representable as `int64_t` microseconds (deadlines after 2038, 2106, 2262 …;
`tv_sec` and `tv_nsec` are 64 bits wide in this build, checked by T1): the machine variant (64-bit operations wrapped)
equals the definition the model uses, which carries exactly `max (when - now) 100` microseconds (`arm_timespec`). -/
theorem arm_exact_in_range (w n : Int) (h1 : -9223372036854775808 ≤ w - n) (h2 : w - n < 9223372036854775808) :
    howMuchUsW w n = howMuchUs w n ∧ howMuchTimeFromNowW w n = howMuchTimeFromNow w n := by
  have hu : howMuchUsW w n = howMuchUs w n := by
    unfold howMuchUsW howMuchUs
    rw [wrapI64_of_range h1 h2]
  refine ⟨hu, ?_⟩
  have hf := howMuchUs_floor w n
  have hlt : howMuchUs w n < 9223372036854775808 := by rw [howMuchUs_eq]; omega
  unfold howMuchTimeFromNowW howMuchTimeFromNow kMicroSecondsPerSecond
  simp only [hu]
  generalize howMuchUs w n = u at *
  have h0 : (0 : Int) ≤ u := by omega
  rw [Int.tdiv_eq_ediv_of_nonneg h0, Int.tmod_eq_emod_of_nonneg h0]
  rw [wrapI64_of_range (x := u / 1000000) (by omega) (by omega), wrapI64_of_range (x := u % 1000000) (by omega) (by omega),
    wrapI64_of_range (x := u % 1000000 * 1000) (by omega) (by omega)]

/-- **timer_api_statement_order_tied** (T1, the API wrappers in front of the timer queue).  `EventLoop::runAt`, `runAfter`,
`runEvery` and `cancel` of /repo's current `EventLoop.cc` have the statement skeleton `Timer.deadlineOf` assumes
(`Model/LoopSkelDecl.lean`; re-extracted on every run by `vlib/gen/loopskel.py`, proved equal in
`Proofs/LoopSkelTie.lean`): `runAt` hands its deadline and the interval `0.0` to `timerQueue_->addTimer`; `runAfter`
computes the deadline `addTime(Timestamp::now(), delay)` - one reading of the clock - and goes through `runAt`;
`runEvery` computes `addTime(Timestamp::now(), interval)` (the first run is one interval from now) BEFORE it hands that
deadline and the interval itself to `addTimer`; `cancel` forwards the id to `timerQueue_->cancel`; each returns what its
callee returned, and does nothing else. -/
theorem timer_api_statement_order_tied :
    (Gen.LoopSkel.runAt = LoopSkel.Decl.runAt ∧
     Gen.LoopSkel.runAfter = LoopSkel.Decl.runAfter ∧
     Gen.LoopSkel.runEvery = LoopSkel.Decl.runEvery ∧
     Gen.LoopSkel.cancel = LoopSkel.Decl.cancel) ∧
    LoopSkel.flat Gen.LoopSkel.runAt = [.call "timerQueue_.addTimer" "cb, time, 0", .ret "<result>"] ∧
    LoopSkel.flat Gen.LoopSkel.runAfter =
      [.assign "time" "addTime(Timestamp::now(), delay)", .call "runAt" "time, cb", .ret "<result>"] ∧
    LoopSkel.flat Gen.LoopSkel.runEvery =
      [.assign "time" "addTime(Timestamp::now(), interval)", .call "timerQueue_.addTimer" "cb, time, interval",
       .ret "<result>"] ∧
    LoopSkel.before (.assign "time" "addTime(Timestamp::now(), interval)")
      (.call "timerQueue_.addTimer" "cb, time, interval") (LoopSkel.flat Gen.LoopSkel.runEvery) = true ∧
    LoopSkel.flat Gen.LoopSkel.cancel = [.call "timerQueue_.cancel" "timerId", .ret "<result>"] :=
  ⟨⟨LoopSkel.skeleton_runAt, LoopSkel.skeleton_runAfter, LoopSkel.skeleton_runEvery, LoopSkel.skeleton_cancel⟩,
   LoopSkel.timer_forwarders⟩

end MuduoVerif.C06
